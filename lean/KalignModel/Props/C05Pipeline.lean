import KalignModel.Lemmas.NoFaultRecC
import KalignModel.Lemmas.NoFaultTree
import KalignModel.Lemmas.PipelineCB
import KalignModel.Lemmas.Canon
import KalignModel.Lemmas.NoFaultPipe
/-!
# C05 (pipeline) — the composed model `kalignRun` of `kalign()` never takes a fault path

`kalignRun` (Model/Pipeline.lean) returns `PipeErr.fault / .tree / .monitor / .fuel` where the C code would read or write
outside an object, miss a task or an operand, violate the Hirschberg meetup contract, or where the model's recursion
budget does not suffice.  The full statement is

    theorem kalignRun_never_faults (inp : List InSeq) (type : Int) (gpo gpe tgpe : Float32) :
        kalignRun inp type gpo gpe tgpe ≠ .error .fault ∧ kalignRun inp type gpo gpe tgpe ≠ .error .tree ∧
        kalignRun inp type gpo gpe tgpe ≠ .error .monitor ∧ kalignRun inp type gpo gpe tgpe ≠ .error .fuel

i.e. the only errors are the documented rejections (`badByte`, `tooFew`, `alphabet`, `param`).  It is proved here up to two
hypotheses about binary32 values (`kalignRun_never_faults_partial`, `kalignRun_errors_partial`): Lean's `Float32` operations
are opaque constants for the kernel, so no theorem about the *value* of a binary32 expression can be proved in core Lean.
`.fuel` is excluded outright (`kalignRun_never_fuel`); `.tree` under `PipelineUpgmaHyp` (in every matrix the `upgma` rounds
reach, the entries of active pairs are `< FLT_MAX`, so the scan for the minimum finds a pair); `.fault` and `.monitor` under
`PipelineMonHyp` (every serial Hirschberg run on two operands the progressive alignment can form passes `meetupContract` at
every meetup).  The case analysis is done for `kalignRunWithCB` (Model/TreeSoft.lean) in Lemmas/NoFaultPipe.lean; `kalignRun`
is the instance `Float32` / `buildTasks` (`kalignRunWith_eq_CB`).

The monitor hypothesis is *false* on a score carrier whose comparisons can all fail (`deafScore` at the end of this file; on
binary32: NaN penalties — the meetup keeps its sentinel `transition = -1`, `c = -1`).  `aln_param_init` (`paramOfTable`) lets
no such penalty through — a NaN or negative argument leaves the table value in place, a penalty `> 1e6` is rejected — and no
admitted parameter set producing a sentinel cut is known.
-/
namespace Kalign.Pipeline
open Kalign Kalign.Kmeans Kalign.Sched

def PipelineUpgmaHyp (inp : List InSeq) : Prop :=
  ∀ c, canon inp = some c → UpgmaHyp (treeCodes (bioOf detectF inp) c)

def PipelineMonHyp (inp : List InSeq) (type : Int) (gpo gpe tgpe : Float32) : Prop :=
  ∀ c ap, canon inp = some c → paramOfTable (bioOf detectF inp).code type gpo gpe tgpe = some ap →
    MonHyp ap (alnCodes (bioOf detectF inp) c)

theorem kalignRun_cases (inp : List InSeq) (type : Int) (gpo gpe tgpe : Float32) :
    NoFault (PipelineUpgmaHyp inp) (PipelineMonHyp inp type gpo gpe tgpe) (kalignRun inp type gpo gpe tgpe) := by
  unfold kalignRun kalignRunG
  rw [kalignRunWith_eq_CB]
  exact (kalignRunWithCB_buildTasks_cases detectF true (fun b => paramOfTable b.code type gpo gpe tgpe) inp _
    fun hM c ap T hc hp _ _ => (hM c ap hc hp).toC.toInv.toL _).map _

/-- full: `bisecting_kmeans` and `recursive_aln` terminate within the depth the model allots -/
theorem kalignRun_never_fuel (inp : List InSeq) (type : Int) (gpo gpe tgpe : Float32) :
    kalignRun inp type gpo gpe tgpe ≠ .error .fuel :=
  (kalignRun_cases inp type gpo gpe tgpe).1

/-- missing fact = `PipelineUpgmaHyp`.  Full statement: `kalignRun inp type gpo gpe tgpe ≠ .error .tree` for all arguments. -/
theorem kalignRun_never_tree_partial (inp : List InSeq) (type : Int) (gpo gpe tgpe : Float32)
    (hU : PipelineUpgmaHyp inp) : kalignRun inp type gpo gpe tgpe ≠ .error .tree :=
  (kalignRun_cases inp type gpo gpe tgpe).2.1 hU

/-- missing fact = `PipelineMonHyp`.  Full statement: `kalignRun … ≠ .error .fault ∧ kalignRun … ≠ .error .monitor` for all
arguments. -/
theorem kalignRun_never_fault_monitor_partial (inp : List InSeq) (type : Int) (gpo gpe tgpe : Float32)
    (hM : PipelineMonHyp inp type gpo gpe tgpe) :
    kalignRun inp type gpo gpe tgpe ≠ .error .fault ∧ kalignRun inp type gpo gpe tgpe ≠ .error .monitor :=
  (kalignRun_cases inp type gpo gpe tgpe).2.2 hM

theorem kalignRun_never_faults_partial (inp : List InSeq) (type : Int) (gpo gpe tgpe : Float32)
    (hU : PipelineUpgmaHyp inp) (hM : PipelineMonHyp inp type gpo gpe tgpe) :
    kalignRun inp type gpo gpe tgpe ≠ .error .fault ∧ kalignRun inp type gpo gpe tgpe ≠ .error .tree ∧
    kalignRun inp type gpo gpe tgpe ≠ .error .monitor ∧ kalignRun inp type gpo gpe tgpe ≠ .error .fuel :=
  ⟨(kalignRun_never_fault_monitor_partial inp type gpo gpe tgpe hM).1, kalignRun_never_tree_partial inp type gpo gpe tgpe hU,
    (kalignRun_never_fault_monitor_partial inp type gpo gpe tgpe hM).2, kalignRun_never_fuel inp type gpo gpe tgpe⟩

theorem kalignRun_errors_partial (inp : List InSeq) (type : Int) (gpo gpe tgpe : Float32)
    (hU : PipelineUpgmaHyp inp) (hM : PipelineMonHyp inp type gpo gpe tgpe) (e : PipeErr)
    (h : kalignRun inp type gpo gpe tgpe = .error e) : e = .badByte ∨ e = .tooFew ∨ e = .alphabet ∨ e = .param := by
  obtain ⟨h1, h2, h3, h4⟩ := kalignRun_never_faults_partial inp type gpo gpe tgpe hU hM
  cases e with
  | badByte => exact Or.inl rfl
  | tooFew => exact Or.inr (Or.inl rfl)
  | alphabet => exact Or.inr (Or.inr (Or.inl rfl))
  | param => exact Or.inr (Or.inr (Or.inr rfl))
  | tree => exact absurd h h2
  | fault => exact absurd h h1
  | monitor => exact absurd h h3
  | fuel => exact absurd h h4

end Kalign.Pipeline

namespace Kalign

/-- the serial Hirschberg controller (`aln_runner_serial`) never faults, on any score carrier: the recursion fuel `Mem.fuel`
suffices, every `path[mid]`, `path[mid+1]` write is inside the path array, every forward/backward call is on a rectangle inside
the operands with state arrays of at least `endb+1` slots, and the cut column returned by `meetup` lies in `startb..endb`
whenever a transition was chosen (otherwise `aln_continue` does nothing). -/
theorem C05_controller_never_faults {β : Type} [Score β] (ap : AlnParam β) (ops : Operands β) (lenA lenB : Nat) :
    (alnRun .serial ap ops lenA lenB (initMem lenA lenB)).fault = false :=
  alnRun_serial_no_fault ap ops lenA lenB

/-- `path[1..len_a]`, which `do_align` reads after the run (`Mem.pathEntries`, a `getD` access in the model), lies inside
the path array -/
theorem C05_path_read_in_bounds {β : Type} [Score β] (ap : AlnParam β) (ops : Operands β) (lenA lenB : Nat) :
    lenA < (alnRun .serial ap ops lenA lenB (initMem lenA lenB)).path.size :=
  alnRun_serial_path_size ap ops lenA lenB

/-- `do_align` never faults on two prepared operands, given the meetup contract on its serial Hirschberg run (`hmon`); any
score carrier.  Full statement: the same without `hmon` for the carriers kalign uses. -/
theorem C05_doAlign_no_fault_partial {β : Type} [Score β] (ap : AlnParam β) (st : AlnState β) (a b c : Nat) (isLast : Bool)
    (lenA lenB : Nat) (pa pb : Array β)
    (hab : a ≠ b) (ha : a < st.nsip.size) (hb : b < st.nsip.size) (hc : c < st.nsip.size) (hcp : c < st.profile.size)
    (hA : prepOperand ap st a b = some (lenA, pa)) (hB : prepOperand ap st b a = some (lenB, pb))
    (hpa : pa.size = 64 * (lenA + 2)) (hpb : pb.size = 64 * (lenB + 2)) (h1 : 1 ≤ lenA) (h2 : 1 ≤ lenB)
    (hmon : (orientRun .serial ap (st.nsip.getD a 0) (st.nsip.getD b 0) lenA lenB (st.seqs.getD a #[])
      (st.seqs.getD b #[]) pa pb).mon = true) :
    doAlign .parallel ap st a b c isLast ≠ none := by
  obtain ⟨st', out, h, _⟩ := doAlign_some ap st a b c isLast lenA lenB pa pb hab ha hb hc hcp hA hB hpa hpb h1 h2 hmon
  rw [h]; simp

/-! non-vacuity of `C05_doAlign_no_fault_partial` on the exact carrier: the monitor hypothesis holds by kernel evaluation.
(For `Float32` `PipelineUpgmaHyp` / `PipelineMonHyp` are checked at run time instead: `kalignRun` evaluates to `.ok` on all
correspondence inputs.) -/
def exSt : AlnState ExactScore :=
  { seqs := #[#[0, 1, 2, 3], #[0, 2, 3, 3, 1]], profile := #[none, none, none], plen := #[0, 0, 0], nsip := #[1, 1, 0] }

example : doAlign .parallel exParam exSt 0 1 2 false ≠ none :=
  C05_doAlign_no_fault_partial exParam exSt 0 1 2 false 4 5 _ _ (by decide) (by decide) (by decide) (by decide) (by decide)
    (show prepOperand exParam exSt 0 1 = some (4, makeProfile exParam #[0, 1, 2, 3]) by simp [prepOperand, exSt])
    (show prepOperand exParam exSt 1 0 = some (5, makeProfile exParam #[0, 2, 3, 3, 1]) by simp [prepOperand, exSt])
    (by rw [size_makeProfile]; rfl) (by rw [size_makeProfile]; rfl) (by decide) (by decide)
    (show (orientRun .serial exParam (exSt.nsip.getD 0 0) (exSt.nsip.getD 1 0) 4 5 (exSt.seqs.getD 0 #[])
      (exSt.seqs.getD 1 #[]) (makeProfile exParam #[0, 1, 2, 3]) (makeProfile exParam #[0, 2, 3, 3, 1])).mon = true by
      decide +kernel)

example : (alnRun .serial exParam (.seqseq #[0, 1, 2, 3] #[0, 2, 3, 3, 1]) 4 5 (initMem 4 5)).fault = false :=
  C05_controller_never_faults _ _ _ _

/-- a carrier on which every comparison fails (`gt` constantly `false`, like NaN scores): the serial controller still does not
fault (`C05_controller_never_faults`), but the monitor fails — the hypothesis `hmon` / `MonHypC` is necessary -/
@[instance_reducible] def deafScore : Score Unit :=
  { add := fun _ _ => (), sub := fun _ _ => (), mul := fun _ _ => (), neg := fun _ => (), gt := fun _ _ => false,
    negInf := (), zero := (), one := (), ofNat := fun _ => (), isNonzero := fun _ => false, tie := fun _ _ _ => () }

def deafParam : @AlnParam Unit := { subm := #[], gpo := (), gpe := (), tgpe := () }

example : (@alnRun Unit deafScore .serial deafParam (.seqseq #[0, 1] #[0, 1, 2]) 2 3 (@initMem Unit deafScore 2 3)).mon = false := by
  decide +kernel
example : (@alnRun Unit deafScore .serial deafParam (.seqseq #[0, 1] #[0, 1, 2]) 2 3 (@initMem Unit deafScore 2 3)).fault = false :=
  @C05_controller_never_faults Unit deafScore _ _ _ _

end Kalign

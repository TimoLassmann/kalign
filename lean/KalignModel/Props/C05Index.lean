import KalignModel.Lemmas.IndexKernel
import KalignModel.Lemmas.IndexCtrl
import KalignModel.Lemmas.IndexProf
import KalignModel.Lemmas.IndexAlign
import KalignModel.Lemmas.IndexTasks
import KalignModel.Lemmas.IndexTree
import KalignModel.Lemmas.IndexKmeans
import KalignModel.Lemmas.IndexBpm
import KalignModel.Lemmas.IndexPipe
/-!
# C05 — the totalised array accesses of the DP model are never out of range

The executable model indexes its functional arrays with totalised accesses (`getD … default`, `set!`, `setIfInBounds`,
`[i]!`).  The no-fault theorems (Props/C05Pipeline*.lean) speak about the model's *explicit* fault values only: an index
outside an array at a totalised access would silently read the default (or drop the write) and they would not see it.

`Model/Checked.lean` has a **checked twin** of every such function (every read through `get?`, every write bounds-tested,
`none` = the first index outside its array; for model functions that already return `Option` the twin is in
`Chk = OptionT Option`, outer layer = index fault).  The theorems below say: under the entry-point precondition the twin
returns `some` of exactly what the totalised function returns.  The theorems on kernels, controllers, profiles and `do_align`
hold for every score carrier and whatever the score comparisons answer; the guide tree, the k-means lanes, `paramOfTable`
and the composed pipeline (`coreC`) are on `Float32`, as the model functions they follow.
-/
namespace Kalign

/-- `aln_param_init` (`paramOfTable`) always builds a 23 × 23 substitution matrix -/
theorem C05_paramOfTable_wf (biotype : Nat) (type : Int) (gpo gpe tgpe : Float32) (ap : AlnParam Float32)
    (h : paramOfTable biotype type gpo gpe tgpe = some ap) : ap.wf :=
  Pipeline.paramOfTable_wf biotype type gpo gpe tgpe ap h

/-- `aln_param_init` reads the generated matrix it selects inside its 23 × 23 entries (`paramOfTable`: `rows.getD i []`,
`.getD j 0`), for every `(biotype, type)` and every penalty override -/
theorem C05_paramOfTable_indices_in_range (biotype : Nat) (type : Int) (gpo gpe tgpe : Float32) :
    (Pipeline.paramOfTableC biotype type gpo gpe tgpe).run = some (paramOfTable biotype type gpo gpe tgpe) :=
  Pipeline.paramOfTableC_eq biotype type gpo gpe tgpe

section
variable {β : Type} [Score β]

/-- **full**: forward, backward and meetup of the three kernel families on a rectangle inside the operands
(`Rect.valid`), operands well-formed for `(lenA, lenB)` (`Operands.lens?`: residue codes `< 23`, profiles of
`64·(len+2)` entries), a 23 × 23 substitution matrix: every read of `seq1`, `seq2`, `prof1`, `prof2`, `subm` is in range
(the largest profile column touched is `len+1`).  For `meetup`: `mid ≤ lenA` and the forward state list no longer
than the rectangle is wide (the controller passes exactly `endb − startb + 1` cells). -/
theorem C05_kernel_indices_in_range (ap : AlnParam β) (hw : ap.wf) (ops : Operands β) (r : Rect) (lenA lenB : Nat)
    (hl : ops.lens? = some (lenA, lenB)) (hr : r.valid lenA lenB = true) :
    (∀ start, kForwardC ap ops r start = some (kForward ap ops r start)) ∧
    (∀ start, kBackwardC ap ops r start = some (kBackward ap ops r start)) ∧
    (∀ mid fs bs, mid ≤ lenA → fs.length ≤ r.endb - r.startb + 1 →
      kMeetupC ap ops r mid fs bs = some (kMeetup ap ops r mid fs bs)) :=
  ⟨kForwardC_eq ap hw ops r lenA lenB hl hr, kBackwardC_eq ap hw ops r lenA lenB hl hr,
    fun mid fs bs hm hf => kMeetupC_eq ap ops r lenA lenB mid hl hr hm fs bs hf⟩

/-- **full**: a run of `aln_runner` / `aln_runner_serial` with the real kernels from any memory whose state
arrays have a slot 0: every `f[0]`/`b[0]` read (`getD 0`), every `f[0]`/`b[0]` write (`set0 = set! 0`), every `blit` write
and every kernel access is in range.  (The `path[mid]`, `path[mid+1]` writes already carry an explicit fault value:
`C05_controller_never_faults`.) -/
theorem C05_controller_indices_in_range (entry : Entry) (ap : AlnParam β) (hw : ap.wf) (ops : Operands β)
    (lenA lenB : Nat) (hl : ops.lens? = some (lenA, lenB)) (m : Mem (Array (States β)) β)
    (hf : 0 < m.f.size) (hb : 0 < m.b.size) :
    alnRunC entry ap ops lenA lenB m = some (alnRun entry ap ops lenA lenB m) :=
  alnRunC_eq entry ap hw ops lenA lenB hl m hf hb

/-- the memory `do_align` starts from (`init_alnmem`: the `set! 0` write is in range) and the read of `path[1..len_a]`
after the run (`Mem.pathEntries`, `getD (-1)`), for both entry points -/
theorem C05_initMem_path_indices_in_range (entry : Entry) (ap : AlnParam β) (ops : Operands β) (lenA lenB : Nat) :
    (initMemC lenA lenB : Option (Mem (Array (States β)) β)) = some (initMem lenA lenB) ∧
    (alnRun entry ap ops lenA lenB (initMem lenA lenB)).pathEntriesC lenA =
      some ((alnRun entry ap ops lenA lenB (initMem lenA lenB)).pathEntries lenA) :=
  ⟨initMemC_eq lenA lenB,
    pathEntriesC_eq _ lenA (alnRun_path_lt entry ap ops lenA lenB)⟩

/-- **full**: `make_profile_n` (codes `< 23`), `set_gap_penalties_n` (any profile: column `c < size/64`),
`update_n` (any two profiles, any codes — the columns it works on come from the bounds-tested `colOf?`): all indices
inside the arrays. -/
theorem C05_profile_indices_in_range (ap : AlnParam β) :
    (ap.wf → ∀ seq : Array Nat, seq.all (· < 23) = true → makeProfileC ap seq = some (makeProfile ap seq)) ∧
    (∀ (prof : Array β) (nsip : Nat), setGapPenaltiesC prof nsip = some (setGapPenalties prof nsip)) ∧
    (∀ (pa pb : Array β) (codes : List Nat) (sa sb : Nat),
      (updateNC ap pa pb codes sa sb).run = some (updateN ap pa pb codes sa sb)) :=
  ⟨fun hw seq hs => makeProfileC_eq ap hw seq hs, setGapPenaltiesC_eq, updateNC_eq ap⟩

theorem C05_column_indices_in_range (ap : AlnParam β) (x y : Array β) (hx : x.size = 64) (hy : y.size = 64) :
    addColsC x y = some (addCols x y) ∧
    (∀ gp, subRangeC x gp = some (subRange x gp)) ∧
    (∀ k s, k < 64 → bumpAtC x k s = some (bumpAt x k s)) ∧
    (∀ code sip, gapColC ap x code sip = some (gapCol ap x code sip)) ∧
    (ap.wf → ∀ c, c < 23 → residueColC ap c = some (residueCol ap c)) :=
  ⟨addColsC_eq x y hx hy, fun gp => subRangeC_eq x gp (by omega), fun k s hk => bumpAtC_eq x k s (by omega),
    fun code sip => gapColC_eq ap x code sip (by omega), fun hw c hc => residueColC_eq ap hw c hc⟩

/-- **full**: on a state whose vectors `profile`, `plen`, `nsip` all have one entry per node, every index of
`do_align` is in range — for *any* `(a, b, c)` (ids outside `nsip` are the model's explicit fault) — in particular the
five writes `profile[a]`, `profile[b]`, `profile[c]`, `plen[c]`, `nsip[c]` are never dropped; this includes the
operand preparation, the whole Hirschberg run, the path read and `update_n`. -/
theorem C05_doAlign_indices_in_range (entry : Entry) (ap : AlnParam β) (hw : ap.wf) (st : AlnState β) (hst : st.wf)
    (a b c : Nat) (isLast : Bool) :
    (doAlignC entry ap st a b c isLast).run = some (doAlign entry ap st a b c isLast) :=
  doAlignC_eq entry ap hw st hst a b c isLast

/-- `do_align` keeps the state well-sized, so the whole progressive alignment over the global state vectors of
`2·numseq − 1` entries (`AlnState.init`) stays in range, for any task table -/
theorem C05_alignTasks_indices_in_range (entry : Entry) (ap : AlnParam β) (hw : ap.wf) (seqs : Array (Array Nat))
    (tasks : List (Nat × Nat × Nat)) :
    (alignTasksC entry ap tasks (AlnState.init seqs)).run = some (alignTasks entry ap tasks (AlnState.init seqs)) :=
  alignTasksC_eq entry ap hw tasks _ (init_wf seqs)

end

/-- every index of a task table produced by `buildTasks` is a node id `< 2·numseq − 1` = the size of the state vectors of
`AlnState.init` (so the explicit index guard of `doAlign` never fires on it); the result is an internal node
(`numseq ≤ c`) and the two operands differ -/
theorem C05_task_indices_in_range (avx : Bool) (codes : Array (List Nat)) (tasks : Array (Nat × Nat × Nat))
    (h : Pipeline.buildTasks avx codes = .ok tasks) :
    ∀ t ∈ tasks.toList, t.1 ≠ t.2.1 ∧ t.1 < 2 * codes.size - 1 ∧ t.2.1 < 2 * codes.size - 1 ∧
      codes.size ≤ t.2.2 ∧ t.2.2 < 2 * codes.size - 1 :=
  Pipeline.buildTasks_indices avx codes tasks h

/-- **full**: `upgma` for `n` samples and an `n × n` matrix (`FMat.get/set`, `act`, `tree`, the final
`tree[last]`); `distMatrix` (`seqs.getD (max x y)`); `smallTree` and `anchorMatrix` for samples / anchors that are sequence
indices (`codes.getD`). -/
theorem C05_upgma_indices_in_range :
    (∀ (dm : List (List Float32)) (samples : List Nat), dm.length = samples.length →
      (∀ row ∈ dm, row.length = samples.length) → (upgmaC dm samples).run = some (upgma dm samples)) ∧
    (∀ seqs : List (List Nat), (distMatrixC seqs).run = some (distMatrix seqs)) ∧
    (∀ (codes : Array (List Nat)) (samples : List Nat), (∀ s ∈ samples, s < codes.size) →
      (smallTreeC codes samples).run = some (Pipeline.smallTree codes samples)) ∧
    (∀ (codes : Array (List Nat)) (anchors : List Nat), (∀ a ∈ anchors, a < codes.size) →
      (anchorMatrixC codes anchors).run = some (Pipeline.anchorMatrix codes anchors)) :=
  ⟨upgmaC_eq, distMatrixC_eq, smallTreeC_eq, anchorMatrixC_eq⟩

/-- **full**: `split2` — every `[i]!` of `laneGo`, `serialGo`, `colSumGo`, `assignGo`, `centresMoved`,
`split2With` is in range, for every matrix, sample list, anchor count, seed and iteration cap (what is needed are the
model's own up-front checks: `rowsOf` = every sample indexes a row of at least the padded length `numVarOf na`, and
`seedPick < n`); the distance functions on two vectors of the padded length -/
theorem C05_kmeans_indices_in_range :
    (∀ (maxIter : Nat) (avx : Bool) (dm : Array (Array Float32)) (samples : List Nat) (na seedPick : Nat),
      (Kmeans.split2WithC maxIter avx dm samples na seedPick).run = some (Kmeans.split2With maxIter avx dm samples na seedPick)) ∧
    (∀ (avx : Bool) (a b : Array Float32) (len : Nat), Kmeans.numVarOf len ≤ a.size → Kmeans.numVarOf len ≤ b.size →
      Kmeans.edistC avx a b len = some (Kmeans.edist avx a b len)) :=
  ⟨Kmeans.split2WithC_eq, fun avx a b len ha hb =>
    Kmeans.edistC_eq avx a b len (by rw [← Kmeans.numVarOf_eq]; exact ha) (by rw [← Kmeans.numVarOf_eq]; exact hb)⟩

/-- **full**: `bpm_block` for every text and every pattern (any length; `m = min(len, 1024)`): the pattern reads,
the `Peq[c][b]` lookups, every `score[y]` read (`blkScore`) and the `bs.set (y+1)` write; and the distance entry built on it -/
theorem C05_bpmBlock_indices_in_range (t p : List Nat) :
    (bpmBlockC t p).run = some (bpmBlock t p) ∧ (distEntryC t p).run = some (distEntry t p) :=
  ⟨bpmBlockC_eq t p, distEntryC_eq t p⟩

/-- **the whole DP pipeline, no precondition left**: `core` = everything `kalign_run` does between the two alphabet
conversions and `finalise_alignment` (anchors, anchor matrix, bisecting k-means with its `upgma` leaves, task table,
`aln_param_init`, `recursive_aln` with `do_align` on every node).  For *all* inputs and parameters the checked twin
returns `some` of the model's result: every precondition used above is established by the pipeline itself
(`pickAnchors` returns sequence indices, the k-means splits are sub-lists of `0 … n−1`, `distMatrix` is square,
`paramOfTable` is 23 × 23, the operands `do_align` prepares are well-formed, its state vectors are well-sized). -/
theorem C05_pipeline_indices_in_range (avx : Bool) (bio : Bio) (c1 c2 : List (List Nat)) (type : Int)
    (gpo gpe tgpe : Float32) :
    Pipeline.coreC avx bio c1 c2 type gpo gpe tgpe = some (Pipeline.core avx bio c1 c2 type gpo gpe tgpe) :=
  Pipeline.coreC_eq avx bio c1 c2 type gpo gpe tgpe

/-- **`mirror_path_n` (partial)**: the model's `mirrorPath` writes with `List.set`, which drops a write outside the list.
The write index is `p − 1` for a path entry `p > 0` of the (swapped) Hirschberg run; it is inside the list when `p ≤ lb`.
Missing fact = `hmon`, the meetup contract on the serial run (the same hypothesis as `C05_doAlign_no_fault_partial`; a
statement about score values).  Full statement: the same without `hmon` for the carriers kalign uses.  Without the monitor an
entry `meet + 1 = lb + 1` is conceivable in the model (the write would be dropped in the model; the C code would write
`opath[len_a+1]`, still inside the `len_a+2` entries it has just initialised, an entry that is never read).
The twins `doAlignC`/`coreC` keep `mirrorPath`: it is the only totalised access to an array of the C code that they do not check
(`capOK`, reached through `alnParamInitF`, also reads the model's own three-entry list `Gen.penaltyCaps` with `getD`; the source has constants there). -/
theorem C05_mirrorPath_indices_in_range_partial {β : Type} [Score β] (entry : Entry) (ap : AlnParam β) (ops : Operands β)
    (la lb : Nat) (h1 : 1 ≤ la) (h2 : 1 ≤ lb) (hmon : (alnRun .serial ap ops la lb (initMem la lb)).mon = true) :
    Pipeline.mirrorPathC lb ((alnRun entry ap ops la lb (initMem la lb)).pathEntries la) =
      some (mirrorPath lb ((alnRun entry ap ops la lb (initMem la lb)).pathEntries la)) := by
  obtain ⟨hp, _⟩ := C07_columns_valid entry ap ops la lb h1 h2 (alnRun_serial_no_fault ap ops la lb) hmon
  exact Pipeline.mirrorPathC_eq lb _ (pathOKAux_le lb 0 false _ hp)

theorem C05_mirrorPath_bounded (lenA : Nat) (apath : List Int) (h : ∀ p ∈ apath, p ≤ lenA) :
    Pipeline.mirrorPathC lenA apath = some (mirrorPath lenA apath) :=
  Pipeline.mirrorPathC_eq lenA apath h

end Kalign

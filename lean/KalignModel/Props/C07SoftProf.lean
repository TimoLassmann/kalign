import KalignModel.Props.C07Soft
import KalignModel.Lemmas.SoftScale
import KalignModel.Lemmas.MarginSoft
/-!
# C07 on binary32, groups of identical copies — the arithmetic part, and the group theorems relative to the kernel equality

On the exact carrier (`Props/C07Prof.lean`) a profile of `k` identical copies turns the sequence–profile / profile–profile kernels
into the sequence–sequence kernels with every score multiplied by `K = k` resp. `K = k·m`.  On binary32 the products `k·s`,
`k·penalty` are computed exactly (`|a·k| < 2²⁴`), so the scaled parameters (`scaleParamS`: every score multiplied by `(float)K` in
binary32) are still dyadic, bounded by `K·U`, and `scaledS_runOK` (Lemmas/MarginSoft.lean) applies: whatever operands give the
kernels of `(a, b)` under `scaleParamS ap K`, the binary32 run writes the path of `P` under the `K`-scaled margin.  The two
`…_partial` theorems take the kernel equality (the binary32 counterpart of `C07_sp_kernels_scaled` / `C07_pp_kernels_scaled`) as a
hypothesis `hK`; `Props/C07SoftGroups.lean` discharges it.
-/
namespace Kalign
open SoftF32

theorem C07Soft_mul_exact {a : Int} {k : Nat} (hk1 : 1 ≤ k) (hk : k < 16777216) (ha : a.natAbs < 16777216)
    (hak : (a * k).natAbs < 16777216) : SoftF32.mul (half a) (SoftF32.ofNat k) = half (a * k) :=
  mul_half_ofNat hk1 hk ha hak

theorem C07Soft_dyadic_scale {U K : Nat} {ap : AlnParam SoftF32} {apE : AlnParam ExactScore} (hd : DyadicParam U ap apE)
    (hK1 : 1 ≤ K) (hK : K < 16777216) (hKU : K * U < 16777216) :
    DyadicParam (K * U) (scaleParamS ap K) (scaleParam apE K) :=
  dyadic_scale hd hK1 hK hKU

/-- the binary32 controller on the `K`-scaled sequence–sequence problem -/
theorem C07Soft_scaled_alnRun_opt (entry : Entry) (U K : Nat) (ap : AlnParam SoftF32) (apE : AlnParam ExactScore)
    (hd : DyadicParam U ap apE) (hK1 : 1 ≤ K) (hK : K < 16777216) (gpo gpe tgpe : Int) (s : Nat → Nat → Int)
    (hap : ApOK apE gpo gpe tgpe s) (hgpo : 0 ≤ gpo) (hgpe : 0 ≤ gpe) (htgpe : 0 ≤ tgpe)
    (seq1 seq2 : Array Nat) (h1A : 1 ≤ seq1.size) (h1B : 1 ≤ seq2.size)
    (hKU : K * U < 16777216)
    (hsize : (K * U) * (seq1.size + seq2.size + 1) + seq2.size / 1000 + 1 < 16777216) (hlenB : seq2.size < 4194304)
    (P : List Col) (hV : ValidCols P seq1.size seq2.size) (hadj : adjOK .A P = true)
    (hmargin : ∀ Q, ValidCols Q seq1.size seq2.size → adjOK .A Q = true → Q ≠ P →
      (K : Int) * scoreST s gpo gpe tgpe Q seq1.toList seq2.toList + ((seq2.size : Int) + 1000) <
        (K : Int) * (scoreST s gpo gpe tgpe P seq1.toList seq2.toList - gpo * (nterm P : Int) -
          (max 0 (max (tgpe - gpe) (tgpe - gpo)) + max 0 (gpe - tgpe)))) :
    let r := alnRun entry (scaleParamS ap K) (.seqseq seq1 seq2) seq1.size seq2.size (initMem seq1.size seq2.size)
    r.fault = false ∧
      ∃ codes, expandPath seq2.size (r.pathEntries seq1.size) = some codes ∧ codes.map Col.ofCode = P :=
  (scaledS_runOK entry U ap apE hd gpo gpe tgpe s hap hgpo hgpe htgpe K hK1 hK hKU _ (.seqseq seq1 seq2) seq1 seq2 rfl P hV hadj
    ⟨hsize, hlenB⟩ ((MarginK.iff_inline (by omega)).2 hmargin)).codes hV hadj h1A h1B

/-- **sequence – profile, `k` identical copies (partial)**: `hK` = the binary32 counterpart of `C07_sp_kernels_scaled` -/
theorem C07Soft_hirschberg_seqprofile_copies_opt_partial (entry : Entry) (U : Nat) (ap : AlnParam SoftF32)
    (apE : AlnParam ExactScore) (hd : DyadicParam U ap apE) (gpo gpe tgpe : Int) (s : Nat → Nat → Int)
    (hap : ApOK apE gpo gpe tgpe s) (hgpo : 0 ≤ gpo) (hgpe : 0 ≤ gpe) (htgpe : 0 ≤ tgpe)
    (prof : Array SoftF32) (seqA seq2 : Array Nat) (k : Nat) (hk1 : 1 ≤ k) (hk : k < 16777216)
    (hK : realKernels ap (.seqprof prof seq2 k) seqA.size seq2.size =
      realKernels (scaleParamS ap k) (.seqseq seqA seq2) seqA.size seq2.size)
    (h1A : 1 ≤ seqA.size) (h1B : 1 ≤ seq2.size) (hkU : k * U < 16777216)
    (hsize : (k * U) * (seqA.size + seq2.size + 1) + seq2.size / 1000 + 1 < 16777216) (hlenB : seq2.size < 4194304)
    (P : List Col) (hV : ValidCols P seqA.size seq2.size) (hadj : adjOK .A P = true)
    (hmargin : ∀ Q, ValidCols Q seqA.size seq2.size → adjOK .A Q = true → Q ≠ P →
      (k : Int) * scoreST s gpo gpe tgpe Q seqA.toList seq2.toList + ((seq2.size : Int) + 1000) <
        (k : Int) * (scoreST s gpo gpe tgpe P seqA.toList seq2.toList - gpo * (nterm P : Int) -
          (max 0 (max (tgpe - gpe) (tgpe - gpo)) + max 0 (gpe - tgpe)))) :
    let r := alnRun entry ap (.seqprof prof seq2 k) seqA.size seq2.size (initMem seqA.size seq2.size)
    r.fault = false ∧
      ∃ codes, expandPath seq2.size (r.pathEntries seqA.size) = some codes ∧ codes.map Col.ofCode = P :=
  (scaledS_runOK entry U ap apE hd gpo gpe tgpe s hap hgpo hgpe htgpe k hk1 hk hkU ap _ seqA seq2 hK P hV hadj ⟨hsize, hlenB⟩
    ((MarginK.iff_inline (by omega)).2 hmargin)).codes hV hadj h1A h1B

/-- **profile – profile, `k` copies against `m` copies (partial)**: `hK` = the binary32 counterpart of `C07_pp_kernels_scaled` -/
theorem C07Soft_hirschberg_profileprofile_copies_opt_partial (entry : Entry) (U : Nat) (ap : AlnParam SoftF32)
    (apE : AlnParam ExactScore) (hd : DyadicParam U ap apE) (gpo gpe tgpe : Int) (s : Nat → Nat → Int)
    (hap : ApOK apE gpo gpe tgpe s) (hgpo : 0 ≤ gpo) (hgpe : 0 ≤ gpe) (htgpe : 0 ≤ tgpe)
    (prof1 prof2 : Array SoftF32) (seqA seqB : Array Nat) (k m : Nat) (hk1 : 1 ≤ k * m) (hk : k * m < 16777216)
    (hK : realKernels ap (.profprof prof1 prof2) seqA.size seqB.size =
      realKernels (scaleParamS ap (k * m)) (.seqseq seqA seqB) seqA.size seqB.size)
    (h1A : 1 ≤ seqA.size) (h1B : 1 ≤ seqB.size) (hkU : k * m * U < 16777216)
    (hsize : (k * m * U) * (seqA.size + seqB.size + 1) + seqB.size / 1000 + 1 < 16777216) (hlenB : seqB.size < 4194304)
    (P : List Col) (hV : ValidCols P seqA.size seqB.size) (hadj : adjOK .A P = true)
    (hmargin : ∀ Q, ValidCols Q seqA.size seqB.size → adjOK .A Q = true → Q ≠ P →
      ((k * m : Nat) : Int) * scoreST s gpo gpe tgpe Q seqA.toList seqB.toList + ((seqB.size : Int) + 1000) <
        ((k * m : Nat) : Int) * (scoreST s gpo gpe tgpe P seqA.toList seqB.toList - gpo * (nterm P : Int) -
          (max 0 (max (tgpe - gpe) (tgpe - gpo)) + max 0 (gpe - tgpe)))) :
    let r := alnRun entry ap (.profprof prof1 prof2) seqA.size seqB.size (initMem seqA.size seqB.size)
    r.fault = false ∧
      ∃ codes, expandPath seqB.size (r.pathEntries seqA.size) = some codes ∧ codes.map Col.ofCode = P :=
  (scaledS_runOK entry U ap apE hd gpo gpe tgpe s hap hgpo hgpe htgpe (k * m) hk1 hk hkU ap _ seqA seqB hK P hV hadj ⟨hsize, hlenB⟩
    ((MarginK.iff_inline (by omega)).2 hmargin)).codes hV hadj h1A h1B

/-- `5.5F * 3.0F = 16.5F`, `-4.0F * 64.0F = -256.0F`, computed exactly -/
example : SoftF32.mul (ofRaw 0x40b00000) (SoftF32.ofNat 3) = ofRaw 0x41840000 ∧ ofRaw 0x41840000 = half 33 ∧
    SoftF32.mul (half (-8)) (SoftF32.ofNat 64) = half (-512) := by decide +kernel

/-- the protein defaults scaled by `K = 6` (e.g. 2 copies against 3 copies) are dyadic with `U = 192`; `hsize` then admits
`len_a + len_b` up to about 87000 -/
example : DyadicParam (6 * 32) (scaleParamS (softParamOf 0 3) 6) (scaleParam (exactParam Gen.mat0 5500 2000 1000) 6) :=
  C07Soft_dyadic_scale C07Soft_dyadic_protein (by decide) (by decide) (by decide)

/-- what the binary32 run on the `K = 2`-scaled protein defaults returns for a = (W,C,W), b = (W,W): the path of
`P = [both, gapB, both]` (kernel evaluation only; the margin hypothesis for this `P` with `K = 2` is `exMargin2S` in
`Props/C07SoftGroups.lean`, where the group theorem is instantiated) -/
example : ((alnRun .parallel (scaleParamS (softParamOf 0 3) 2) (.seqseq #[17, 4, 17] #[17, 17]) 3 2 (initMem 3 2)).pathEntries 3) =
    [1, -1, 2] := by decide +kernel

end Kalign

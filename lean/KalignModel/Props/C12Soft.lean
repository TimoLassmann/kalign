import KalignModel.Lemmas.C12SoftDist
import KalignModel.Props.SoftFloat
import KalignModel.Props.C12
import KalignModel.Lemmas.Basic.OptionMapM
/-!
# C12 (guide-tree part) on binary32 — all copies of a sequence form one clade of the UPGMA tree the code really computes

`Props/C12.lean` proves the clade statement over exact arithmetic (`upgmaExact` over `distExact`); the C code computes distances and
UPGMA in binary32.  This module proves the same statement for `distMatrixS`, `upgmaS`, `guideTreeS`, `smallTreeS`
(Model/TreeSoft.lean), the `SoftF32` twins that are tied **bit for bit** to the C routines `d_estimation`, `upgma`,
`build_tree_kmeans` by the correspondence ops `dist_matrix_soft`, `upgma_soft`, `tree_soft` and to the whole program by
`kalign_sys_soft2`, so the guide-tree part of C12 does not rest on the assumption "A-float" (binary32 agrees with exact arithmetic
up to a margin).

The proof of `C12Soft_upgma_clade` (Lemmas/C12SoftUpgma.lean) is rounding-exact, not an error estimate: every bound
`(A0 + 1049·k)·2⁻²⁰`, `B0·2⁻²⁰` is itself a binary32 number (`1049·2⁻²⁰ ≈ 0.0010004 ≥ 0.001F`), and a sum bounded by a binary32 number
rounds to at most that number.
-/
set_option exponentiation.threshold 512
namespace Kalign
open SoftF32

theorem toInt_one : toInt SoftF32.one = ((2 ^ 149 : Nat) : Int) := by decide

/-- `M i j` = the entry `upgmaS` reads.  Copies of `S` are at distance exactly `L0 = lenTermS |S| |S|` from each other;
every sequence satisfying the non-containment premise is at distance at least `1.0F` from every copy (both orders);
`L0 < 1.0F` when `|S| < 10000`. -/
theorem C12Soft_entry_sep (seqs : List (List Nat)) (S : List Nat) (hsym : ∀ s ∈ seqs, ∀ c ∈ s, c < 13) (hS : S ∈ seqs)
    (hno : ∀ T ∈ seqs, T ≠ S → ¬ (T.take 1024 <:+: S) ∧ ¬ (S.take 1024 <:+: T))
    (dm : List (List SoftF32)) (hdm : distMatrixS seqs = some dm) :
    (∀ i j, i < seqs.length → j < seqs.length → seqs[i]? = some S → seqs[j]? = some S →
      FMatS.get ((dm.map List.toArray).toArray) i j = lenTermS S.length S.length) ∧
    (∀ i z, i < seqs.length → z < seqs.length → seqs[i]? = some S → seqs[z]? ≠ some S →
      SoftF32.le SoftF32.one (FMatS.get ((dm.map List.toArray).toArray) i z) = true ∧
      SoftF32.le SoftF32.one (FMatS.get ((dm.map List.toArray).toArray) z i) = true) ∧
    (S.length < 10000 → SoftF32.lt (lenTermS S.length S.length) SoftF32.one = true) := by
  refine ⟨?_, ?_, ?_⟩
  · intro i j hi hj ei ej
    obtain ⟨d, hd, hg⟩ := distMatrixS_same seqs S dm hdm i j hi hj (getD_of_getElem? ei) (getD_of_getElem? ej)
    rw [hg]
    cases (distEntryS_of_raw (dist_zero_of_equal S (hsym S hS))).symm.trans hd
    rw [lenTermS_eq, show (S.length + S.length) / 2 = S.length by omega]
    obtain ⟨q1, q2, _, _⟩ := lenQ_spec (j := min 10000 S.length) (by omega)
    have hf : (lenQ (min 10000 S.length)).isFinite = true := (isFinite_iff _).2 q2
    have h0 : SoftF32.ofNat 0 = SoftF32.zero := by decide
    rw [h0, SoftF32.add_comm (by decide) (isNaN_of_finite hf)]
    apply SoftF32.add_zero hf
    intro e
    rw [e] at q1
    exact absurd q1 (by decide)
  · intro i z hi hz ei ez
    obtain ⟨a, b, d0, d, _, h0, h1, hd, hg, hg'⟩ :=
      distMatrixS_cross seqs S hsym hS hno dm hdm i z hi hz (getD_of_getElem? ei) (getD_ne_of_getElem? hz ez)
    rw [hg, hg']
    have hfin := (distEntryS_absLe hd).finite
    have h2 := entry_cross h0 h1 hd
    have : SoftF32.le SoftF32.one d = true := by
      rw [SoftF32.le_iff_toInt (by decide) (isNaN_of_finite hfin), toInt_one]
      have h3 : 2 ^ 149 ≤ (1048576 + lenLo (min 10000 ((a.length + b.length) / 2))) * 2 ^ 129 := by
        rw [← pow149]
        exact Nat.mul_le_mul_right _ (by omega)
      exact Int.le_trans (Int.ofNat_le.2 h3) h2
    exact ⟨this, this⟩
  · intro hlen
    obtain ⟨_, q2, _, q4⟩ := lenQ_spec (j := min 10000 S.length) (by omega)
    rw [lenTermS_eq, show (S.length + S.length) / 2 = S.length by omega]
    have hq : AbsV (lenQ (min 10000 S.length)) (lenHi (min 10000 S.length) * 2 ^ 129) := ⟨q2, q4⟩
    rw [SoftF32.lt_iff_toInt (isNaN_of_finite hq.finite) (by decide), toInt_one]
    have h1 := hq.toInt_le
    have h3 : lenHi (min 10000 S.length) * 2 ^ 129 < 2 ^ 149 := by
      rw [← pow149]
      exact Nat.mul_lt_mul_of_pos_right (by unfold lenHi; omega) (Nat.pow_pos (by decide))
    have := Int.ofNat_lt.2 h3
    omega

/-- on the grid 2⁻²⁰ (what the clade theorem consumes; valid for every length of `S`) -/
theorem C12Soft_entry_sep_grid (seqs : List (List Nat)) (S : List Nat) (hsym : ∀ s ∈ seqs, ∀ c ∈ s, c < 13) (hS : S ∈ seqs)
    (hno : ∀ T ∈ seqs, T ≠ S → ¬ (T.take 1024 <:+: S) ∧ ¬ (S.take 1024 <:+: T))
    (dm : List (List SoftF32)) (hdm : distMatrixS seqs = some dm) :
    (∀ i j, i < seqs.length → j < seqs.length → seqs[i]? = some S → seqs[j]? = some S →
      AbsV (FMatS.get ((dm.map List.toArray).toArray) i j) (lenHi (min 10000 S.length) * 2 ^ 129)) ∧
    (∀ i z, i < seqs.length → z < seqs.length → seqs[i]? = some S → seqs[z]? ≠ some S →
      (((1048576 + lenLo (min 10000 (S.length / 2))) * 2 ^ 129 : Nat) : Int) ≤ toInt (FMatS.get ((dm.map List.toArray).toArray) i z) ∧
      (((1048576 + lenLo (min 10000 (S.length / 2))) * 2 ^ 129 : Nat) : Int) ≤ toInt (FMatS.get ((dm.map List.toArray).toArray) z i)) ∧
    lenHi (min 10000 S.length) + 524000 ≤ 1048576 + lenLo (min 10000 (S.length / 2)) :=
  ⟨fun i j hi hj ei ej => distMatrixS_same_grid seqs S hsym hS dm hdm i j hi hj (getD_of_getElem? ei) (getD_of_getElem? ej),
   fun i z hi hz ei ez =>
     distMatrixS_cross_grid seqs S hsym hS hno dm hdm i z hi hz (getD_of_getElem? ei) (getD_ne_of_getElem? hz ez),
   len_gap S.length⟩

/-- `c` marks the labels of `C`; `M = (upgmaInitS dm samples).dm` is the matrix as `upgmaS` reads it (missing entries
read as `0.0F`).  Margin: `A0 + 1049·n ≤ B0 < 2²³` in units of 2⁻²⁰. -/
theorem C12Soft_upgma_clade (dm : List (List SoftF32)) (samples : List Nat) (c : Nat → Bool) (A0 B0 : Nat)
    (hB : B0 < 8388608) (hm : A0 + 1049 * samples.length ≤ B0)
    (hC : ∃ x, x ∈ samples ∧ c x = true)
    (hbnd : ∀ r ∈ dm, ∀ x ∈ r, absLe x (2 ^ 33))
    (hcc : ∀ i j (hi : i < samples.length) (hj : j < samples.length), i ≠ j → c samples[i] = true → c samples[j] = true →
      AbsV ((upgmaInitS dm samples).dm.get i j) (A0 * 2 ^ 129))
    (hcr : ∀ i z (hi : i < samples.length) (hz : z < samples.length), c samples[i] = true → c samples[z] = false →
      ((B0 * 2 ^ 129 : Nat) : Int) ≤ toInt ((upgmaInitS dm samples).dm.get i z) ∧
      ((B0 * 2 ^ 129 : Nat) : Int) ≤ toInt ((upgmaInitS dm samples).dm.get z i)) :
    ∃ T, upgmaS dm samples = some T ∧ ∃ u ∈ T.subtrees, ∀ x, x ∈ u.leaves ↔ (x ∈ samples ∧ c x = true) :=
  upgmaS_clade dm samples c A0 B0 hB hm hC
    (matBnd_of_rows _ dm (fun r hr x hx => (hbnd r hr x hx).mono (by unfold upgBnd; decide))) hcc hcr

theorem C12Soft_upgma_clade_100 (dm : List (List SoftF32)) (samples : List Nat) (hn : samples.length < 100) (c : Nat → Bool)
    (A0 B0 : Nat) (hB : B0 < 8388608) (hm : A0 + 103851 ≤ B0)
    (hC : ∃ x, x ∈ samples ∧ c x = true)
    (hbnd : ∀ r ∈ dm, ∀ x ∈ r, absLe x (2 ^ 33))
    (hcc : ∀ i j (hi : i < samples.length) (hj : j < samples.length), i ≠ j → c samples[i] = true → c samples[j] = true →
      AbsV ((upgmaInitS dm samples).dm.get i j) (A0 * 2 ^ 129))
    (hcr : ∀ i z (hi : i < samples.length) (hz : z < samples.length), c samples[i] = true → c samples[z] = false →
      ((B0 * 2 ^ 129 : Nat) : Int) ≤ toInt ((upgmaInitS dm samples).dm.get i z) ∧
      ((B0 * 2 ^ 129 : Nat) : Int) ≤ toInt ((upgmaInitS dm samples).dm.get z i)) :
    ∃ T, upgmaS dm samples = some T ∧ ∃ u ∈ T.subtrees, ∀ x, x ∈ u.leaves ↔ (x ∈ samples ∧ c x = true) :=
  C12Soft_upgma_clade dm samples c A0 B0 hB (by omega) hC hbnd hcc hcr

/-- **binary32 thresholds and the comparisons of the code**: entries inside `C` are in `[0, a]`, entries between `C` and
the rest are `≥ b`, where `b − a ≥ 103853·2⁻²⁰ ≈ 0.099042` and `b < 8`; fewer than 100 leaves -/
theorem C12Soft_upgma_clade_le (dm : List (List SoftF32)) (samples : List Nat) (hn : samples.length < 100) (c : Nat → Bool)
    (a b : SoftF32) (has : a.sign = false) (hb8 : toInt b < ((2 ^ 152 : Nat) : Int))
    (hgap : toInt a + ((103853 * 2 ^ 129 : Nat) : Int) ≤ toInt b)
    (hC : ∃ x, x ∈ samples ∧ c x = true)
    (hbnd : ∀ r ∈ dm, ∀ x ∈ r, absLe x (2 ^ 33))
    (hcc : ∀ i j (hi : i < samples.length) (hj : j < samples.length), i ≠ j → c samples[i] = true → c samples[j] = true →
      SoftF32.le SoftF32.zero ((upgmaInitS dm samples).dm.get i j) = true ∧
      SoftF32.le ((upgmaInitS dm samples).dm.get i j) a = true)
    (hcr : ∀ i z (hi : i < samples.length) (hz : z < samples.length), c samples[i] = true → c samples[z] = false →
      SoftF32.le b ((upgmaInitS dm samples).dm.get i z) = true ∧ SoftF32.le b ((upgmaInitS dm samples).dm.get z i) = true) :
    ∃ T, upgmaS dm samples = some T ∧ ∃ u ∈ T.subtrees, ∀ x, x ∈ u.leaves ↔ (x ∈ samples ∧ c x = true) := by
  have hMat : MatBnd (upgBnd 0) (upgmaInitS dm samples).dm :=
    matBnd_of_rows _ dm (fun r hr x hx => (hbnd r hr x hx).mono (by unfold upgBnd; decide))
  have hva : toInt a = (magVal a.mag : Int) := toInt_of_pos has
  have hP : 0 < 2 ^ 129 := Nat.pow_pos (by decide)
  generalize hvb : (toInt b).toNat = vb
  have hvb' : toInt b = (vb : Int) := by omega
  have hgapN : magVal a.mag + 103853 * 2 ^ 129 ≤ vb := by omega
  have hb8N : vb < 2 ^ 152 := by omega
  have hdiv : magVal a.mag / 2 ^ 129 + 103853 ≤ vb / 2 ^ 129 := by
    have := Nat.div_le_div_right (c := 2 ^ 129) hgapN
    rwa [Nat.add_mul_div_right _ _ hP] at this
  have hB : vb / 2 ^ 129 < 8388608 := by
    apply Nat.div_lt_of_lt_mul
    have : (2 : Nat) ^ 129 * 8388608 = 2 ^ 152 := by decide
    omega
  refine upgmaS_clade dm samples c (magVal a.mag / 2 ^ 129 + 1) (vb / 2 ^ 129) hB (by omega) hC hMat ?_ ?_
  · intro i j hi hj hij hci hcj
    obtain ⟨h0, h1⟩ := hcc i j hi hj hij hci hcj
    have hfin := (hMat i j).finite
    have hnn := isNaN_of_finite hfin
    rw [SoftF32.le_iff_toInt (by decide) hnn] at h0
    rw [SoftF32.le_iff_toInt hnn (by
      rw [← Bool.not_eq_true, isNaN_iff]
      intro hnan
      have : SoftF32.le ((upgmaInitS dm samples).dm.get i j) a = false := by
        simp [SoftF32.le, (isNaN_iff a).2 hnan]
      rw [this] at h1; cases h1)] at h1
    have hz : toInt SoftF32.zero = 0 := by decide
    rw [hz] at h0
    have hn' := natAbs_toInt ((upgmaInitS dm samples).dm.get i j)
    refine ⟨(hMat i j).1, ?_⟩
    have hlt : magVal a.mag < 2 ^ 129 * (magVal a.mag / 2 ^ 129 + 1) := Nat.lt_mul_div_succ _ hP
    rw [Nat.mul_comm] at hlt
    omega
  · intro i z hi hz hci hcz
    obtain ⟨h0, h1⟩ := hcr i z hi hz hci hcz
    have hbn : b.isNaN = false := by
      rw [← Bool.not_eq_true]
      intro hnan
      have : SoftF32.le b ((upgmaInitS dm samples).dm.get i z) = false := by simp [SoftF32.le, hnan]
      rw [this] at h0; cases h0
    rw [SoftF32.le_iff_toInt hbn (isNaN_of_finite (hMat i z).finite)] at h0
    rw [SoftF32.le_iff_toInt hbn (isNaN_of_finite (hMat z i).finite)] at h1
    have hle : vb / 2 ^ 129 * 2 ^ 129 ≤ vb := Nat.div_mul_le_self _ _
    have := Int.ofNat_le.2 hle
    constructor <;> omega

/-- **C12, guide tree, on the arithmetic the code performs**: fewer than 100 sequences over the 13-letter alphabet; `S` occurs
among them; for every other sequence `T` the first 1024 symbols of `T` do not occur in `S` and those of `S` do not occur in `T`.
Then `guideTreeS` — `d_estimation(pair = 1)` and `upgma` in binary32 — returns a tree with a subtree whose leaves are exactly the
positions of the copies of `S`. -/
theorem C12Soft_copies_form_clade (seqs : List (List Nat)) (S : List Nat) (hn : seqs.length < 100)
    (hsym : ∀ s ∈ seqs, ∀ c ∈ s, c < 13) (hS : S ∈ seqs)
    (hno : ∀ T ∈ seqs, T ≠ S → ¬ (T.take 1024 <:+: S) ∧ ¬ (S.take 1024 <:+: T)) :
    ∃ tree, guideTreeS seqs = some tree ∧
      ∃ s ∈ tree.subtrees, ∀ x, x ∈ s.leaves ↔ (x < seqs.length ∧ seqs[x]? = some S) := by
  obtain ⟨dm, T, hdm, hT, u, hu, hlu⟩ := upgmaS_dist_clade seqs (List.range seqs.length) (by simp) S hn hsym
    (fun x => decide (seqs[x]? = some S))
    (by
      intro i hi
      have hi' : i < seqs.length := by simpa using hi
      rw [List.getElem_range, decide_eq_true_iff, List.getD_eq_getElem?_getD, List.getElem?_eq_getElem hi']
      simp)
    hS hno
  refine ⟨T, by unfold guideTreeS; rw [hdm]; exact hT, u, hu, fun x => ?_⟩
  rw [hlu x]
  simp

theorem GTree.sub_toTree {u t : GTree} (h : u ∈ t.subtrees) : Tree.Sub (Pipeline.GTree.toTree u) (Pipeline.GTree.toTree t) := by
  induction t with
  | leaf i =>
    simp only [GTree.subtrees, List.mem_singleton] at h
    subst h; exact Tree.Sub.refl _
  | node l r ihl ihr =>
    simp only [GTree.subtrees, List.mem_cons, List.mem_append] at h
    rcases h with rfl | h | h
    · exact Tree.Sub.refl _
    · exact Tree.Sub.left (ihl h)
    · exact Tree.Sub.right (ihr h)

/-- **the same for the `< 100` branch of `bisecting_kmeans` as the pipeline `kalignRunSoft2` calls it** (`samples` = the input
indices of the part, `codes` = all sequences in the tree alphabet): the returned tree has a sub-tree whose leaves are exactly the
samples whose sequence is `S` -/
theorem C12Soft_smallTree_clade (codes : Array (List Nat)) (samples : List Nat) (S : List Nat) (hn : samples.length < 100)
    (hsym : ∀ x ∈ samples, ∀ c ∈ codes.getD x [], c < 13) (hS : ∃ x, x ∈ samples ∧ codes.getD x [] = S)
    (hno : ∀ x ∈ samples, codes.getD x [] ≠ S →
      ¬ ((codes.getD x []).take 1024 <:+: S) ∧ ¬ (S.take 1024 <:+: codes.getD x [])) :
    ∃ t, Pipeline.smallTreeS codes samples = some t ∧
      ∃ v, Tree.Sub v t ∧ ∀ x, x ∈ v.leaves ↔ (x ∈ samples ∧ codes.getD x [] = S) := by
  have hmem : ∀ s, s ∈ samples.map (fun s => codes.getD s []) → ∃ x, x ∈ samples ∧ codes.getD x [] = s := by
    intro s hs
    simpa [List.mem_map] using hs
  obtain ⟨dm, T, hdm, hT, u, hu, hlu⟩ := upgmaS_dist_clade (samples.map fun s => codes.getD s []) samples (by simp) S
    (by simpa using hn)
    (by
      intro s hs
      obtain ⟨x, hx, rfl⟩ := hmem s hs
      exact hsym x hx)
    (fun x => decide (codes.getD x [] = S))
    (by
      intro i hi
      rw [decide_eq_true_iff, List.getD_eq_getElem?_getD, List.getElem?_map, List.getElem?_eq_getElem hi]
      simp)
    (by
      obtain ⟨x, hx, e⟩ := hS
      exact List.mem_map.2 ⟨x, hx, e⟩)
    (by
      intro T hT hne
      obtain ⟨x, hx, rfl⟩ := hmem T hT
      exact hno x hx hne)
  refine ⟨Pipeline.GTree.toTree T, by unfold Pipeline.smallTreeS; rw [hdm]; simp [hT], Pipeline.GTree.toTree u, GTree.sub_toTree hu,
    fun x => ?_⟩
  rw [Pipeline.GTree.leaves_toTree, hlu x]
  simp

deriving instance DecidableEq for GTree

/-- six sequences over `{0,1,2,3}`; `[0,1,2,3]` occurs three times (positions 1, 3, 5) -/
def exC12 : List (List Nat) := [[3, 3, 1, 0, 2], [0, 1, 2, 3], [2, 2, 0, 1], [0, 1, 2, 3], [1, 0, 0, 3, 2, 2], [0, 1, 2, 3]]

example : ∃ tree, guideTreeS exC12 = some tree ∧
    ∃ s ∈ tree.subtrees, ∀ x, x ∈ s.leaves ↔ (x < exC12.length ∧ exC12[x]? = some [0, 1, 2, 3]) :=
  C12Soft_copies_form_clade exC12 [0, 1, 2, 3] (by decide) (by decide) (by decide) (by
    intro T hT hne
    have : T = [3, 3, 1, 0, 2] ∨ T = [2, 2, 0, 1] ∨ T = [1, 0, 0, 3, 2, 2] := by
      simp only [exC12, List.mem_cons, List.mem_nil_iff, or_false] at hT
      rcases hT with h | h | h | h | h | h
      · exact Or.inl h
      · exact absurd h hne
      · exact Or.inr (Or.inl h)
      · exact absurd h hne
      · exact Or.inr (Or.inr h)
      · exact absurd h hne
    rcases this with rfl | rfl | rfl <;> constructor <;> decide)

/-- `d_estimation` computes the entry `(x, y)` from the pair `(max x y, min x y)`: the lower triangle determines the matrix -/
theorem distMatrixS_of_lower (seqs : List (List Nat)) (E : Nat → Nat → SoftF32)
    (h : ∀ x, x < seqs.length → ∀ y, y ≤ x → distEntryS (seqs.getD x []) (seqs.getD y []) = some (E x y)) :
    distMatrixS seqs =
      some ((List.range seqs.length).map fun x => (List.range seqs.length).map fun y => E (max x y) (min x y)) := by
  unfold distMatrixS
  refine mapM_eq_some_map _ _ _ (fun x hx => mapM_eq_some_map _ _ _ (fun y hy => ?_))
  rw [List.mem_range] at hx hy
  exact h (max x y) (by omega) (min x y) (by omega)

/-- the lower triangle of the binary32 matrix of `exC12` (bit patterns): `4/10000 = 0x39d1b717 = 970045207` between copies -/
def exC12Lower : List (List Nat) :=
  [[973279855],
   [1073743502, 970045207],
   [1077937806, 1073743502, 970045207],
   [1073743502, 970045207, 1073743502, 970045207],
   [1077938225, 1073743921, 1073743921, 1073743921, 974997842],
   [1073743502, 970045207, 1073743502, 970045207, 1073743921, 970045207]]

/-- the kernel evaluates the 21 calls of `distEntryS` (bit-parallel edit distance, binary32 length term) once -/
theorem exC12_lower : ∀ x, x < exC12.length → ∀ y, y ≤ x →
    distEntryS (exC12.getD x []) (exC12.getD y []) = some (ofRaw ((exC12Lower.getD x []).getD y 0)) := by
  decide +kernel

/-- … and the kernel evaluates the binary32 guide tree: the copies 1, 3, 5 form the clade `((1,3),5)` -/
theorem exC12_tree : guideTreeS exC12 =
    some (.node (.node (.leaf 0) (.node (.node (.leaf 1) (.leaf 3)) (.leaf 5))) (.node (.leaf 2) (.leaf 4))) := by
  rw [guideTreeS, distMatrixS_of_lower exC12 _ exC12_lower]
  decide +kernel

example : ∃ tree, guideTreeS exC12 = some tree ∧ ∃ s ∈ tree.subtrees, s.leaves = [1, 3, 5] :=
  ⟨_, exC12_tree, .node (.node (.leaf 1) (.leaf 3)) (.leaf 5), by simp [GTree.subtrees], rfl⟩

set_option maxRecDepth 100000 in
/-- the binary32 matrix of `exC12` (bit patterns): `4/10000 = 0x39d1b717` between copies, at least `2.0004…` across -/
example : (distMatrixS exC12).map (fun m => (m.getD 1 []).map SoftF32.raw) =
    some [1073743502, 970045207, 1073743502, 970045207, 1073743921, 970045207] := by
  rw [distMatrixS_of_lower exC12 _ exC12_lower]
  decide +kernel

/-- a hand-made matrix: `C = {0, 1}` at mutual distance `0.3F`, everything else at distance at least `2.0F`;
`A0 = 320000` (`≈ 0.305`), `B0 = 2000000` (`≈ 1.907`) -/
def exDm : List (List SoftF32) :=
  [[ofRaw 0, ofRaw 0x3e99999a, ofRaw 0x40000000, ofRaw 0x40200000],
   [ofRaw 0x3e99999a, ofRaw 0, ofRaw 0x40066666, ofRaw 0x400ccccd],
   [ofRaw 0x40000000, ofRaw 0x40066666, ofRaw 0, ofRaw 0x3f333333],
   [ofRaw 0x40200000, ofRaw 0x400ccccd, ofRaw 0x3f333333, ofRaw 0]]

instance (x : SoftF32) (V : Nat) : Decidable (AbsV x V) := by unfold AbsV; infer_instance
instance (x : SoftF32) (N : Nat) : Decidable (absLe x N) := by unfold absLe; infer_instance

set_option maxRecDepth 100000 in
example : ∃ T, upgmaS exDm [0, 1, 2, 3] = some T ∧
    ∃ u ∈ T.subtrees, ∀ x, x ∈ u.leaves ↔ (x ∈ [0, 1, 2, 3] ∧ decide (x < 2) = true) :=
  C12Soft_upgma_clade exDm [0, 1, 2, 3] (fun x => decide (x < 2)) 320000 2000000 (by decide) (by decide) ⟨0, by decide, by decide⟩
    (by decide +kernel)
    (by intro i j hi hj; revert j; revert i; decide +kernel)
    (by intro i z hi hz; revert z; revert i; decide +kernel)

set_option maxRecDepth 100000 in
/-- the same instance through the comparisons of the code: inside `C` entries in `[0, 0.3F]`, across at least `2.0F` -/
example : ∃ T, upgmaS exDm [0, 1, 2, 3] = some T ∧
    ∃ u ∈ T.subtrees, ∀ x, x ∈ u.leaves ↔ (x ∈ [0, 1, 2, 3] ∧ decide (x < 2) = true) :=
  C12Soft_upgma_clade_le exDm [0, 1, 2, 3] (by decide) (fun x => decide (x < 2)) (ofRaw 0x3e99999a) (ofRaw 0x40000000)
    (by decide) (by decide) (by decide) ⟨0, by decide, by decide⟩
    (by decide +kernel)
    (by intro i j hi hj; revert j; revert i; decide +kernel)
    (by intro i z hi hz; revert z; revert i; decide +kernel)

set_option maxRecDepth 100000 in
/-- … and what the kernel computes for it: `C = {0, 1}` is the left subtree -/
example : upgmaS exDm [0, 1, 2, 3] = some (.node (.node (.leaf 0) (.leaf 1)) (.node (.leaf 2) (.leaf 3))) := by decide +kernel

end Kalign

import KalignModel.Lemmas.Canon
import KalignModel.Gen.Omp
import KalignModel.Props.C03Kmeans
/-!
# C03 — the result does not depend on the order of the input

"If the same named sequences are supplied in a different order, the result is the same alignment
with its rows permuted accordingly: the same residues share a column.  This holds whenever the
sequence names are pairwise distinct."

Model (Model/Canon.lean): `run pipeline inp` = essential check (ranks, empties dropped) →
`msa_sort_len_name` → `pipeline` (what `kalign_run` does between its two sorts, as an arbitrary function of the
canonical names and residues: that code never reads `rank`, frame fact `Gen.rankUses`, stated as
`rank_use_sites`) → rows attached by position → `msa_sort_rank`.

The comparator of `msa_sort_len_name` is `strcmp` on the full names (commit 15117bc of the C
sources; it used `strncmp(·,·,256)` before), so the sort keys are `(length, name)` and the
property's own premise — names pairwise distinct — makes them pairwise distinct.
-/
namespace Kalign
open List

def InSeq.key (x : InSeq) : Nat × Name := lenNameKey x.seq.length x.name

theorem sort_unique_of_distinct_keys {α : Type} (len : α → Nat) (name : α → Name) {l₁ l₂ : List α}
    (hp : l₁.Perm l₂) (hnul : ∀ x ∈ l₁, NulFree (name x))
    (hkeys : l₁.Pairwise fun a b => (len a, name a) ≠ (len b, name b)) :
    sortLenNameBy len name l₁ = sortLenNameBy len name l₂ :=
  sortLenNameBy_perm len name hp hnul hkeys

theorem canon_perm_invariant {inp inp' : List InSeq} (hp : inp'.Perm inp)
    (hnul : ∀ x ∈ inp, NulFree x.name) (hkeys : inp.Pairwise fun a b => a.key ≠ b.key) :
    (canon inp').map view = (canon inp).map view := by
  rw [canon_view, canon_view, hp.length_eq, (keptView_perm hp).length_eq]
  congr 2
  refine (sortLenNameBy_perm _ _ (keptView_perm hp).symm (fun x hx => ?_)
    (pairwise_map.2 (hkeys.sublist filter_sublist))).symm
  obtain ⟨y, hy, -, rfl⟩ := mem_keptView.1 hx
  exact hnul y hy

theorem keys_distinct_of_names_distinct {inp : List InSeq} (hnames : (inp.map (·.name)).Nodup) :
    inp.Pairwise fun a b => a.key ≠ b.key := by
  rw [Nodup, pairwise_map] at hnames
  exact hnames.imp (fun h e => h (congrArg Prod.snd e))

theorem canon_perm_invariant_of_distinct_names {inp inp' : List InSeq} (hp : inp'.Perm inp)
    (hnul : ∀ x ∈ inp, NulFree x.name) (hnames : (inp.map (·.name)).Nodup) :
    (canon inp').map view = (canon inp).map view :=
  canon_perm_invariant hp hnul (keys_distinct_of_names_distinct hnames)

/-- **C03** in the model: for ANY downstream pipeline that is a function of the canonical names
and residues, permuting the input leaves the row printed under every name unchanged (hence the
same residues share a column).  Premises: the property's own — names pairwise distinct — and
NUL-freeness (names are C strings). -/
theorem order_independent (pipeline : List (Name × List Char) → List Row)
    {inp inp' : List InSeq} (hp : inp'.Perm inp)
    (hnames : (inp.map (·.name)).Nodup) (hnul : ∀ x ∈ inp, NulFree x.name) :
    rowsByName (run pipeline inp') = rowsByName (run pipeline inp) := by
  funext n
  have hc := canon_perm_invariant_of_distinct_names hp hnul hnames
  have hnames' : (inp'.map (·.name)).Nodup := ((hp.map _).nodup_iff).mpr hnames
  unfold run
  cases h : canon inp <;> cases h' : canon inp' <;> rw [h, h'] at hc
  · cases hc
  · cases hc
  · rename_i c c'
    simp only [Option.map_some, Option.some.injEq] at hc
    simp only [Option.map_some, rowsByName_some]
    rw [find?_nameRows_sortRank c _ (canon_names_nodup h hnames),
      find?_nameRows_sortRank c' _ (canon_names_nodup h' hnames'), hc]

/-- "with its rows permuted accordingly": the output lists the non-empty input sequences in input
order (whatever the canonical order was), provided the pipeline returns one row per sequence. -/
theorem run_restores_input_order (pipeline : List (Name × List Char) → List Row)
    (hlen : ∀ V, (pipeline V).length = V.length) (inp : List InSeq) (out : List (RSeq × Row))
    (h : run pipeline inp = some out) :
    out.map (·.1.name) = (inp.filter fun x => x.seq.length ≠ 0).map (·.name) := by
  obtain ⟨c, hc, rfl⟩ := Option.map_eq_some_iff.mp h
  obtain ⟨E, -, rfl, hperm, hview, hranks⟩ := canon_some hc
  have hfst := sortRank_zip_fst E hranks (pipeline (view (sortLenName E)))
    (by rw [hlen, view, length_map]; exact hperm.length_eq)
  have hname : ∀ l : List (RSeq × Row), l.map (·.1.name) = (l.map (·.1)).map (·.name) := fun l => by
    rw [map_map]; rfl
  rw [hname, hfst]
  have : E.map (·.name) = (view E).map (·.1) := by simp [view, map_map, Function.comp_def]
  rw [this, hview, map_fst_keptView]

theorem order_independent_of_distinct_names (pipeline : List (Name × List Char) → List Row)
    {inp inp' : List InSeq} (hp : inp'.Perm inp) (hnul : ∀ x ∈ inp, NulFree x.name)
    (hnames : inp.Pairwise fun a b => a.name ≠ b.name) :
    rowsByName (run pipeline inp') = rowsByName (run pipeline inp) :=
  order_independent pipeline hp (by rw [Nodup, pairwise_map]; exact hnames) hnul

/-- frame fact (translator T4): the only reader of `->rank` is the comparator of
`msa_sort_rank`; the writers are allocation, the essential check and the two copy helpers.  A change
of this list in the C sources breaks the proof obligation. -/
theorem rank_use_sites : Gen.rankUses =
    ["msa_alloc.c:alloc_msa_seq:write", "msa_check.c:kalign_essential_input_check:write",
     "msa_op.c:msa_seq_cpy:write", "msa_op.c:kalign_arr_to_msa:write", "msa_sort.c:sort_by_rank:read"] := rfl

/-- any two NUL-free names `p ++ x`, `p ++ y` with a common prefix `p` (of 256 bytes or any other
length) and `strcmp x y < 0`, on sequences of equal non-zero length: the keys are distinct, the
comparator sees past the prefix (`strcmp (p++x) (p++y) = strcmp x y`), and the canonical list is
`[p++x, p++y]` for *both* input orders.  (With `strncmp(·,·,256)` the keys collided and the
canonical order was the reverse of the input order.) -/
theorem common_prefix_distinct_keys (p x y : Name) (hxy : strcmp x y < 0)
    (s t : List Char) (hst : s.length = t.length) (hs : s.length ≠ 0) :
    let a : InSeq := { name := p ++ x, seq := s }
    let b : InSeq := { name := p ++ y, seq := t }
    a.key ≠ b.key ∧
    cmpLenName s.length a.name t.length b.name = -1 ∧ cmpLenName t.length b.name s.length a.name = 1 ∧
    (canon [a, b]).map view = some [(a.name, a.seq), (b.name, b.seq)] ∧
    (canon [b, a]).map view = some [(a.name, a.seq), (b.name, b.seq)] := by
  intro a b
  have ht : t.length ≠ 0 := by omega
  have hs' : s ≠ [] := fun h => hs (by simp [h])
  have ht' : t ≠ [] := fun h => ht (by simp [h])
  have hAB : strcmp (p ++ x) (p ++ y) < 0 := by rw [strcmp_append_left]; exact hxy
  have hBA : ¬ strcmp (p ++ y) (p ++ x) < 0 := by rw [strcmp_swap]; omega
  have c1 : cmpLenName s.length (p ++ x) t.length (p ++ y) = -1 := by simp [cmpLenName, hAB, hst]
  have c2 : cmpLenName t.length (p ++ y) s.length (p ++ x) = 1 := by simp [cmpLenName, hBA, hst]
  refine ⟨?_, c1, c2, ?_, ?_⟩
  · intro h
    have e : p ++ x = p ++ y := congrArg Prod.snd h
    have : x = y := append_cancel_left e
    rw [this, strcmp_self] at hxy
    omega
  · rw [canon_pair a b hs' ht', if_pos (by simp [leLenName, c1, a, b])]
  · rw [canon_pair b a ht' hs', if_neg (by simp [leLenName, c2, a, b])]

/-- the concrete instance that used to be the counterexample: names 256 × 'A' followed by 'B'
resp. 'C'.  The `sort_len_name` op on `2:41…4142 2:41…4143` gives `0,1` and on the swapped
arguments `1,0` for the C code as well (it gave `1,0` both times before the repair). -/
theorem common_prefix_example :
    let a : InSeq := { name := replicate 256 0x41 ++ [0x42], seq := ['A', 'C'] }
    let b : InSeq := { name := replicate 256 0x41 ++ [0x43], seq := ['G', 'T'] }
    a.name.take 256 = b.name.take 256 ∧ a.key ≠ b.key ∧
    (canon [a, b]).map view = some [(a.name, a.seq), (b.name, b.seq)] ∧
    (canon [b, a]).map view = some [(a.name, a.seq), (b.name, b.seq)] := by
  have h := common_prefix_distinct_keys (replicate 256 0x41) [0x42] [0x43] (by decide)
    ['A', 'C'] ['G', 'T'] rfl (by decide)
  refine ⟨?_, h.1, h.2.2.2.1, h.2.2.2.2⟩
  show ((replicate 256 0x41 : Name) ++ [0x42]).take 256 = ((replicate 256 0x41 : Name) ++ [0x43]).take 256
  rw [take_left' length_replicate, take_left' length_replicate]

/-- non-vacuity: four non-empty sequences (equal lengths, names that are prefixes of each other) and an empty one -/
def exInp : List InSeq :=
  [⟨[0x62], "ACGT".toList⟩, ⟨[0x61], "AC".toList⟩, ⟨[0x63], []⟩, ⟨[0x61, 0x62], "ACGT".toList⟩, ⟨[0x61, 0x62, 0x63], "GGGG".toList⟩]
def exInp' : List InSeq :=
  [⟨[0x61, 0x62, 0x63], "GGGG".toList⟩, ⟨[0x63], []⟩, ⟨[0x61, 0x62], "ACGT".toList⟩, ⟨[0x62], "ACGT".toList⟩, ⟨[0x61], "AC".toList⟩]

example : exInp'.Perm exInp := by decide
example : (exInp.map (·.name)).Nodup := by decide
example : ∀ x ∈ exInp, NulFree x.name := by decide
example : exInp.Pairwise fun a b => a.key ≠ b.key := by decide
example : exInp.Pairwise fun a b => a.name ≠ b.name := by decide

end Kalign

import KalignModel.Props.C07Soft
/-!
# C07 / C08 on binary32, sequence pairs — the theorems on concrete operands (non-vacuity)

What the `SoftF32` model computes where the theorems of `Props/C07Soft.lean` apply: the binary32 run and the exact run write the same
path (evaluated by the kernel); the runs on identical pairs (instances of `C08Soft_identical_pair_diag_protein` / `_dna`); where the margin
hypothesis holds and where it fails.
-/
namespace Kalign
open SoftF32 Pipeline

/-- a = (W,C,W), b = (W,W), protein defaults, where the hypotheses of `C07Soft_alnRun_opt` hold for `P = W W, C –, W W`: `P` is what the
binary32 model and the exact model both compute -/
example :
    ((alnRun .parallel (softParamOf 0 3) (.seqseq #[17, 4, 17] #[17, 17]) 3 2 (initMem 3 2)).pathEntries 3) = [1, -1, 2] ∧
    ((alnRun .parallel (exactParam Gen.mat0 5500 2000 1000) (.seqseq #[17, 4, 17] #[17, 17]) 3 2 (initMem 3 2)).pathEntries 3) =
      [1, -1, 2] ∧
    (expandPath 2 [1, -1, 2]).map (·.map Col.ofCode) = some [.both, .gapB, .both] := by decide +kernel

/-- a longer pair (8 × 8 residues, protein defaults): the binary32 run and the exact run write the same path -/
example :
    ((alnRun .parallel (softParamOf 0 3) (.seqseq #[0, 4, 7, 17, 19, 3, 3, 12] #[0, 4, 7, 17, 3, 3, 12, 5]) 8 8
      (initMem 8 8)).pathEntries 8) =
    ((alnRun .parallel (exactParam Gen.mat0 5500 2000 1000) (.seqseq #[0, 4, 7, 17, 19, 3, 3, 12] #[0, 4, 7, 17, 3, 3, 12, 5])
      8 8 (initMem 8 8)).pathEntries 8) := by decide +kernel

/-- C08 on binary32: the check passes for a sequence over the amino-acid codes (protein) and for a DNA-internal sequence, so
`C08Soft_identical_pair_diag_protein` / `_dna` apply; the runs are what the model computes -/
example : diagCondS Gen.mat0 5500 2000 1000 [0, 4, 7, 17, 19, 3, 3, 12] = true ∧
    diagCondS Gen.mat3 8000 6000 8000 [0, 1, 2, 3, 3, 1] = true := by decide +kernel

example :
    let r := alnRun .parallel (softParamOf 0 3) (.seqseq #[0, 4, 7, 17, 19, 3, 3, 12] #[0, 4, 7, 17, 19, 3, 3, 12]) 8 8
      (initMem 8 8)
    r.fault = false ∧ (expandPath 8 (r.pathEntries 8)).map (·.map Col.ofCode) = some (List.replicate 8 .both) := by
  obtain ⟨hf, codes, hc, hm⟩ := C08Soft_identical_pair_diag_protein .parallel 3 (Or.inl rfl) #[0, 4, 7, 17, 19, 3, 3, 12]
    (by decide) (by decide) (by decide +kernel)
  exact ⟨hf, (congrArg (Option.map _) hc).trans (congrArg some hm)⟩

example :
    let r := alnRun .serial (softParamOf 1 1) (.seqseq #[0, 1, 2, 3, 3, 1] #[0, 1, 2, 3, 3, 1]) 6 6 (initMem 6 6)
    r.fault = false ∧ (expandPath 6 (r.pathEntries 6)).map (·.map Col.ofCode) = some (List.replicate 6 .both) := by
  obtain ⟨hf, codes, hc, hm⟩ := C08Soft_identical_pair_diag_dna .serial true #[0, 1, 2, 3, 3, 1] (by decide) (by decide)
    (by decide +kernel)
  exact ⟨hf, (congrArg (Option.map _) hc).trans (congrArg some hm)⟩

/-- every standard residue code (0..19) of the protein defaults leaves a margin of 9000 − |seq| (units 1/2000) with the binary32 slack:
sequences of up to 8999 standard residues are covered -/
example : (List.range 20).all (fun x =>
    decide (max 0 (max (2 * 1000 - 2 * 2000) (2 * 1000 - 2 * 5500)) + max 0 (2 * 2000 - 2 * 1000) + (8999 + 1000) <
      exactSub Gen.mat0 x x + 2 * min (2 * 2000) (2 * 1000)) &&
    (List.range 20).all fun y => decide (2 * exactSub Gen.mat0 x y ≤ exactSub Gen.mat0 x x + exactSub Gen.mat0 y y)) = true := by
  decide +kernel

/-- with the plain DNA penalties (`tgpe = 0 < gpe = 6`) the safe margin `max(0, gpe − tgpe) = 6.0` already exceeds the match score
5.0: the hypothesis fails for every sequence (also on the exact carrier: `diagCond`), the theorem is silent there -/
example : diagCondS Gen.mat3 8000 6000 0 [0] = false ∧ diagCond Gen.mat3 8000 6000 0 [0] = false := by decide +kernel

end Kalign

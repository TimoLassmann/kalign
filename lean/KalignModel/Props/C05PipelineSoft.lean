import KalignModel.Props.C05PipelineC
import KalignModel.Props.SoftFloat
import KalignModel.Lemmas.SoftProfMon
import KalignModel.Lemmas.SoftProfBnd
/-!
# C05 (pipeline) on the software binary32 carrier: `kalignRunSoft`

`kalignRunSoft` (Model/PipelineSoft.lean) is `kalignRun` with every DP score in `SoftF32` (tied to the real `kalign()` by the op
`kalign_sys_soft`).  `Props/C05Pipeline.lean` leaves two hypotheses about binary32 values: `PipelineUpgmaHyp` (guide tree, still on
`Float32` here) and `PipelineMonHyp` (every Hirschberg run passes the meetup monitor).  On `SoftF32` the second is proved for
operands of bounded size (`monHyp_bounded`: at most 2¹⁷ members each, `len_a + len_b < 2¹⁹`, no hypothesis about values): one merge
passes the monitor as soon as the prepared profiles have bounded entries (`mergeRunC_mon`: a hypothesis about *profile entries*
instead of one about *meetup contracts*), and the stored profile of a node with `k` members is bounded by `4·k·2²⁰`
(Lemmas/SoftProfBnd.lean).
`ReachC` over-approximates the operands (it allows a node to be merged with itself), so `MonHypInvC` quantifies over operands of
unbounded size, for which binary32 does overflow.  `Props/C05PipelineSoftL.lean` therefore tracks the leaf list of every node the
recursion forms and applies `monHyp_bounded` to those.
-/
set_option exponentiation.threshold 512
namespace Kalign.Pipeline
open Kalign Kalign.Kmeans Kalign.SoftF32

/-- the part of `MonHypInvC` that `C07Soft_seqseq_mon` does not cover: the monitor for merges with at least one profile operand
(over all reachable operands, of any size; `monHyp_bounded` proves it for operands of bounded size) -/
def MonHypProfS (ap : AlnParam SoftF32) (codes : Array (List Nat)) : Prop :=
  ∀ A B : NodeC SoftF32, ReachC ap codes A → ReachC ap codes B → NodeInvC A → NodeInvC B →
    ¬ (A.nsip = 1 ∧ B.nsip = 1) → (mergeRunC .serial ap A B).mon = true

theorem mergeRunC_leaves_mon {bt : Nat} {t : Int} {gpo gpe tgpe : SoftF32} {ap : AlnParam SoftF32}
    (hp : paramOfTableS bt t gpo gpe tgpe = some ap) (codes : Array (List Nat)) (i j : Nat)
    (hA : 1 ≤ (codes.getD i []).length) (hB : 1 ≤ (codes.getD j []).length)
    (hl : (codes.getD i []).length + (codes.getD j []).length < 4194304) :
    (mergeRunC .serial ap (leafNodeC codes i) (leafNodeC codes j)).mon = true := by
  have e : mergeRunC .serial ap (leafNodeC codes i) (leafNodeC codes j) =
      orientRun .serial ap 1 1 (codes.getD i []).length (codes.getD j []).length (codes.getD i []).toArray
        (codes.getD j []).toArray (nodeProfC ap (leafNodeC codes i) 1) (nodeProfC ap (leafNodeC codes j) 1) := rfl
  rw [e, orientRun_cases, if_pos rfl, if_pos rfl]
  generalize (codes.getD i []).length = la at *
  generalize (codes.getD j []).length = lb at *
  generalize (codes.getD i []).toArray = sa
  generalize (codes.getD j []).toArray = sb
  split
  · exact C07Soft_seqseq_mon hp sa sb la lb hA hB hl
  · exact C07Soft_seqseq_mon hp sb sa lb la hB hA (by omega)

theorem monHypInvC_of_prof {bt : Nat} {t : Int} {gpo gpe tgpe : SoftF32} {ap : AlnParam SoftF32}
    (hp : paramOfTableS bt t gpo gpe tgpe = some ap) (codes : Array (List Nat))
    (hlen : ∀ i j, i < codes.size → j < codes.size → (codes.getD i []).length + (codes.getD j []).length < 4194304)
    (h : MonHypProfS ap codes) : MonHypInvC ap codes := by
  intro A B rA rB iA iB
  by_cases hs : A.nsip = 1 ∧ B.nsip = 1
  · obtain ⟨i, hi, rfl⟩ := reachC_leaf_of_nsip_one rA hs.1
    obtain ⟨j, hj, rfl⟩ := reachC_leaf_of_nsip_one rB hs.2
    have hA : 1 ≤ (codes.getD i []).length := iA.len
    have hB : 1 ≤ (codes.getD j []).length := iB.len
    have hl := hlen i j hi hj
    exact mergeRunC_leaves_mon hp codes i j hA hB hl
  · exact h A B rA rB iA iB hs

theorem spBnd_of {u Nc Ng : Nat} {ap : AlnParam SoftF32} (hap : ApBnd ap) {prof1 : Array SoftF32} {sip : Nat}
    (hu : u ≤ 79) (hent : EntBnd Nc Ng prof1) (hNc : Nc ≤ 2 ^ u) (hNg : Ng ≤ 2 ^ u) (hsip : sip < 16777216)
    (hpen : 1048576 * sip ≤ 2 ^ u) : SpBnd u Nc Ng ap prof1 sip := by
  have hs : absLe (SoftF32.ofNat sip) sip := ofNat_absLe hsip
  have hm : ∀ x : SoftF32, absLe x 1048576 → absLe (Score.mul x (Score.ofNat sip : SoftF32)) (1 * 2 ^ u) := by
    intro x hx
    exact mul_absLe hx hs (by rw [Nat.one_mul]; exact hpen) (by decide) (by omega)
  exact ⟨hu, hent, hNc, hNg, hm _ hap.gpo, hm _ hap.gpe, hm _ hap.tgpe⟩

/-- **one merge, any operand kinds**: the Hirschberg run of the merge of two nodes passes the monitor when the entries of the
prepared profiles (of the operands that are profiles) are bounded and the unit `2^u` dominates them, their products
`count · score`, and the scaled penalties -/
theorem mergeRunC_mon {bt : Nat} {t : Int} {gpo gpe tgpe : SoftF32} {ap : AlnParam SoftF32}
    (hp : paramOfTableS bt t gpo gpe tgpe = some ap) (A B : NodeC SoftF32) (iA : NodeInvC A) (iB : NodeInvC B)
    (u NcA NgA NcB NgB : Nat) (hu : u ≤ 79) (hu20 : 20 ≤ u)
    (hA : A.nsip ≠ 1 → EntBnd NcA NgA (nodeProfC ap A B.nsip))
    (hB : B.nsip ≠ 1 → EntBnd NcB NgB (nodeProfC ap B A.nsip))
    (hNcA : NcA ≤ 2 ^ u) (hNgA : NgA ≤ 2 ^ u) (hNcB : NcB ≤ 2 ^ u) (hNgB : NgB ≤ 2 ^ u) (hprod : NcA * NcB ≤ 2 ^ u)
    (hsA : A.nsip < 16777216) (hsB : B.nsip < 16777216)
    (hpA : 1048576 * A.nsip ≤ 2 ^ u) (hpB : 1048576 * B.nsip ≤ 2 ^ u)
    (hlen : A.len + B.len < 524288) :
    (mergeRunC .serial ap A B).mon = true := by
  have hap := paramOfTableS_bnd hp
  have lA := iA.len
  have lB := iB.len
  unfold mergeRunC
  rw [orientRun_cases]
  by_cases h1 : A.nsip = 1
  · by_cases h2 : B.nsip = 1
    · simp only [h1, h2, if_true]
      split
      · exact C07Soft_seqseq_mon hp _ _ _ _ lA lB (by omega)
      · exact C07Soft_seqseq_mon hp _ _ _ _ lB lA (by omega)
    · simp only [h1, h2, if_true, if_false]
      exact sp_alnRun_mon (spBnd_of hap hu (by have := hB h2; rwa [h1] at this) hNcB hNgB hsB hpB) hu20 _ _ _ lB lA
        (by omega) (by omega)
  · by_cases h2 : B.nsip = 1
    · simp only [h1, h2, if_true, if_false]
      exact sp_alnRun_mon (spBnd_of hap hu (by have := hA h1; rwa [h2] at this) hNcA hNgA hsA hpA) hu20 _ _ _ lA lB
        (by omega) (by omega)
    · simp only [h1, h2, if_false]
      split
      · exact pp_alnRun_mon (ap := ap) ⟨hu, hA h1, hB h2, hNgA, hNgB, hprod⟩ hu20 _ _ lA lB (by omega) (by omega)
      · exact pp_alnRun_mon (ap := ap) ⟨hu, hB h2, hA h1, hNgB, hNgA, by rw [Nat.mul_comm]; exact hprod⟩ hu20 _ _ lB lA
          (by omega) (by omega)

/-- **the monitor hypothesis for all operands of bounded size**: two reachable nodes with at most 2¹⁷ members each and
`len_a + len_b < 2¹⁹` — whatever their kinds (sequences or profiles) — pass the monitor.  No hypothesis about score values. -/
theorem monHyp_bounded {bt : Nat} {t : Int} {gpo gpe tgpe : SoftF32} {ap : AlnParam SoftF32}
    (hp : paramOfTableS bt t gpo gpe tgpe = some ap) (codes : Array (List Nat)) (A B : NodeC SoftF32)
    (rA : ReachC ap codes A) (rB : ReachC ap codes B) (iA : NodeInvC A) (iB : NodeInvC B)
    (hsA : A.nsip ≤ 131072) (hsB : B.nsip ≤ 131072) (hlen : A.len + B.len < 524288) :
    (mergeRunC .serial ap A B).mon = true := by
  have hap := paramOfTableS_bnd hp
  -- `k ≤ 2¹⁷` members: entries `≤ 4·k·2²⁰ ≤ 2³⁹`, gap slots `≤ 2³⁹·2¹⁷ = 2⁵⁶`, products of entries `≤ 2⁷⁸`
  have hNc : ∀ {k}, k ≤ 131072 → 4 * k * 1048576 ≤ 2 ^ 39 := fun hk => by omega
  have hNg : ∀ {k k'}, k ≤ 131072 → k' ≤ 131072 → 4 * k * 1048576 * k' ≤ 1 * 2 ^ 56 := fun hk hk' =>
    Nat.le_trans (Nat.mul_le_mul (hNc hk) hk') (by decide)
  have h78 : ∀ {x : Nat} (j : Nat), j ≤ 78 → x ≤ 2 ^ j → x ≤ 2 ^ 78 := fun _ hj h =>
    Nat.le_trans h (Nat.pow_le_pow_right (by decide) hj)
  refine mergeRunC_mon hp A B iA iB 78 (4 * A.nsip * 1048576) (1 * 2 ^ 56) (4 * B.nsip * 1048576) (1 * 2 ^ 56)
    (by decide) (by decide)
    (fun h1 => nodeProfC_entBnd ap hap codes A rA h1 B.nsip (by omega) (by omega) 1 56 (by decide) (by decide) (hNg hsA hsB))
    (fun h2 => nodeProfC_entBnd ap hap codes B rB h2 A.nsip (by omega) (by omega) 1 56 (by decide) (by decide) (hNg hsB hsA))
    (h78 39 (by decide) (hNc hsA)) (h78 56 (by decide) (by omega)) (h78 39 (by decide) (hNc hsB))
    (h78 56 (by decide) (by omega)) ?_ (by omega) (by omega) (h78 37 (by decide) (by omega)) (h78 37 (by decide) (by omega))
    hlen
  exact Nat.le_trans (Nat.mul_le_mul (hNc hsA) (hNc hsB)) (by rw [← Nat.pow_add]; exact Nat.le_refl _)

/-- `PipelineMonHyp` on the `SoftF32` carrier, restricted to the merges that are not sequence–sequence -/
def PipelineMonHypProfSoft (inp : List InSeq) (type : Int) (gpo gpe tgpe : SoftF32) : Prop :=
  ∀ c ap, canon inp = some c → paramOfTableS (bioOf detectF inp).code type gpo gpe tgpe = some ap →
    MonHypProfS ap (alnCodes (bioOf detectF inp) c)

theorem alnCodes_length (bio : Bio) (c : List RSeq) (i : Nat) (hi : i < (alnCodes bio c).size) :
    ∃ x ∈ view c, ((alnCodes bio c).getD i []).length = x.2.length := by
  unfold alnCodes at hi ⊢
  simp only [List.size_toArray, List.length_map] at hi
  have hiv : i < (view c).length := by simpa using hi
  refine ⟨(view c)[i], List.getElem_mem hiv, ?_⟩
  simp [Array.getD, hi, length_convertN, bytesOf]

theorem alnCodes_length_inp {inp : List InSeq} {c : List RSeq} (hc : canon inp = some c) (bio : Bio) (i : Nat)
    (hi : i < (alnCodes bio c).size) : ∃ y ∈ inp, ((alnCodes bio c).getD i []).length = y.seq.length := by
  obtain ⟨x, hx, ex⟩ := alnCodes_length bio c i hi
  obtain ⟨y, hy, ey⟩ := canon_mem inp c hc x hx
  exact ⟨y, hy, by rw [ex, ey]⟩

theorem kalignRunSoft_cases (inp : List InSeq) (type : Int) (gpo gpe tgpe : SoftF32) :
    NoFault (PipelineUpgmaHyp inp)
      (∀ c ap, canon inp = some c → paramOfTableS (bioOf detectF inp).code type gpo gpe tgpe = some ap →
        MonHypInvC ap (alnCodes (bioOf detectF inp) c))
      (kalignRunSoft inp type gpo gpe tgpe) :=
  NoFault.map _ (kalignRunWithC_cases' (fun bio => paramOfTableS bio.code type gpo gpe tgpe) inp)

theorem kalignRunSoft_never_fuel (inp : List InSeq) (type : Int) (gpo gpe tgpe : SoftF32) :
    kalignRunSoft inp type gpo gpe tgpe ≠ .error .fuel :=
  (kalignRunSoft_cases inp type gpo gpe tgpe).1

theorem kalignRunSoft_never_tree_partial (inp : List InSeq) (type : Int) (gpo gpe tgpe : SoftF32)
    (hU : PipelineUpgmaHyp inp) : kalignRunSoft inp type gpo gpe tgpe ≠ .error .tree :=
  (kalignRunSoft_cases inp type gpo gpe tgpe).2.1 hU

/-- **stages "fault" and "monitor"** on the `SoftF32` carrier: input sequences shorter than 2²¹; missing fact =
`PipelineMonHypProfSoft` (the monitor for merges with at least one *profile* operand; the sequence–sequence merges are proved).
Full statement: the same without `hM`. -/
theorem kalignRunSoft_never_fault_monitor_partial (inp : List InSeq) (type : Int) (gpo gpe tgpe : SoftF32)
    (hlen : ∀ x ∈ inp, x.seq.length < 2097152) (hM : PipelineMonHypProfSoft inp type gpo gpe tgpe) :
    kalignRunSoft inp type gpo gpe tgpe ≠ .error .fault ∧ kalignRunSoft inp type gpo gpe tgpe ≠ .error .monitor := by
  refine (kalignRunSoft_cases inp type gpo gpe tgpe).2.2 fun c ap hc hp => ?_
  refine monHypInvC_of_prof hp _ ?_ (hM c ap hc hp)
  intro i j hi hj
  obtain ⟨x, hx, ex⟩ := alnCodes_length_inp hc _ i hi
  obtain ⟨y, hy, ey⟩ := alnCodes_length_inp hc _ j hj
  have := hlen x hx
  have := hlen y hy
  rw [ex, ey]
  omega

theorem kalignRunSoft_never_faults_partial (inp : List InSeq) (type : Int) (gpo gpe tgpe : SoftF32)
    (hlen : ∀ x ∈ inp, x.seq.length < 2097152) (hU : PipelineUpgmaHyp inp)
    (hM : PipelineMonHypProfSoft inp type gpo gpe tgpe) :
    kalignRunSoft inp type gpo gpe tgpe ≠ .error .fault ∧ kalignRunSoft inp type gpo gpe tgpe ≠ .error .tree ∧
    kalignRunSoft inp type gpo gpe tgpe ≠ .error .monitor ∧ kalignRunSoft inp type gpo gpe tgpe ≠ .error .fuel :=
  ⟨(kalignRunSoft_never_fault_monitor_partial inp type gpo gpe tgpe hlen hM).1,
    kalignRunSoft_never_tree_partial inp type gpo gpe tgpe hU,
    (kalignRunSoft_never_fault_monitor_partial inp type gpo gpe tgpe hlen hM).2,
    kalignRunSoft_never_fuel inp type gpo gpe tgpe⟩

end Kalign.Pipeline

/-! two prepared profiles (default protein parameters, partner count 2) on which Props/C05PipelineSoftEx.lean checks the profile hypotheses of
`pp_alnRun_mon` / `mergeRunC_mon` -/
namespace Kalign
open SoftF32 Pipeline

def exProf1 : Array SoftF32 := setGapPenalties (makeProfile exApS #[0, 1]) 2
def exProf2 : Array SoftF32 := setGapPenalties (makeProfile exApS #[2, 0, 1]) 2

end Kalign

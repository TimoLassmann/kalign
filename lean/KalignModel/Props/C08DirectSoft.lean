import KalignModel.Lemmas.DiagCutSoft
import KalignModel.Props.C07Soft
import KalignModel.Props.C08Direct
/-!
# C08, direct proof, on binary32 (`SoftF32`) for dyadic parameter rows

The direct argument of `Props/C08Direct.lean` on the binary32 kernels (Lemmas/DiagCutSoft.lean): the `SoftF32` meetup returns a
candidate whose exact value is within `n + 1000` units (1/2000) of every other admissible candidate (`ssMeet_robust_hot`; the slack
pays for the rounded tie-break term `fabsf(...)/1000`), so the diagonal's candidate is the only robust maximum as soon as
`|seq| + 1000 < s x x + 2·min(gpo, gpe, tgpe)` for every residue `x` of `seq`.  For the plain DNA row (`tgpe = 0`, match 5.0 = 10000
units) this is `|seq| < 9000` — a row on which the margin-based `C08Soft_identical_pair_diag_dna` is silent for every sequence.
-/
namespace Kalign
open SoftF32 Pipeline

/-- **C08 on binary32, direct**: both entry points of the controller on the `SoftF32` kernels return the diagonal -/
theorem C08Soft_identical_pair_diag_direct (entry : Entry) (U : Nat) (ap : AlnParam SoftF32) (apE : AlnParam ExactScore)
    (hd : DyadicParam U ap apE) (gpo gpe tgpe : Int) (s : Nat → Nat → Int)
    (hap : ApOK apE gpo gpe tgpe s) (hgpo : 0 ≤ gpo) (hgpe : 0 ≤ gpe) (htgpe : 0 ≤ tgpe)
    (seq : Array Nat) (h1 : 1 ≤ seq.size)
    (hsize : U * (seq.size + seq.size + 1) + seq.size / 1000 + 1 < 16777216) (hlenB : seq.size < 4194304)
    (hself : ∀ x ∈ seq.toList, (seq.size : Int) + 1000 < s x x + 2 * min gpo (min gpe tgpe))
    (hdom : ∀ x ∈ seq.toList, ∀ y ∈ seq.toList, 2 * s x y ≤ s x x + s y y) :
    let r := alnRun entry ap (.seqseq seq seq) seq.size seq.size (initMem seq.size seq.size)
    r.fault = false ∧
      ∃ codes, expandPath seq.size (r.pathEntries seq.size) = some codes ∧
        codes.map Col.ofCode = List.replicate seq.size .both :=
  (alnRun_path (soft_diag_cutHyp hd gpo gpe tgpe s hap seq hgpo hgpe htgpe hsize hlenB hself hdom).cutHyp entry).codes
    (validCols_diag _) (adjOK_diag _ _) h1 h1

/-- the per-residue condition with the binary32 slack for sequences of at most `n` residues over the codes `< L` (table values ×1000) -/
def diagCondDS (m : List (List Int)) (gpo gpe tgpe : Int) (L n : Nat) : Bool :=
  decide (0 ≤ gpo) && decide (0 ≤ gpe) && decide (0 ≤ tgpe) &&
  (List.range L).all fun x =>
    decide ((n : Int) + 1000 < exactSub m x x + 2 * min (2 * gpo) (min (2 * gpe) (2 * tgpe))) &&
    (List.range L).all fun y => decide (2 * exactSub m x y ≤ exactSub m x x + exactSub m y y)

/-- **for a dyadic row of the generated table** -/
theorem C08Soft_identical_pair_diag_direct_table (entry : Entry) (U : Nat) (ap : AlnParam SoftF32) (m : List (List Int))
    (gpo gpe tgpe : Int) (hd : DyadicParam U ap (exactParam m gpo gpe tgpe)) (L n : Nat)
    (hc : diagCondDS m gpo gpe tgpe L n = true) (seq : Array Nat) (h1 : 1 ≤ seq.size) (hn : seq.size ≤ n)
    (hL : ∀ x ∈ seq.toList, x < L)
    (hsize : U * (seq.size + seq.size + 1) + seq.size / 1000 + 1 < 16777216) (hlenB : seq.size < 4194304) :
    let r := alnRun entry ap (.seqseq seq seq) seq.size seq.size (initMem seq.size seq.size)
    r.fault = false ∧
      ∃ codes, expandPath seq.size (r.pathEntries seq.size) = some codes ∧
        codes.map Col.ofCode = List.replicate seq.size .both := by
  unfold diagCondDS at hc
  simp only [List.all_eq_true, Bool.and_eq_true, decide_eq_true_eq, List.mem_range] at hc
  obtain ⟨⟨⟨h0, h2⟩, h3⟩, h4⟩ := hc
  refine C08Soft_identical_pair_diag_direct entry U ap _ hd (2 * gpo) (2 * gpe) (2 * tgpe) (exactSub m)
    (exactParam_ok m gpo gpe tgpe) (by omega) (by omega) (by omega) seq h1 hsize hlenB ?_
    (fun x hx y hy => (h4 x (hL x hx)).2 y (hL y hy))
  intro x hx
  have := (h4 x (hL x hx)).1
  omega

/-- **plain DNA parameters in binary32** (`type 0`: match 5, mismatch −4, gpo 8, gpe 6, tgpe 0), all five nucleotide codes,
sequences of fewer than 9000 residues -/
theorem C08Soft_identical_pair_diag_dna0 (entry : Entry) (seq : Array Nat) (h1 : 1 ≤ seq.size) (hlen : seq.size < 9000)
    (hL : ∀ x ∈ seq.toList, x < 5) :
    let r := alnRun entry (softParamOf 1 0) (.seqseq seq seq) seq.size seq.size (initMem seq.size seq.size)
    r.fault = false ∧
      ∃ codes, expandPath seq.size (r.pathEntries seq.size) = some codes ∧
        codes.map Col.ofCode = List.replicate seq.size .both :=
  C08Soft_identical_pair_diag_direct_table entry 32 _ Gen.mat3 8000 6000 0 C07Soft_dyadic_dna 5 8999 (by decide +kernel) seq h1
    (by omega) hL (by omega) (by omega)

/-- **DNA-internal parameters in binary32** (`type 1`: tgpe 8), fewer than 33000 residues -/
theorem C08Soft_identical_pair_diag_dna1 (entry : Entry) (seq : Array Nat) (h1 : 1 ≤ seq.size) (hlen : seq.size < 33000)
    (hL : ∀ x ∈ seq.toList, x < 5) :
    let r := alnRun entry (softParamOf 1 1) (.seqseq seq seq) seq.size seq.size (initMem seq.size seq.size)
    r.fault = false ∧
      ∃ codes, expandPath seq.size (r.pathEntries seq.size) = some codes ∧
        codes.map Col.ofCode = List.replicate seq.size .both :=
  C08Soft_identical_pair_diag_direct_table entry 32 _ Gen.mat3 8000 6000 8000 C07Soft_dyadic_dna_internal 5 32999
    (by decide +kernel) seq h1 (by omega) hL (by omega) (by omega)

/-- **protein defaults in binary32** (type 3 or undefined) over **all 23 codes** including the wildcard `X` (self-score −1):
fewer than 1000 residues (the wildcard leaves `−2000 + 2·2000 = 2000` units per pair of gap columns) -/
theorem C08Soft_identical_pair_diag_protein_all (entry : Entry) (t : Int) (ht : t = 3 ∨ ¬ (0 ≤ t ∧ t ≤ 4))
    (seq : Array Nat) (h1 : 1 ≤ seq.size) (hlen : seq.size < 1000) (hL : ∀ x ∈ seq.toList, x < 23) :
    let r := alnRun entry (softParamOf 0 t) (.seqseq seq seq) seq.size seq.size (initMem seq.size seq.size)
    r.fault = false ∧
      ∃ codes, expandPath seq.size (r.pathEntries seq.size) = some codes ∧
        codes.map Col.ofCode = List.replicate seq.size .both :=
  C08Soft_identical_pair_diag_direct_table entry 32 _ Gen.mat0 5500 2000 1000 (C07Soft_dyadic_protein_default t ht) 23 999
    (by decide +kernel) seq h1 (by omega) hL (by omega) (by omega)

/-- **protein defaults in binary32** over the codes `0..21` (everything but `X`): fewer than 11000 residues -/
theorem C08Soft_identical_pair_diag_protein_noX (entry : Entry) (t : Int) (ht : t = 3 ∨ ¬ (0 ≤ t ∧ t ≤ 4))
    (seq : Array Nat) (h1 : 1 ≤ seq.size) (hlen : seq.size < 11000) (hL : ∀ x ∈ seq.toList, x < 22) :
    let r := alnRun entry (softParamOf 0 t) (.seqseq seq seq) seq.size seq.size (initMem seq.size seq.size)
    r.fault = false ∧
      ∃ codes, expandPath seq.size (r.pathEntries seq.size) = some codes ∧
        codes.map Col.ofCode = List.replicate seq.size .both :=
  C08Soft_identical_pair_diag_direct_table entry 32 _ Gen.mat0 5500 2000 1000 (C07Soft_dyadic_protein_default t ht) 22 10999
    (by decide +kernel) seq h1 (by omega) hL (by omega) (by omega)

/-- **divergent-protein parameters in binary32** (`type 4`) over all 23 codes: fewer than 15000 residues -/
theorem C08Soft_identical_pair_diag_protein_divergent (entry : Entry)
    (seq : Array Nat) (h1 : 1 ≤ seq.size) (hlen : seq.size < 15000) (hL : ∀ x ∈ seq.toList, x < 23) :
    let r := alnRun entry (softParamOf 0 4) (.seqseq seq seq) seq.size seq.size (initMem seq.size seq.size)
    r.fault = false ∧
      ∃ codes, expandPath seq.size (r.pathEntries seq.size) = some codes ∧
        codes.map Col.ofCode = List.replicate seq.size .both :=
  C08Soft_identical_pair_diag_direct_table entry 512 _ Gen.mat1 55000 8000 4000 C07Soft_dyadic_protein_divergent 23 14999
    (by decide +kernel) seq h1 (by omega) hL (by omega) (by omega)

/-- the plain DNA row: the margin-based binary32 check fails for every sequence, the direct one holds up to 8999 residues -/
example : diagCondS Gen.mat3 8000 6000 0 [0] = false ∧ diagCondDS Gen.mat3 8000 6000 0 5 8999 = true := by decide +kernel

/-- a DNA sequence with `N` under the plain DNA parameters, computed in binary32 by the model: the diagonal -/
example :
    let r := alnRun .parallel (softParamOf 1 0) (.seqseq #[0, 1, 4, 3, 3, 2] #[0, 1, 4, 3, 3, 2]) 6 6 (initMem 6 6)
    r.fault = false ∧ (expandPath 6 (r.pathEntries 6)).map (·.map Col.ofCode) = some (List.replicate 6 .both) := by
  decide +kernel

/-- a protein sequence with the wildcard `X`, binary32 -/
example :
    let r := alnRun .serial (softParamOf 0 3) (.seqseq #[0, 22, 22, 7] #[0, 22, 22, 7]) 4 4 (initMem 4 4)
    r.fault = false ∧ (expandPath 4 (r.pathEntries 4)).map (·.map Col.ofCode) = some (List.replicate 4 .both) := by
  decide +kernel

end Kalign

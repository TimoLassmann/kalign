import KalignModel.Lemmas.Api
import KalignModel.Gen.Omp
/-!
# C16 — a call's result does not depend on earlier calls

"Within one process, any sequence of read / align / write / free calls with varying inputs, types,
penalties and thread counts gives, for each call, the result that call gives in a fresh process; after
the objects are freed nothing the library allocated remains allocated (the OpenMP runtime's own thread
pool aside)."

Model: Model/Api.lean (`step`, `run` over `Op`), with the computations as parameters `P : Params`
that receive every global they read as an argument.

* `read_call_leaked_before_4c3a0a7` — the model follows /repo after the repair of two leaks, both confirmed
                            with LeakSanitizer.  (i) up to 4036b80/7d4bd68 the `ERROR:` path of
                            `kalign_read_input` freed neither the `in_buffer` nor the stopwatch (input
                            `ACGT\n>a\nACGT\n>b\nACGT\n`: 24 658 bytes per call); (ii) up to 4c3a0a7
                            `read_file_stdin` lost the `in_buffer` it had allocated when `fopen` failed on
                            an existing file (mode-000 file / EMFILE: 24 592 bytes per call).  The theorem
                            states (ii) of the pre-repair call `readInputPre4c3a0a7`.
* `writable_globals`      — frame obligation, re-checked against `nm` of the library objects on every run.

Level: **S** about the state-machine model.  (a) is close to true by construction in a functional model;
its content is *where* the model writes and reads globals, the frame obligation, and the tie (random
histories in one harness process vs. one process per call, malloc/free interposition — DESIGN §3 C16).
-/
namespace Kalign.C16
open Kalign Kalign.Api

variable (P : Params)

/-- the only writable file-scope object of the library; `ompThreads` is the OpenMP ICV -/
theorem writable_globals : Gen.writableGlobals = ["bpm.c:BROADCAST_MASK"] := rfl

/-- `omp_set_num_threads` is called in `kalign_run` and nowhere else; `kalign` only forwards `n_threads`;
no other function consults the OpenMP runtime (no `omp_get_*`) -/
theorem thread_use_sites : Gen.threadUses = [
    "aln_controller.c:aln_runner:run_parallel",
    "aln_mem.c:alloc_aln_mem:run_parallel",
    "aln_param.c:aln_param_init:n_threads+nthreads",
    "aln_run.c:create_msa_tree:nthreads+run_parallel",
    "aln_run.c:recursive_aln:run_parallel",
    "aln_wrap.c:kalign:n_threads",
    "aln_wrap.c:kalign_run:n_threads+omp_set_num_threads"] := rfl

/-- `kalign_run`: (i) what it computes is `runPure`, a function of the msa and the configuration in which
the team size read is `P.threads cfg` and the mask flag read is `true` — whatever the globals were;
(ii) unless the input check fails before anything global is touched, it leaves the globals at
`⟨P.threads cfg, true⟩`; (iii) it frees every temporary it allocates; (iv) the distance computation reads
the mask only after setting it. -/
theorem globals_overwritten (m : P.Msa) (cfg : P.Cfg) (w : World) :
    (kalignRun P m cfg w).1 = runPure P m cfg ∧
    (kalignRun P m cfg w).2.g = (if (P.prepare m).2 then ⟨P.threads cfg, true⟩ else w.g) ∧
    (kalignRun P m cfg w).2.ledger = w.ledger ∧
    (dEstimation0 P m w).1 = P.distances m true w.g.ompThreads :=
  have h := kalignRun_spec P m cfg w
  ⟨h.1, h.2.1, h.2.2, dEstimation0_reads P m w⟩

theorem run_ignores_globals (m : P.Msa) (cfg : P.Cfg) (w w' : World) :
    (kalignRun P m cfg w).1 = (kalignRun P m cfg w').1 := by
  rw [kalignRun_fst, kalignRun_fst]

/-- `read`, `write`, `compare`, `free` neither read nor write a global -/
theorem globals_frame (s : State P) (op : Op P)
    (hop : match op with | .run _ _ => False | .kalign _ _ => False | _ => True) :
    (step P s op).2.w.g = s.w.g := by
  cases op with
  | run h cfg => exact absurd hop id
  | kalign a c => exact absurd hop id
  | read files =>
    have hg := (readFiles_world P s.next files none s.w s.w).2
    simp only [step]
    generalize readFiles P s.next files none s.w = x at hg ⊢
    obtain ⟨(_ | _) | _, w⟩ := x <;> exact hg
  | write h fmt =>
    simp only [step]
    split <;> rfl
  | compare h1 h2 =>
    simp only [step]
    split
    · split <;> split <;> rfl
    · rfl
  | free h =>
    simp only [step]
    split <;> rfl

/-- **one call after any history**: its output, the objects it leaves under its argument handles, and
the object it creates are those of the same call in a fresh process (any initial globals `g0'`, empty
ledger) holding only the same argument objects. -/
theorem history_independent (g0 g0' : Globals) (ops : List (Op P)) (op : Op P) :
    let s := after P (State.init P g0) ops
    let s' := freshWith P g0' s op.handles
    (step P s op).1 = (step P s' op).1 ∧
    (∀ h ∈ op.handles, (step P s op).2.lookup h = (step P s' op).2.lookup h) ∧
    (∀ h, (step P s op).1.created = some h → (step P s op).2.lookup h = (step P s' op).2.lookup h) := by
  intro s s'
  apply step_independent P s s' op
  · intro h hh
    exact (lookup_filter_contains s.heap op.handles h hh).symm
  · rfl

theorem freshWith_args (g0' : Globals) (s : State P) (hs : List Nat) (h : Nat) (hh : h ∈ hs) :
    (freshWith P g0' s hs).lookup h = s.lookup h :=
  lookup_filter_contains s.heap hs h hh

/-- **the k-th output of a history** is the output of the k-th call issued in a fresh process on the
objects its arguments name at that point -/
theorem history_independent_nth (g0 g0' : Globals) (ops : List (Op P)) (k : Nat) (op : Op P)
    (hk : ops[k]? = some op) :
    (run P (State.init P g0) ops).1[k]? =
      some (step P (freshWith P g0' (after P (State.init P g0) (ops.take k)) op.handles) op).1 := by
  rw [run_nth P _ ops k op hk]
  exact congrArg some (history_independent P g0 g0' (ops.take k) op).1

theorem outputs_ignore_initial_globals (g0 g0' : Globals) (ops : List (Op P)) :
    (run P (State.init P g0) ops).1 = (run P (State.init P g0') ops).1 :=
  run_sim P _ _ ops (fun _ => rfl) rfl

def freeAll (hs : List Nat) : List (Op P) := hs.map .free

theorem freeAll_empties (s : State P) (hs : List Nat) (hh : s.handles = hs) (hnd : hs.Nodup) :
    (after P s (freeAll P hs)).heap = [] := by
  induction hs generalizing s with
  | nil =>
    simp only [freeAll, List.map_nil, after_nil]
    exact List.map_eq_nil_iff.1 hh
  | cons h t ih =>
    simp only [freeAll, List.map_cons, after_cons]
    obtain ⟨o, ho⟩ := lookup_isSome_of_mem s.heap h (by rw [show s.heap.map (·.1) = s.handles from rfl, hh]; simp)
    have hstep : (step P s (.free h)).2.handles = t := by
      simp only [step, State.lookup, ho, State.handles, handles_dropObj]
      rw [show s.heap.map (·.1) = s.handles from rfl, hh, List.filter_cons_of_neg (by simp)]
      exact List.filter_eq_self.2 fun a ha => by simpa using fun e : a = h => (List.nodup_cons.1 hnd).1 (e ▸ ha)
    exact ih _ hstep (List.nodup_cons.1 hnd).2

/-- after any history (failing calls included) the ledger holds exactly the objects of the live handles … -/
theorem ledger_invariant (g0 : Globals) (ops : List (Op P)) :
    let s := after P (State.init P g0) ops
    s.w.ledger = s.handles.map Blk.obj ∧ s.handles.Nodup :=
  let hi := after_inv P _ ops (inv_init P g0)
  ⟨hi.ledger, hi.nodup⟩

/-- … and once all of them are freed nothing the library allocated remains allocated -/
theorem ledger_balanced (g0 : Globals) (ops : List (Op P)) :
    let s := after P (State.init P g0) ops
    (after P s (freeAll P s.handles)).w.ledger = [] ∧ (after P s (freeAll P s.handles)).heap = [] := by
  intro s
  have hi : Inv P s := after_inv P _ ops (inv_init P g0)
  have he := freeAll_empties P s s.handles rfl hi.nodup
  exact ⟨(after_inv P s _ hi).ledger_nil he, he⟩

/-- variant: however the caller frees them — if no handle is live the ledger is empty -/
theorem ledger_empty_of_no_handles (g0 : Globals) (ops : List (Op P))
    (hnone : (after P (State.init P g0) ops).heap = []) :
    (after P (State.init P g0) ops).w.ledger = [] :=
  (after_inv P _ ops (inv_init P g0)).ledger_nil hnone

/-- one `kalign_read_input` call, whatever fails, leaves the ledger as the caller's `*msa` dictates -/
theorem read_call_balanced (h : Nat) (L : List Blk) (f : P.File) (cur : Option P.Msa) (w : World)
    (hw : w.ledger = baseLedger P h L cur) :
    (readInput P h f cur w).2.ledger = baseLedger P h L (readInput P h f cur w).1.2 :=
  readInput_ledger P h L f cur w hw

/-- an input from which nothing is read returns OK and leaves `*msa` untouched (7d4bd68) -/
theorem read_nothing_keeps_msa (h : Nat) (f : P.File) (cur : Option P.Msa) (w : World)
    (hf : P.parseFile f = .nothing) : (readInput P h f cur w).1 = (true, cur) := by
  simp [readInput, hf]

/-- `kalign_read_input` as it was before /repo commit 4c3a0a7: identical, except that on a failing
`fopen` the `in_buffer` allocated inside `read_file_stdin` was neither stored nor freed -/
def readInputPre4c3a0a7 (h : Nat) (f : P.File) (cur : Option P.Msa) (w : World) : (Bool × Option P.Msa) × World :=
  match P.parseFile f with
  | .openFail => ((false, cur), ((w.alloc (.tmp "timer")).alloc (.tmp "in_buffer")).free (.tmp "timer"))
  | _ => readInput P h f cur w

/-- before the repair such a call left one block behind (contrast `read_call_balanced`) -/
theorem read_call_leaked_before_4c3a0a7 (h : Nat) (L : List Blk) (f : P.File) (cur : Option P.Msa) (w : World)
    (hf : P.parseFile f = .openFail) (hw : w.ledger = baseLedger P h L cur) :
    (readInputPre4c3a0a7 P h f cur w).2.ledger =
      Blk.tmp "in_buffer" :: baseLedger P h L (readInputPre4c3a0a7 P h f cur w).1.2 := by
  simp [readInputPre4c3a0a7, hf, hw]

section Examples

inductive ToyFile where
  /-- a well-formed file with these sequences (`[]`: a recognised format without any sequence) -/
  | ok (xs : List Nat)
  | empty
  /-- the format reader fails -/
  | garbled
  /-- the reader succeeds, a detector fails -/
  | badLetters
  | missing
  /-- exists, cannot be opened -/
  | unreadable

/-- A toy instance in which every computation *does* look at the globals it is handed: the distance
"matrix" is the team size, or 999 when the mask is not initialised; an alignment appends
`[tasks, ap, threads]` to the sequence list.  Two inputs can be merged when their first elements have
the same parity ("alphabet"). -/
@[reducible] def toy : Params where
  Msa := List Nat
  File := ToyFile
  Cfg := Nat × Nat
  Fmt := Nat
  Bytes := List Nat
  Score := Nat
  Arr := List Nat
  Rows := List Nat
  DM := Nat
  Tasks := Nat
  Ap := Nat
  parseFile f := match f with
    | .ok xs => .seqs xs
    | .empty => .nothing
    | .garbled => .readerFail
    | .badLetters => .detectFail
    | .missing => .missing
    | .unreadable => .openFail
  mergeMsa a b := if a.headD 0 % 2 = b.headD 0 % 2 then (a ++ b, true) else (a, false)
  nonEmpty m := decide (1 ≤ m.length)
  threads c := max c.1 1
  prepare m := (m, decide (m.length < 100))
  distances _ mask th := if mask then th else 999
  kmeans _ dm mask th := if mask then 10 * dm + th else 888
  fullAlphabet m := m
  paramInit _ c := if c.2 = 0 then none else some c.2
  alignAll m t ap th := m ++ [t, ap, th]
  render m fmt := (if fmt < 3 then some (fmt :: m) else none, m)
  compare a b := (if a.length = b.length then some (a.length + b.length) else none, a, b)
  compareSelf a := (some 100, a)
  arrToMsa a := if a.length < 2 then none else some a
  msaToArr m := some m.reverse

def g0 : Globals := ⟨16, false⟩

def hist : List (Op toy) :=
  [ .read ([.ok [1, 2], .empty, .ok [3]] : List ToyFile),
    .run 0 ((4, 7) : Nat × Nat),
    .write 0 (1 : Nat),
    .kalign ([5, 6] : List Nat) ((2, 9) : Nat × Nat),
    .run 0 ((1, 7) : Nat × Nat),
    .run 0 ((3, 0) : Nat × Nat),
    .write 0 (5 : Nat),
    .compare 0 0,
    .free 0,
    .free 1 ]

/-- the outputs: the thread count of each call shows in that call's output and in no later one -/
example : (run toy (State.init toy g0) hist).1 =
    [ .handle 0, .ok, .bytes ([1, 1, 2, 3, 44, 7, 4] : List Nat), .aligned 1 ([2, 9, 22, 6, 5] : List Nat), .ok, .fail, .fail,
      .score (100 : Nat), .ok, .ok ] := rfl

example : (run toy (State.init toy ⟨1, true⟩) hist).1 = (run toy (State.init toy g0) hist).1 :=
  outputs_ignore_initial_globals toy _ _ hist

/-- the fifth call (`run 0 (1,7)` after four others) in a fresh process holding only object 0 -/
example :
    (step toy (freshWith toy ⟨64, false⟩ (after toy (State.init toy g0) (hist.take 4)) [0]) (.run 0 ((1, 7) : Nat × Nat))).1 = .ok ∧
    (step toy (freshWith toy ⟨64, false⟩ (after toy (State.init toy g0) (hist.take 4)) [0]) (.run 0 ((1, 7) : Nat × Nat))).2.lookup 0
      = (after toy (State.init toy g0) (hist.take 5)).lookup 0 := ⟨rfl, rfl⟩

example : (after toy (State.init toy g0) (hist.take 8)).w.ledger = [.obj 1, .obj 0] := by decide +kernel
example : (after toy (State.init toy g0) hist).w.ledger = [] := by decide +kernel
example : (after toy (State.init toy g0) hist).w.g = ⟨3, true⟩ := by decide +kernel

/-- every failure of `read`: garbled / missing / unreadable / sequence-less first file; garbled / missing /
unreadable / bad-letters / other-alphabet later file; nothing but empty files — the outputs … -/
def failingReads : List (Op toy) :=
  [ .read ([.garbled] : List ToyFile),
    .read ([.missing] : List ToyFile),
    .read ([.badLetters] : List ToyFile),
    .read ([.ok []] : List ToyFile),
    .read ([.unreadable] : List ToyFile),
    .read ([.ok [1, 2], .unreadable, .ok [3]] : List ToyFile),
    .read ([.ok [1, 2], .garbled] : List ToyFile),
    .read ([.ok [1, 2], .missing, .ok [3]] : List ToyFile),
    .read ([.ok [1, 2], .badLetters] : List ToyFile),
    .read ([.ok [1, 2], .ok [4]] : List ToyFile),
    .read ([.empty, .empty] : List ToyFile),
    .read ([.ok [1], .empty, .ok [3]] : List ToyFile) ]

example : (run toy (State.init toy g0) failingReads).1 =
    [.fail, .fail, .fail, .fail, .fail, .fail, .fail, .fail, .fail, .fail, .noInput, .handle 0] := rfl

/-- … and nothing but the one object that was handed out remains allocated -/
example : (after toy (State.init toy g0) failingReads).w.ledger = [.obj 0] := by decide +kernel

example : (after toy (after toy (State.init toy g0) failingReads)
    (freeAll toy (after toy (State.init toy g0) failingReads).handles)).w.ledger = [] :=
  (ledger_balanced toy g0 failingReads).1

example : (readInputPre4c3a0a7 toy 0 ToyFile.unreadable none ⟨g0, []⟩).2.ledger = [.tmp "in_buffer"] := by decide +kernel
example : (readInput toy 0 ToyFile.unreadable none ⟨g0, []⟩).2.ledger = [] := by decide +kernel

end Examples

end Kalign.C16

import KalignModel.Lemmas.SoftFloat
import KalignModel.Lemmas.SoftMon
import KalignModel.Lemmas.SoftTie
import KalignModel.Lemmas.SoftParam
import KalignModel.Props.C07
/-!
# Properties of the software binary32 `SoftF32` (Model/SoftFloat.lean)

`SoftF32` is tied to the hardware `float` by the correspondence ops `f32` / `f32_of` (bit-for-bit, including NaN payloads) and
to the whole program by `kalign_sys_soft`.  The theorems below are about its values; they are what the opaque `Float32` cannot
offer.

Notation: `toInt x` = the value of a finite `x` in units of 2⁻¹⁴⁹ (an integer), `magVal x.mag = |toInt x|`,
`absLe x N` = "`x` is finite and `|x| ≤ N`" (`Lemmas/SoftFloat.lean`), `key` = the order key used by the comparisons,
`rnd` = round-to-nearest-even on the value grid (`RneAt`: floor pattern, nearest, ties to the even pattern).

`add_comm` needs non-NaN operands: with a NaN operand x86 returns the *first* operand's payload, so addition is not commutative on
NaNs.  The Hirschberg monitor is proved for sequence–sequence operands; the profile kernels (sequence–profile, profile–profile) are
covered in `Props/C05PipelineSoft.lean`.
-/
set_option exponentiation.threshold 512
namespace Kalign.SoftF32

theorem add_comm {a b : SoftF32} (ha : a.isNaN = false) (hb : b.isNaN = false) : add a b = add b a :=
  add_comm' ha hb

theorem gt_eq_lt (a b : SoftF32) : gt a b = lt b a := rfl
theorem ge_eq_le (a b : SoftF32) : ge a b = le b a := rfl

theorem lt_irrefl (a : SoftF32) : lt a a = false := lt_irreflL a

theorem lt_trans {a b c : SoftF32} (h1 : lt a b = true) (h2 : lt b c = true) : lt a c = true := lt_transL h1 h2

theorem lt_asymm {a b : SoftF32} (h : lt a b = true) : lt b a = false := by
  simp only [lt, Bool.and_eq_true, Bool.not_eq_true', decide_eq_true_eq] at h
  simp only [lt, h.1.1, h.1.2, Bool.not_false, Bool.true_and, decide_eq_false_iff_not]
  omega

theorem lt_total {a b : SoftF32} (ha : a.isNaN = false) (hb : b.isNaN = false) :
    lt a b = true ∨ beq a b = true ∨ lt b a = true := by
  simp only [lt, beq, ha, hb, Bool.not_false, Bool.true_and, decide_eq_true_eq]
  omega

/-- round-to-nearest-even is monotone; the results may be ±∞ -/
theorem add_mono_left {a b c : SoftF32} (ha : a.isFinite = true) (hb : b.isFinite = true) (hc : c.isFinite = true)
    (h : le a b = true) : le (add a c) (add b c) = true := by
  rw [le_iff_toInt (isNaN_of_finite ha) (isNaN_of_finite hb)] at h
  rw [le_iff_key (add_not_nan ha hc) (add_not_nan hb hc), key_add ha hc, key_add hb hc]
  exact rndKey_mono (by omega)

theorem add_mono_right {a b c : SoftF32} (ha : a.isFinite = true) (hb : b.isFinite = true) (hc : c.isFinite = true)
    (h : le a b = true) : le (add c a) (add c b) = true := by
  rw [add_comm (isNaN_of_finite hc) (isNaN_of_finite ha), add_comm (isNaN_of_finite hc) (isNaN_of_finite hb)]
  exact add_mono_left ha hb hc h

theorem sub_mono_left {a b c : SoftF32} (ha : a.isFinite = true) (hb : b.isFinite = true) (hc : c.isFinite = true)
    (h : le a b = true) : le (sub a c) (sub b c) = true := by
  rw [sub_of_not_nan (isNaN_of_finite hc), sub_of_not_nan (isNaN_of_finite hc)]
  exact add_mono_left ha hb (by rw [isFinite_neg]; exact hc) h

def negZero : SoftF32 := ofRaw 0x80000000

/-- `x + 0 = x` for every finite `x` except `-0` (`-0 + 0 = +0` in round-to-nearest) -/
theorem add_zero {x : SoftF32} (hf : x.isFinite = true) (hx : x ≠ negZero) : add x zero = x := by
  rw [add_eq_packZ hf (by decide), show toInt zero = 0 by decide, show zero.sign = false by decide, Int.add_zero, Bool.and_false]
  refine packZ_toInt (isNaN_of_finite hf) fun h0 => ?_
  cases hs : x.sign
  · rfl
  · exact absurd (eq_of_sign_mag (y := negZero) (by rw [hs]; decide) (by rw [h0]; decide)) hx

theorem add_negZero_zero : add negZero zero = zero := by decide

theorem ofNat_exact {n : Nat} (hn : n < 16777216) : (ofNat n).isFinite = true ∧ toInt (ofNat n) = (n * 2 ^ 149 : Nat) := by
  rw [ofNat_eq_ofInt]
  have hk : (n : Int).natAbs < 16777216 := by simpa using hn
  refine ⟨(isFinite_iff _).2 (ofInt_finite hk).1, ?_⟩
  rw [toInt_ofInt hk, Int.natCast_mul]

theorem ofInt_exact {i : Int} (hi : i.natAbs < 16777216) :
    (ofInt i).isFinite = true ∧ toInt (ofInt i) = i * ((2 ^ 149 : Nat) : Int) :=
  ⟨(isFinite_iff _).2 (ofInt_finite hi).1, toInt_ofInt hi⟩

theorem add_ofInt {i j : Int} (hi : i.natAbs < 16777216) (hj : j.natAbs < 16777216) (hij : (i + j).natAbs < 16777216) :
    add (ofInt i) (ofInt j) = ofInt (i + j) := by
  rw [add_eq_packZ (ofInt_exact hi).1 (ofInt_exact hj).1, toInt_ofInt hi, toInt_ofInt hj, ← Int.add_mul]
  apply packZ_int hij
  intro h0
  rw [(ofInt_finite hi).2.2, (ofInt_finite hj).2.2]
  by_cases h : i < 0
  · have : ¬ j < 0 := by omega
    simp [this]
  · simp [h]

theorem sub_ofInt {i j : Int} (hi : i.natAbs < 16777216) (hj : j.natAbs < 16777216) (hij : (i - j).natAbs < 16777216) :
    sub (ofInt i) (ofInt j) = ofInt (i - j) := by
  rw [sub_eq_packZ (ofInt_exact hi).1 (ofInt_exact hj).1, toInt_ofInt hi, toInt_ofInt hj, ← Int.sub_mul]
  apply packZ_int hij
  intro h0
  rw [(ofInt_finite hi).2.2, (ofInt_finite hj).2.2]
  by_cases h : i < 0
  · have : j < 0 := by omega
    simp [this]
  · simp [h]

theorem negInf_eq : (Score.negInf : SoftF32) = negMax := rfl

theorem negInf_add {x : SoftF32} (hf : x.isFinite = true) (hx : magVal x.mag < 2 ^ 103 * 2 ^ 149) :
    Score.add (Score.negInf : SoftF32) x = Score.negInf :=
  negMax_add hf hx

theorem add_negInf {x : SoftF32} (hf : x.isFinite = true) (hx : magVal x.mag < 2 ^ 103 * 2 ^ 149) :
    Score.add x (Score.negInf : SoftF32) = Score.negInf :=
  add_negMax hf hx

theorem negInf_add_of_absLe {x : SoftF32} {N : Nat} (hx : absLe x N) (hN : N < 2 ^ 103) :
    Score.add (Score.negInf : SoftF32) x = Score.negInf := by
  apply negInf_add hx.finite
  have := hx.2
  have : N * 2 ^ 149 < 2 ^ 103 * 2 ^ 149 := Nat.mul_lt_mul_of_pos_right hN (by decide)
  omega

theorem negInf_sub_of_absLe {x : SoftF32} {N : Nat} (hx : absLe x N) (hN : N < 2 ^ 103) :
    Score.sub (Score.negInf : SoftF32) x = Score.negInf := by
  show sub negMax x = negMax
  rw [sub_of_not_nan (isNaN_of_finite hx.finite)]
  exact negInf_add_of_absLe (neg_absLe hx) hN

/-- two sentinels add up to `-∞`, which is below the sentinel -/
theorem negInf_add_negInf : Score.add (Score.negInf : SoftF32) Score.negInf = ofRaw 0xff800000 := by decide

theorem gt_negInf {y : SoftF32} (hn : y.isNaN = false) (h1 : y ≠ negMax) (h2 : y ≠ ofRaw 0xff800000) :
    Score.gt y (Score.negInf : SoftF32) = true := by
  show lt negMax y = true
  rw [lt_iff_key (by decide) hn, key_negMax]
  have hm : ¬ (2139095040 < y.mag) := by rw [← isNaN_iff, hn]; simp
  unfold key
  cases hs : y.sign
  · simp only [Bool.false_eq_true, if_false]; omega
  · simp only [if_true]
    have : y.mag ≠ 2139095039 := fun h => h1 (eq_of_sign_mag (by rw [hs]; decide) (by rw [h]; decide))
    have : y.mag ≠ 2139095040 := fun h => h2 (eq_of_sign_mag (by rw [hs]; decide) (by rw [h]; decide))
    omega

theorem gt_negInf_of_absLe {y : SoftF32} {N : Nat} (hy : absLe y N) (hN : N < 2 ^ 127) :
    Score.gt y (Score.negInf : SoftF32) = true :=
  gt_fin_sent hy hN (Or.inl rfl)

theorem gt_nan_left {x y : SoftF32} (h : x.isNaN = true) : Score.gt x y = false := by
  show lt y x = false
  simp [lt, h]

theorem gt_nan_right {x y : SoftF32} (h : y.isNaN = true) : Score.gt x y = false := by
  show lt y x = false
  simp [lt, h]

theorem negInf_not_gt {y : SoftF32} (h2 : y ≠ ofRaw 0xff800000) : Score.gt (Score.negInf : SoftF32) y = false := by
  show lt y negMax = false
  by_cases hn : y.isNaN = true
  · simp [lt, hn]
  have hn' : y.isNaN = false := by simpa using hn
  rw [← Bool.not_eq_true, lt_iff_key hn' (by decide), key_negMax]
  have hm : ¬ (2139095040 < y.mag) := by rw [← isNaN_iff, hn']; simp
  unfold key
  cases hs : y.sign
  · simp only [Bool.false_eq_true, if_false]; omega
  · simp only [if_true]
    have : y.mag ≠ 2139095040 := fun h => h2 (eq_of_sign_mag (by rw [hs]; decide) (by rw [h]; decide))
    omega

theorem add_bounded {a b : SoftF32} {k : Nat} (ha : absLe a (k * 2 ^ 20)) (hb : absLe b (2 ^ 20)) (hk : k + 1 < 2 ^ 24) :
    absLe (add a b) ((k + 1) * 2 ^ 20) := by
  have := add_absLe (c := k + 1) (t := 20) ha hb (by rw [Nat.add_mul, Nat.one_mul]) (by simpa using hk) (by decide)
  rwa [show k * 2 ^ 20 + 2 ^ 20 = (k + 1) * 2 ^ 20 by rw [Nat.add_mul, Nat.one_mul]] at this

theorem sub_bounded {a b : SoftF32} {k : Nat} (ha : absLe a (k * 2 ^ 20)) (hb : absLe b (2 ^ 20)) (hk : k + 1 < 2 ^ 24) :
    absLe (sub a b) ((k + 1) * 2 ^ 20) := by
  have := sub_absLe (c := k + 1) (t := 20) ha hb (by rw [Nat.add_mul, Nat.one_mul]) (by simpa using hk) (by decide)
  rwa [show k * 2 ^ 20 + 2 ^ 20 = (k + 1) * 2 ^ 20 by rw [Nat.add_mul, Nat.one_mul]] at this

/-! non-vacuity: `1e6` (the penalty cap) is within `2²⁰`; `5000.0 + 1e6` is bounded by `2·2²⁰`; the sentinel absorbs `1e6` -/
example : absLe (ofRaw 0x49742400) (2 ^ 20) := by unfold absLe; decide
example : absLe (add (ofRaw 0x459c4000) (ofRaw 0x49742400)) ((1 + 1) * 2 ^ 20) :=
  add_bounded (k := 1) (by unfold absLe; decide) (by unfold absLe; decide) (by decide)
example : Score.add (Score.negInf : SoftF32) (ofRaw 0x49742400) = Score.negInf :=
  negInf_add_of_absLe (N := 2 ^ 20) (by unfold absLe; decide) (by decide)
example : add (ofInt 16777215) (ofInt (-16777214)) = ofInt 1 := add_ofInt (by decide) (by decide) (by decide)
example : le (add (ofRaw 0x3f800000) (ofRaw 0x4b800000)) (add (ofRaw 0x40000000) (ofRaw 0x4b800000)) = true :=
  add_mono_left (by decide) (by decide) (by decide) (by decide)

end Kalign.SoftF32

namespace Kalign
open SoftF32 Pipeline

/-- every parameter set `aln_param_init` admits is finite and bounded by 2²⁰ (penalties: table values or user values in `[0, 1e6]`;
scores: the generated matrices, checked by `decide`) -/
theorem C07Soft_param_bounded {bt : Nat} {t : Int} {gpo gpe tgpe : SoftF32} {ap : AlnParam SoftF32}
    (h : paramOfTableS bt t gpo gpe tgpe = some ap) : ApBnd ap :=
  paramOfTableS_bnd h

/-- the tie-break terms of all columns below 2²² are finite and at most 2²⁰ (in fact at most 2¹⁴) -/
theorem C07Soft_tie_bounded (lenB : Nat) (h : lenB < 4194304) : TieBnd lenB :=
  fun sb eb i h1 h2 h3 => tie_bound sb eb i h1 h2 (by omega)

/-- **every cell of the forward kernel** started from the one-hot state of kind `fk` is sentinel-like (`-FLT_MAX` or `-∞`) exactly where
the exact kernel has `−∞`, and finite with magnitude at most `2(rows + k)·2²⁰` elsewhere -/
theorem C07Soft_forward_cells (ap : AlnParam SoftF32) (hap : ApBnd ap) (seq1 seq2 : Array Nat) (r : Rect)
    (hb : r.startb < r.endb) (fk : Kind) (hL : 2 * ((r.enda - r.starta) + (r.endb - r.startb)) + 2 < 16777216)
    (k : Nat) (hk : k ≤ r.endb - r.startb) :
    ∃ cell, (kForward ap (.seqseq seq1 seq2) r ((realKernels ap (.seqseq seq1 seq2) 0 0).st fk))[k]? = some cell ∧
      StCls (2 * ((r.enda - r.starta) + k)) cell (absTab (cZ (r.endb - r.startb)) (hot fk) (r.enda - r.starta) k) := by
  have h := genTab_clsU 20 1 (ssGaInit ap (r.startb == 0)) (absGaInit (cZ (r.endb - r.startb)))
    ((hap.view seq1 seq2).gaRel (fun _ => 0) _ _) (r.endb - r.startb) ((realKernels ap (.seqseq seq1 seq2) 0 0).st fk) (hot fk)
    (ssOpsF ap seq1 seq2 r) (absOps (cZ (r.endb - r.startb)))
    (fun p => (hap.view seq1 seq2).rowF r _ _ p) 0 ((r.enda - r.starta) + (r.endb - r.startb)) (by omega) (stClsU_hot 20 fk)
    (r.enda - r.starta) k (by omega)
  refine ⟨_, ?_, h.mono (by omega)⟩
  show (ssForward ap seq1 seq2 r _)[k]? = _
  rw [ssForward_eq_genTab ap seq1 seq2 r hb, List.getElem?_map, List.getElem?_range (by omega)]
  rfl

/-- the same for the backward kernel (cells counted from the far end) -/
theorem C07Soft_backward_cells (ap : AlnParam SoftF32) (hap : ApBnd ap) (seq1 seq2 : Array Nat) (r : Rect)
    (hb : r.startb < r.endb) (bk : Kind) (hL : 2 * ((r.enda - r.starta) + (r.endb - r.startb)) + 2 < 16777216)
    (k : Nat) (hk : k ≤ r.endb - r.startb) :
    ∃ cell, (kBackward ap (.seqseq seq1 seq2) r ((realKernels ap (.seqseq seq1 seq2) 0 0).st bk))[k]? = some cell ∧
      StCls (2 * ((r.enda - r.starta) + (r.endb - r.startb - k))) cell
        (absTab (cZ (r.endb - r.startb)) (hot bk) (r.enda - r.starta) (r.endb - r.startb - k)) := by
  have h := genTab_clsU 20 1 (ssGaInit ap (r.endb == r.lenB)) (absGaInit (cZ (r.endb - r.startb)))
    ((hap.view seq1 seq2).gaRel (fun _ => 0) _ _) (r.endb - r.startb) ((realKernels ap (.seqseq seq1 seq2) 0 0).st bk) (hot bk)
    (ssOpsB ap seq1 seq2 r) (absOps (cZ (r.endb - r.startb)))
    (fun p => (hap.view seq1 seq2).rowB r _ _ p) 0 ((r.enda - r.starta) + (r.endb - r.startb)) (by omega) (stClsU_hot 20 bk)
    (r.enda - r.starta) (r.endb - r.startb - k) (by omega)
  refine ⟨_, ?_, h.mono (by omega)⟩
  show (ssBackward ap seq1 seq2 r _)[k]? = _
  rw [ssBackward_eq_genTab ap seq1 seq2 r hb, map_range_reverse, List.getElem?_map, List.getElem?_range (by omega)]
  rfl

/-- **one level of the recursion**: on a feasible rectangle (`Feas`: a complete column list between the boundary kinds exists) the
meetup's answer satisfies the meetup contract and both sub-rectangles are feasible again -/
theorem C07Soft_step_contract (ap : AlnParam SoftF32) (hap : ApBnd ap) (seq1 seq2 : Array Nat) (lenB : Nat)
    (hlenB : lenB < 4194304) (fk bk : Kind) (sa m1 m2 sb n : Nat) (hm2 : 1 ≤ m2) (hn : 1 ≤ n) (heb : sb + n ≤ lenB)
    (hlen : m1 + m2 + 2 * n + 2 < 8388608) (hfeas : Feas fk bk (m1 + m2) n) :
    let K := realKernels ap (.seqseq seq1 seq2) 0 0
    let rF : Rect := ⟨sa, sa + m1, sb, sb + n, lenB⟩
    let rB : Rect := ⟨sa + m1, sa + m1 + m2, sb, sb + n, lenB⟩
    let r := kMeetup ap (.seqseq seq1 seq2) rF (sa + m1) (kForward ap (.seqseq seq1 seq2) rF (K.st fk))
      (kBackward ap (.seqseq seq1 seq2) rB (K.st bk))
    meetupContract fk bk (sa : Int) ((sa + m1 + m2 : Nat) : Int) (sb : Int) ((sb + n : Nat) : Int)
        ((sa + m1 : Nat) : Int) r.meet r.transition = true ∧
    ChildrenFeas fk bk (sa : Int) ((sa + m1 + m2 : Nat) : Int) (sb : Int) ((sb + n : Nat) : Int)
        ((sa + m1 : Nat) : Int) r.meet r.transition :=
  family_step_contract (hap.view seq1 seq2) (Nat.le_refl 20) lenB (C07Soft_tie_bounded lenB hlenB) fk bk sa m1 m2 sb n hm2 hn heb
    (by omega) hfeas _ _ (stClsU_hot 20 fk) (stClsU_hot 20 bk)

/-- **sequence–sequence operands: the monitor stays true** — `PipelineMonHyp`'s statement for one merge of two sequences on the
`SoftF32` carrier, for every parameter set `aln_param_init` admits and `len_a + len_b < 2²²`; no hypothesis about score values -/
theorem C07Soft_seqseq_mon {bt : Nat} {t : Int} {gpo gpe tgpe : SoftF32} {ap : AlnParam SoftF32}
    (hp : paramOfTableS bt t gpo gpe tgpe = some ap) (seq1 seq2 : Array Nat) (lenA lenB : Nat)
    (hA : 1 ≤ lenA) (hB : 1 ≤ lenB) (hlen : lenA + lenB < 4194304) :
    (alnRun .serial ap (.seqseq seq1 seq2) lenA lenB (initMem lenA lenB)).mon = true :=
  ss_alnRun_mon ap (paramOfTableS_bnd hp) seq1 seq2 lenA lenB hA hB hlen (C07Soft_tie_bounded lenB (by omega))

/-- `aln_runner` (with its fall-through) computes the same memory as `aln_runner_serial` -/
theorem C07Soft_seqseq_runner_eq_serial {bt : Nat} {t : Int} {gpo gpe tgpe : SoftF32} {ap : AlnParam SoftF32}
    (hp : paramOfTableS bt t gpo gpe tgpe = some ap) (seq1 seq2 : Array Nat) (lenA lenB : Nat)
    (hA : 1 ≤ lenA) (hB : 1 ≤ lenB) (hlen : lenA + lenB < 4194304) :
    alnRun .parallel ap (.seqseq seq1 seq2) lenA lenB (initMem lenA lenB) =
      alnRun .serial ap (.seqseq seq1 seq2) lenA lenB (initMem lenA lenB) := by
  have hm := C07Soft_seqseq_mon hp seq1 seq2 lenA lenB hA hB hlen
  have hf := alnRun_serial_no_fault ap (.seqseq seq1 seq2) lenA lenB
  unfold alnRun at hm hf ⊢
  exact runner_eq_runnerSerial_of_mon _ _ _ hf hm

/-- **the Hirschberg path is well-shaped and expands to a valid column list** (either entry point), unconditionally -/
theorem C07Soft_seqseq_columns_valid (entry : Entry) {bt : Nat} {t : Int} {gpo gpe tgpe : SoftF32} {ap : AlnParam SoftF32}
    (hp : paramOfTableS bt t gpo gpe tgpe = some ap) (seq1 seq2 : Array Nat) (lenA lenB : Nat)
    (hA : 1 ≤ lenA) (hB : 1 ≤ lenB) (hlen : lenA + lenB < 4194304) :
    let path := (alnRun entry ap (.seqseq seq1 seq2) lenA lenB (initMem lenA lenB)).pathEntries lenA
    pathOK lenB path = true ∧
    ∃ codes, expandPath lenB path = some codes ∧ ValidCols (codes.map Col.ofCode) lenA lenB :=
  C07_columns_valid entry ap (.seqseq seq1 seq2) lenA lenB hA hB (alnRun_serial_no_fault ap _ lenA lenB)
    (C07Soft_seqseq_mon hp seq1 seq2 lenA lenB hA hB hlen)

/-! non-vacuity: the default nucleotide parameters are admitted; a concrete run (kernel evaluation of the `SoftF32` model) -/
example : ∃ ap, paramOfTableS 1 (-1) (ofRaw 0xbf800000) (ofRaw 0xbf800000) (ofRaw 0xbf800000) = some ap := by
  cases h : paramOfTableS 1 (-1) (ofRaw 0xbf800000) (ofRaw 0xbf800000) (ofRaw 0xbf800000) with
  | some ap => exact ⟨ap, rfl⟩
  | none => exact absurd h (by decide)

/-- the kernel computes with `SoftF32`: `1 + 2 = 3`, `1 / 3`, `0.1f · 10 = 1` (rounded), and a whole Hirschberg run with the default
protein parameters passes the monitor by kernel evaluation (the theorem above proves it for all operands) -/
example : SoftF32.add (ofRaw 0x3f800000) (ofRaw 0x40000000) = ofRaw 0x40400000 := by decide
example : SoftF32.div (ofRaw 0x3f800000) (ofRaw 0x40400000) = ofRaw 0x3eaaaaab := by decide
example : SoftF32.mul (ofRaw 0x3dcccccd) (ofRaw 0x41200000) = ofRaw 0x3f800000 := by decide

def exApS : AlnParam SoftF32 :=
  (paramOfTableS 0 (-1) (ofRaw 0xbf800000) (ofRaw 0xbf800000) (ofRaw 0xbf800000)).getD ⟨#[], zero, zero, zero⟩

set_option maxRecDepth 100000 in
example : (alnRun .serial exApS (.seqseq #[0, 1, 2, 3] #[0, 2, 3, 3, 1]) 4 5 (initMem 4 5)).mon = true := by decide +kernel

end Kalign

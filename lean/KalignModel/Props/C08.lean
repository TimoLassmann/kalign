import KalignModel.Model.Score
import KalignModel.Model.Progressive
import KalignModel.Lemmas.Score
/-!
# C08 — identical sequences are aligned without gaps

Specification-level content: under every admissible default parameter set the gap-free diagonal alignment of a sequence
with itself scores strictly higher than every other alignment, under every reading of the gap costs kalign's kernels
use (`upperScore` with `min gpe tgpe` per gap column bounds them all from above when `gpe ≤ 2·gpo`, as in every default row: a
one-column internal run costs `2·gpo`; the diagonal has no gap, so all readings give it the same score).
That kalign's Hirschberg controller returns the diagonal on identical operands is `Props/C08Opt.lean` (from C07's optimality
theorems, with `min(2·gpo, gpe, tgpe)` per gap column) and `Props/C08Direct.lean` (directly); the end-to-end claim is additionally
searched on the implementation (tools/props/c08.py).
-/
namespace Kalign

/-- the distinct (matrix, gpo, gpe, tgpe, biotype) among the admissible rows of `Gen.paramTable`: protein, divergent protein,
RNA / nucleotide default, DNA, DNA internal -/
def phiDefaults : List (Nat × Int × Int × Int × Nat) :=
  [(0, 5500, 2000, 1000, 0), (1, 55000, 8000, 4000, 0), (2, 217000, 39400, 292600, 1), (3, 8000, 6000, 0, 1), (3, 8000, 6000, 8000, 1)]

theorem defaults_mem : ∀ r ∈ Gen.paramTable, r.ok = true → (r.mat, r.gpo, r.gpe, r.tgpe, r.biotype) ∈ phiDefaults := by
  decide

theorem phi_defaults : ∀ k ∈ phiDefaults,
    phi (Gen.matrices.getD k.1 []) k.2.1 k.2.2.1 k.2.2.2.1 (if k.2.2.2.2 = 1 then 5 else 23) = true := by
  decide +kernel

/-- Φ holds for the defaults of every admissible (biotype, type): nucleotide sets over codes < 5, protein sets over codes < 23 -/
theorem C08_phi_tables : ∀ r ∈ Gen.paramTable, r.ok = true →
    phi (Gen.matrices.getD r.mat []) r.gpo r.gpe r.tgpe (if r.biotype = 1 then 5 else 23) = true :=
  fun r hr hok => phi_defaults (r.mat, r.gpo, r.gpe, r.tgpe, r.biotype) (defaults_mem r hr hok)

/-- the diagonal is the strict optimum: for a parameter set satisfying Φ, a sequence `s` over codes `< L` and ANY valid column
list `cs` for (s, s) other than the diagonal, even the most favourable reading of `cs` (at least `min gpe tgpe` per gap column;
that is every reading when `gpe ≤ 2·gpo`) scores below the diagonal -/
theorem C08_diag_unique_opt (m : List (List Int)) (gpo gpe tgpe : Int) (L : Nat)
    (hphi : phi m gpo gpe tgpe L = true) (s : List Nat) (hs : ∀ x ∈ s, x < L)
    (cs : List Col) (hv : ValidCols cs s.length s.length) (hne : cs ≠ diagCols s.length) :
    upperScore (subOf m) (min gpe tgpe) cs s s < upperScore (subOf m) (min gpe tgpe) (diagCols s.length) s s := by
  obtain ⟨h1, h2⟩ := phi_spec hphi
  exact diag_strict_opt (subOf m) (min gpe tgpe) L h1 h2 s hs cs hv hne

/-- the diagonal of identical *groups*: profiles of k and l gap-free copies multiply every substitution term by k*l and every
gap term by a positive factor; the inequality is preserved (stated on the pair objective scaled by a positive factor) -/
theorem C08_diag_unique_opt_scaled (m : List (List Int)) (gpo gpe tgpe : Int) (L : Nat)
    (hphi : phi m gpo gpe tgpe L = true) (s : List Nat) (hs : ∀ x ∈ s, x < L)
    (cs : List Col) (hv : ValidCols cs s.length s.length) (hne : cs ≠ diagCols s.length) (k : Int) (hk : 0 < k) :
    k * upperScore (subOf m) (min gpe tgpe) cs s s < k * upperScore (subOf m) (min gpe tgpe) (diagCols s.length) s s :=
  Int.mul_lt_mul_of_pos_left (C08_diag_unique_opt m gpo gpe tgpe L hphi s hs cs hv hne) hk

/-- if every merge of a progressive alignment of identical sequences uses the diagonal, the final rows contain no gap:
for any tree, with the aligner that returns `n` aligned columns, every final row is the sequence itself -/
theorem C08_identical_msa_nogaps (s : List Nat) (T : Tree) (hnd : T.leaves.Nodup) :
    let al : Aligner Nat := fun _ _ => List.replicate s.length 0
    ∀ i ∈ T.leaves, finalRow (alignTree (fun _ => s) al T) i = some (s.map some) := by
  intro al i hi
  exact finalRow_identical s T hnd i hi

/-- a generated parameter row (protein defaults, `type = -1`) is admissible and satisfies Φ -/
example : ∃ r ∈ Gen.paramTable, r.ok = true ∧ r.biotype = 0 ∧ r.gpo = 5500 ∧ r.gpe = 2000 ∧ r.tgpe = 1000 ∧
    Gen.matrices.getD r.mat [] = Gen.mat0 :=
  ⟨_, List.mem_cons_self, rfl, rfl, rfl, rfl, rfl, rfl⟩
example : phi Gen.mat0 5500 2000 1000 23 = true := by decide +kernel
/-- the DNA defaults with `tgpe = 0` (biotype 1, type 0) satisfy Φ as well -/
example : phi Gen.mat3 8000 6000 0 5 = true := by decide +kernel

/-- a concrete sequence over codes `< 23` and a valid, non-diagonal column list (shifted by one) for it -/
example : ∀ x ∈ [0, 1, 2], x < 23 := by decide
example : ValidCols [.gapA, .both, .both, .gapB] [0, 1, 2].length [0, 1, 2].length := ⟨by decide, by decide, by decide⟩
example : [Col.gapA, .both, .both, .gapB] ≠ diagCols [0, 1, 2].length := by decide
/-- the strict inequality evaluated on that instance: -3000 < 17000 -/
example : upperScore (subOf Gen.mat0) (min 2000 1000) [.gapA, .both, .both, .gapB] [0, 1, 2] [0, 1, 2] = -3000 := by decide
example : upperScore (subOf Gen.mat0) (min 2000 1000) (diagCols 3) [0, 1, 2] [0, 1, 2] = 17000 := by decide
example : upperScore (subOf Gen.mat0) (min 2000 1000) [.gapA, .both, .both, .gapB] [0, 1, 2] [0, 1, 2]
    < upperScore (subOf Gen.mat0) (min 2000 1000) (diagCols [0, 1, 2].length) [0, 1, 2] [0, 1, 2] := by decide
/-- a second instance, with an internal gap pair instead of terminal gaps -/
example : upperScore (subOf Gen.mat0) (min 2000 1000) [.both, .gapB, .gapA, .both] [0, 1, 2] [0, 1, 2]
    < upperScore (subOf Gen.mat0) (min 2000 1000) (diagCols [0, 1, 2].length) [0, 1, 2] [0, 1, 2] := by decide

/-- a concrete progressive alignment of three identical sequences stays gap-free -/
example : finalRow (alignTree (fun _ => [3, 1, 4]) (fun _ _ => List.replicate 3 0)
    (.node (.node (.leaf 2) (.leaf 0)) (.leaf 1))) 0 = some [some 3, some 1, some 4] := by decide

end Kalign

import KalignModel.Props.C07Opt
import KalignModel.Lemmas.ProfKernelPP
import KalignModel.Lemmas.ProfMerge
import KalignModel.Lemmas.Basic.ArrayGetD
/-!
# C07, second sentence — groups of identical copies (sequence–profile and profile–profile kernels)

Exact carrier.  A group of `k` gap-free identical copies of a sequence enters the kernels as a profile; what the kernels
read from it is `ProfOK` (`Lemmas/ProfKernel.lean`).  On such profiles one step of the real kernels **is** one step of the
sequence–sequence kernels with every penalty and substitution score multiplied by `K` (`K = k` resp. `K = k·m`); the
tie-break term of the meetup is *not* multiplied, and profile–profile reads the transposed matrix entry `s(b, a)`, so the
statement assumes a symmetric matrix.  Hence the controller returns exactly `P` whenever `P` beats every other alignment
by the margin of `C07_hirschberg_seqseq_opt` with the scores multiplied by `K` and the tie bound `len_b` left as it is.
-/
namespace Kalign

theorem C07_sp_kernels_scaled (ap : AlnParam ExactScore) (gpo gpe tgpe : Int) (s : Nat → Nat → Int)
    (hap : ApOK ap gpo gpe tgpe s) (prof : Array ExactScore) (seqA seq2 : Array Nat) (k : Nat)
    (hP : ProfOK prof seqA k 1 gpo gpe tgpe s) (h2 : ∀ j, seq2.getD j 0 < 23) (lenB : Nat) :
    realKernels ap (.seqprof prof seq2 k) seqA.size lenB =
      realKernels (scaleParam ap k) (.seqseq seqA seq2) seqA.size lenB :=
  sp_realKernels_eq ap gpo gpe tgpe s hap prof seqA seq2 k hP h2 lenB

theorem C07_pp_kernels_scaled (ap : AlnParam ExactScore) (gpo gpe tgpe : Int) (s : Nat → Nat → Int)
    (hap : ApOK ap gpo gpe tgpe s) (hsym : ∀ x y, s x y = s y x)
    (prof1 prof2 : Array ExactScore) (seqA seqB : Array Nat) (k m : Nat) (hk : 1 ≤ k)
    (hP1 : ProfOK prof1 seqA k m gpo gpe tgpe s) (hP2 : ProfOK prof2 seqB m k gpo gpe tgpe s)
    (hA23 : ∀ i, seqA.getD i 0 < 23) :
    realKernels ap (.profprof prof1 prof2) seqA.size seqB.size =
      realKernels (scaleParam ap (k * m)) (.seqseq seqA seqB) seqA.size seqB.size :=
  pp_realKernels_eq ap gpo gpe tgpe s hap hsym prof1 prof2 seqA seqB k m hk hP1 hP2 hA23

theorem C07_hirschberg_seqprofile_copies_opt (entry : Entry) (ap : AlnParam ExactScore) (gpo gpe tgpe : Int)
    (s : Nat → Nat → Int) (hap : ApOK ap gpo gpe tgpe s) (hgpo : 0 ≤ gpo) (hgpe : 0 ≤ gpe) (htgpe : 0 ≤ tgpe)
    (prof : Array ExactScore) (seqA seq2 : Array Nat) (k : Nat)
    (hP : ProfOK prof seqA k 1 gpo gpe tgpe s) (h2 : ∀ j, seq2.getD j 0 < 23)
    (h1A : 1 ≤ seqA.size) (h1B : 1 ≤ seq2.size)
    (P : List Col) (hV : ValidCols P seqA.size seq2.size) (hadj : adjOK .A P = true)
    (hmargin : ∀ Q, ValidCols Q seqA.size seq2.size → adjOK .A Q = true → Q ≠ P →
      (k : Int) * scoreST s gpo gpe tgpe Q seqA.toList seq2.toList + (seq2.size : Int) <
        (k : Int) * (scoreST s gpo gpe tgpe P seqA.toList seq2.toList - gpo * (nterm P : Int) -
          (max 0 (max (tgpe - gpe) (tgpe - gpo)) + max 0 (gpe - tgpe)))) :
    let r := alnRun entry ap (.seqprof prof seq2 k) seqA.size seq2.size (initMem seqA.size seq2.size)
    r.fault = false ∧
      ∃ codes, expandPath seq2.size (r.pathEntries seqA.size) = some codes ∧ codes.map Col.ofCode = P :=
  RunOK.codes (scaled_runOK entry ap _ gpo gpe tgpe s k (scaleParam_ok ap gpo gpe tgpe s hap k) hgpo hgpe htgpe _ seqA seq2 P
    (sp_realKernels_eq ap gpo gpe tgpe s hap prof seqA seq2 k hP h2 seq2.size) hV hadj hmargin) hV hadj h1A h1B

theorem C07_hirschberg_profileprofile_copies_opt (entry : Entry) (ap : AlnParam ExactScore) (gpo gpe tgpe : Int)
    (s : Nat → Nat → Int) (hap : ApOK ap gpo gpe tgpe s) (hgpo : 0 ≤ gpo) (hgpe : 0 ≤ gpe) (htgpe : 0 ≤ tgpe)
    (hsym : ∀ x y, s x y = s y x)
    (prof1 prof2 : Array ExactScore) (seqA seqB : Array Nat) (k m : Nat) (hk : 1 ≤ k)
    (hP1 : ProfOK prof1 seqA k m gpo gpe tgpe s) (hP2 : ProfOK prof2 seqB m k gpo gpe tgpe s)
    (hA23 : ∀ i, seqA.getD i 0 < 23)
    (h1A : 1 ≤ seqA.size) (h1B : 1 ≤ seqB.size)
    (P : List Col) (hV : ValidCols P seqA.size seqB.size) (hadj : adjOK .A P = true)
    (hmargin : ∀ Q, ValidCols Q seqA.size seqB.size → adjOK .A Q = true → Q ≠ P →
      ((k * m : Nat) : Int) * scoreST s gpo gpe tgpe Q seqA.toList seqB.toList + (seqB.size : Int) <
        ((k * m : Nat) : Int) * (scoreST s gpo gpe tgpe P seqA.toList seqB.toList - gpo * (nterm P : Int) -
          (max 0 (max (tgpe - gpe) (tgpe - gpo)) + max 0 (gpe - tgpe)))) :
    let r := alnRun entry ap (.profprof prof1 prof2) seqA.size seqB.size (initMem seqA.size seqB.size)
    r.fault = false ∧
      ∃ codes, expandPath seqB.size (r.pathEntries seqA.size) = some codes ∧ codes.map Col.ofCode = P :=
  RunOK.codes (scaled_runOK entry ap _ gpo gpe tgpe s (k * m) (scaleParam_ok ap gpo gpe tgpe s hap (k * m)) hgpo hgpe htgpe _
    seqA seqB P (pp_realKernels_eq ap gpo gpe tgpe s hap hsym prof1 prof2 seqA seqB k m hk hP1 hP2 hA23) hV hadj hmargin)
    hV hadj h1A h1B

/-- **`profile_of_copies`**: `Built ap seq p k` = `p` is obtained from `makeProfile ap seq` by `update_n` merges along
all-aligned paths (in any order, with any `set_gap_penalties_n` in between, as `do_align` does).  Prepared against a group of
`m` sequences it carries exactly the scaled entries the kernels read. -/
theorem C07_profile_of_copies (ap : AlnParam ExactScore) (gpo gpe tgpe : Int) (s : Nat → Nat → Int)
    (hap : ApOK ap gpo gpe tgpe s) (seq : Array Nat) (h23 : ∀ i, seq.getD i 0 < 23) (p : Array ExactScore) (k m : Nat)
    (h : Built ap seq p k) : ProfOK (setGapPenalties p m) seq k m gpo gpe tgpe s :=
  built_profOK ap gpo gpe tgpe s hap seq p k m h

theorem C07_profile_merge (ap : AlnParam ExactScore) (gpo gpe tgpe : Int) (s : Nat → Nat → Int)
    (hap : ApOK ap gpo gpe tgpe s) (seq : Array Nat) (h23 : ∀ i, seq.getD i 0 < 23)
    (p1 p2 : Array ExactScore) (k1 k2 sa sb : Nat) (h1 : Built ap seq p1 k1) (h2 : Built ap seq p2 k2) :
    ∃ p, updateN ap p1 p2 (List.replicate seq.size 0) sa sb = some p ∧ Built ap seq p (k1 + k2) :=
  built_merge_exists ap seq p1 p2 k1 k2 sa sb h1 h2

/-- **sequence – sequence as `do_align` runs it** (`a` is the row dimension iff `len_a < len_b`; otherwise the operands
are exchanged and the path is mirrored); symmetric matrix -/
theorem C07_doAlign_seqseq_opt (entry : Entry) (ap : AlnParam ExactScore) (gpo gpe tgpe : Int) (s : Nat → Nat → Int)
    (hap : ApOK ap gpo gpe tgpe s) (hgpo : 0 ≤ gpo) (hgpe : 0 ≤ gpe) (htgpe : 0 ≤ tgpe) (hsym : ∀ x y, s x y = s y x)
    (a b : Array Nat) (h1A : 1 ≤ a.size) (h1B : 1 ≤ b.size)
    (P : List Col) (hV : ValidCols P a.size b.size) (hadj : adjOK .A P = true)
    (hm : MarginK s gpo gpe tgpe a b P 1 (max a.size b.size)) :
    ∃ codes, (if a.size < b.size then dpCodes entry ap (.seqseq a b) false a.size b.size a.size b.size
        else dpCodes entry ap (.seqseq b a) true b.size a.size a.size b.size) = some codes ∧
      codes.map Col.ofCode = P := by
  have hap1 : ApOK ap (((1 : Nat) : Int) * gpo) (((1 : Nat) : Int) * gpe) (((1 : Nat) : Int) * tgpe)
      (fun x y => ((1 : Nat) : Int) * s x y) := by
    simpa only [Int.natCast_one, Int.one_mul] using hap
  by_cases hlt : a.size < b.size
  · rw [if_pos hlt]
    exact scaled_dp entry ap ap gpo gpe tgpe s 1 hap1 hgpo hgpe htgpe _ a b P h1A h1B rfl hV hadj (hm.mono (by omega))
  · rw [if_neg hlt]
    exact scaled_dp_swapped entry ap ap gpo gpe tgpe s 1 hap1 hgpo hgpe htgpe hsym _ a b P h1A h1B rfl hV hadj
      (hm.mono (by omega))

/-- **sequence – profile as `do_align` runs it, the group on side `a`** (`k > 1` copies of `a` built by diagonal merges,
one sequence `b`): operands `(.seqprof pa b k)`, not swapped -/
theorem C07_doAlign_profile_seq_opt (entry : Entry) (ap : AlnParam ExactScore) (gpo gpe tgpe : Int) (s : Nat → Nat → Int)
    (hap : ApOK ap gpo gpe tgpe s) (hgpo : 0 ≤ gpo) (hgpe : 0 ≤ gpe) (htgpe : 0 ≤ tgpe)
    (a b : Array Nat) (ha23 : ∀ i, a.getD i 0 < 23) (hb23 : ∀ j, b.getD j 0 < 23) (h1A : 1 ≤ a.size) (h1B : 1 ≤ b.size)
    (pa : Array ExactScore) (k : Nat) (hpa : Built ap a pa k)
    (P : List Col) (hV : ValidCols P a.size b.size) (hadj : adjOK .A P = true)
    (hm : MarginK s gpo gpe tgpe a b P k b.size) :
    ∃ codes, dpCodes entry ap (.seqprof (setGapPenalties pa 1) b k) false a.size b.size a.size b.size = some codes ∧
      codes.map Col.ofCode = P :=
  scaled_dp entry ap _ gpo gpe tgpe s k (scaleParam_ok ap gpo gpe tgpe s hap k) hgpo hgpe htgpe _ a b P h1A h1B
    (sp_realKernels_eq ap gpo gpe tgpe s hap _ a b k (built_profOK ap gpo gpe tgpe s hap a pa k 1 hpa) hb23 b.size)
    hV hadj hm

/-- **sequence – profile, the group on side `b`** (one sequence `a`, `k > 1` copies of `b`): operands
`(.seqprof pb a k)`, swapped, the path is mirrored; symmetric matrix -/
theorem C07_doAlign_seq_profile_opt (entry : Entry) (ap : AlnParam ExactScore) (gpo gpe tgpe : Int) (s : Nat → Nat → Int)
    (hap : ApOK ap gpo gpe tgpe s) (hgpo : 0 ≤ gpo) (hgpe : 0 ≤ gpe) (htgpe : 0 ≤ tgpe) (hsym : ∀ x y, s x y = s y x)
    (a b : Array Nat) (ha23 : ∀ i, a.getD i 0 < 23) (hb23 : ∀ j, b.getD j 0 < 23) (h1A : 1 ≤ a.size) (h1B : 1 ≤ b.size)
    (pb : Array ExactScore) (k : Nat) (hpb : Built ap b pb k)
    (P : List Col) (hV : ValidCols P a.size b.size) (hadj : adjOK .A P = true)
    (hm : MarginK s gpo gpe tgpe a b P k a.size) :
    ∃ codes, dpCodes entry ap (.seqprof (setGapPenalties pb 1) a k) true b.size a.size a.size b.size = some codes ∧
      codes.map Col.ofCode = P :=
  scaled_dp_swapped entry ap _ gpo gpe tgpe s k (scaleParam_ok ap gpo gpe tgpe s hap k) hgpo hgpe htgpe hsym _ a b P h1A h1B
    (sp_realKernels_eq ap gpo gpe tgpe s hap _ b a k (built_profOK ap gpo gpe tgpe s hap b pb k 1 hpb) ha23 a.size)
    hV hadj hm

/-- **profile – profile as `do_align` runs it** (`k` copies of `a`, `m` copies of `b`, both built by diagonal merges; `a`
is the row dimension iff `len_a < len_b`); symmetric matrix -/
theorem C07_doAlign_profile_profile_opt (entry : Entry) (ap : AlnParam ExactScore) (gpo gpe tgpe : Int)
    (s : Nat → Nat → Int) (hap : ApOK ap gpo gpe tgpe s) (hgpo : 0 ≤ gpo) (hgpe : 0 ≤ gpe) (htgpe : 0 ≤ tgpe)
    (hsym : ∀ x y, s x y = s y x)
    (a b : Array Nat) (ha23 : ∀ i, a.getD i 0 < 23) (hb23 : ∀ j, b.getD j 0 < 23) (h1A : 1 ≤ a.size) (h1B : 1 ≤ b.size)
    (pa pb : Array ExactScore) (k m : Nat) (hk : 1 ≤ k) (hmm : 1 ≤ m) (hpa : Built ap a pa k) (hpb : Built ap b pb m)
    (P : List Col) (hV : ValidCols P a.size b.size) (hadj : adjOK .A P = true)
    (hm : MarginK s gpo gpe tgpe a b P (k * m) (max a.size b.size)) :
    ∃ codes, (if a.size < b.size then
          dpCodes entry ap (.profprof (setGapPenalties pa m) (setGapPenalties pb k)) false a.size b.size a.size b.size
        else
          dpCodes entry ap (.profprof (setGapPenalties pb k) (setGapPenalties pa m)) true b.size a.size a.size b.size)
        = some codes ∧ codes.map Col.ofCode = P := by
  have hPa := built_profOK ap gpo gpe tgpe s hap a pa k m hpa
  have hPb := built_profOK ap gpo gpe tgpe s hap b pb m k hpb
  by_cases hlt : a.size < b.size
  · rw [if_pos hlt]
    exact scaled_dp entry ap _ gpo gpe tgpe s (k * m) (scaleParam_ok ap gpo gpe tgpe s hap (k * m)) hgpo hgpe htgpe _ a b P
      h1A h1B (pp_realKernels_eq ap gpo gpe tgpe s hap hsym _ _ a b k m hk hPa hPb ha23) hV hadj (hm.mono (by omega))
  · rw [if_neg hlt]
    rw [Nat.mul_comm k m] at hm
    exact scaled_dp_swapped entry ap _ gpo gpe tgpe s (m * k) (scaleParam_ok ap gpo gpe tgpe s hap (m * k)) hgpo hgpe htgpe
      hsym _ a b P h1A h1B (pp_realKernels_eq ap gpo gpe tgpe s hap hsym _ _ b a m k hmm hPb hPa hb23) hV hadj
      (hm.mono (by omega))

/-- the code check of `Operands.lens?` gives the hypothesis on the codes -/
theorem getD_lt_of_all (a : Array Nat) (h : a.all (· < 23) = true) : ∀ i, a.getD i 0 < 23 :=
  fun i => of_decide_eq_true (getD_of_all h 0 (by decide) i)

def exProf2 : Array ExactScore :=
  (updateN exP2 (makeProfile exP2 #[0, 1, 2]) (makeProfile exP2 #[0, 1, 2]) [0, 0, 0] 1 1).getD #[]

theorem exProf2_built : Built exP2 #[0, 1, 2] exProf2 2 :=
  built_pair exP2 #[0, 1, 2]

theorem exMargin2 : MarginK exS 1000 500 200 #[0, 1, 2] #[0, 2] [.both, .gapB, .both] 2 2 :=
  MarginK.of_enum (by decide +kernel)

theorem exProf2_opt : ∃ codes, dpCodes .parallel exP2 (.seqprof (setGapPenalties exProf2 1) #[0, 2] 2) false 3 2 3 2 = some codes ∧
    codes.map Col.ofCode = [.both, .gapB, .both] :=
  C07_doAlign_profile_seq_opt .parallel exP2 1000 500 200 exS exP2_ok (by decide) (by decide) (by decide)
    #[0, 1, 2] #[0, 2] (getD_lt_of_all _ (by decide +kernel)) (getD_lt_of_all _ (by decide +kernel)) (by decide) (by decide)
    exProf2 2 exProf2_built [.both, .gapB, .both] ⟨by decide, by decide, by decide⟩ (by decide) exMargin2

example : ∃ codes, dpCodes .parallel exP2 (.seqprof (setGapPenalties exProf2 1) #[0, 2] 2) false 3 2 3 2 = some codes ∧
    codes.map Col.ofCode = [.both, .gapB, .both] :=
  exProf2_opt

end Kalign

import KalignModel.Gen.Omp
/-!
Hand-kept pin of every `#pragma omp` line of the kalign sources (all files, all clauses), as they are in the tree the
theorems of Props/C02.lean were proved for.  `Gen.ompPragmaLines` is regenerated from the C text on every run: an added,
removed or altered directive or clause anywhere (also in files or clause kinds the structured skeleton does not model)
makes `pragma_lines_match` fail to check.
-/
namespace Kalign.C02

def expectedPragmaLines : List String := [
  "aln_controller.c:aln_runner: parallel",
  "aln_controller.c:aln_runner: single nowait",
  "aln_controller.c:aln_runner: task shared(m) if(m->run_parallel)",
  "aln_controller.c:aln_runner: task shared(m) if(m->run_parallel)",
  "aln_controller.c:aln_runner: taskwait",
  "aln_controller.c:aln_runner: task shared(m) if(m->run_parallel)",
  "aln_controller.c:aln_runner: task shared(m) if(m->run_parallel)",
  "aln_controller.c:aln_runner: taskwait",
  "aln_controller.c:aln_runner: task shared(m) if(m->run_parallel)",
  "aln_controller.c:aln_runner: task shared(m) if(m->run_parallel)",
  "aln_controller.c:aln_runner: taskwait",
  "aln_run.c:create_msa_tree: parallel",
  "aln_run.c:create_msa_tree: single nowait",
  "aln_run.c:recursive_aln: task shared(msa,t,ap,active) firstprivate(a)",
  "aln_run.c:recursive_aln: task shared(msa,t,ap,active) firstprivate(b)",
  "aln_run.c:recursive_aln: taskwait",
  "bisectingKmeans.c:build_tree_kmeans: parallel",
  "bisectingKmeans.c:build_tree_kmeans: single nowait",
  "bisectingKmeans.c:bisecting_kmeans: task shared(dm,samples,num_anchors, num_samples,i,step,res)",
  "bisectingKmeans.c:bisecting_kmeans: task shared(dm,samples,num_anchors, num_samples,i,step,res)",
  "bisectingKmeans.c:bisecting_kmeans: task shared(dm,samples,num_anchors, num_samples,i,step,res)",
  "bisectingKmeans.c:bisecting_kmeans: task shared(dm,samples,num_anchors, num_samples,i,step,res)",
  "bisectingKmeans.c:bisecting_kmeans: taskwait",
  "bisectingKmeans.c:bisecting_kmeans: task shared(msa,n,dm)",
  "bisectingKmeans.c:bisecting_kmeans: task shared(msa,n,dm,num_anchors)",
  "bisectingKmeans.c:bisecting_kmeans: taskwait",
  "sequence_distance.c:d_estimation: parallel for shared(dm, s) private(i, j) collapse(2) schedule(static)"]

theorem pragma_lines_match : Gen.ompPragmaLines = expectedPragmaLines := rfl

/-- no scalar declared outside an `omp parallel for` body is assigned inside it without being private: every iteration of the
distance-matrix loop writes only its own cell `dm[i][j]` (the footprint assumed by `dist_prog_safe`) -/
theorem no_shared_writes_in_parallel_for : Gen.sharedWritesInParallelFor = [] := rfl

end Kalign.C02

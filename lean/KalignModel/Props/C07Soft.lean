import KalignModel.Lemmas.SoftOptCut
import KalignModel.Model.PipelineSoft
import KalignModel.Props.C08Opt
import KalignModel.Lemmas.Basic.ListWalk
/-!
# C07 / C08 on binary32 — Hirschberg optimality transferred from the exact carrier to `SoftF32` for dyadic parameter sets

`SoftF32` (Model/SoftFloat.lean) is IEEE-754 binary32 in core Lean, tied bit-for-bit to the C `float` computation (ops `f32`,
`kalign_sys_soft*`).  The theorems of `Props/C07Opt.lean` and `Props/C08Opt.lean` are about the exact carrier; the ones below are
about what the binary32 code computes, without any hypothesis on floating-point values.  `DyadicParam U ap apE`
(Lemmas/SoftDyadicCells.lean): the `SoftF32` parameters `ap` are the exact images of the exact parameters `apE`; every penalty and matrix
entry is a multiple of 1/2 score unit of magnitude at most `U` half units (`U/2` score units).  No rounding error term is needed:
correctly rounded subtraction is monotone and the bounds `h/2`, `(h − T)/2` are representable.
-/
namespace Kalign
open SoftF32 Pipeline

theorem DyadicParam.mono {U U' : Nat} {ap : AlnParam SoftF32} {apE : AlnParam ExactScore} (h : DyadicParam U ap apE)
    (hU : U ≤ U') : DyadicParam U' ap apE :=
  ⟨h.gpo.mono hU, h.gpe.mono hU, h.tgpe.mono hU, fun i j => (h.sub i j).mono hU⟩

/-- `-1.0F`: "no override" argument of `aln_param_init` -/
def neg1 : SoftF32 := ofRaw 0xbf800000

/-- the `SoftF32` parameter set `aln_param_init` builds for `(biotype, type)` without overrides -/
def softParamOf (bt : Nat) (t : Int) : AlnParam SoftF32 :=
  (paramOfTableS bt t neg1 neg1 neg1).getD ⟨#[], zero, zero, zero⟩

/-- every type outside `0..4` (in particular the "undefined" constant) takes the `default:` row of its biotype -/
theorem softParamOf_undefined (bt : Nat) (t : Int) (ht : ¬ (0 ≤ t ∧ t ≤ 4)) : softParamOf bt t = softParamOf bt 5 := by
  unfold softParamOf paramOfTableS alnParamInitS lookupRow normType
  rw [if_neg ht, if_neg (by omega)]

theorem softParamOf_protein_default : softParamOf 0 5 = softParamOf 0 3 := rfl

theorem softParamOf_protein_some : (paramOfTableS 0 3 neg1 neg1 neg1).isSome = true := by decide +kernel
theorem softParamOf_protein_undefined_some : (paramOfTableS 0 (-1) neg1 neg1 neg1).isSome = true := by decide +kernel
theorem softParamOf_dna_some : (paramOfTableS 1 0 neg1 neg1 neg1).isSome = true := by decide +kernel
theorem softParamOf_dna_internal_some : (paramOfTableS 1 1 neg1 neg1 neg1).isSome = true := by decide +kernel

/-- **protein, type 3** (matrix 0: integers −4..13; penalties 5.5 / 2.0 / 1.0) -/
theorem C07Soft_dyadic_protein : DyadicParam 32 (softParamOf 0 3) (exactParam Gen.mat0 5500 2000 1000) :=
  dyadicParam_of_walk (by decide +kernel)

/-- **protein, undefined type** (`-1` and every value outside `0..4`): the same row -/
theorem C07Soft_dyadic_protein_undefined (t : Int) (ht : ¬ (0 ≤ t ∧ t ≤ 4)) :
    DyadicParam 32 (softParamOf 0 t) (exactParam Gen.mat0 5500 2000 1000) := by
  rw [softParamOf_undefined 0 t ht, softParamOf_protein_default]
  exact C07Soft_dyadic_protein

/-- **protein defaults**: type 3 or undefined -/
theorem C07Soft_dyadic_protein_default (t : Int) (ht : t = 3 ∨ ¬ (0 ≤ t ∧ t ≤ 4)) :
    DyadicParam 32 (softParamOf 0 t) (exactParam Gen.mat0 5500 2000 1000) := by
  rcases ht with rfl | ht
  · exact C07Soft_dyadic_protein
  · exact C07Soft_dyadic_protein_undefined t ht

/-- **DNA** (type 0: match 5, mismatch −4; penalties 8 / 6 / 0) -/
theorem C07Soft_dyadic_dna : DyadicParam 32 (softParamOf 1 0) (exactParam Gen.mat3 8000 6000 0) :=
  dyadicParam_of_walk (by decide +kernel)

/-- **DNA internal** (type 1: penalties 8 / 6 / 8): the matrix of the DNA row, so only the penalties are evaluated -/
theorem C07Soft_dyadic_dna_internal : DyadicParam 32 (softParamOf 1 1) (exactParam Gen.mat3 8000 6000 8000) :=
  C07Soft_dyadic_dna.of_subm rfl rfl (dyVal_of_check (by decide +kernel)) (dyVal_of_check (by decide +kernel))
    (dyVal_of_check (by decide +kernel))

/-- **divergent protein** (type 4: matrix 1, integers −52..142; penalties 55 / 8 / 4): dyadic, but only with `U = 512`, so the
size condition of `C07Soft_hirschberg_seqseq_opt` allows `len_a + len_b` up to about 2¹⁵ -/
theorem C07Soft_dyadic_protein_divergent : DyadicParam 512 (softParamOf 0 4) (exactParam Gen.mat1 55000 8000 4000) :=
  dyadicParam_of_walk (by decide +kernel)

/-- **RNA** (type 2: penalties 217 / 39.4 / 292.6): `gpe` and `tgpe` are not dyadic — the theorems of this file do not
cover it -/
theorem C07Soft_rna_not_dyadic :
    (¬ ∃ g : Int, g.natAbs < 16777216 ∧ (softParamOf 1 2).gpe = half g) ∧
    (¬ ∃ g : Int, g.natAbs < 16777216 ∧ (softParamOf 1 2).tgpe = half g) := by
  constructor
  · intro h
    have := half_toInt_mod h
    revert this
    decide +kernel
  · intro h
    have := half_toInt_mod h
    revert this
    decide +kernel

/-- **nucleotide default** (biotype DNA with the undefined type takes the RNA values 217 / 39.4 / 292.6): not dyadic either -/
theorem C07Soft_nucleotide_default_not_dyadic :
    (¬ ∃ g : Int, g.natAbs < 16777216 ∧ (softParamOf 1 (-1)).gpe = half g) ∧
    (¬ ∃ g : Int, g.natAbs < 16777216 ∧ (softParamOf 1 (-1)).tgpe = half g) := by
  constructor
  · intro h
    have := half_toInt_mod h
    revert this
    decide +kernel
  · intro h
    have := half_toInt_mod h
    revert this
    decide +kernel

/-- **forward kernel**: cell `j` of the `SoftF32` table against cell `j` of the exact table (one-hot start states of kind `fk`) -/
theorem C07Soft_forward_exact (U : Nat) (ap : AlnParam SoftF32) (apE : AlnParam ExactScore) (hd : DyadicParam U ap apE)
    (gpo gpe tgpe : Int) (s : Nat → Nat → Int) (hap : ApOK apE gpo gpe tgpe s)
    (seq1 seq2 : Array Nat) (r : Rect) (hb : r.startb < r.endb) (fk : Kind)
    (hL : U * ((r.enda - r.starta) + (r.endb - r.startb)) < 16777216) (j : Nat) (hj1 : r.startb ≤ j) (hj2 : j ≤ r.endb) :
    ∃ cS cE, (kForward ap (.seqseq seq1 seq2) r (hotS fk))[j - r.startb]? = some cS ∧
      (kForward apE (.seqseq seq1 seq2) r (hot fk))[j - r.startb]? = some cE ∧
      cE = absTab (cfgF gpo gpe tgpe s seq1 seq2 r) (hot fk) (r.enda - r.starta) (j - r.startb) ∧
      StEmb (U * ((r.enda - r.starta) + (j - r.startb))) cS cE := by
  obtain ⟨F, hF, hemb⟩ := ssForward_emb hd hap seq1 seq2 r hb fk hL
  exact ⟨_, _, cell_of_map_range hF (by omega),
    cell_of_map_range (ssForward_eq_absTab apE gpo gpe tgpe s hap seq1 seq2 r hb (hot fk)) (by omega), rfl, hemb _ (by omega)⟩

theorem C07Soft_backward_exact (U : Nat) (ap : AlnParam SoftF32) (apE : AlnParam ExactScore) (hd : DyadicParam U ap apE)
    (gpo gpe tgpe : Int) (s : Nat → Nat → Int) (hap : ApOK apE gpo gpe tgpe s)
    (seq1 seq2 : Array Nat) (r : Rect) (hb : r.startb < r.endb) (ha : r.starta ≤ r.enda) (bk : Kind)
    (hL : U * ((r.enda - r.starta) + (r.endb - r.startb)) < 16777216) (j : Nat) (hj1 : r.startb ≤ j) (hj2 : j ≤ r.endb) :
    ∃ cS cE, (kBackward ap (.seqseq seq1 seq2) r (hotS bk))[j - r.startb]? = some cS ∧
      (kBackward apE (.seqseq seq1 seq2) r (hot bk))[j - r.startb]? = some cE ∧
      cE = absTab (cfgB gpo gpe tgpe s seq1 seq2 r) (hot bk) (r.enda - r.starta) (r.endb - j) ∧
      StEmb (U * ((r.enda - r.starta) + (r.endb - j))) cS cE := by
  obtain ⟨G, hG, hemb⟩ := ssBackward_emb hd hap seq1 seq2 r hb ha bk hL
  have hE := cell_of_map_range (k := j - r.startb)
    ((ssBackward_eq_absTab apE gpo gpe tgpe s hap seq1 seq2 r hb ha (hot bk)).trans (map_range_reverse _ _)) (by omega)
  have hS := hemb (j - r.startb) (by omega)
  rw [show r.endb - r.startb - (j - r.startb) = r.endb - j by omega] at hE hS
  exact ⟨_, _, cell_of_map_range hG (by omega), hE, rfl, hS⟩

/-- the `SoftF32` tie-break term `fabsf((float)(c3-c2)/2.0F + (float)c2 - (float)i)/1000.0F` is finite, non-negative and at most
`((c3−c2)/1000 + 1)/2` score units: in units of 1/2000 at most `(c3−c2) + 1000`, where the exact term is at most `c3−c2` -/
theorem C07Soft_tie_le (sb eb i : Nat) (h1 : sb ≤ i) (h2 : i ≤ eb) (h3 : eb < 4194304) :
    let x : SoftF32 := Score.tie (sb : Int) (eb : Int) (i : Int)
    x.isFinite = true ∧ 0 ≤ toInt x ∧ toInt x ≤ (((eb - sb) / 1000 + 1 : Nat) : Int) * ((2 ^ 148 : Nat) : Int) := by
  obtain ⟨a, b, c⟩ := tie_le sb eb i h1 h2 h3
  exact ⟨(isFinite_iff _).2 a, b, c⟩

/-- **robust argmax**: forward + backward + meetup of the `SoftF32` kernels on the rectangle `(sa..ea) × (sb..eb)` with middle row
`mid`, one-hot start states.  `ev k t` = exact value of the cut `(k, t)` without tie-break term (`meetVal = ev − tieOf`).
Either no admissible cut is finite and the meetup keeps `transition = -1`, or it returns an admissible cut `(k, t)` with finite
`ev k t = v` such that every admissible cut satisfies `ev k' t' − (eb − sb) − 1000 ≤ v` -/
theorem C07Soft_ssMeet_robust (U : Nat) (ap : AlnParam SoftF32) (apE : AlnParam ExactScore) (hd : DyadicParam U ap apE)
    (gpo gpe tgpe : Int) (s : Nat → Nat → Int) (hap : ApOK apE gpo gpe tgpe s)
    (seq1 seq2 : Array Nat) (sa mid ea sb eb lenA lenB : Nat) (h1 : sa ≤ mid) (h2 : mid ≤ ea) (h3 : ea ≤ lenA)
    (h4 : sb < eb) (h5 : eb ≤ lenB) (hsize : U * (lenA + lenB + 1) + lenB / 1000 + 1 < 16777216) (hlenB : lenB < 4194304)
    (fk bk : Kind) :
    let rF : Rect := ⟨sa, mid, sb, eb, lenB⟩
    let rB : Rect := ⟨mid, ea, sb, eb, lenB⟩
    let cF := cfgF gpo gpe tgpe s seq1 seq2 rF
    let cB := cfgB gpo gpe tgpe s seq1 seq2 rB
    let res := kMeetup ap (.seqseq seq1 seq2) rF mid (kForward ap (.seqseq seq1 seq2) rF (hotS fk))
      (kBackward ap (.seqseq seq1 seq2) rB (hotS bk))
    let ev := fun (k : Nat) (t : Int) =>
      evC cF (absTab cF (hot fk) (mid - sa) k) (absTab cB (hot bk) (ea - mid) (eb - sb - k)) k t
    (∀ k t, meetVal cF sb eb t k ((absTab cF (hot fk) (mid - sa) k).get (fkOf t))
        ((absTab cB (hot bk) (ea - mid) (eb - sb - k)).get (bkOf t)) = osub (ev k t) (tieOf sb eb k)) ∧
    ((res.transition = -1 ∧ ∀ k t, Adm (eb - sb) k t → ev k t = none) ∨
     (∃ k t v, Adm (eb - sb) k t ∧ res.meet = ((sb + k : Nat) : Int) ∧ res.transition = t ∧ ev k t = some v ∧
        ∀ k' t' v', Adm (eb - sb) k' t' → ev k' t' = some v' → v' - (((eb - sb : Nat) : Int) + 1000) ≤ v)) := by
  intro rF rB cF cB res ev
  refine ⟨fun k t => rfl, ?_⟩
  have hta := tie_arith (eb - sb) lenB (by omega)
  rcases ssMeet_robust_hot hd hap seq1 seq2 lenA lenB hsize hlenB sa mid ea sb eb h1 h2 h3 h4 h5 fk bk res rfl
    with h | ⟨k, t, v, a1, a2, a3, a4, a5⟩
  · exact Or.inl h
  · refine Or.inr ⟨k, t, v, a1, a2, a3, a4, fun k' t' v' b1 b2 => ?_⟩
    have : v' - 1000 * (((eb - sb) / 1000 + 1 : Nat) : Int) ≤ v := a5 k' t' v' b1 b2
    omega

/-- **C07 on binary32 (sequence – sequence).**  Dyadic parameters (`DyadicParam U ap apE`, `apE` finite and non-negative), sizes with
`U·(len_a + len_b + 1) + len_b/1000 + 1 < 2²⁴` and `len_b < 2²²`; `P` a valid column list without a gap-in-a run next to a gap-in-b
run; every other such column list `Q` scores lower (reference score `scoreST` on the exact parameters) by the safe margin of
`C07_hirschberg_seqseq_opt` **plus 1000 units (0.5 score units)**:

    scoreST P − gpo·nterm P − (max(0, tgpe−gpe, tgpe−gpo) + max(0, gpe−tgpe)) − (len_b + 1000)  >  scoreST Q.

Then the serial controller on the real kernels *computing in binary32* does not fault and its path expands to exactly `P`. -/
theorem C07Soft_hirschberg_seqseq_opt (U : Nat) (ap : AlnParam SoftF32) (apE : AlnParam ExactScore)
    (hd : DyadicParam U ap apE) (gpo gpe tgpe : Int) (s : Nat → Nat → Int)
    (hap : ApOK apE gpo gpe tgpe s) (hgpo : 0 ≤ gpo) (hgpe : 0 ≤ gpe) (htgpe : 0 ≤ tgpe)
    (seq1 seq2 : Array Nat) (h1A : 1 ≤ seq1.size) (h1B : 1 ≤ seq2.size)
    (hsize : U * (seq1.size + seq2.size + 1) + seq2.size / 1000 + 1 < 16777216) (hlenB : seq2.size < 4194304)
    (P : List Col) (hV : ValidCols P seq1.size seq2.size) (hadj : adjOK .A P = true)
    (hmargin : ∀ Q, ValidCols Q seq1.size seq2.size → adjOK .A Q = true → Q ≠ P →
      scoreST s gpo gpe tgpe Q seq1.toList seq2.toList + ((seq2.size : Int) + 1000) <
        scoreST s gpo gpe tgpe P seq1.toList seq2.toList - gpo * (nterm P : Int) -
          (max 0 (max (tgpe - gpe) (tgpe - gpo)) + max 0 (gpe - tgpe)))
    (n : Nat) (hn : seq1.size + seq2.size + 1 ≤ n) :
    let r := runnerSerial (realKernels ap (.seqseq seq1 seq2) seq1.size seq2.size) false n
      (initMem seq1.size seq2.size)
    r.fault = false ∧
      ∃ codes, expandPath seq2.size (r.pathEntries seq1.size) = some codes ∧ codes.map Col.ofCode = P := by
  obtain ⟨hf, hpath⟩ := runner_path_optS
    ⟨hd, hap, hgpo, hgpe, htgpe, hsize, hlenB, hadj, hV.2.1, hV.2.2, walk_margin gpo gpe tgpe s seq1 seq2 P _ hmargin⟩ n hn
  exact ⟨hf, by rw [hpath]; exact expandPath_valid hV hadj h1A h1B⟩

/-- **either entry point of the controller** (`aln_runner` with its missing `return`, or `aln_runner_serial`) on the binary32
kernels returns `P` -/
theorem C07Soft_alnRun_opt (entry : Entry) (U : Nat) (ap : AlnParam SoftF32) (apE : AlnParam ExactScore)
    (hd : DyadicParam U ap apE) (gpo gpe tgpe : Int) (s : Nat → Nat → Int)
    (hap : ApOK apE gpo gpe tgpe s) (hgpo : 0 ≤ gpo) (hgpe : 0 ≤ gpe) (htgpe : 0 ≤ tgpe)
    (seq1 seq2 : Array Nat) (h1A : 1 ≤ seq1.size) (h1B : 1 ≤ seq2.size)
    (hsize : U * (seq1.size + seq2.size + 1) + seq2.size / 1000 + 1 < 16777216) (hlenB : seq2.size < 4194304)
    (P : List Col) (hV : ValidCols P seq1.size seq2.size) (hadj : adjOK .A P = true)
    (hmargin : ∀ Q, ValidCols Q seq1.size seq2.size → adjOK .A Q = true → Q ≠ P →
      scoreST s gpo gpe tgpe Q seq1.toList seq2.toList + ((seq2.size : Int) + 1000) <
        scoreST s gpo gpe tgpe P seq1.toList seq2.toList - gpo * (nterm P : Int) -
          (max 0 (max (tgpe - gpe) (tgpe - gpo)) + max 0 (gpe - tgpe))) :
    let r := alnRun entry ap (.seqseq seq1 seq2) seq1.size seq2.size (initMem seq1.size seq2.size)
    r.fault = false ∧
      ∃ codes, expandPath seq2.size (r.pathEntries seq1.size) = some codes ∧ codes.map Col.ofCode = P :=
  (alnRun_path
    (OptHypS.cutHyp
      ⟨hd, hap, hgpo, hgpe, htgpe, hsize, hlenB, hadj, hV.2.1, hV.2.2, walk_margin gpo gpe tgpe s seq1 seq2 P _ hmargin⟩)
    entry).codes hV hadj h1A h1B

/-- `do_align`'s serial entry point (`alnRun .serial`, fuel `len_a + len_b + 2`) -/
theorem C07Soft_alnRun_serial_opt (U : Nat) (ap : AlnParam SoftF32) (apE : AlnParam ExactScore)
    (hd : DyadicParam U ap apE) (gpo gpe tgpe : Int) (s : Nat → Nat → Int)
    (hap : ApOK apE gpo gpe tgpe s) (hgpo : 0 ≤ gpo) (hgpe : 0 ≤ gpe) (htgpe : 0 ≤ tgpe)
    (seq1 seq2 : Array Nat) (h1A : 1 ≤ seq1.size) (h1B : 1 ≤ seq2.size)
    (hsize : U * (seq1.size + seq2.size + 1) + seq2.size / 1000 + 1 < 16777216) (hlenB : seq2.size < 4194304)
    (P : List Col) (hV : ValidCols P seq1.size seq2.size) (hadj : adjOK .A P = true)
    (hmargin : ∀ Q, ValidCols Q seq1.size seq2.size → adjOK .A Q = true → Q ≠ P →
      scoreST s gpo gpe tgpe Q seq1.toList seq2.toList + ((seq2.size : Int) + 1000) <
        scoreST s gpo gpe tgpe P seq1.toList seq2.toList - gpo * (nterm P : Int) -
          (max 0 (max (tgpe - gpe) (tgpe - gpo)) + max 0 (gpe - tgpe))) :
    let r := alnRun .serial ap (.seqseq seq1 seq2) seq1.size seq2.size (initMem seq1.size seq2.size)
    r.fault = false ∧
      ∃ codes, expandPath seq2.size (r.pathEntries seq1.size) = some codes ∧ codes.map Col.ofCode = P :=
  C07Soft_alnRun_opt .serial U ap apE hd gpo gpe tgpe s hap hgpo hgpe htgpe seq1 seq2 h1A h1B hsize hlenB P hV hadj hmargin

/-- an instance of the size condition: `DyadicParam 64` (every entry and penalty at most 32 score units) and `len_a + len_b < 2¹⁷` -/
theorem C07Soft_alnRun_opt_default (entry : Entry) (ap : AlnParam SoftF32) (apE : AlnParam ExactScore)
    (hd : DyadicParam 64 ap apE) (gpo gpe tgpe : Int) (s : Nat → Nat → Int)
    (hap : ApOK apE gpo gpe tgpe s) (hgpo : 0 ≤ gpo) (hgpe : 0 ≤ gpe) (htgpe : 0 ≤ tgpe)
    (seq1 seq2 : Array Nat) (h1A : 1 ≤ seq1.size) (h1B : 1 ≤ seq2.size) (hlen : seq1.size + seq2.size < 131072)
    (P : List Col) (hV : ValidCols P seq1.size seq2.size) (hadj : adjOK .A P = true)
    (hmargin : ∀ Q, ValidCols Q seq1.size seq2.size → adjOK .A Q = true → Q ≠ P →
      scoreST s gpo gpe tgpe Q seq1.toList seq2.toList + ((seq2.size : Int) + 1000) <
        scoreST s gpo gpe tgpe P seq1.toList seq2.toList - gpo * (nterm P : Int) -
          (max 0 (max (tgpe - gpe) (tgpe - gpo)) + max 0 (gpe - tgpe))) :
    let r := alnRun entry ap (.seqseq seq1 seq2) seq1.size seq2.size (initMem seq1.size seq2.size)
    r.fault = false ∧
      ∃ codes, expandPath seq2.size (r.pathEntries seq1.size) = some codes ∧ codes.map Col.ofCode = P :=
  C07Soft_alnRun_opt entry 64 ap apE hd gpo gpe tgpe s hap hgpo hgpe htgpe seq1 seq2 h1A h1B (by omega) (by omega) P hV hadj
    hmargin

/-- **C08 on binary32**: the hypothesis of `C08_identical_pair_diag` with `|seq| + 1000` in place of `|seq|` -/
theorem C08Soft_identical_pair_diag (entry : Entry) (U : Nat) (ap : AlnParam SoftF32) (apE : AlnParam ExactScore)
    (hd : DyadicParam U ap apE) (gpo gpe tgpe : Int) (s : Nat → Nat → Int)
    (hap : ApOK apE gpo gpe tgpe s) (hgpo : 0 ≤ gpo) (hgpe : 0 ≤ gpe) (htgpe : 0 ≤ tgpe)
    (seq : Array Nat) (h1 : 1 ≤ seq.size)
    (hsize : U * (seq.size + seq.size + 1) + seq.size / 1000 + 1 < 16777216) (hlenB : seq.size < 4194304)
    (hdg : ∀ x ∈ seq.toList,
      max 0 (max (tgpe - gpe) (tgpe - gpo)) + max 0 (gpe - tgpe) + ((seq.size : Int) + 1000) <
        s x x + 2 * min (min (2 * gpo) gpe) tgpe)
    (h2 : ∀ x ∈ seq.toList, ∀ y ∈ seq.toList, 2 * s x y ≤ s x x + s y y) :
    let r := alnRun entry ap (.seqseq seq seq) seq.size seq.size (initMem seq.size seq.size)
    r.fault = false ∧
      ∃ codes, expandPath seq.size (r.pathEntries seq.size) = some codes ∧
        codes.map Col.ofCode = List.replicate seq.size .both :=
  C07Soft_alnRun_opt entry U ap apE hd gpo gpe tgpe s hap hgpo hgpe htgpe seq seq h1 h1 hsize hlenB
    (diagCols seq.size) (validCols_diag _) (adjOK_diag _ _)
    ((MarginK.one_iff (T := seq.size + 1000) (by omega)).1
      (diag_marginK gpo gpe tgpe s seq 1 _ (Nat.le_refl 1) (by rw [Int.natCast_add]; exact hdg) h2))

/-- the margin condition with the binary32 slack as a decidable check over the residues of a sequence (table values ×1000) -/
def diagCondS (m : List (List Int)) (gpo gpe tgpe : Int) (seq : List Nat) : Bool :=
  seq.all fun x =>
    decide (max 0 (max (2 * tgpe - 2 * gpe) (2 * tgpe - 2 * gpo)) + max 0 (2 * gpe - 2 * tgpe) +
        ((seq.length : Int) + 1000) < exactSub m x x + 2 * min (2 * gpe) (2 * tgpe)) &&
    seq.all fun y => decide (2 * exactSub m x y ≤ exactSub m x x + exactSub m y y)

/-- `gpe ≤ 2·gpo` removes `gpo` from the minimum -/
theorem diagCondS_hyp (m : List (List Int)) (gpo gpe tgpe : Int) (hge : gpe ≤ 2 * gpo) (seq : Array Nat)
    (hc : diagCondS m gpo gpe tgpe seq.toList = true) :
    (∀ x ∈ seq.toList,
      max 0 (max (2 * tgpe - 2 * gpe) (2 * tgpe - 2 * gpo)) + max 0 (2 * gpe - 2 * tgpe) + ((seq.size : Int) + 1000) <
        exactSub m x x + 2 * min (min (2 * (2 * gpo)) (2 * gpe)) (2 * tgpe)) ∧
    (∀ x ∈ seq.toList, ∀ y ∈ seq.toList, 2 * exactSub m x y ≤ exactSub m x x + exactSub m y y) := by
  have e : min (min (2 * (2 * gpo)) (2 * gpe)) (2 * tgpe) = min (2 * gpe) (2 * tgpe) := by omega
  unfold diagCondS at hc
  simp only [List.all_eq_true, Bool.and_eq_true, decide_eq_true_eq, Array.length_toList] at hc
  rw [e]
  exact ⟨fun x hx => (hc x hx).1, fun x hx y hy => (hc x hx).2 y hy⟩

/-- **for a dyadic row of the generated table** (side conditions as in `C08_identical_pair_diag_table`) -/
theorem C08Soft_identical_pair_diag_table (entry : Entry) (U : Nat) (ap : AlnParam SoftF32) (m : List (List Int))
    (gpo gpe tgpe : Int) (hd : DyadicParam U ap (exactParam m gpo gpe tgpe))
    (hgpo : 0 ≤ gpo) (hgpe : 0 ≤ gpe) (htgpe : 0 ≤ tgpe) (hge : gpe ≤ 2 * gpo)
    (seq : Array Nat) (h1 : 1 ≤ seq.size)
    (hsize : U * (seq.size + seq.size + 1) + seq.size / 1000 + 1 < 16777216) (hlenB : seq.size < 4194304)
    (hc : diagCondS m gpo gpe tgpe seq.toList = true) :
    let r := alnRun entry ap (.seqseq seq seq) seq.size seq.size (initMem seq.size seq.size)
    r.fault = false ∧
      ∃ codes, expandPath seq.size (r.pathEntries seq.size) = some codes ∧
        codes.map Col.ofCode = List.replicate seq.size .both := by
  obtain ⟨hdg, h2⟩ := diagCondS_hyp m gpo gpe tgpe hge seq hc
  exact C08Soft_identical_pair_diag entry U ap _ hd (2 * gpo) (2 * gpe) (2 * tgpe) (exactSub m) (exactParam_ok m gpo gpe tgpe)
    (by omega) (by omega) (by omega) seq h1 hsize hlenB hdg h2

/-- **default protein parameters in binary32** (type 3 or undefined), sequences of fewer than 2¹⁶ residues -/
theorem C08Soft_identical_pair_diag_protein (entry : Entry) (t : Int) (ht : t = 3 ∨ ¬ (0 ≤ t ∧ t ≤ 4))
    (seq : Array Nat) (h1 : 1 ≤ seq.size) (hlen : seq.size < 65536)
    (hc : diagCondS Gen.mat0 5500 2000 1000 seq.toList = true) :
    let r := alnRun entry (softParamOf 0 t) (.seqseq seq seq) seq.size seq.size (initMem seq.size seq.size)
    r.fault = false ∧
      ∃ codes, expandPath seq.size (r.pathEntries seq.size) = some codes ∧
        codes.map Col.ofCode = List.replicate seq.size .both :=
  C08Soft_identical_pair_diag_table entry 32 _ Gen.mat0 5500 2000 1000 (C07Soft_dyadic_protein_default t ht) (by decide)
    (by decide) (by decide) (by decide) seq h1 (by omega) (by omega) hc

/-- **DNA-internal parameters in binary32** (`internal = true`).  With the plain DNA penalties (`internal = false`, `tgpe = 0`)
`diagCondS` fails for every sequence (it asks for `13000 + |seq| < s x x`, and `s x x ≤ 10000`), so that half says nothing; the row
is covered by `C08Soft_identical_pair_diag_dna0` (Props/C08DirectSoft.lean) -/
theorem C08Soft_identical_pair_diag_dna (entry : Entry) (internal : Bool)
    (seq : Array Nat) (h1 : 1 ≤ seq.size) (hlen : seq.size < 65536)
    (hc : diagCondS Gen.mat3 8000 6000 (if internal then 8000 else 0) seq.toList = true) :
    let r := alnRun entry (softParamOf 1 (if internal then 1 else 0)) (.seqseq seq seq) seq.size seq.size
      (initMem seq.size seq.size)
    r.fault = false ∧
      ∃ codes, expandPath seq.size (r.pathEntries seq.size) = some codes ∧
        codes.map Col.ofCode = List.replicate seq.size .both := by
  cases internal
  · exact C08Soft_identical_pair_diag_table entry 32 _ Gen.mat3 8000 6000 0 C07Soft_dyadic_dna (by decide) (by decide)
      (by decide) (by decide) seq h1 (by omega) (by omega) hc
  · exact C08Soft_identical_pair_diag_table entry 32 _ Gen.mat3 8000 6000 8000 C07Soft_dyadic_dna_internal (by decide)
      (by decide) (by decide) (by decide) seq h1 (by omega) (by omega) hc

/-- the dyadic images: `5.5F = half 11`, `12.0F = half 24` -/
example : ofRaw 0x40b00000 = half 11 ∧ ofRaw 0x41400000 = half 24 ∧ (softParamOf 0 3).gpo = half 11 ∧
    (softParamOf 0 3).sub 4 4 = half 24 ∧ (softParamOf 1 0).tgpe = half 0 := by decide +kernel

/-- `C07Soft_forward_exact` on a concrete rectangle (protein defaults, a = (W,C,W), b = (W,W), forward kernel on row 0): the `SoftF32` cells are
`(-FLT_MAX, -FLT_MAX, -1.0)`, `(13.0, …)`, `(6.5, …)`: sentinel where the exact kernel has `none`, `half h` where it has `some (1000·h)` -/
example :
    (kForward (softParamOf 0 3) (.seqseq #[17, 4, 17] #[17, 17]) ⟨0, 1, 0, 2, 2⟩ (hotS .A)).map (fun c => (c.a, c.ga, c.gb)) =
      [(negMax, negMax, half (-2)), (half 26, negMax, negMax), (half 13, negMax, negMax)] ∧
    (kForward (exactParam Gen.mat0 5500 2000 1000) (.seqseq #[17, 4, 17] #[17, 17]) ⟨0, 1, 0, 2, 2⟩ (hot .A)).map
        (fun c => (c.a, c.ga, c.gb)) =
      [(none, none, some (-2000)), (some 26000, none, none), (some 13000, none, none)] := by decide +kernel

/-- the tie-break term of column 0 of the rectangle `0..2` is `1/1000` rounded (`0x3a83126f`), not a dyadic value of the range,
positive and below `half 1` -/
example : (Score.tie (0 : Int) 2 0 : SoftF32) = ofRaw 0x3a83126f ∧
    SoftF32.lt (ofRaw 0) (Score.tie (0 : Int) 2 0 : SoftF32) = true ∧
    SoftF32.lt (Score.tie (0 : Int) 2 0 : SoftF32) (half 1) = true ∧
    toInt (Score.tie (0 : Int) 2 0 : SoftF32) % ((2 ^ 148 : Nat) : Int) ≠ 0 := by decide +kernel

/-- protein defaults (type 3), a = (W,C,W), b = (W,W): the alignment `W W, C –, W W` beats the other 24 column lists by more
than the safe margin including the binary32 slack — **the hypotheses of `C07Soft_alnRun_opt` are satisfiable**; Props/C07SoftEx.lean
evaluates the run -/
example :
    let P : List Col := [.both, .gapB, .both]
    ValidCols P (#[17, 4, 17] : Array Nat).size (#[17, 17] : Array Nat).size ∧ adjOK .A P = true ∧
    (∀ Q, ValidCols Q (#[17, 4, 17] : Array Nat).size (#[17, 17] : Array Nat).size → adjOK .A Q = true → Q ≠ P →
      scoreST (exactSub Gen.mat0) 11000 4000 2000 Q (#[17, 4, 17] : Array Nat).toList (#[17, 17] : Array Nat).toList +
          (((#[17, 17] : Array Nat).size : Int) + 1000) <
        scoreST (exactSub Gen.mat0) 11000 4000 2000 P (#[17, 4, 17] : Array Nat).toList (#[17, 17] : Array Nat).toList -
          11000 * (nterm P : Int) - (max 0 (max (2000 - 4000) (2000 - 11000)) + max 0 (4000 - 2000))) := by
  intro P
  exact ⟨⟨by decide, by decide, by decide⟩, by decide,
    (MarginK.one_iff (T := 2 + 1000) rfl).1 (MarginK.of_enum (by decide +kernel))⟩

end Kalign

import KalignModel.Lemmas.TreeSoftTasks
import KalignModel.Props.C05PipelineSoftL
/-!
# C05 (pipeline) for `kalignRunSoft2`: DP scores *and* the `upgma` guide tree on the software binary32 — no hypothesis about values

`kalignRunSoft2` (Model/TreeSoft.lean; tied to the real `kalign()` by the op `kalign_sys_soft2`, its tree stage by `dist_matrix_soft`,
`upgma_soft`, `tree_soft`, `f32_lenterm`) is `kalignRunSoft` with the `< 100` branch of `bisecting_kmeans` (`d_estimation(…,1)` +
`upgma`) computed on `SoftF32`.  Neither of `Props/C05Pipeline.lean`'s two hypotheses about binary32 values is needed.
`PipelineMonHyp` (meetup monitor): `monHypL_of_bounds` with the leaves of the guide tree, which are `0 … n-1`, each once
(`buildTasks2_tree`).  `PipelineUpgmaHyp` (active entries of every `upgma` matrix below `FLT_MAX`) is proved for `upgmaS`: a distance
entry is `(float)(uint32_t)d + add ≤ 2³² + 1`, a join `(x + y)·0.5F + 0.001F` of entries bounded by `(2²³ + k)·2¹⁰` is bounded by
`(2²³ + k + 1)·2¹⁰`, so after `k < 2²³` rounds every entry is finite and far below `FLT_MAX`, and the scan finds an active pair in
every round (`upgmaS_some`, Lemmas/TreeSoftBound.lean).
`kalignRunSoft2_never_faults_of_nonempty` (`K ≤ 2¹⁷` non-empty sequences of at most `M` residues, `K · M < 2¹⁹`) includes inputs with
100 sequences and more: the control flow of the k-means recursion of the model (`bisectO`, `bestSplit`) does not depend on the
`Float32` values it computes (`bisectO_spec`, `bestSplit_isSome` need only the row lengths of the anchor matrix), and every part
below 100 samples goes through `smallTreeS`.
-/
namespace Kalign.Pipeline
open Kalign Kalign.Kmeans Kalign.SoftF32

/-- number of non-empty input sequences (`msa->numseq` after `kalign_essential_input_check`) -/
def numNonEmpty (inp : List InSeq) : Nat := (inp.filter fun x => x.seq.length ≠ 0).length

theorem numNonEmpty_le (inp : List InSeq) : numNonEmpty inp ≤ inp.length := List.length_filter_le _ _

theorem canon_length_eq (inp : List InSeq) (c : List RSeq) (h : canon inp = some c) : (view c).length = numNonEmpty inp := by
  rw [(canon_view_perm inp c h).length_eq, keptView, numNonEmpty, List.length_map]

/-- **for fewer than 100 sequences the task table depends on `smallTreeS` only** (no `Float32` value is read) -/
theorem buildTasks2_small (avx : Bool) (codes : Array (List Nat)) (hn : codes.size ≠ 0) (hs : codes.size < 100)
    (h13 : ∀ s ∈ codes.toList, ∀ c ∈ s, c < 13) :
    buildTasks2 avx codes =
      match smallTreeS codes (List.range codes.size) with
      | some t => .ok (Kmeans.sortTasks (treeTasks t codes.size)).toArray
      | none => .error .tree := by
  obtain ⟨anchors, dm, _, e⟩ := buildTasksWith_eq (smallTreeS codes) avx codes hn h13
  rw [buildTasks2_eq_with, e]
  unfold bisectO
  have hk : (List.range codes.size).length < kmSmall := by simpa [kmSmall] using hs
  rw [if_pos hk]
  cases smallTreeS codes (List.range codes.size) <;> rfl

/-- **the stages of `kalignRunSoft2` under any detection function never fault**: `K ≤ 2¹⁷` non-empty sequences of at most `M`
residues, `K · M < 2¹⁹` -/
theorem kalignRunWithCB_soft2_never_faults (det : List Nat → Bio) (inp : List InSeq) (type : Int) (gpo gpe tgpe : SoftF32)
    (M : Nat) (hK : numNonEmpty inp ≤ 131072) (hlen : ∀ x ∈ inp, x.seq.length ≤ M) (hprod : numNonEmpty inp * M < 524288) :
    kalignRunWithCB det (buildTasks2 true) (fun bio => paramOfTableS bio.code type gpo gpe tgpe) inp ≠ .error .fuel ∧
    kalignRunWithCB det (buildTasks2 true) (fun bio => paramOfTableS bio.code type gpo gpe tgpe) inp ≠ .error .tree ∧
    kalignRunWithCB det (buildTasks2 true) (fun bio => paramOfTableS bio.code type gpo gpe tgpe) inp ≠ .error .fault ∧
    kalignRunWithCB det (buildTasks2 true) (fun bio => paramOfTableS bio.code type gpo gpe tgpe) inp ≠ .error .monitor := by
  refine kalignRunWithCB_cases det (buildTasks2 true) _ inp fun c hc h2 => ?_
  have hn := canon_length_eq inp c hc
  have hsz := size_treeCodes (bioOf det inp) c
  have hsz2 := size_alnCodes (bioOf det inp) c
  obtain ⟨T, hT, hperm⟩ := buildTasks2_tree true (treeCodes (bioOf det inp) c) (by omega) (by omega)
    (by simpa [treeCodes] using treeCodes_lt13 (bioOf det inp) (view c))
  rw [hsz] at hT hperm
  have hl : ∀ x, x ∈ T.leaves ↔ x < (view c).length := fun x => by rw [hperm.mem_iff, List.mem_range]
  refine ⟨T, hT, hl, fun ap hp => ?_⟩
  have hTl : T.leaves.length = numNonEmpty inp := by rw [hperm.length_eq, List.length_range, hn]
  refine monHypL_of_bounds hp _ T.leaves M (by omega) ?_ (by rw [hTl]; exact hprod)
  intro i hi
  obtain ⟨x, hx, ex⟩ := alnCodes_length_inp hc _ i (by rw [hsz2]; exact (hl i).1 hi)
  rw [ex]
  exact hlen x hx

/-- **all four fault stages of `kalignRunSoft2`: never reached** — `K ≤ 2¹⁷` non-empty sequences of at most `M` residues,
`K · M < 2¹⁹`; every `type`, every penalty triple; no hypothesis about values, none about the guide tree -/
theorem kalignRunSoft2_never_faults_of_nonempty (inp : List InSeq) (type : Int) (gpo gpe tgpe : SoftF32) (M : Nat)
    (hK : numNonEmpty inp ≤ 131072) (hlen : ∀ x ∈ inp, x.seq.length ≤ M) (hprod : numNonEmpty inp * M < 524288) :
    kalignRunSoft2 inp type gpo gpe tgpe ≠ .error .fault ∧ kalignRunSoft2 inp type gpo gpe tgpe ≠ .error .tree ∧
    kalignRunSoft2 inp type gpo gpe tgpe ≠ .error .monitor ∧ kalignRunSoft2 inp type gpo gpe tgpe ≠ .error .fuel := by
  have h := kalignRunWithCB_soft2_never_faults detectF inp type gpo gpe tgpe M hK hlen hprod
  unfold kalignRunSoft2
  cases hr : kalignRunWithCB detectF (buildTasks2 true) (fun bio => paramOfTableS bio.code type gpo gpe tgpe) inp with
  | ok v => simp [Except.map]
  | error e =>
    rw [hr] at h
    simp only [Except.map, ne_eq, Except.error.injEq] at h ⊢
    exact ⟨h.2.2.1, h.2.1, h.2.2.2, h.1⟩

/-- the same with the size hypotheses of `kalignRunSoft_never_fault_monitor`: at most 2¹⁷ sequences of at most `M` residues,
`numseq · M < 2¹⁹` -/
theorem kalignRunSoft2_never_faults (inp : List InSeq) (type : Int) (gpo gpe tgpe : SoftF32) (M : Nat)
    (hn : inp.length ≤ 131072) (hlen : ∀ x ∈ inp, x.seq.length ≤ M) (hprod : inp.length * M < 524288) :
    kalignRunSoft2 inp type gpo gpe tgpe ≠ .error .fault ∧ kalignRunSoft2 inp type gpo gpe tgpe ≠ .error .tree ∧
    kalignRunSoft2 inp type gpo gpe tgpe ≠ .error .monitor ∧ kalignRunSoft2 inp type gpo gpe tgpe ≠ .error .fuel := by
  have hle := numNonEmpty_le inp
  have : numNonEmpty inp * M ≤ inp.length * M := Nat.mul_le_mul_right _ hle
  exact kalignRunSoft2_never_faults_of_nonempty inp type gpo gpe tgpe M (by omega) hlen (by omega)

/-- **fewer than 100 non-empty sequences** (the guide tree is then computed by `d_estimation(…,1)` + `upgma`, entirely on `SoftF32`:
`buildTasks2_small`), `numseq · maxlen < 2¹⁹`: `kalignRunSoft2` never returns `.fault`, `.tree`, `.monitor` or `.fuel` -/
theorem kalignRunSoft2_never_faults_small (inp : List InSeq) (type : Int) (gpo gpe tgpe : SoftF32) (M : Nat)
    (hK : numNonEmpty inp < 100) (hlen : ∀ x ∈ inp, x.seq.length ≤ M) (hprod : numNonEmpty inp * M < 524288) :
    kalignRunSoft2 inp type gpo gpe tgpe ≠ .error .fault ∧ kalignRunSoft2 inp type gpo gpe tgpe ≠ .error .tree ∧
    kalignRunSoft2 inp type gpo gpe tgpe ≠ .error .monitor ∧ kalignRunSoft2 inp type gpo gpe tgpe ≠ .error .fuel :=
  kalignRunSoft2_never_faults_of_nonempty inp type gpo gpe tgpe M (by omega) hlen hprod

/-- **the only errors are the documented rejections**: a byte ≥ 128 (undefined behaviour in C, the model refuses), fewer than two
non-empty sequences, an undecided alphabet, `aln_param_init` rejecting `type` / a penalty -/
theorem kalignRunSoft2_errors (inp : List InSeq) (type : Int) (gpo gpe tgpe : SoftF32) (M : Nat)
    (hK : numNonEmpty inp ≤ 131072) (hlen : ∀ x ∈ inp, x.seq.length ≤ M) (hprod : numNonEmpty inp * M < 524288)
    (e : PipeErr) (he : kalignRunSoft2 inp type gpo gpe tgpe = .error e) :
    e = .badByte ∨ e = .tooFew ∨ e = .alphabet ∨ e = .param := by
  obtain ⟨h1, h2, h3, h4⟩ := kalignRunSoft2_never_faults_of_nonempty inp type gpo gpe tgpe M hK hlen hprod
  rw [he] at h1 h2 h3 h4
  cases e <;> simp at h1 h2 h3 h4 ⊢

/-! non-vacuity (a kernel-evaluated run: Props/C05PipelineSoft2Ex.lean) -/

/-- three DNA sequences of at most 8 residues: the hypotheses hold (`3 < 100`, `3 · 8 < 2¹⁹`) -/
def exInp2 : List InSeq :=
  [{ name := [65], seq := "ACGTACGT".toList }, { name := [66], seq := "ACGTCGT".toList }, { name := [67], seq := "AGTACG".toList }]

example : kalignRunSoft2 exInp2 (-1) (ofRaw 0xbf800000) (ofRaw 0xbf800000) (ofRaw 0xbf800000) ≠ .error .fault ∧
    kalignRunSoft2 exInp2 (-1) (ofRaw 0xbf800000) (ofRaw 0xbf800000) (ofRaw 0xbf800000) ≠ .error .tree ∧
    kalignRunSoft2 exInp2 (-1) (ofRaw 0xbf800000) (ofRaw 0xbf800000) (ofRaw 0xbf800000) ≠ .error .monitor ∧
    kalignRunSoft2 exInp2 (-1) (ofRaw 0xbf800000) (ofRaw 0xbf800000) (ofRaw 0xbf800000) ≠ .error .fuel :=
  kalignRunSoft2_never_faults_small exInp2 (-1) _ _ _ 8 (by decide) (by decide) (by decide)

end Kalign.Pipeline

import KalignModel.Lemmas.CmpGap
import KalignModel.Lemmas.CmpSort
import KalignModel.Lemmas.CmpBound
/-!
# C17 — the comparison score is exact

"kalign_msa_compare returns 100 times the fraction of (residue, partner-or-gap) relations of the
reference alignment that the test alignment reproduces, counted over all sequence pairs: it is 100
when the two alignments are the same up to row order and all-gap columns, it always lies between 0
and 100, and it does not depend on the order of the rows in either file."
Quantifier: all pairs of alignments of the same uniquely named sequences.

Model (Model/Cmp.lean): `comparePair` (tables + six counters of `compare_pair`), `msaCompare`
(`kalign_check_msa(·,1)`, `kalign_sort_msa`, the `i<j` loop), `scoreQ` (exact fraction), `scoreF32`
(the `double` → `float` value the code returns; tied to the code by the correspondence runs only).
Specification: `partners`, `relPair`, `rel`, `scoreSpec` (column-wise, no tables).

Hypotheses and what they stand for:
* `NamesOK R` — "uniquely named": the names are pairwise distinct (the code compares full names
  with `strcmp`) and are C strings (no NUL byte inside);
* `(namedSeqs R).Perm (namedSeqs T)` — the two alignments hold the same named sequences;
* `∀ x ∈ R, x.row.length = wR` — an alignment is rectangular (`alnlen`).
The score is the pair `scoreQ c = (100·identical, total)`; `total = 0` (fewer than two rows, or no
residue at all) is where the code computes `0.0/0.0`.
-/
namespace Kalign
open List

/-- **the six counters of `compare_pair` are the cardinalities of the specification's relations
restricted to that pair of rows** (rows named `s ≠ t`; `a1 a2` from the reference, `b1 b2` from the
test alignment, holding the same two sequences). -/
theorem compare_pair_counts (s t : Name) (hst : s ≠ t) (a1 a2 b1 b2 : Row)
    (hA : a1.length = a2.length) (hB : b1.length = b2.length)
    (h1 : residuesOf b1 = residuesOf a1) (h2 : residuesOf b2 = residuesOf a2) :
    comparePair a1 a2 b1 b2 = some
      (let RA := relPair ⟨s, a1⟩ ⟨t, a2⟩ ++ relPair ⟨t, a2⟩ ⟨s, a1⟩
       let RB := relPair ⟨s, b1⟩ ⟨t, b2⟩ ++ relPair ⟨t, b2⟩ ⟨s, b1⟩
       { refAligned := (RA.filter (·.isAligned)).length
         refGap := (RA.filter (·.isGap)).length
         identAligned := (RA.filter fun e => decide (e ∈ RB) && e.isAligned).length
         identGap := (RA.filter fun e => decide (e ∈ RB) && e.isGap).length
         testAligned := (RB.filter (·.isAligned)).length
         testGap := (RB.filter (·.isGap)).length }) :=
  comparePair_spec s t hst a1 a2 b1 b2 hA hB
    (by rw [nres_eq_length_residuesOf, nres_eq_length_residuesOf, h1])
    (by rw [nres_eq_length_residuesOf, nres_eq_length_residuesOf, h2])

theorem compare_pair_symm (a1 a2 b1 b2 : Row) : comparePair a2 a1 b2 b1 = comparePair a1 a2 b1 b2 :=
  comparePair_symm a1 a2 b1 b2

/-- **the score is the specification**: `100·|rel R ∩ rel T| / |rel R|`, numerator and
denominator separately. -/
theorem score_eq_spec (R T : List NRow) (wR wT : Nat) (hok : NamesOK R)
    (hsame : (namedSeqs R).Perm (namedSeqs T))
    (hrR : ∀ x ∈ R, x.row.length = wR) (hrT : ∀ x ∈ T, x.row.length = wT) :
    ∃ c, msaCompare R T = .ok c ∧ scoreQ c = scoreSpec R T :=
  msaCompare_spec R T wR wT hok hsame hrR hrT

/-- **0 ≤ score ≤ 100** on the exact fraction `num/den` (`0 ≤ num` holds in `Nat`;
`num ≤ 100·den`). -/
theorem score_bounds (R T : List NRow) (wR wT : Nat) (hok : NamesOK R)
    (hsame : (namedSeqs R).Perm (namedSeqs T))
    (hrR : ∀ x ∈ R, x.row.length = wR) (hrT : ∀ x ∈ T, x.row.length = wT) :
    ∃ c, msaCompare R T = .ok c ∧ 0 ≤ (scoreQ c).1 ∧ (scoreQ c).1 ≤ 100 * (scoreQ c).2 := by
  obtain ⟨c, h1, h2⟩ := score_eq_spec R T wR wT hok hsame hrR hrT
  refine ⟨c, h1, Nat.zero_le _, ?_⟩
  rw [h2]
  unfold scoreSpec
  exact Nat.mul_le_mul_left _ (length_filter_le _ _)

/-- the upper bound needs no hypothesis at all: whenever the model of `kalign_msa_compare` returns
a score (no failure, no out-of-bounds/uninitialised read), identical ≤ total -/
theorem score_bounds_unconditional (R T : List NRow) (c : CmpStats) (h : msaCompare R T = .ok c) :
    0 ≤ (scoreQ c).1 ∧ (scoreQ c).1 ≤ 100 * (scoreQ c).2 :=
  ⟨Nat.zero_le _, msaCompare_bound R T c h⟩

/-- **the score does not depend on the order of the rows in either alignment** (nothing else is
assumed about the two alignments: equal results include `fault`). -/
theorem row_order_invariant {R R' T T' : List NRow} (hR : R'.Perm R) (hT : T'.Perm T)
    (hokR : NamesOK R) (hokT : NamesOK T) : msaCompare R' T' = msaCompare R T := by
  unfold msaCompare
  rw [checkMsaStrict_perm hR.symm hokR, checkMsaStrict_perm hT.symm hokT,
    sortMsa_perm hR.symm hokR, sortMsa_perm hT.symm hokT]

/-- the value the C function returns is a function of the exact fraction, hence inherits
`row_order_invariant` -/
theorem scoreF32_row_order_invariant {R R' T T' : List NRow} (hR : R'.Perm R) (hT : T'.Perm T)
    (hokR : NamesOK R) (hokT : NamesOK T) :
    (match msaCompare R' T' with | .ok c => some (scoreF32 c).toBits | _ => none) =
    (match msaCompare R T with | .ok c => some (scoreF32 c).toBits | _ => none) := by
  rw [row_order_invariant hR hT hokR hokT]

def exR : List NRow := [⟨[0x62], "AC-G-".toList⟩, ⟨[0x61], "A-CGT".toList⟩, ⟨[0x63, 0x31], "--CGT".toList⟩]
/-- the same three sequences, other row order, an all-gap column inserted -/
def exT : List NRow := [⟨[0x61], "A.-CGT".toList⟩, ⟨[0x63, 0x31], "-.-CGT".toList⟩, ⟨[0x62], "A.C-G-".toList⟩]
/-- the same sequences aligned differently -/
def exU : List NRow := [⟨[0x61], "ACGT--".toList⟩, ⟨[0x63, 0x31], "-C-G-T".toList⟩, ⟨[0x62], "A-C-G-".toList⟩]

example : NamesOK exR := ⟨by decide +kernel, by decide +kernel⟩
example : (namedSeqs exR).Perm (namedSeqs exU) := by decide +kernel
example : (∀ x ∈ exR, x.row.length = 5) ∧ (∀ x ∈ exT, x.row.length = 6) ∧ (∀ x ∈ exU, x.row.length = 6) := by decide +kernel
example : SameModAllGap exR exT :=
  ⟨[], [false, true], by decide +kernel, by decide +kernel, by decide +kernel⟩
example : (⟨[0x62], "AC-G-".toList⟩ : NRow).name ≠ (⟨[0x61], "A-CGT".toList⟩ : NRow).name := by decide

/-- the defect repaired by commit 0022995: two names that differ only after byte 256 are "uniquely
named" (before, `kalign_check_msa` saw duplicates and `kalign_msa_compare` returned FAIL) -/
def exLate : List NRow :=
  [⟨replicate 256 0x41 ++ [0x42], "AC-G".toList⟩, ⟨replicate 256 0x41 ++ [0x43], "A-CG".toList⟩]

theorem late_names_ok : NamesOK exLate ∧ checkMsaStrict exLate = true := by
  have h : NamesOK exLate := by
    constructor
    · show ([replicate 256 0x41 ++ [0x42], replicate 256 0x41 ++ [0x43]] : List Name).Nodup
      rw [nodup_cons]
      refine ⟨?_, Pairwise.cons (fun _ h => by cases h) Pairwise.nil⟩
      intro hm
      rw [mem_singleton] at hm
      have := append_cancel_left hm
      exact absurd this (by decide)
    · intro x hx
      simp only [exLate, mem_cons, not_mem_nil, or_false] at hx
      rcases hx with rfl | rfl <;>
      · intro b hb
        simp only [mem_append, mem_replicate, mem_singleton] at hb
        rcases hb with ⟨_, rfl⟩ | rfl <;> decide
  exact ⟨h, checkMsaStrict_of_namesOK h⟩

/-- **exactness, converse direction**: the code returns numerator = 100·denominator *only if* every
(residue, partner-or-gap) relation of the reference is reproduced by the test alignment — 100 is
never reported for an alignment that loses a relation. -/
theorem score_100_only_if_all_reproduced (R T : List NRow) (wR wT : Nat) (hok : NamesOK R)
    (hsame : (namedSeqs R).Perm (namedSeqs T))
    (hrR : ∀ x ∈ R, x.row.length = wR) (hrT : ∀ x ∈ T, x.row.length = wT) :
    ∃ c, msaCompare R T = .ok c ∧
      ((scoreQ c).1 = 100 * (scoreQ c).2 ↔ ∀ e ∈ rel R, e ∈ rel T) := by
  obtain ⟨c, h1, h2⟩ := score_eq_spec R T wR wT hok hsame hrR hrT
  refine ⟨c, h1, ?_⟩
  rw [h2]
  unfold scoreSpec
  simp only
  rw [Nat.mul_left_cancel_iff (by decide), List.length_filter_eq_length_iff]
  simp

/-- **100 when the alignments are the same up to row order and all-gap columns**: numerator =
100 · denominator. -/
theorem score_100_of_same_mod_allgap (R T : List NRow) (wR wT : Nat) (hok : NamesOK R)
    (hrR : ∀ x ∈ R, x.row.length = wR) (hrT : ∀ x ∈ T, x.row.length = wT)
    (h : SameModAllGap R T) :
    ∃ c, msaCompare R T = .ok c ∧ (scoreQ c).1 = 100 * (scoreQ c).2 := by
  obtain ⟨c, h1, hiff⟩ :=
    score_100_only_if_all_reproduced R T wR wT hok (namedSeqs_perm_of_sameModAllGap h) hrR hrT
  exact ⟨c, h1, hiff.2 (rel_subset_of_sameModAllGap hrR hrT h)⟩

theorem score_lt_100_of_lost_relation (R T : List NRow) (wR wT : Nat) (hok : NamesOK R)
    (hsame : (namedSeqs R).Perm (namedSeqs T))
    (hrR : ∀ x ∈ R, x.row.length = wR) (hrT : ∀ x ∈ T, x.row.length = wT)
    (e : Rel) (heR : e ∈ rel R) (heT : e ∉ rel T) :
    ∃ c, msaCompare R T = .ok c ∧ (scoreQ c).1 < 100 * (scoreQ c).2 := by
  obtain ⟨c, h1, hiff⟩ := score_100_only_if_all_reproduced R T wR wT hok hsame hrR hrT
  refine ⟨c, h1, ?_⟩
  have hle := (score_bounds_unconditional R T c h1).2
  have hne : (scoreQ c).1 ≠ 100 * (scoreQ c).2 := fun h => heT (hiff.1 h e heR)
  omega

example : ∃ e ∈ rel exR, e ∉ rel exU := by decide +kernel
end Kalign

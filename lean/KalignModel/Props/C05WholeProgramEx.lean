import KalignModel.Props.C05WholeProgram
import KalignModel.Props.C05PipelineSoft2Tree
/-!
# `kalignFileSoft2` on a concrete two-file input (non-vacuity of Props/C05WholeProgram.lean)

Two FASTA files, `>A ACGTC >B ACTC` and `>C AGT`.  The kernel evaluates the readers on both files (`exRecs12`), hence the records of
the msa the reading loop returns and the size bound (`exSizeOK`); the run stage (`exKalignRun`: the input is in canonical order, so the
well-founded `List.mergeSort` of the two sorts is removed with `mergeSort_of_pairwise`; the guide tree is `exBuild` of
Props/C05PipelineSoft2Tree.lean); and the FASTA writer (`exWriteFasta`; the Clustal and MSF writers sort their line buffer with the well-founded
`List.mergeSort`, which the kernel does not unfold).

What the kernel cannot evaluate is the binary64 arithmetic of `detect_alphabet` (Lean's `Float`): whether the second file is
accepted by `merge_msa` and the `biotype` of the msa.  These enter `exRun` as the hypotheses `readFiles … = .ok m` and
`m.biotype = 1`; `#eval` of the same term confirms both (the result is the file `exOutFasta`).
-/
namespace Kalign.PipelineFile
open Kalign Kalign.IO Kalign.Pipeline Kalign.SoftF32 List

def exF1 : Bytes := ascii ">A\nACGTC\n>B\nACTC\n"
def exF2 : Bytes := ascii ">C\nAGT\n"
def exFiles : List (Option Bytes) := [some exF1, some exF2]

def exSeqs : List SeqRec :=
  [⟨ascii "A", ascii "ACGTC", [0, 0, 0, 0, 0, 0]⟩, ⟨ascii "B", ascii "ACTC", [0, 0, 0, 0, 0]⟩, ⟨ascii "C", ascii "AGT", [0, 0, 0, 0]⟩]

set_option maxRecDepth 100000 in
theorem exRecs12 : ([exF1, exF2].map fileRecs).flatten = exSeqs := by decide +kernel

theorem exRead (m : Msa) (h : readFiles exFiles = .ok m) : m.seqs = exSeqs := by
  rw [(readFiles_seqs exFiles m h).1]
  exact exRecs12

theorem exSizeOK (m : Msa) (h : readFiles exFiles = .ok m) : SizeOK m := by
  unfold SizeOK maxLen
  rw [exRead m h]
  decide

/-- **non-vacuity**: the hypothesis of `kalignFileSoft2_never_faults` holds for the two files -/
theorem exNeverFaults (ver base date : Bytes) (type : Int) (gpo gpe tgpe : SoftF32) (fmt : Option String) :
    kalignFileSoft2 ver base date exFiles type gpo gpe tgpe fmt ≠ .error .readFault ∧
    kalignFileSoft2 ver base date exFiles type gpo gpe tgpe fmt ≠ .error .writeFault ∧
    kalignFileSoft2 ver base date exFiles type gpo gpe tgpe fmt ≠ .error (.run .fault) ∧
    kalignFileSoft2 ver base date exFiles type gpo gpe tgpe fmt ≠ .error (.run .tree) ∧
    kalignFileSoft2 ver base date exFiles type gpo gpe tgpe fmt ≠ .error (.run .monitor) ∧
    kalignFileSoft2 ver base date exFiles type gpo gpe tgpe fmt ≠ .error (.run .fuel) ∧
    kalignFileSoft2 ver base date exFiles type gpo gpe tgpe fmt ≠ .error (.run .badByte) :=
  kalignFileSoft2_never_faults ver base date exFiles type gpo gpe tgpe fmt exSizeOK

/-- **non-vacuity of `kalignFileSoft2_errors`** -/
theorem exErrors (ver base date : Bytes) (type : Int) (gpo gpe tgpe : SoftF32) (fmt : Option String) (e : FileErr)
    (he : kalignFileSoft2 ver base date exFiles type gpo gpe tgpe fmt = .error e) :
    e = .read ∨ e = .noInput ∨ e = .run .tooFew ∨ e = .run .alphabet ∨ e = .run .param ∨ e = .format :=
  kalignFileSoft2_errors ver base date exFiles type gpo gpe tgpe fmt exSizeOK e he

/-- a missing file among the inputs: the hypothesis of `kalignFileSoft2_never_faults` holds trivially (the reading loop fails), the answer is `.read` -/
example (ver base date : Bytes) (type : Int) (gpo gpe tgpe : SoftF32) (fmt : Option String) :
    kalignFileSoft2 ver base date [some exF1, none, some exF2] type gpo gpe tgpe fmt = .error .read :=
  kalignFileSoft2_missing_file ver base date _ type gpo gpe tgpe fmt (by decide)

/-- the default penalty argument `-1.0F` -/
def exD : SoftF32 := ofRaw 0xbf800000

def exInp : List InSeq :=
  [⟨ascii "A", "ACGTC".toList⟩, ⟨ascii "B", "ACTC".toList⟩, ⟨ascii "C", "AGT".toList⟩]

def exCanon : List RSeq :=
  [⟨ascii "A", "ACGTC".toList, 0⟩, ⟨ascii "B", "ACTC".toList, 1⟩, ⟨ascii "C", "AGT".toList, 2⟩]

def exGRows : List GRow :=
  [[some 'A', some 'C', some 'G', some 'T', some 'C'], [some 'A', some 'C', none, some 'T', some 'C'],
   [some 'A', some 'G', none, some 'T', none]]

def exRows : List (Name × GRow) := [ascii "A", ascii "B", ascii "C"].zip exGRows

theorem exInpEq : exSeqs.map toInSeq = exInp := by decide +kernel

theorem exCanonEq : canon exInp = some exCanon := by
  have h : essentialInputCheck exInp = some exCanon := by decide +kernel
  unfold canon
  rw [h]
  simp only [Option.map_some, Option.some.injEq]
  exact mergeSort_of_pairwise (by decide)

theorem exCodesEq : ((view exCanon).map fun x => bytesOf x.2).map (convertN 5) = exCodes.toList := by decide +kernel

def exPmDna : Option (AlnParam SoftF32) := paramOfTableS Bio.dna.code (-1) exD exD exD

set_option maxRecDepth 100000 in
/-- `aln_param_init` for DNA with default penalties and the whole progressive alignment on `SoftF32`, on the task table
`exBuild` — one sequence–sequence and one sequence–profile Hirschberg run with their monitors: the gap vectors -/
theorem exCoreDna : (coreCB (fun _ => .ok #[(1, 2, 3), (0, 3, 4)]) exPmDna exCodes.toList exCodes.toList).toOption =
    some [[0, 0, 0, 0, 0, 0], [0, 0, 1, 0, 0], [0, 0, 1, 1]] := by
  decide +kernel

/-- stages 3–7 of `kalign_run` (conversion, guide tree, parameters, progressive alignment, `make_linear_sequence`) -/
theorem exStages : stagesCB (buildTasks2 true) Bio.dna (fun bio => paramOfTableS bio.code (-1) exD exD exD) (view exCanon) =
    .ok exGRows := by
  unfold stagesCB
  simp only [treeAlphabet, alnAlphabet]
  rw [exCodesEq]
  have hc := exCoreDna
  rw [← coreCB_congr (buildTasks2 true) (fun _ => .ok #[(1, 2, 3), (0, 3, 4)]) exPmDna exCodes.toList exCodes.toList
    (by rw [Array.toArray_toList]; exact exBuild)] at hc
  change (coreCB (buildTasks2 true) (paramOfTableS Bio.dna.code (-1) exD exD exD) exCodes.toList exCodes.toList).toOption = _ at hc
  cases hcore : coreCB (buildTasks2 true) (paramOfTableS Bio.dna.code (-1) exD exD exD) exCodes.toList exCodes.toList with
  | error e => rw [hcore] at hc; cases hc
  | ok gaps =>
    rw [hcore] at hc
    simp only [Except.toOption, Option.some.injEq] at hc
    subst hc
    simp only [Except.ok.injEq]
    decide +kernel

theorem exFinish : finish exCanon exGRows = exRows := by
  unfold finish sortRankBy
  rw [mergeSort_of_pairwise (by decide)]
  decide +kernel

theorem exKalignRun : kalignRunWithCB (fun _ => Bio.dna) (buildTasks2 true)
    (fun bio => paramOfTableS bio.code (-1) exD exD exD) exInp = .ok exRows := by
  unfold kalignRunWithCB
  have hb : hasBadByte exInp = false := by decide +kernel
  have hbio : bioOf (fun _ => Bio.dna) exInp = Bio.dna := rfl
  simp only [hb, Bool.false_eq_true, if_false, hbio, exCanonEq, exStages, exFinish]

theorem inSeqs_eq (m : Msa) : (dealignStep m).seqs.map toInSeq = m.seqs.map toInSeq := by
  unfold dealignStep
  split
  · simp [toInSeq, Function.comp_def]
  · rfl

theorem exRunMsa (m : Msa) (h : readFiles exFiles = .ok m) (hbio : m.biotype = 1) :
    runMsaSoft2 m (-1) exD exD exD = .ok exRows := by
  unfold runMsaSoft2
  simp only [gapsClear_of_read exFiles m h, Bool.not_true, Bool.false_eq_true, if_false, dealignStep_biotype, hbio,
    inSeqs_eq, exRead m h, exInpEq]
  exact exKalignRun

def exOutFasta : Bytes := ascii ">A\nACGTC\n>B\nAC-TC\n>C\nAG-T-\n"

def wrOut : WriteResult → Option Bytes
  | .ok b => some b
  | _ => none

set_option maxRecDepth 100000 in
theorem exWriteFasta : wrOut (writeMsa (ascii "3.4.1") exDate (fmtBytes (some "fasta")) (alignmentOf exRows 1 (ascii "out.fa"))) =
    some exOutFasta := by decide +kernel

/-- **the whole program on the two files**: reading loop, `dealign_msa`, `kalign_run` on `SoftF32`, `kalign_write_msa` — everything
evaluated by the kernel except the binary64 alphabet detector, whose two verdicts are the hypotheses `h` (the second file is merged)
and `hbio` (the msa is DNA).  `#eval kalignFileSoft2 (ascii "3.4.1") (ascii "out.fa") exDate exFiles (-1) exD exD exD (some "fasta")`
returns `.ok exOutFasta`. -/
theorem exRun (m : Msa) (h : readFiles exFiles = .ok m) (hbio : m.biotype = 1) :
    kalignFileSoft2 (ascii "3.4.1") (ascii "out.fa") exDate exFiles (-1) exD exD exD (some "fasta") = .ok exOutFasta := by
  unfold kalignFileSoft2 kalignFileWith
  rw [h]
  simp only [exRunMsa m h hbio, dealignStep_biotype, hbio]
  have hw := exWriteFasta
  cases hwr : writeMsa (ascii "3.4.1") exDate (fmtBytes (some "fasta")) (alignmentOf exRows 1 (ascii "out.fa")) with
  | fail => rw [hwr] at hw; cases hw
  | fault => rw [hwr] at hw; cases hw
  | ok b =>
    rw [hwr] at hw
    simp only [wrOut, Option.some.injEq] at hw
    rw [hw]

example (m : Msa) (h : readFiles exFiles = .ok m) (hbio : m.biotype = 1) :
    ∃ m A t, Wrote (ascii "3.4.1") (ascii "out.fa") exDate exFiles (some "fasta") exOutFasta m A t ∧
      A.rows.map (fun r => (r.name, r.row.filter (· ≠ 45))) = keptRecs m.seqs ∧
      (∀ r ∈ A.rows, ∀ b ∈ r.row, b = 45 ∨ isAlpha b = true) ∧
      (∀ r ∈ A.rows, r.row.length = A.alnlen) ∧ 2 ≤ A.rows.length ∧
      (t = 1 → FastaShape A exOutFasta) ∧ (t = 3 → CluShape (ascii "3.4.1") A exOutFasta) ∧ (t = 2 → MsfShape exDate A exOutFasta) :=
  kalignFileSoft2_ok_shape (exRun m h hbio)

end Kalign.PipelineFile

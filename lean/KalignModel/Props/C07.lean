import KalignModel.Lemmas.H1
import KalignModel.Lemmas.RealKernels
import KalignModel.Model.DoAlign
import KalignModel.Props.C01
/-!
# C07 — the Hirschberg controller (aln_controller.c)

The model of `aln_runner` — which calls `aln_runner_serial(m)` *without* `return` when `enda - starta < 500` and then
falls through into the same code again — is the same function as `aln_runner_serial`, for every memory, every fuel and
every kernel whose meetup delivers one of the six transitions {1,2,3,5,6,7} — in `ALN_MODE_FULL` (`scoreOnly = false`), the only mode
kalign uses; in score-only mode the code fallen into overwrites `m->score` with the score of the upper half.
`C07_hirschberg_path_ok` (H1): if every meetup result of a serial run satisfies `meetupContract`, the path
written for `len_a ≥ 1`, `len_b ≥ 1` satisfies `pathOK len_b` (Lemmas/PathCols.lean: partners strictly increasing within
`1..len_b`, no gap-in-a run adjacent to a gap-in-b run).  With `C01_expandPath_valid` this is obligation **H**
of C01/C10 (`C07_columns_valid`).
-/
namespace Kalign
variable {φ α : Type}

/-- the missing `return` in `aln_runner` is harmless: same function as `aln_runner_serial` -/
theorem C07_runner_eq_serial (K : Kernels φ α) (hK : K.ValidTrans) (n : Nat) (m : Mem φ α) :
    runner K false n m = runnerSerial K false n m :=
  runner_eq_runnerSerial K hK n m

/-- in particular below the switch (`enda - starta < 500`), where `aln_runner` really executes
`aln_runner_serial(m)` first and then continues -/
theorem C07_runner_small_eq_serial (K : Kernels φ α) (hK : K.ValidTrans) (n : Nat) (m : Mem φ α)
    (_hsmall : m.enda - m.starta < 500) :
    (runner K false n m).path = (runnerSerial K false n m).path := by
  rw [runner_eq_runnerSerial K hK n m]

/-- toy kernel: transition −1 on rectangles with `enda = 4`, otherwise "aligned/aligned at `startb`" -/
def toyKernels : Kernels Unit Int :=
  { get0 := fun _ => ⟨0, 0, 0⟩, set0 := fun _ _ => (), stA := ⟨0, 0, 0⟩, stGA := ⟨0, 0, 0⟩, stGB := ⟨0, 0, 0⟩
    step := fun _ _ _ _ ea sb _ => some ⟨(), (), sb, if ea = 4 then -1 else 1, 0⟩ }

def toyMem : Mem Unit Int :=
  { f := (), b := (), path := Array.replicate 6 (-1), starta := 0, enda := 4, startb := 0, endb := 4,
    starta2 := 0, enda2 := 0, score := none, fk := .A, bk := .A, mon := true, fault := false, trace := [] }

/-- with a transition −1 the fall-through is **not** harmless: `aln_runner_serial` leaves the path untouched,
`aln_runner` re-runs on rows 0..2 and writes entries -/
theorem C07_fallthrough_not_harmless :
    (runnerSerial toyKernels false 10 toyMem).path.toList = [-1, -1, -1, -1, -1, -1] ∧
    (runner toyKernels false 10 toyMem).path.toList = [-1, 0, 1, -1, -1, -1] := by
  decide

/-- **H1.** Serial controller, any kernels.  Start: the memory `init_alnmem` produces (full rectangle
`0..len_a × 0..len_b`, both start kinds `A`, path entries −1), `len_a, len_b ≥ 1`.  If the run did not fault and every
meetup result satisfied `meetupContract` (`mon`), the path `path[1..len_a]` is well-shaped. -/
theorem C07_hirschberg_path_ok (K : Kernels φ α) (n : Nat) (m : Mem φ α) (lenA lenB : Nat)
    (hsa : m.starta = 0) (hea : m.enda = lenA) (hsb : m.startb = 0) (heb : m.endb = lenB)
    (hfk : m.fk = .A) (hbk : m.bk = .A)
    (hA : 1 ≤ lenA) (hB : 1 ≤ lenB)
    (hpath : ∀ i : Int, 0 < i → i ≤ lenA → m.pe i = -1)
    (hfault : (runnerSerial K false n m).fault = false)
    (hmon : (runnerSerial K false n m).mon = true) :
    pathOK lenB ((runnerSerial K false n m).pathEntries lenA) = true := by
  have hseg := runnerSerial_seg K n m hfault hmon (by omega) (by omega) (by omega) (by omega)
    (fun i h1 h2 => hpath i (by omega) (by omega))
  rw [hsa, hea, hsb, heb, hfk, hbk] at hseg
  have := pathOKAux_of_segOKf (runnerSerial K false n m).pe lenB lenA 0 0 .A (by decide)
    (by simpa using hseg)
  have hkb : (Kind.A == Kind.GB) = false := by decide
  rw [hkb] at this
  simpa [pathOK, Mem.pathEntries, Mem.pe] using this

/-- run-time form of `C07_runner_eq_serial`: needs the six transitions only on the calls the serial run makes -/
theorem C07_runner_eq_serial_of_mon (K : Kernels φ α) (n : Nat) (m : Mem φ α)
    (hfault : (runnerSerial K false n m).fault = false) (hmon : (runnerSerial K false n m).mon = true) :
    runner K false n m = runnerSerial K false n m :=
  runner_eq_runnerSerial_of_mon K n m hfault hmon

/-- H1 for `aln_runner` (what `do_align` calls) -/
theorem C07_hirschberg_path_ok_runner (K : Kernels φ α) (n : Nat) (m : Mem φ α) (lenA lenB : Nat)
    (hsa : m.starta = 0) (hea : m.enda = lenA) (hsb : m.startb = 0) (heb : m.endb = lenB)
    (hfk : m.fk = .A) (hbk : m.bk = .A)
    (hA : 1 ≤ lenA) (hB : 1 ≤ lenB)
    (hpath : ∀ i : Int, 0 < i → i ≤ lenA → m.pe i = -1)
    (hfault : (runnerSerial K false n m).fault = false)
    (hmon : (runnerSerial K false n m).mon = true) :
    pathOK lenB ((runner K false n m).pathEntries lenA) = true := by
  rw [runner_eq_runnerSerial_of_mon K n m hfault hmon]
  exact C07_hirschberg_path_ok K n m lenA lenB hsa hea hsb heb hfk hbk hA hB hpath hfault hmon

section real
variable {β : Type} [Score β]

/-- H1 for the real kernels (any score carrier), either entry point, from the memory `init_alnmem` sets up:
if the serial run passes the monitor, the path is well-shaped, and `add_gap_info_to_path_n` turns it into a valid
column list for `make_seq` (obligation **H** of C01/C10). -/
theorem C07_columns_valid (entry : Entry) (ap : AlnParam β) (ops : Operands β) (lenA lenB : Nat)
    (hA : 1 ≤ lenA) (hB : 1 ≤ lenB)
    (hfault : (alnRun .serial ap ops lenA lenB (initMem lenA lenB)).fault = false)
    (hmon : (alnRun .serial ap ops lenA lenB (initMem lenA lenB)).mon = true) :
    let path := (alnRun entry ap ops lenA lenB (initMem lenA lenB)).pathEntries lenA
    pathOK lenB path = true ∧
    ∃ codes, expandPath lenB path = some codes ∧ ValidCols (codes.map Col.ofCode) lenA lenB := by
  intro path
  have hp : pathOK lenB path = true := by
    cases entry with
    | serial =>
      exact C07_hirschberg_path_ok _ _ _ lenA lenB rfl rfl rfl rfl rfl rfl hA hB
        (fun i _ _ => initMem_pe lenA lenB i) hfault hmon
    | parallel =>
      exact C07_hirschberg_path_ok_runner _ _ _ lenA lenB rfl rfl rfl rfl rfl rfl hA hB
        (fun i _ _ => initMem_pe lenA lenB i) hfault hmon
  refine ⟨hp, ?_⟩
  have hlen : path.length = lenA := by simp [path, Mem.pathEntries]
  have hne : path ≠ [] := by
    intro h; rw [h] at hlen; simp at hlen; omega
  obtain ⟨codes, h1, h2⟩ := C01_expandPath_valid lenB path hB hne hp
  exact ⟨codes, h1, by rw [← hlen]; exact h2⟩

end real

/-! ### non-vacuity: the real kernels on the exact carrier pass the monitor -/

/-- DNA-like parameters on the exact carrier (units of 1/2000): match 5, mismatch −4, gpo 8, gpe 6, tgpe 0 -/
def exParam : AlnParam ExactScore :=
  { subm := (Array.range 5).map fun i => (Array.range 5).map fun j => if i = j then some 10000 else some (-8000)
    gpo := some 16000, gpe := some 12000, tgpe := some 0 }

def exRun (entry : Entry) (s1 s2 : Array Nat) : Mem (Array (States ExactScore)) ExactScore :=
  alnRun entry exParam (.seqseq s1 s2) s1.size s2.size (initMem s1.size s2.size)

example : (exRun .serial #[0, 1, 2, 3] #[0, 2, 3, 3, 1]).fault = false := by decide +kernel
example : (exRun .serial #[0, 1, 2, 3] #[0, 2, 3, 3, 1]).mon = true := by decide +kernel
example : (exRun .serial #[0, 1, 2, 3] #[0, 2, 3, 3, 1]).pathEntries 4 = [1, 2, 3, 4] := by decide +kernel
example : (exRun .parallel #[0, 1, 2, 3] #[0, 2, 3, 3, 1]).pathEntries 4 = [1, 2, 3, 4] := by decide +kernel
/-- a run that uses transition 6 at `endb` (gap-in-b run at the end of b) -/
example : (exRun .serial #[0, 1, 2, 3, 0, 0, 1] #[0, 2, 3, 3, 1, 2, 0, 1]).mon = true := by decide +kernel
example : (exRun .serial #[0, 1, 2, 3, 0, 0, 1] #[0, 2, 3, 3, 1, 2, 0, 1]).pathEntries 7 = [7, 8, -1, -1, -1, -1, -1] := by
  decide +kernel
example : ((exRun .serial #[0, 1, 2, 3, 0, 0, 1] #[0, 2, 3, 3, 1, 2, 0, 1]).trace.reverse.map (·.transition)) = [6, 1] := by
  decide +kernel
/-- the toy kernel violates the hypothesis of `C07_runner_eq_serial`, as it must -/
example : toyKernels.ValidTrans → False := fun h => by
  have := h () () 0 2 4 0 4 _ rfl
  revert this; decide

end Kalign

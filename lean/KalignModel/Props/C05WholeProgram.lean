import KalignModel.Lemmas.PipelineFileSoft
import KalignModel.Props.C05PipelineSoft2
import KalignModel.Props.PipelineFile
import KalignModel.Props.C05
/-!
# C05 for the whole program: no input within the size bound makes the whole-program model fault

`kalignFileSoft2` (Model/PipelineFileSoft.lean) is `run_kalign()` — the reading loop over the input files, `dealign_msa`,
`kalign_run`, `kalign_write_msa` — with every DP score and the `< 100`-sequence guide tree on the software binary32 `SoftF32`
(tied bit for bit to C `float`); it is tied byte for byte to the running code by the op `kalign_file_soft2`
(Driver/PipelineFileSoft.lean, harness/ops_pipefile.c, `tools/gen_pipefile.py <seed> <scale> kalign_file_soft2`).
It differs from `kalignFile` in the carrier of the run stage only (`kalignFile_eq_with`: both are the frame `kalignFileWith`).

Non-vacuity: Props/C05WholeProgramEx.lean (a two-file input, the SoftF32 stages and the writer evaluated by the kernel).
-/
namespace Kalign.PipelineFile
open Kalign Kalign.IO Kalign.Pipeline List

theorem kalignFile_eq_with (ver base date : Bytes) (files : List (Option Bytes)) (type : Int) (gpo gpe tgpe : Float32)
    (fmt : Option String) :
    kalignFile ver base date files type gpo gpe tgpe fmt =
      kalignFileWith (fun m => runMsa m type gpo gpe tgpe) ver base date files fmt := rfl

/-- `max_i msa->sequences[i]->len` -/
def maxLen (m : Msa) : Nat := (m.seqs.map fun s => s.res.length).foldl max 0

/-- the size bound of `kalignRunSoft2_never_faults` on the msa the reading loop returns: `numseq ≤ 2¹⁷` and
`numseq · maxlen < 2¹⁹` (all records count, the empty ones included) -/
def SizeOK (m : Msa) : Prop := m.seqs.length ≤ 131072 ∧ m.seqs.length * maxLen m < 524288

instance (m : Msa) : Decidable (SizeOK m) := by unfold SizeOK; exact inferInstance

theorem le_maxLen (m : Msa) : ∀ s ∈ m.seqs, s.res.length ≤ maxLen m := by
  intro s hs
  exact (IO.foldl_max_ge id _ 0).2 _ (mem_map_of_mem hs)

theorem inSeqs_length (m : Msa) : ((dealignStep m).seqs.map toInSeq).length = m.seqs.length := by
  unfold dealignStep
  split <;> simp

theorem inSeqs_len_le (m : Msa) (M : Nat) (h : ∀ s ∈ m.seqs, s.res.length ≤ M) :
    ∀ x ∈ (dealignStep m).seqs.map toInSeq, x.seq.length ≤ M := by
  intro x hx
  have hnr := dealignStep_names_res m
  obtain ⟨s', hs', rfl⟩ := mem_map.1 hx
  have : (s'.name, s'.res) ∈ namesRes m.seqs := by
    rw [← hnr]
    exact mem_map.2 ⟨s', hs', rfl⟩
  obtain ⟨s, hs, he⟩ := mem_map.1 this
  simp only [Prod.mk.injEq] at he
  simp only [toInSeq, length_map]
  rw [← he.2]
  exact h s hs

theorem isAlpha_lt_128 (b : UInt8) (h : isAlpha b = true) : b.toNat < 128 := by
  simp only [isAlpha, isUpper, isLower, Bool.or_eq_true, Bool.and_eq_true, decide_eq_true_eq, UInt8.le_iff_toNat_le] at h
  have e1 : (90 : UInt8).toNat = 90 := rfl
  have e2 : (122 : UInt8).toNat = 122 := rfl
  omega

/-- the readers keep `isalpha` bytes only: no residue byte ≥ 128 reaches `kalign_run` on the file path -/
theorem noBadByte_of_recOK (m : Msa) (hrec : ∀ s ∈ m.seqs, RecOK s) :
    hasBadByte ((dealignStep m).seqs.map toInSeq) = false := by
  have hnr := dealignStep_names_res m
  unfold hasBadByte
  rw [any_eq_false]
  intro x hx
  obtain ⟨s', hs', rfl⟩ := mem_map.1 hx
  have : (s'.name, s'.res) ∈ namesRes m.seqs := by
    rw [← hnr]
    exact mem_map.2 ⟨s', hs', rfl⟩
  obtain ⟨s, hs, he⟩ := mem_map.1 this
  simp only [Prod.mk.injEq] at he
  simp only [toInSeq, Bool.not_eq_true]
  rw [any_eq_false]
  intro c hc
  obtain ⟨b, hb, rfl⟩ := mem_map.1 hc
  rw [← he.2] at hb
  have := isAlpha_lt_128 b ((hrec s hs).1 b hb)
  rw [byteChar_toNat]
  simp only [decide_eq_true_eq]
  omega

theorem readFiles_ne_fault (files : List (Option Bytes)) : readFiles files ≠ .fault := by
  unfold readFiles
  have := C05_read_many_never_faults ((files.takeWhile Option.isSome).filterMap id) none
  split
  · rename_i h; exact absurd h this
  · simp
  · split
    · assumption
    · simp

theorem runMsaSoft2_ne_badByte (files : List (Option Bytes)) (m : Msa) (h : readFiles files = .ok m) (type : Int)
    (gpo gpe tgpe : SoftF32) : runMsaSoft2 m type gpo gpe tgpe ≠ .error .badByte := by
  rw [runMsaSoft2_of_read files m h]
  exact kalignRunWithCB_soft2_ne_badByte _ _ _ _ (noBadByte_of_recOK m (readFiles_seqs files m h).2)

theorem runMsaSoft2_never_faults (files : List (Option Bytes)) (m : Msa) (h : readFiles files = .ok m) (hs : SizeOK m)
    (type : Int) (gpo gpe tgpe : SoftF32) :
    runMsaSoft2 m type gpo gpe tgpe ≠ .error .fuel ∧ runMsaSoft2 m type gpo gpe tgpe ≠ .error .tree ∧
    runMsaSoft2 m type gpo gpe tgpe ≠ .error .fault ∧ runMsaSoft2 m type gpo gpe tgpe ≠ .error .monitor := by
  rw [runMsaSoft2_of_read files m h]
  have hle := numNonEmpty_le ((dealignStep m).seqs.map toInSeq)
  rw [inSeqs_length] at hle
  have hmul : numNonEmpty ((dealignStep m).seqs.map toInSeq) * maxLen m ≤ m.seqs.length * maxLen m :=
    Nat.mul_le_mul_right _ hle
  exact kalignRunWithCB_soft2_never_faults _ _ type gpo gpe tgpe (maxLen m) (by have := hs.1; omega)
    (inSeqs_len_le m _ (le_maxLen m)) (by have := hs.2; omega)

theorem writeMsa_ne_fault_of_spec {m : Msa} {rows : List (Name × GRow)} (h : RunSpec m rows) (ver date : Bytes)
    (fmt : Option Bytes) (bio : Nat) (base : Bytes) : writeMsa ver date fmt (alignmentOf rows bio base) ≠ .fault := by
  have hin : (alignmentOf rows bio base).InBounds := by
    intro r hr
    rw [alignmentOf_rows_length h bio base r hr]
    exact Nat.le_refl _
  unfold writeMsa
  split
  · simp
  · simp only [hin, not_true_eq_false, if_false]
    repeat' split
    all_goals simp

/-- without any size bound: the reader's and the writer's fault values and `.run .badByte` (a residue byte ≥ 128 handed to
`kalign_run`) are never the result -/
theorem kalignFileSoft2_never_readFault_writeFault_badByte (ver base date : Bytes) (files : List (Option Bytes)) (type : Int)
    (gpo gpe tgpe : SoftF32) (fmt : Option String) :
    kalignFileSoft2 ver base date files type gpo gpe tgpe fmt ≠ .error .readFault ∧
    kalignFileSoft2 ver base date files type gpo gpe tgpe fmt ≠ .error .writeFault ∧
    kalignFileSoft2 ver base date files type gpo gpe tgpe fmt ≠ .error (.run .badByte) := by
  refine ⟨fun h => readFiles_ne_fault files (kalignFileWith_cases h), fun h => ?_, fun h => ?_⟩
  · obtain ⟨m, rows, _, hrun, hw⟩ := kalignFileWith_cases h
    exact writeMsa_ne_fault_of_spec (runMsaSoft2_spec hrun) ver date (fmtBytes fmt) (dealignStep m).biotype base hw
  · obtain ⟨m, hr, hrun⟩ := kalignFileWith_cases h
    exact runMsaSoft2_ne_badByte files m hr type gpo gpe tgpe hrun

/-- **C05 for the whole program.**  For every list of input files — arbitrary bytes, paths
that do not exist —, every `type`, every penalty triple (any binary32 bit patterns) and every format word: if the msa the reading
loop returns is within the size bound (`hsize`; nothing is asked when the loop fails or reads nothing), the whole-program model
returns none of its fault values. -/
theorem kalignFileSoft2_never_faults (ver base date : Bytes) (files : List (Option Bytes)) (type : Int)
    (gpo gpe tgpe : SoftF32) (fmt : Option String) (hsize : ∀ m, readFiles files = .ok m → SizeOK m) :
    kalignFileSoft2 ver base date files type gpo gpe tgpe fmt ≠ .error .readFault ∧
    kalignFileSoft2 ver base date files type gpo gpe tgpe fmt ≠ .error .writeFault ∧
    kalignFileSoft2 ver base date files type gpo gpe tgpe fmt ≠ .error (.run .fault) ∧
    kalignFileSoft2 ver base date files type gpo gpe tgpe fmt ≠ .error (.run .tree) ∧
    kalignFileSoft2 ver base date files type gpo gpe tgpe fmt ≠ .error (.run .monitor) ∧
    kalignFileSoft2 ver base date files type gpo gpe tgpe fmt ≠ .error (.run .fuel) ∧
    kalignFileSoft2 ver base date files type gpo gpe tgpe fmt ≠ .error (.run .badByte) := by
  obtain ⟨h1, h2, h3⟩ := kalignFileSoft2_never_readFault_writeFault_badByte ver base date files type gpo gpe tgpe fmt
  have run {r : PipeErr} (h : kalignFileSoft2 ver base date files type gpo gpe tgpe fmt = .error (.run r)) :
      r ≠ .fuel ∧ r ≠ .tree ∧ r ≠ .fault ∧ r ≠ .monitor := by
    obtain ⟨m, hr, hrun⟩ := kalignFileWith_cases h
    simpa [hrun] using runMsaSoft2_never_faults files m hr (hsize m hr) type gpo gpe tgpe
  exact ⟨h1, h2, fun h => (run h).2.2.1 rfl, fun h => (run h).2.1 rfl, fun h => (run h).2.2.2 rfl,
    fun h => (run h).1 rfl, h3⟩

/-- under the size bound of `kalignFileSoft2_never_faults` a run that does not return an output file ends with one of
* `.read` — `kalign_read_input` returned FAIL: a file that does not exist, a reader error, no sequence in a recognised file, or
  "Input alignments have different alphabets";
* `.noInput` — every input was empty or of no recognised format ("No alignment");
* `.run .tooFew` — fewer than two non-empty sequences;
* `.run .alphabet` — "Unable to determine what alphabet to use.";
* `.run .param` — `aln_param_init` rejects `--type` for the detected alphabet, or a penalty above the cap;
* `.format` — "Format … not recognized." -/
theorem kalignFileSoft2_errors (ver base date : Bytes) (files : List (Option Bytes)) (type : Int)
    (gpo gpe tgpe : SoftF32) (fmt : Option String) (hsize : ∀ m, readFiles files = .ok m → SizeOK m)
    (e : FileErr) (he : kalignFileSoft2 ver base date files type gpo gpe tgpe fmt = .error e) :
    e = .read ∨ e = .noInput ∨ e = .run .tooFew ∨ e = .run .alphabet ∨ e = .run .param ∨ e = .format := by
  obtain ⟨h1, h2, h3, h4, h5, h6, h7⟩ := kalignFileSoft2_never_faults ver base date files type gpo gpe tgpe fmt hsize
  rw [he] at h1 h2 h3 h4 h5 h6 h7
  cases e with
  | run r => cases r <;> simp at h3 h4 h5 h6 h7 ⊢
  | _ => simp at h1 h2 ⊢

theorem kalignFileSoft2_read_iff (ver base date : Bytes) (files : List (Option Bytes)) (type : Int)
    (gpo gpe tgpe : SoftF32) (fmt : Option String) :
    kalignFileSoft2 ver base date files type gpo gpe tgpe fmt = .error .read ↔ readFiles files = .fail :=
  ⟨kalignFileWith_cases, fun h => by unfold kalignFileSoft2 kalignFileWith; rw [h]⟩

theorem readFiles_missing (files : List (Option Bytes)) (h : files.all Option.isSome = false) : readFiles files = .fail := by
  unfold readFiles
  have := C05_read_many_never_faults ((files.takeWhile Option.isSome).filterMap id) none
  split
  · rename_i hh; exact absurd hh this
  · rfl
  · simp [h]

theorem kalignFileSoft2_missing_file (ver base date : Bytes) (files : List (Option Bytes)) (type : Int)
    (gpo gpe tgpe : SoftF32) (fmt : Option String) (h : files.all Option.isSome = false) :
    kalignFileSoft2 ver base date files type gpo gpe tgpe fmt = .error .read :=
  (kalignFileSoft2_read_iff ver base date files type gpo gpe tgpe fmt).2 (readFiles_missing files h)

theorem kalignFileSoft2_noInput_iff (ver base date : Bytes) (files : List (Option Bytes)) (type : Int)
    (gpo gpe tgpe : SoftF32) (fmt : Option String) :
    kalignFileSoft2 ver base date files type gpo gpe tgpe fmt = .error .noInput ↔ readFiles files = .null :=
  ⟨kalignFileWith_cases, fun h => by unfold kalignFileSoft2 kalignFileWith; rw [h]⟩

/-- the `Float32` whole-program theorem is the instance `run = runMsa` of the generic one -/
example {ver base date : Bytes} {files : List (Option Bytes)} {type : Int} {gpo gpe tgpe : Float32}
    {fmt : Option String} {out : Bytes} (h : kalignFile ver base date files type gpo gpe tgpe fmt = .ok out) :
    ∃ m A t, Wrote ver base date files fmt out m A t ∧
      A.rows.map (fun r => (r.name, r.row.filter (· ≠ 45))) = keptRecs m.seqs ∧
      (∀ r ∈ A.rows, ∀ b ∈ r.row, b = 45 ∨ isAlpha b = true) ∧
      (∀ r ∈ A.rows, r.row.length = A.alnlen) ∧ 2 ≤ A.rows.length :=
  kalignFile_integrity h

/-- **C01 for the whole program on the software binary32** (`kalignFile_integrity` for `kalignFileSoft2`) -/
theorem kalignFileSoft2_integrity {ver base date : Bytes} {files : List (Option Bytes)} {type : Int}
    {gpo gpe tgpe : SoftF32} {fmt : Option String} {out : Bytes}
    (h : kalignFileSoft2 ver base date files type gpo gpe tgpe fmt = .ok out) :
    ∃ m A t, Wrote ver base date files fmt out m A t ∧
      A.rows.map (fun r => (r.name, r.row.filter (· ≠ 45))) = keptRecs m.seqs ∧
      (∀ r ∈ A.rows, ∀ b ∈ r.row, b = 45 ∨ isAlpha b = true) ∧
      (∀ r ∈ A.rows, r.row.length = A.alnlen) ∧ 2 ≤ A.rows.length :=
  kalignFileWith_integrity (fun _ _ hr => runMsaSoft2_spec hr) h

/-- **C15 for the whole program on the software binary32** (`kalignFile_output_shape` for `kalignFileSoft2`) -/
theorem kalignFileSoft2_output_shape {ver base date : Bytes} {files : List (Option Bytes)} {type : Int}
    {gpo gpe tgpe : SoftF32} {fmt : Option String} {out : Bytes}
    (h : kalignFileSoft2 ver base date files type gpo gpe tgpe fmt = .ok out) :
    ∃ m A t, Wrote ver base date files fmt out m A t ∧
      (t = 1 → FastaShape A out) ∧ (t = 3 → CluShape ver A out) ∧ (t = 2 → MsfShape date A out) :=
  kalignFileWith_output_shape (fun _ _ hr => runMsaSoft2_spec hr) h

/-- every output file of the whole-program model satisfies the C01 integrity statement and
the C15 shape statement, for one and the same msa `m`, alignment `A` and format id `t` (1 FASTA, 2 MSF, 3 Clustal).  No
hypothesis besides the successful run: every input, `type`, penalty triple and format word. -/
theorem kalignFileSoft2_ok_shape {ver base date : Bytes} {files : List (Option Bytes)} {type : Int}
    {gpo gpe tgpe : SoftF32} {fmt : Option String} {out : Bytes}
    (h : kalignFileSoft2 ver base date files type gpo gpe tgpe fmt = .ok out) :
    ∃ m A t, Wrote ver base date files fmt out m A t ∧
      -- C01
      A.rows.map (fun r => (r.name, r.row.filter (· ≠ 45))) = keptRecs m.seqs ∧
      (∀ r ∈ A.rows, ∀ b ∈ r.row, b = 45 ∨ isAlpha b = true) ∧
      (∀ r ∈ A.rows, r.row.length = A.alnlen) ∧ 2 ≤ A.rows.length ∧
      -- C15
      (t = 1 → FastaShape A out) ∧ (t = 3 → CluShape ver A out) ∧ (t = 2 → MsfShape date A out) := by
  obtain ⟨m, A, t, w, i1, i2, i3, i4⟩ := kalignFileSoft2_integrity h
  exact ⟨m, A, t, w, i1, i2, i3, i4, shape_of_wrote w i3⟩

end Kalign.PipelineFile

import KalignModel.Lemmas.CutInstances
import KalignModel.Lemmas.ScoreRuns
import KalignModel.Props.C07
import KalignModel.Lemmas.Margin
import KalignModel.Lemmas.PathCols
/-!
# C07 (scores) — what the sequence–sequence kernels and the meetup compute

All statements are on the exact carrier `ExactScore = Option Int` (`none` = −∞, integers = scores × 2000) with
finite parameters (`ApOK ap gpo gpe tgpe s`).

* **S1** `C07_ssForward_spec`, `C07_ssBackward_spec`: every cell of the list a kernel returns is the maximum, over the
  partial column lists that consume exactly the rows of the rectangle and the columns up to that cell and end in that
  state, of the reading `readF` / `readB` — a recursive function on column lists that charges what the kernel charges
  (`stepF` in `Lemmas/KernelSpec.lean`).  "Maximum" = (i) upper bound and (ii) −∞ or attained.
* **S2** `C07_ssMeet_eq`, `C07_ssMeet_sound`, `C07_ssMeet_attained`, `C07_cut_exists`, `C07_ssMeet_dominates_complete`:
  the meetup returns the first maximum of `f[i] + b[i] − join(t,i) − tie(i)` over the admissible `(i,t)`; every complete
  column list of the rectangle has an admissible cut, so the returned score dominates the level's reading of every
  complete column list, and is attained by one (`C07_ssMeet_first`: first maximum in scan order).
* **S3** `C07_level_bounds`, `C07_sub_level_bounds`: every level's reading of a complete alignment (with its context)
  lies in `[scoreST − gpo·nterm − slackLo, scoreST + slackHi]`, `slackLo = max(0, tgpe−gpe, tgpe−gpo)`,
  `slackHi = max(0, gpe−tgpe)`.  `C07_claimed_lower_bound_fails`: the lower slack `max(0, tgpe−gpe)` of the property
  as it was claimed is not enough when `tgpe > gpo` (a run of the real kernels).
* **S4** `C07_hirschberg_seqseq_opt` (+ `_abs`, `C07_alnRun_serial_opt`, `C07_alnRun_opt`): an alignment that beats every
  other by the safe margin is exactly what the controller returns (serial entry, and `aln_runner` with its fall-through).
-/
namespace Kalign

/-- reading of a partial column list (from the near corner, start kind `k0`) by the forward kernel -/
def readF (gpo gpe tgpe : Int) (s : Nat → Nat → Int) (seq1 seq2 : Array Nat) (r : Rect)
    (start : States ExactScore) (k0 : Kind) (cs : List Col) : Option Int :=
  readAbs (cfgF gpo gpe tgpe s seq1 seq2 r) start k0 cs

/-- reading of a partial column list that ends in the far corner (kind `k0` after it) by the backward kernel:
the forward reading of the reversed list on the reversed problem with the terminal flags exchanged -/
def readB (gpo gpe tgpe : Int) (s : Nat → Nat → Int) (seq1 seq2 : Array Nat) (r : Rect)
    (start : States ExactScore) (k0 : Kind) (cs : List Col) : Option Int :=
  readAbs (cfgB gpo gpe tgpe s seq1 seq2 r) start k0 cs.reverse

theorem C07_ssForward_spec (ap : AlnParam ExactScore) (gpo gpe tgpe : Int) (s : Nat → Nat → Int)
    (h : ApOK ap gpo gpe tgpe s) (seq1 seq2 : Array Nat) (r : Rect) (hb : r.startb < r.endb)
    (start : States ExactScore) (j : Nat) (hj1 : r.startb ≤ j) (hj2 : j ≤ r.endb) :
    ∃ cell, (ssForward ap seq1 seq2 r start)[j - r.startb]? = some cell ∧
      (∀ k0 cs, consA cs = r.enda - r.starta → consB cs = j - r.startb →
        ole (readF gpo gpe tgpe s seq1 seq2 r start k0 cs) (cell.get (lastKind k0 cs))) ∧
      (∀ st, cell.get st = none ∨ ∃ k0 cs, consA cs = r.enda - r.starta ∧ consB cs = j - r.startb ∧
        lastKind k0 cs = st ∧ readF gpo gpe tgpe s seq1 seq2 r start k0 cs = cell.get st) := by
  obtain ⟨h1, h2⟩ := abs_cell_spec (cfgF gpo gpe tgpe s seq1 seq2 r) (Nat.sub_pos_of_lt hb) start (r.enda - r.starta)
    (j - r.startb) (Nat.sub_le_sub_right hj2 _)
  refine ⟨absTab (cfgF gpo gpe tgpe s seq1 seq2 r) start (r.enda - r.starta) (j - r.startb), ?_, h1, h2⟩
  rw [ssForward_eq_absTab ap gpo gpe tgpe s h seq1 seq2 r hb start]
  rw [List.getElem?_map, List.getElem?_range (by omega)]
  rfl

theorem C07_ssBackward_spec (ap : AlnParam ExactScore) (gpo gpe tgpe : Int) (s : Nat → Nat → Int)
    (h : ApOK ap gpo gpe tgpe s) (seq1 seq2 : Array Nat) (r : Rect) (hb : r.startb < r.endb)
    (ha : r.starta ≤ r.enda) (start : States ExactScore) (j : Nat) (hj1 : r.startb ≤ j) (hj2 : j ≤ r.endb) :
    ∃ cell, (ssBackward ap seq1 seq2 r start)[j - r.startb]? = some cell ∧
      (∀ k0 cs, consA cs = r.enda - r.starta → consB cs = r.endb - j →
        ole (readB gpo gpe tgpe s seq1 seq2 r start k0 cs) (cell.get (lastKind k0 cs.reverse))) ∧
      (∀ st, cell.get st = none ∨ ∃ k0 cs, consA cs = r.enda - r.starta ∧ consB cs = r.endb - j ∧
        lastKind k0 cs.reverse = st ∧ readB gpo gpe tgpe s seq1 seq2 r start k0 cs = cell.get st) := by
  obtain ⟨h1, h2⟩ := abs_cell_spec (cfgB gpo gpe tgpe s seq1 seq2 r) (Nat.sub_pos_of_lt hb) start (r.enda - r.starta)
    (r.endb - j) (Nat.sub_le_sub_left hj1 _)
  refine ⟨absTab (cfgB gpo gpe tgpe s seq1 seq2 r) start (r.enda - r.starta) (r.endb - j), ?_, ?_, ?_⟩
  · rw [ssBackward_eq_absTab ap gpo gpe tgpe s h seq1 seq2 r hb ha start, map_range_reverse]
    rw [List.getElem?_map, List.getElem?_range (by omega)]
    simp only [Option.map_some]
    congr 2
    omega
  · intro k0 cs hA hB
    exact h1 k0 cs.reverse (by rw [consA_reverse]; exact hA) (by rw [consB_reverse]; exact hB)
  · intro st
    rcases h2 st with h0 | ⟨k0, cs, hA, hB, hs, hv⟩
    · exact Or.inl h0
    · exact Or.inr ⟨k0, cs.reverse, by rw [consA_reverse]; exact hA, by rw [consB_reverse]; exact hB,
        by rw [List.reverse_reverse]; exact hs, by rw [readB, List.reverse_reverse]; exact hv⟩

/-- forward, backward and meetup of the real kernels on the rectangle `(sa..ea) × (sb..eb)` with middle row `mid` -/
theorem C07_ssMeet_eq (ap : AlnParam ExactScore) (gpo gpe tgpe : Int) (s : Nat → Nat → Int)
    (h : ApOK ap gpo gpe tgpe s) (seq1 seq2 : Array Nat) (sa mid ea sb eb lenB : Nat)
    (hb : sb < eb) (ha : mid ≤ ea) (startF startB : States ExactScore) :
    let rF : Rect := ⟨sa, mid, sb, eb, lenB⟩
    let rB : Rect := ⟨mid, ea, sb, eb, lenB⟩
    kMeetup ap (.seqseq seq1 seq2) rF mid (kForward ap (.seqseq seq1 seq2) rF startF)
        (kBackward ap (.seqseq seq1 seq2) rB startB) =
      absMeet (cfgF gpo gpe tgpe s seq1 seq2 rF) (cfgB gpo gpe tgpe s seq1 seq2 rB) (mid - sa) (ea - mid)
        startF startB sb eb :=
  ssMeet_eq h seq1 seq2 sa mid ea sb eb lenB hb ha startF startB

/-- the returned score dominates the value `f + b − join(t,k) − tie(k)` of every admissible cut of every pair of
partial column lists (`X2r` = the second part reversed) -/
theorem C07_ssMeet_sound (cF cB : KCfg) (hn : 1 ≤ cF.n) (hnn : cB.n = cF.n) (m1 m2 : Nat)
    (startF startB : States ExactScore) (sb eb : Nat) (k : Nat) (t : Int) (hadm : Adm cF.n k t)
    (k0F k0B : Kind) (X1 X2r : List Col) (v1 v2 : Option Int)
    (h1 : runF cF (initP startF k0F) X1 = ⟨m1, k, fkOf t, v1⟩)
    (h2 : runF cB (initP startB k0B) X2r = ⟨m2, cF.n - k, bkOf t, v2⟩) :
    ole (meetVal cF sb eb t k v1 v2) (absMeet cF cB m1 m2 startF startB sb eb).score :=
  absMeet_sound cF cB hn hnn m1 m2 startF startB sb eb k t hadm k0F k0B X1 X2r v1 v2 h1 h2

theorem C07_ssMeet_attained (cF cB : KCfg) (hn : 1 ≤ cF.n) (hnn : cB.n = cF.n) (m1 m2 : Nat)
    (startF startB : States ExactScore) (sb eb : Nat)
    (hfin : (absMeet cF cB m1 m2 startF startB sb eb).score ≠ none) :
    ∃ k t, Adm cF.n k t ∧ (absMeet cF cB m1 m2 startF startB sb eb).meet = ((sb + k : Nat) : Int) ∧
      (absMeet cF cB m1 m2 startF startB sb eb).transition = t ∧
      ∃ k0F k0B X1 X2r v1 v2,
        runF cF (initP startF k0F) X1 = ⟨m1, k, fkOf t, some v1⟩ ∧
        runF cB (initP startB k0B) X2r = ⟨m2, cF.n - k, bkOf t, some v2⟩ ∧
        (absMeet cF cB m1 m2 startF startB sb eb).score = meetVal cF sb eb t k (some v1) (some v2) :=
  absMeet_attained cF cB hn hnn m1 m2 startF startB sb eb hfin

/-- the returned `(meet, transition)` is the **first maximum in the scan order of the code** (columns ascending, within a
column the transitions 1, 2, 3, 5, 6, 7) of `f[i] + b[i] − join(t,i) − tie(i)` over the admissible `(i, t)` -/
theorem C07_ssMeet_first (cF cB : KCfg) (m1 m2 : Nat) (startF startB : States ExactScore) (sb eb : Nat)
    (hfin : (absMeet cF cB m1 m2 startF startB sb eb).score ≠ none) :
    ∃ k t, Adm cF.n k t ∧ (absMeet cF cB m1 m2 startF startB sb eb).meet = ((sb + k : Nat) : Int) ∧
      (absMeet cF cB m1 m2 startF startB sb eb).transition = t ∧
      (absMeet cF cB m1 m2 startF startB sb eb).score =
        meetVal cF sb eb t k ((absTab cF startF m1 k).get (fkOf t)) ((absTab cB startB m2 (cB.n - k)).get (bkOf t)) ∧
      (∀ k' t', Adm cF.n k' t' → (k' < k ∨ (k' = k ∧ t' < t)) →
        ¬ ole (absMeet cF cB m1 m2 startF startB sb eb).score
          (meetVal cF sb eb t' k' ((absTab cF startF m1 k').get (fkOf t'))
            ((absTab cB startB m2 (cB.n - k')).get (bkOf t')))) ∧
      (∀ k' t', Adm cF.n k' t' →
        ole (meetVal cF sb eb t' k' ((absTab cF startF m1 k').get (fkOf t'))
            ((absTab cB startB m2 (cB.n - k')).get (bkOf t')))
          (absMeet cF cB m1 m2 startF startB sb eb).score) :=
  absMeet_first cF cB m1 m2 startF startB sb eb hfin

theorem C07_cut_exists (cF cB : KCfg) (hnn : cB.n = cF.n) (fk bk : Kind) (X : List Col) (m1 m2 : Nat) (hm2 : 1 ≤ m2)
    (hadj : adjOK fk X = true) (hcompat : (lastKind fk X).compat bk = true)
    (hA : consA X = m1 + m2) (hB : consB X = cF.n) :
    ∃ X1 X2 t, X = X1 ++ X2 ∧ Adm cF.n (consB X1) t ∧
      walkOK cF 0 0 fk X1 = true ∧ consA X1 = m1 ∧ lastKind fk X1 = fkOf t ∧
      walkOK cB 0 0 bk X2.reverse = true ∧ consA X2 = m2 ∧ consB X1 + consB X2 = cF.n ∧
      lastKind bk X2.reverse = bkOf t := by
  obtain ⟨X1, X2r, t, hX, hadm, hw⟩ := cut_exists ⟨cF, cB, hnn, fk, bk, m1, m2⟩ X hm2 hadj hcompat hA hB
  exact ⟨X1, X2r.reverse, t, hX, hadm, hw.w1, hw.a1, hw.l1, hw.w2', hw.a2', hw.bb hadm.le, hw.l2'⟩

/-- with one-hot start states: **the meetup score dominates the level's reading (minus the tie-break term) of every
complete column list of the rectangle** that respects the boundary kinds -/
theorem C07_ssMeet_dominates_complete (cF cB : KCfg) (hn : 1 ≤ cF.n) (hnn : cB.n = cF.n) (m1 m2 : Nat) (hm2 : 1 ≤ m2)
    (fk bk : Kind) (sb eb : Nat) (X : List Col)
    (hadj : adjOK fk X = true) (hcompat : (lastKind fk X).compat bk = true)
    (hA : consA X = m1 + m2) (hB : consB X = cF.n) :
    ∃ X1 X2 t, X = X1 ++ X2 ∧ Adm cF.n (consB X1) t ∧ consA X1 = m1 ∧
      ole (some (levelRead cF cB fk bk X1 X2 t - tieOf sb eb (consB X1)))
        (absMeet cF cB m1 m2 (hot fk) (hot bk) sb eb).score := by
  obtain ⟨X1, X2r, t, hX, hadm, hw⟩ := cut_exists ⟨cF, cB, hnn, fk, bk, m1, m2⟩ X hm2 hadj hcompat hA hB
  refine ⟨X1, X2r.reverse, t, hX, hadm, hw.a1, ?_⟩
  obtain ⟨v, hv, hle⟩ := hw.le_ev hn
  have hge := absMeet_ge cF cB m1 m2 (hot fk) (hot bk) sb eb hadm
  rw [mkCand_evHot ⟨cF, cB, hnn, fk, bk, m1, m2⟩, hv] at hge
  exact ole_trans (by simp only [osub_some, ole_some_some]; exact Int.sub_le_sub_right hle _) hge

/-! ## S3 — every level's reading of a complete alignment lies in an interval around the reference score

**Correction of the claimed interval.**  The claim was
`scoreST X − gpo·nterm X − max(0, tgpe−gpe) ≤ f X ≤ scoreST X + max(0, gpe−tgpe)`.  The upper bound is right.  The lower
bound is *false* in general: when a terminal gap-in-b run crosses the middle row, the forward kernel has charged `tgpe`
for each of its columns above the row, the backward kernel `tgpe` for each below, and the meetup subtracts a further
`tgpe` for the join (`g6`/`g6e`), i.e. `(L+1)·tgpe` for `L` columns.  That deviation is `tgpe`, not `gpo`, so the true lower
slack is `max(0, tgpe−gpe, tgpe−gpo)` (`STW.slackLo`); the two coincide when `tgpe ≤ gpo` (all of kalign's defaults).
`C07_claimed_lower_bound_fails` is a concrete run of the real kernels (gpo = 0, gpe = tgpe = 1.0).
-/

/-- **the reference score is the verbal definition**: substitution scores of the aligned columns minus
`2·gpo + (L−1)·gpe` for every internal gap run of `L` columns and `L·tgpe` for a leading or trailing one
(`scoreSTruns`, by run-length encoding) -/
theorem C07_scoreST_eq_runs (sub : Nat → Nat → Int) (gpo gpe tgpe : Int) (cs : List Col) (a b : List Nat)
    (hV : ValidCols cs a.length b.length) (hadj : adjOK .A cs = true) :
    scoreST sub gpo gpe tgpe cs a b = scoreSTruns sub gpo gpe tgpe cs a b :=
  scoreST_eq_runs sub gpo gpe tgpe cs a b hV hadj

/-- **S3, whole problem**: a complete alignment `Y1 ++ Y2`, cut after `Y1`; forward kernel on `Y1`, backward kernel on
`Y2`, the meetup's charge `J` on the joining edge -/
theorem C07_level_bounds (w : STW) (hgpo : 0 ≤ w.gpo) (hgpe : 0 ≤ w.gpe) (htgpe : 0 ≤ w.tgpe)
    (Y1 Y2 : List Col) (J : Int) (hY2 : Y2 ≠ [])
    (hadj : adjOK .A (Y1 ++ Y2) = true) (hA : consA (Y1 ++ Y2) = w.lenA) (hB : consB (Y1 ++ Y2) = w.lenB)
    (hokF : walkOK w.kcfg 0 0 .A Y1 = true) (hokB : walkOK w.mirror.kcfg 0 0 .A Y2.reverse = true)
    (hrowF : consA Y1 < w.lenA) (hrowB : noGapAAt w.lenA 0 Y2.reverse = true)
    (hJ : w.JoinOK (lastKind .A Y1) (firstKind .A Y2) (consA Y1) (consB Y1) J) :
    w.walk 0 0 .A (Y1 ++ Y2) - w.gpo * (nterm (Y1 ++ Y2) : Int) - w.slackLo ≤ w.levelRead Y1 Y2 J ∧
      w.levelRead Y1 Y2 J ≤ w.walk 0 0 .A (Y1 ++ Y2) + w.slackHi :=
  STW.level_bounds w hgpo hgpe Y1 Y2 J hY2 hadj hA hB hokF hokB hrowF hrowB hJ

/-- **S3, sub-rectangles**: rectangle `(sa..ea) × (sb..eb)` with middle row `mid`, context `P1` / `P2`, under the
recursion invariant `hInvF` / `hInvB` ("`startb = 0` iff `starta = 0`, or the start kind is gb", and its mirror image).
`C` is a constant of the level. -/
theorem C07_sub_level_bounds (gpo gpe tgpe : Int) (s : Nat → Nat → Int) (seq1 seq2 : Array Nat) (lenA lenB : Nat)
    (hgpo : 0 ≤ gpo) (hgpe : 0 ≤ gpe) (htgpe : 0 ≤ tgpe)
    (sa mid ea sb eb : Nat) (h1 : sa ≤ mid) (h2 : mid < ea) (h3 : ea ≤ lenA) (h4 : sb < eb) (h5 : eb ≤ lenB)
    (P1 X1 X2 P2 : List Col)
    (hadj : adjOK .A (P1 ++ (X1 ++ X2) ++ P2) = true)
    (hA : consA (P1 ++ (X1 ++ X2) ++ P2) = lenA) (hB : consB (P1 ++ (X1 ++ X2) ++ P2) = lenB)
    (hP1a : consA P1 = sa) (hP1b : consB P1 = sb) (hX1a : consA X1 = mid - sa) (hX2a : consA X2 = ea - mid)
    (hXb : consB X1 + consB X2 = eb - sb)
    (hInvF : (sb = 0 ↔ sa = 0) ∨ lastKind .A P1 = .GB)
    (hInvB : (eb = lenB ↔ ea = lenA) ∨ firstKind .A P2 = .GB)
    (t : Int) (hadm : Adm (eb - sb) (consB X1) t)
    (hfk : lastKind (lastKind .A P1) X1 = fkOf t) (hbk : lastKind (firstKind .A P2) X2.reverse = bkOf t)
    (hokF : walkOK (cfgF gpo gpe tgpe s seq1 seq2 ⟨sa, mid, sb, eb, lenB⟩) 0 0 (lastKind .A P1) X1 = true)
    (hokB : walkOK (cfgB gpo gpe tgpe s seq1 seq2 ⟨mid, ea, sb, eb, lenB⟩) 0 0 (firstKind .A P2) X2.reverse = true) :
    let w := ssW gpo gpe tgpe s seq1 seq2 lenA lenB
    let Y := P1 ++ (X1 ++ X2) ++ P2
    let C := walkSc w.kcfg 0 0 .A P1 + walkSc w.mirror.kcfg 0 0 .A P2.reverse
    let R := levelRead (cfgF gpo gpe tgpe s seq1 seq2 ⟨sa, mid, sb, eb, lenB⟩)
      (cfgB gpo gpe tgpe s seq1 seq2 ⟨mid, ea, sb, eb, lenB⟩) (lastKind .A P1) (firstKind .A P2) X1 X2 t
    w.walk 0 0 .A Y - gpo * (nterm Y : Int) - w.slackLo ≤ R + C ∧ R + C ≤ w.walk 0 0 .A Y + w.slackHi := by
  intro w Y C R
  have hXa : consA (X1 ++ X2) = ea - sa := by
    rw [consA_append, hX1a, hX2a, Nat.add_comm]
    exact Nat.sub_add_sub_cancel (Nat.le_of_lt h2) h1
  have := (Level.ofRect h1 h2 h3 h4 h5 hadj hA hB hP1a hP1b hXa (by rw [consB_append]; exact hXb) hInvF hInvB).bounds w hgpo
    hgpe (X2r := X2.reverse) hadm
    ⟨hokF, hX1a, rfl, hfk, hokB, by rw [consA_reverse]; exact hX2a, by rw [consB_reverse]; exact Nat.eq_sub_of_add_eq' hXb, hbk⟩
  simp only [Meet.read, List.reverse_reverse] at this
  exact this

/-- match 5.0, mismatch −4.0 on codes `< 4` (units of 1/2000) -/
def exS (x y : Nat) : Int := if x < 4 ∧ y < 4 then (if x = y then 10000 else -8000) else 0

/-- gpo 0.5, gpe 0.25, tgpe 0.1 -/
def exP2 : AlnParam ExactScore :=
  { subm := (Array.range 4).map fun i => (Array.range 4).map fun j => some (exS i j)
    gpo := some 1000, gpe := some 500, tgpe := some 200 }

/-- gpo 0, gpe 1.0, tgpe 1.0 -/
def exP3 : AlnParam ExactScore :=
  { subm := (Array.range 4).map fun i => (Array.range 4).map fun j => some (exS i j)
    gpo := some 0, gpe := some 2000, tgpe := some 2000 }

theorem exSub_ok (subm : Array (Array ExactScore)) (g1 g2 g3 : ExactScore)
    (h : subm = (Array.range 4).map fun i => (Array.range 4).map fun j => some (exS i j)) (i j : Nat) :
    (⟨subm, g1, g2, g3⟩ : AlnParam ExactScore).sub i j = some (exS i j) := by
  subst h
  unfold AlnParam.sub exS
  by_cases hi : i < 4
  · by_cases hj : j < 4
    · simp [hi, hj, Array.getD]
    · simp [hi, hj, Array.getD]; rfl
  · simp [hi, Array.getD]; rfl

theorem exP2_ok : ApOK exP2 1000 500 200 exS := ⟨rfl, rfl, rfl, exSub_ok _ _ _ _ rfl⟩
theorem exP3_ok : ApOK exP3 0 2000 2000 exS := ⟨rfl, rfl, rfl, exSub_ok _ _ _ _ rfl⟩

/-- **the claimed lower bound fails**: a = (1,2,0), b = (0), gpo = 0, gpe = tgpe = 1.0.  The top level of the real kernels
returns transition 6 at column 0 with score 3999 = 4000 − tie; it is the level's reading of the alignment
`[gapB, gapB, both]` (a leading run of two gap-in-b columns that crosses the middle row 1), whose reference score is
6000 with one terminal run: `6000 − gpo·1 − max(0, tgpe − gpe) = 6000 > 4000`. -/
theorem C07_claimed_lower_bound_fails :
    let r := kMeetup exP3 (.seqseq #[1, 2, 0] #[0]) ⟨0, 1, 0, 1, 1⟩ 1
      (kForward exP3 (.seqseq #[1, 2, 0] #[0]) ⟨0, 1, 0, 1, 1⟩ (hot .A))
      (kBackward exP3 (.seqseq #[1, 2, 0] #[0]) ⟨1, 3, 0, 1, 1⟩ (hot .A))
    (r.meet, r.transition, r.score) = (0, 6, some 3999) ∧
    (ssW 0 2000 2000 exS #[1, 2, 0] #[0] 3 1).levelRead [.gapB] [.gapB, .both] 2000 = 4000 ∧
    scoreST exS 0 2000 2000 [.gapB, .gapB, .both] [1, 2, 0] [0] = 6000 ∧
    nterm [.gapB, .gapB, .both] = 1 ∧
    ¬ (scoreST exS 0 2000 2000 [.gapB, .gapB, .both] [1, 2, 0] [0] - 0 * 1 - max 0 (2000 - 2000) ≤
        (ssW 0 2000 2000 exS #[1, 2, 0] #[0] 3 1).levelRead [.gapB] [.gapB, .both] 2000) := by
  decide +kernel

/-- … while the corrected bound holds for it (`slackLo = max(0, tgpe−gpe, tgpe−gpo) = 2000`) -/
example : (ssW 0 2000 2000 exS #[1, 2, 0] #[0] 3 1).slackLo = 2000 ∧
    scoreST exS 0 2000 2000 [.gapB, .gapB, .both] [1, 2, 0] [0] - 0 * 1 - 2000 ≤
      (ssW 0 2000 2000 exS #[1, 2, 0] #[0] 3 1).levelRead [.gapB] [.gapB, .both] 2000 := by
  decide +kernel

/-- **C07 (sequence – sequence, exact carrier).**  Finite non-negative parameters; `P` a valid column list for the two
sequences without a gap-in-a run next to a gap-in-b run; every other such column list `Q` scores lower by the safe
margin

    scoreST P − gpo·nterm P − (max(0, tgpe−gpe, tgpe−gpo) + max(0, gpe−tgpe)) − len_b  >  scoreST Q

(`len_b` bounds the tie-break term of one meetup; the two `max` terms are the corrected slacks of S3; for `tgpe ≤ gpo`
their sum is `|gpe − tgpe|`, see `C07_hirschberg_seqseq_opt_abs`).  Then the serial controller on the real kernels,
started from `init_alnmem` with enough fuel, does not fault and `add_gap_info_to_path_n` of its path is exactly `P`. -/
theorem C07_hirschberg_seqseq_opt (ap : AlnParam ExactScore) (gpo gpe tgpe : Int) (s : Nat → Nat → Int)
    (hap : ApOK ap gpo gpe tgpe s) (hgpo : 0 ≤ gpo) (hgpe : 0 ≤ gpe) (htgpe : 0 ≤ tgpe)
    (seq1 seq2 : Array Nat) (h1A : 1 ≤ seq1.size) (h1B : 1 ≤ seq2.size)
    (P : List Col) (hV : ValidCols P seq1.size seq2.size) (hadj : adjOK .A P = true)
    (hmargin : ∀ Q, ValidCols Q seq1.size seq2.size → adjOK .A Q = true → Q ≠ P →
      scoreST s gpo gpe tgpe Q seq1.toList seq2.toList + (seq2.size : Int) <
        scoreST s gpo gpe tgpe P seq1.toList seq2.toList - gpo * (nterm P : Int) -
          (max 0 (max (tgpe - gpe) (tgpe - gpo)) + max 0 (gpe - tgpe)))
    (n : Nat) (hn : seq1.size + seq2.size + 1 ≤ n) :
    let r := runnerSerial (realKernels ap (.seqseq seq1 seq2) seq1.size seq2.size) false n
      (initMem seq1.size seq2.size)
    r.fault = false ∧
      ∃ codes, expandPath seq2.size (r.pathEntries seq1.size) = some codes ∧ codes.map Col.ofCode = P := by
  obtain ⟨hf, hpath⟩ := runner_path_cut
    (OptHyp.cutHyp ⟨hap, hgpo, hgpe, htgpe, hadj, hV.2.1, hV.2.2, walk_margin gpo gpe tgpe s seq1 seq2 P _ hmargin⟩) n hn
  exact ⟨hf, by rw [hpath]; exact expandPath_valid hV hadj h1A h1B⟩

/-- the same with the margin `|gpe − tgpe|` of the original claim, valid when `tgpe ≤ gpo` -/
theorem C07_hirschberg_seqseq_opt_abs (ap : AlnParam ExactScore) (gpo gpe tgpe : Int) (s : Nat → Nat → Int)
    (hap : ApOK ap gpo gpe tgpe s) (hgpo : 0 ≤ gpo) (hgpe : 0 ≤ gpe) (htgpe : 0 ≤ tgpe) (htg : tgpe ≤ gpo)
    (seq1 seq2 : Array Nat) (h1A : 1 ≤ seq1.size) (h1B : 1 ≤ seq2.size)
    (P : List Col) (hV : ValidCols P seq1.size seq2.size) (hadj : adjOK .A P = true)
    (hmargin : ∀ Q, ValidCols Q seq1.size seq2.size → adjOK .A Q = true → Q ≠ P →
      scoreST s gpo gpe tgpe Q seq1.toList seq2.toList + (seq2.size : Int) <
        scoreST s gpo gpe tgpe P seq1.toList seq2.toList - gpo * (nterm P : Int) - ((gpe - tgpe).natAbs : Int))
    (n : Nat) (hn : seq1.size + seq2.size + 1 ≤ n) :
    let r := runnerSerial (realKernels ap (.seqseq seq1 seq2) seq1.size seq2.size) false n
      (initMem seq1.size seq2.size)
    r.fault = false ∧
      ∃ codes, expandPath seq2.size (r.pathEntries seq1.size) = some codes ∧ codes.map Col.ofCode = P := by
  refine C07_hirschberg_seqseq_opt ap gpo gpe tgpe s hap hgpo hgpe htgpe seq1 seq2 h1A h1B P hV hadj ?_ n hn
  intro Q hQ hQadj hne
  have := hmargin Q hQ hQadj hne
  have e : max 0 (max (tgpe - gpe) (tgpe - gpo)) + max 0 (gpe - tgpe) = ((gpe - tgpe).natAbs : Int) := by
    omega
  rw [e]; exact this

/-- `aln_runner` (what `do_align` calls; it runs `aln_runner_serial` below 500 rows and then falls through into the same
code because of a missing `return`) computes the same memory as `aln_runner_serial` on such inputs, so **either entry
point of the controller returns `P`** -/
theorem C07_alnRun_opt (entry : Entry) (ap : AlnParam ExactScore) (gpo gpe tgpe : Int) (s : Nat → Nat → Int)
    (hap : ApOK ap gpo gpe tgpe s) (hgpo : 0 ≤ gpo) (hgpe : 0 ≤ gpe) (htgpe : 0 ≤ tgpe)
    (seq1 seq2 : Array Nat) (h1A : 1 ≤ seq1.size) (h1B : 1 ≤ seq2.size)
    (P : List Col) (hV : ValidCols P seq1.size seq2.size) (hadj : adjOK .A P = true)
    (hmargin : ∀ Q, ValidCols Q seq1.size seq2.size → adjOK .A Q = true → Q ≠ P →
      scoreST s gpo gpe tgpe Q seq1.toList seq2.toList + (seq2.size : Int) <
        scoreST s gpo gpe tgpe P seq1.toList seq2.toList - gpo * (nterm P : Int) -
          (max 0 (max (tgpe - gpe) (tgpe - gpo)) + max 0 (gpe - tgpe))) :
    let r := alnRun entry ap (.seqseq seq1 seq2) seq1.size seq2.size (initMem seq1.size seq2.size)
    r.fault = false ∧
      ∃ codes, expandPath seq2.size (r.pathEntries seq1.size) = some codes ∧ codes.map Col.ofCode = P :=
  (alnRun_path
    (OptHyp.cutHyp ⟨hap, hgpo, hgpe, htgpe, hadj, hV.2.1, hV.2.2, walk_margin gpo gpe tgpe s seq1 seq2 P _ hmargin⟩)
    entry).codes hV hadj h1A h1B

/-- `do_align`'s serial entry point (`alnRun .serial`, fuel `len_a + len_b + 2`) -/
theorem C07_alnRun_serial_opt (ap : AlnParam ExactScore) (gpo gpe tgpe : Int) (s : Nat → Nat → Int)
    (hap : ApOK ap gpo gpe tgpe s) (hgpo : 0 ≤ gpo) (hgpe : 0 ≤ gpe) (htgpe : 0 ≤ tgpe)
    (seq1 seq2 : Array Nat) (h1A : 1 ≤ seq1.size) (h1B : 1 ≤ seq2.size)
    (P : List Col) (hV : ValidCols P seq1.size seq2.size) (hadj : adjOK .A P = true)
    (hmargin : ∀ Q, ValidCols Q seq1.size seq2.size → adjOK .A Q = true → Q ≠ P →
      scoreST s gpo gpe tgpe Q seq1.toList seq2.toList + (seq2.size : Int) <
        scoreST s gpo gpe tgpe P seq1.toList seq2.toList - gpo * (nterm P : Int) -
          (max 0 (max (tgpe - gpe) (tgpe - gpo)) + max 0 (gpe - tgpe))) :
    let r := alnRun .serial ap (.seqseq seq1 seq2) seq1.size seq2.size (initMem seq1.size seq2.size)
    r.fault = false ∧
      ∃ codes, expandPath seq2.size (r.pathEntries seq1.size) = some codes ∧ codes.map Col.ofCode = P :=
  C07_alnRun_opt .serial ap gpo gpe tgpe s hap hgpo hgpe htgpe seq1 seq2 h1A h1B P hV hadj hmargin

/-- a = (0,1,2), b = (0,2), match 5.0 / mismatch −4.0, gpo 0.5, gpe 0.25, tgpe 0.1: the alignment `a₀b₀, a₁–, a₂b₁`
beats the other 24 column lists by more than the safe margin — **the hypotheses of `C07_hirschberg_seqseq_opt` are
satisfiable**, and the conclusion is what the model computes -/
example :
    let P : List Col := [.both, .gapB, .both]
    ValidCols P (#[0, 1, 2] : Array Nat).size (#[0, 2] : Array Nat).size ∧ adjOK .A P = true ∧
    (∀ Q, ValidCols Q (#[0, 1, 2] : Array Nat).size (#[0, 2] : Array Nat).size → adjOK .A Q = true → Q ≠ P →
      scoreST exS 1000 500 200 Q (#[0, 1, 2] : Array Nat).toList (#[0, 2] : Array Nat).toList +
          ((#[0, 2] : Array Nat).size : Int) <
        scoreST exS 1000 500 200 P (#[0, 1, 2] : Array Nat).toList (#[0, 2] : Array Nat).toList -
          1000 * (nterm P : Int) - (max 0 (max (200 - 500) (200 - 1000)) + max 0 (500 - 200))) := by
  intro P
  exact ⟨⟨by decide, by decide, by decide⟩, by decide, (MarginK.one_iff rfl).1 (MarginK.of_enum (by decide +kernel))⟩

example : ((runnerSerial (realKernels exP2 (.seqseq #[0, 1, 2] #[0, 2]) 3 2) false 6 (initMem 3 2)).pathEntries 3) =
    [1, -1, 2] := by decide +kernel
example : (expandPath 2 [1, -1, 2]).map (·.map Col.ofCode) = some [.both, .gapB, .both] := by decide +kernel

/-! S1 on a concrete rectangle: a = (0,1,2), b = (0,2); forward kernel on rows 0..2 × columns 0..2 from kind `A`:
the `a` cells are the readings of the best partial column lists ending aligned in that column — instances of (i)
(`[both, both]` reads 2000 = cell 2; a gap-in-b column after a gap-in-a column reads −∞) and of (ii) (cell 1 is
attained by `[gapB, both]`: terminal column `tgpe`, closing charge `gpo`, mismatch) -/
example :
    (ssForward exP2 #[0, 1, 2] #[0, 2] ⟨0, 2, 0, 2, 2⟩ (hot .A)).map (·.a) = [none, some (-9200), some 2000] ∧
    readF 1000 500 200 exS #[0, 1, 2] #[0, 2] ⟨0, 2, 0, 2, 2⟩ (hot .A) .A [.both, .both] = some 2000 ∧
    readF 1000 500 200 exS #[0, 1, 2] #[0, 2] ⟨0, 2, 0, 2, 2⟩ (hot .A) .A [.gapA, .gapB, .both] = none ∧
    readF 1000 500 200 exS #[0, 1, 2] #[0, 2] ⟨0, 2, 0, 2, 2⟩ (hot .A) .A [.gapB, .both] = some (-9200) := by
  decide +kernel

example :
    (ssBackward exP2 #[0, 1, 2] #[0, 2] ⟨2, 3, 0, 2, 2⟩ (hot .A)).map (·.a) = [some (-9200), some 10000, none] ∧
    readB 1000 500 200 exS #[0, 1, 2] #[0, 2] ⟨2, 3, 0, 2, 2⟩ (hot .A) .A [.both] = some 10000 := by
  decide +kernel

/-! S2 on the top level of the same problem: middle row 1, the meetup returns column 1, transition 3 (aligned / gap-in-b) -/
example :
    let r := kMeetup exP2 (.seqseq #[0, 1, 2] #[0, 2]) ⟨0, 1, 0, 2, 2⟩ 1
      (kForward exP2 (.seqseq #[0, 1, 2] #[0, 2]) ⟨0, 1, 0, 2, 2⟩ (hot .A))
      (kBackward exP2 (.seqseq #[0, 1, 2] #[0, 2]) ⟨1, 3, 0, 2, 2⟩ (hot .A))
    (r.meet, r.transition, r.score) = (1, 3, some 18000) ∧
    r = absMeet (cfgF 1000 500 200 exS #[0, 1, 2] #[0, 2] ⟨0, 1, 0, 2, 2⟩)
      (cfgB 1000 500 200 exS #[0, 1, 2] #[0, 2] ⟨1, 3, 0, 2, 2⟩) 1 2 (hot .A) (hot .A) 0 2 := by
  refine ⟨by decide +kernel, ?_⟩
  exact C07_ssMeet_eq exP2 1000 500 200 exS exP2_ok #[0, 1, 2] #[0, 2] 0 1 3 0 2 2 (by omega) (by omega) _ _

/-- the reference score on hand-computed examples: an internal run of one column costs `2·gpo`, a trailing run of two
columns `2·tgpe`; a leading run of two and an internal run of two cost `2·tgpe` and `2·gpo + gpe` -/
example : scoreST exS 16000 12000 3000 [.both, .gapB, .both, .both, .gapA, .gapA] [0, 1, 2, 3] [0, 2, 3, 3, 1] =
    3 * 10000 - 2 * 16000 - 2 * 3000 := by decide +kernel
example : scoreST exS 16000 12000 3000 [.gapA, .gapA, .both, .gapB, .gapB, .both] [0, 3, 3, 1] [2, 2, 0, 1] =
    2 * 10000 - 2 * 3000 - (2 * 16000 + 12000) := by decide +kernel
example : rle [.gapA, .gapA, .both, .gapB, .gapB, .both] = [(.gapA, 2), (.both, 1), (.gapB, 2), (.both, 1)] := by
  decide
example : scoreSTruns exS 16000 12000 3000 [.gapA, .gapA, .both, .gapB, .gapB, .both] [0, 3, 3, 1] [2, 2, 0, 1] =
    2 * 10000 - 2 * 3000 - (2 * 16000 + 12000) := by decide +kernel

end Kalign

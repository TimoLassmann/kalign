import KalignModel.Lemmas.Dist
import KalignModel.Lemmas.Upgma
import KalignModel.Model.DistExact
/-!
# C12 (guide-tree part) — all copies of a sequence form one clade of the UPGMA tree

"If the same sequence occurs several times in an input of fewer than 100 sequences and no other sequence is contained
in it or contains it (amino acids of one similarity class counting as equal), all its copies come out as identical
gapped rows."  This module covers the distance matrix and the guide tree: identical sequences are at edit distance 0,
every other admissible partner at edit distance ≥ 1, and UPGMA with such a matrix joins all copies into one clade before
any of them meets another sequence.

Exact arithmetic: `upgmaExact` (Model/Tree.lean) runs the control flow of the C function `upgma` on integers scaled
by `2^stage`; the executable Float32 model `upgma` and the C code are compared with it by the correspondence op
`upgma_exact` on margin-safe inputs.  `distExact` is `dist + MIN(10000,(len_a+len_b)/2)/10000` in units of 1/10000;
the C code adds the two terms in binary32.  Rounding is therefore *not* covered by the theorems below;
Props/C12Soft.lean proves the same statement for the binary32 computation.

`bpm_block` only looks at the first 1024 symbols of the pattern, so "not contained" has to be read as "the first 1024
symbols of neither sequence occur in the other one".
-/
namespace Kalign

theorem C12_dist_zero_of_equal (s : List Nat) (hs : ∀ c ∈ s, c < 13) : calcDistanceRaw s s = some 0 :=
  dist_zero_of_equal s hs

theorem C12_dist_pos_of_not_substring (a b : List Nat) (ha : ∀ c ∈ a, c < 13) (hb : ∀ c ∈ b, c < 13)
    (h1 : ¬ (b.take 1024 <:+: a)) (h2 : ¬ (a.take 1024 <:+: b)) :
    ∃ d, calcDistanceRaw a b = some d ∧ 1 ≤ d :=
  dist_pos_of_not_substring a b ha hb h1 h2

theorem C12_dist_zero_iff (a b : List Nat) (ha : ∀ c ∈ a, c < 13) (hb : ∀ c ∈ b, c < 13) :
    calcDistanceRaw a b = some 0 ↔ (if a.length > b.length then b.take 1024 <:+: a else a.take 1024 <:+: b) :=
  dist_zero_iff a b ha hb

/-- any unit: `A`, `H`, `delta` and the matrix are integers in that unit -/
theorem C12_upgma_clade (n : Nat) (c : Nat → Bool) (A H delta : Int) (dm0 : Nat → Nat → Int)
    (hδ : 0 ≤ delta) (hH : (n : Int) * delta < H) (hC : ∃ x, x < n ∧ c x = true)
    (hcc : ∀ x y, x < n → y < n → x ≠ y → c x = true → c y = true → dm0 x y ≤ A)
    (hcr : ∀ x z, x < n → z < n → c x = true → c z = false → A + H ≤ dm0 x z ∧ A + H ≤ dm0 z x) :
    ∃ T, upgmaExact n dm0 delta = some T ∧ ∃ s ∈ T.subtrees, ∀ x, x ∈ s.leaves ↔ (x < n ∧ c x = true) :=
  upgmaExact_clade n c A H delta dm0 hδ hH hC hcc hcr

/-- the instance with kalign's constants in the unit 1/2000: `d ≤ α` inside `C`, `≥ α + 1/2` (`1000`) between `C` and the
rest, `+ 0.001` (`2`) per join, fewer than 100 leaves (below 100 samples `bisecting_kmeans` calls `d_estimation(pair = 1)` and `upgma`) -/
theorem C12_upgma_clade_100 (n : Nat) (hn : n < 100) (c : Nat → Bool) (alpha : Int) (dm0 : Nat → Nat → Int)
    (hC : ∃ x, x < n ∧ c x = true)
    (hcc : ∀ x y, x < n → y < n → x ≠ y → c x = true → c y = true → dm0 x y ≤ alpha)
    (hcr : ∀ x z, x < n → z < n → c x = true → c z = false → alpha + 1000 ≤ dm0 x z ∧ alpha + 1000 ≤ dm0 z x) :
    ∃ T, upgmaExact n dm0 2 = some T ∧ ∃ s ∈ T.subtrees, ∀ x, x ∈ s.leaves ↔ (x < n ∧ c x = true) :=
  upgmaExact_clade n c alpha 1000 2 dm0 (by omega) (by omega) hC hcc hcr

/-- **C12, guide tree**: fewer than 100 sequences over the 13-letter alphabet; `S` occurs among them; for every other
sequence `T` the first 1024 symbols of `T` do not occur in `S` and those of `S` do not occur in `T`.  Then the exact
UPGMA tree over the exact distance matrix has a subtree whose leaves are exactly the positions of the copies of `S`. -/
theorem C12_copies_form_clade (seqs : List (List Nat)) (S : List Nat) (hn : seqs.length < 100)
    (hsym : ∀ s ∈ seqs, ∀ c ∈ s, c < 13) (hS : S ∈ seqs)
    (hno : ∀ T ∈ seqs, T ≠ S → ¬ (T.take 1024 <:+: S) ∧ ¬ (S.take 1024 <:+: T)) :
    ∃ tree, upgmaExact seqs.length (distExact seqs) 10 = some tree ∧
      ∃ s ∈ tree.subtrees, ∀ x, x ∈ s.leaves ↔ (x < seqs.length ∧ seqs[x]? = some S) := by
  obtain ⟨T, hT, s, hs, hl⟩ := upgmaExact_clade seqs.length (fun i => decide (seqs[i]? = some S))
    ((min 10000 S.length : Nat) : Int) 5000 10 (distExact seqs) (by omega) (by omega)
    (by
      obtain ⟨i, hi, he⟩ := List.getElem_of_mem hS
      exact ⟨i, hi, by simp [List.getElem?_eq_getElem hi, he]⟩)
    (by
      intro x y _ _ _ hcx hcy
      obtain ⟨e1, e2⟩ := getD_max_min_same (getD_of_getElem? (of_decide_eq_true hcx)) (getD_of_getElem? (of_decide_eq_true hcy))
      simp only [distExact, e1, e2, dist_zero_of_equal S (hsym S hS), Option.getD_some]
      omega)
    (by
      intro x z _ hz hcx hcz
      obtain ⟨hor, d, hd, hd1⟩ := getD_max_min_cross hsym hS hno hz (getD_of_getElem? (of_decide_eq_true hcx))
        (getD_ne_of_getElem? hz (of_decide_eq_false hcz))
      -- both orders of the pair are one entry
      have h : ((min 10000 S.length : Nat) : Int) + 5000 ≤ distExact seqs x z := by
        simp only [distExact, hd, Option.getD_some]
        rcases hor with ⟨e1, e2⟩ | ⟨e1, e2⟩ <;> rw [e1, e2] <;> omega
      refine ⟨h, ?_⟩
      unfold distExact
      rw [Nat.max_comm z x, Nat.min_comm z x]
      exact h)
  refine ⟨T, hT, s, hs, fun x => ?_⟩
  rw [hl x]
  simp

/-- non-vacuity of `C12_copies_form_clade` -/
example : ∃ tree, upgmaExact 3 (distExact [[0, 1, 2], [3, 3, 1], [0, 1, 2]]) 10 = some tree ∧
    ∃ s ∈ tree.subtrees, ∀ x, x ∈ s.leaves ↔ (x < 3 ∧ [[0, 1, 2], [3, 3, 1], [0, 1, 2]][x]? = some [0, 1, 2]) :=
  C12_copies_form_clade [[0, 1, 2], [3, 3, 1], [0, 1, 2]] [0, 1, 2] (by decide) (by decide) (by decide) (by
    intro T hT hne
    have : T = [3, 3, 1] := by
      simp only [List.mem_cons, List.mem_nil_iff, or_false] at hT
      rcases hT with h | h | h
      · exact absurd h hne
      · exact h
      · exact absurd h hne
    subst this
    constructor <;> decide)

end Kalign

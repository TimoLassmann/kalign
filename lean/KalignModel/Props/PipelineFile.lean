import KalignModel.Props.Pipeline
import KalignModel.Props.C06
import KalignModel.Props.C15
import KalignModel.Lemmas.PipelineFile
import KalignModel.Lemmas.NoFaultRec
import KalignModel.Props.C10
/-!
# Whole-program theorems for the file-to-file pipeline (`kalignFile`, Model/PipelineFile.lean)

`kalignFile` is tied to the running code (`kalign_read_input`* → `kalign_run` → `kalign_write_msa`, and the static
`run_kalign()` itself) by the correspondence op `kalign_file` (harness/ops_pipefile.c, tools/gen_pipefile.py).
Every theorem below has `kalignFile … = .ok out` (or nothing) as its only run-dependent hypothesis and is obtained by
composing the theorems of Props/C04 (presentations, split files), Props/C06 (round trip), Props/C15 (output shape) and
Props/Pipeline (integrity of `kalignRunWith`); binary32/binary64 arithmetic stays opaque.
-/
namespace Kalign.PipelineFile
open Kalign Kalign.IO Kalign.Pipeline List

theorem dealignStep_congr (S₁ S₂ : List SeqRec) (w₁ : GapsWF S₁) (w₂ : GapsWF S₂) (hsame : namesRes S₁ = namesRes S₂)
    (b₁ b₂ : Nat) (hbio : (finishMsa S₁ b₁ 255).biotype = (finishMsa S₂ b₂ 255).biotype) :
    dealignStep (finishMsa S₁ b₁ 255) = dealignStep (finishMsa S₂ b₂ 255) := by
  rw [dealignStep_eq_runDealign, dealignStep_eq_runDealign, runDealign_finish S₁ w₁, runDealign_finish S₂ w₂,
    dealignSeq_congr S₁ S₂ hsame, hbio, finishMsa_L, finishMsa_L]

/-- C04 for the whole program.  Two lists of input files, each a list of
FASTA / Clustal / MSF presentations (`Presents`, Props/C04.lean: any line widths, blank lines, gap glyphs, padding,
digits, conservation lines, header styles) of records with the same names and residues in the same order — the records
may be cut into files differently on the two sides — give the same result: the same error or the same output bytes.
Side conditions, exactly those of `read_split_files` / `split_same_as_one_file`: `ClassOK` (finding C04-split-class:
`merge_msa` refuses a further file whose own detected class differs from the class accumulated so far) on both sides,
and a definite class of the records taken together (`hdef`: the two likelihoods of `detect_alphabet` differ; on a tie
the class is whatever the previous files left behind, which does depend on the cut). -/
theorem kalignFile_presentation_independent (ver base date : Bytes) (files₁ files₂ : List Bytes)
    (Ss₁ Ss₂ : List (List SeqRec)) (hne₁ : files₁ ≠ []) (hne₂ : files₂ ≠ [])
    (hp₁ : AllPresent files₁ Ss₁) (hp₂ : AllPresent files₂ Ss₂) (hc₁ : ClassOK none Ss₁) (hc₂ : ClassOK none Ss₂)
    (hsame : namesRes Ss₁.flatten = namesRes Ss₂.flatten) (hdef : (finishMsa Ss₁.flatten 2 255).biotype ≠ 2)
    (type : Int) (gpo gpe tgpe : Float32) (fmt : Option String) :
    kalignFile ver base date (files₁.map some) type gpo gpe tgpe fmt =
    kalignFile ver base date (files₂.map some) type gpo gpe tgpe fmt := by
  obtain ⟨m₁, b₁, hm₁, hmeq₁, _, _, _, _⟩ := read_split_files files₁ Ss₁ hne₁ hp₁ hc₁
  obtain ⟨m₂, b₂, hm₂, hmeq₂, _, _, _, _⟩ := read_split_files files₂ Ss₂ hne₂ hp₂ hc₂
  have hres : Ss₁.flatten.map (·.res) = Ss₂.flatten.map (·.res) := by
    have := congrArg (fun l => l.map Prod.snd) hsame
    simpa [namesRes, Function.comp_def] using this
  have hlf := letterFreq_depends_on_residues _ _ hres
  have hd₁ : (detectAlphabet (letterFreq Ss₁.flatten) 2 255).1 ≠ 2 := by rw [← finishMsa_biotype]; exact hdef
  have hbio : (finishMsa Ss₁.flatten b₁ 255).biotype = (finishMsa Ss₂.flatten b₂ 255).biotype := by
    rw [finishMsa_biotype, finishMsa_biotype, detectAlphabet_definite _ 255 hd₁ b₁, ← hlf,
      detectAlphabet_definite _ 255 hd₁ b₂]
  refine kalignFile_congr ((readFiles_map_some _).trans hm₁) ((readFiles_map_some _).trans hm₂) ?_ type gpo gpe tgpe fmt
  rw [hmeq₁, hmeq₂, dealignStep_congr _ _ hp₁.gapsWF hp₂.gapsWF hsame b₁ b₂ hbio]

/-- the one-file case needs no side condition besides the presentation hypotheses: both readings start from the
undefined class, so even an undecided `detect_alphabet` is the same on both sides -/
theorem kalignFile_presentation_independent_one (ver base date : Bytes) (f₁ f₂ : Bytes) (S₁ S₂ : List SeqRec)
    (h₁ : Presents f₁ S₁) (h₂ : Presents f₂ S₂) (hsame : namesRes S₁ = namesRes S₂)
    (type : Int) (gpo gpe tgpe : Float32) (fmt : Option String) :
    kalignFile ver base date [some f₁] type gpo gpe tgpe fmt =
    kalignFile ver base date [some f₂] type gpo gpe tgpe fmt := by
  have hres : S₁.map (·.res) = S₂.map (·.res) := by
    have := congrArg (fun l => l.map Prod.snd) hsame
    simpa [namesRes, Function.comp_def] using this
  have hbio : (finishMsa S₁ 2 255).biotype = (finishMsa S₂ 2 255).biotype := by
    rw [finishMsa_biotype, finishMsa_biotype, biotype_depends_on_residues S₁ S₂ hres]
  exact kalignFile_congr ((readFiles_map_some [f₁]).trans h₁.readInputs_one) ((readFiles_map_some [f₂]).trans h₂.readInputs_one)
    (dealignStep_congr _ _ h₁.gapsWF h₂.gapsWF hsame 2 2 hbio) type gpo gpe tgpe fmt

def exFasta : Bytes := emit ([] ++ faPres [(ascii "s1", [ascii "AC-GT"]), (ascii "a|b", [ascii "A--GTT"])])
/-- the same records as Clustal text: two blocks, `.`/`~` as gap glyphs, a conservation line, extra empty lines -/
def exClu : Bytes :=
  emit (ascii "CLUSTAL W (1.83) multiple sequence alignment" ::
    ([[]] ++ cluPres (fun b => if b = 0 then ([ascii "    **"], 2) else ([], 0)) (1 + 1) 0
      [(ascii "s1", [ascii "  AC.", ascii " GT 5"]), (ascii "a|b", [ascii " A~~", ascii " GTT"])]))
def exRecsFa : List (Bytes × List Bytes) := [(ascii "s1", [ascii "AC-GT"]), (ascii "a|b", [ascii "A--GTT"])]
def exRecsClu : List RowC := [(ascii "s1", [ascii "  AC.", ascii " GT 5"]), (ascii "a|b", [ascii " A~~", ascii " GTT"])]

theorem exFasta_presents : Presents exFasta (exRecsFa.map recOf) :=
  Presents.fasta_plain exRecsFa (by unfold exRecsFa; decide_ascii) (by unfold exRecsFa; decide_ascii) (by unfold exRecsFa; decide_ascii)
    (by unfold exRecsFa; decide_ascii) (by unfold exRecsFa; decide_ascii)

theorem exClu_presents : Presents exClu (exRecsClu.map recOf) :=
  Presents.clu (ascii "CLUSTAL W (1.83) multiple sequence alignment") [[]]
    (fun b => if b = 0 then ([ascii "    **"], 2) else ([], 0)) 1 exRecsClu
    (by intro l hl; simp only [mem_singleton] at hl; exact Or.inl hl)
    (by intro b l hl
        by_cases hb : b = 0
        · simp only [hb, if_true, mem_singleton] at hl
          subst hl
          exact ⟨32, _, rfl, by decide⟩
        · simp [hb] at hl)
    (by unfold exRecsClu; decide_ascii)
    (by have h : ∀ r ∈ exRecsClu, r.1 ≠ [] ∧ r.1.length ≤ 200 ∧ ∀ b ∈ r.1, isSpace b = false := by
          unfold exRecsClu; decide_ascii
        exact fun r hr => ⟨(h r hr).1, (h r hr).2.1, (h r hr).2.2⟩)
    (by unfold exRecsClu; decide_ascii) (by unfold exRecsClu; decide_ascii) (by decide_ascii)
    (by unfold exRecsClu; decide_ascii)

example (ver base date : Bytes) (type : Int) (gpo gpe tgpe : Float32) (fmt : Option String) :
    kalignFile ver base date [some exFasta] type gpo gpe tgpe fmt =
    kalignFile ver base date [some exClu] type gpo gpe tgpe fmt :=
  kalignFile_presentation_independent_one ver base date exFasta exClu _ _ exFasta_presents exClu_presents
    (by unfold exRecsFa exRecsClu; decide_ascii) type gpo gpe tgpe fmt

/-- the records cut into two files (same residues in both, so that `ClassOK` holds without evaluating the
floating-point scores) against one file holding both; `hdef` is a statement about binary64 arithmetic (it evaluates to
`true` with `#eval`) and stays a hypothesis here -/
example (ver base date : Bytes) (type : Int) (gpo gpe tgpe : Float32) (fmt : Option String)
    (hdef : (finishMsa ([[recOf (ascii "a", [ascii "AC-GT"])], [recOf (ascii "b", [ascii "AC", ascii "G.T"])]].flatten) 2 255).biotype ≠ 2) :
    kalignFile ver base date ([emit ([] ++ faPres [(ascii "a", [ascii "AC-GT"])]),
        emit ([] ++ faPres [(ascii "b", [ascii "AC", ascii "G.T"])])].map some) type gpo gpe tgpe fmt =
    kalignFile ver base date ([emit ([] ++ faPres [(ascii "a", [ascii "ACGT"]), (ascii "b", [ascii "A-CGT"])])].map some)
      type gpo gpe tgpe fmt := by
  refine kalignFile_presentation_independent ver base date _ _
    [[recOf (ascii "a", [ascii "AC-GT"])], [recOf (ascii "b", [ascii "AC", ascii "G.T"])]]
    [[recOf (ascii "a", [ascii "ACGT"]), recOf (ascii "b", [ascii "A-CGT"])]] (cons_ne_nil _ _) (cons_ne_nil _ _)
    (.cons (Presents.fasta_plain [(ascii "a", [ascii "AC-GT"])] (by simp) (by decide_ascii) (by decide_ascii) (by decide_ascii) (by decide_ascii))
      (.cons (Presents.fasta_plain [(ascii "b", [ascii "AC", ascii "G.T"])] (by simp) (by decide_ascii) (by decide_ascii) (by decide_ascii) (by decide_ascii)) .nil))
    (.cons (Presents.fasta_plain [(ascii "a", [ascii "ACGT"]), (ascii "b", [ascii "A-CGT"])] (by simp) (by decide_ascii) (by decide_ascii) (by decide_ascii) (by decide_ascii)) .nil)
    ?_ ⟨trivial, trivial⟩ (by decide_ascii) hdef type gpo gpe tgpe fmt
  refine ⟨trivial, Or.inr ?_, trivial⟩
  simp only [IO.mergeStep]
  rw [finishMsa_biotype, finishMsa_biotype]
  rw [letterFreq_depends_on_residues _ [recOf (ascii "b", [ascii "AC", ascii "G.T"])] (by decide_ascii)]

/-- what a successful run wrote: the msa `m` the reading loop produced, the alignment `A` handed to the writer and the
format id `t` (1 FASTA, 2 MSF, 3 Clustal) -/
structure Wrote (ver base date : Bytes) (files : List (Option Bytes)) (fmt : Option String) (out : Bytes)
    (m : Msa) (A : Alignment) (t : Nat) : Prop where
  /-- no file is missing and `kalign_read_input` on the files in turn leaves `m` -/
  read : readFiles files = .ok m
  seqs : m.seqs = ((files.filterMap id).map fileRecs).flatten
  fmt : (t = 1 ∨ t = 2 ∨ t = 3) ∧ parseFormat (fmtBytes fmt) = some (t : Int)
  out : out = writeAs ver date t A
  inb : A.InBounds
  hdr : A.biotype = m.biotype ∧ (m.biotype = 0 ∨ m.biotype = 1) ∧ A.L = alnAlphabet (bioOfCode m.biotype) ∧
    A.basename = base

/-- `kalignFile_integrity` for the frame `kalignFileWith` with any run stage whose successful results satisfy `RunSpec`
(`runMsa`: `runMsa_spec`; `runMsaSoft2`: `runMsaSoft2_spec`) -/
theorem kalignFileWith_integrity {run : Msa → Except PipeErr (List (Name × GRow))}
    (hspec : ∀ m rows, run m = .ok rows → RunSpec m rows) {ver base date : Bytes} {files : List (Option Bytes)}
    {fmt : Option String} {out : Bytes} (h : kalignFileWith run ver base date files fmt = .ok out) :
    ∃ m A t, Wrote ver base date files fmt out m A t ∧
      A.rows.map (fun r => (r.name, r.row.filter (· ≠ 45))) = keptRecs m.seqs ∧
      (∀ r ∈ A.rows, ∀ b ∈ r.row, b = 45 ∨ isAlpha b = true) ∧
      (∀ r ∈ A.rows, r.row.length = A.alnlen) ∧ 2 ≤ A.rows.length := by
  obtain ⟨m, rows, t, hread, hrun, ht, hp, hin, hout⟩ := kalignFileWith_ok h
  obtain ⟨hseqs, hrec⟩ := readFiles_seqs files m hread
  have hsp := hspec m rows hrun
  have hkept := hsp.1
  have h2 := hsp.2.2.1
  have hbio := hsp.2.2.2
  have halpha : ∀ x ∈ rows, ∀ b ∈ (degap x.2).map charByte, isAlpha b = true := by
    intro x hx b hb
    obtain ⟨_, s0, hs0, he⟩ := mem_keptRecs (row_mem_kept hsp hx)
    simp only [Prod.mk.injEq] at he
    rw [he.2] at hb
    exact (hrec s0 hs0).1 b hb
  refine ⟨m, alignmentOf rows m.biotype base, t, ⟨hread, hseqs, ⟨ht, hp⟩, hout, hin, rfl, hbio, rfl, rfl⟩, ?_, ?_,
    alignmentOf_rows_length hsp _ _, by simpa [alignmentOf] using h2⟩
  · rw [← hkept]
    simp only [alignmentOf, map_map]
    apply map_congr_left
    intro x hx
    simp only [Function.comp, Prod.mk.injEq, true_and]
    apply filter_renderWith charByte 45
    intro c hc hc45
    have := halpha x hx (charByte c) (mem_map_of_mem hc)
    rw [hc45] at this
    exact absurd this (by decide)
  · intro r hr b hb
    simp only [alignmentOf, mem_map] at hr
    obtain ⟨x, hx, rfl⟩ := hr
    simp only [renderB, mem_map] at hb
    obtain ⟨o, ho, rfl⟩ := hb
    cases o with
    | none => exact Or.inl rfl
    | some c =>
      refine Or.inr (halpha x hx _ (mem_map_of_mem ?_))
      simp only [degap, mem_filterMap, id]
      exact ⟨some c, ho, rfl⟩

/-- C01 for the whole program, file API: if `run_kalign` succeeds, the alignment it
writes has exactly one row per non-empty record of the input files — the files in the order given, the records in the
order they appear — under the record's name; removing the gap characters from a row gives back the record's residues;
rows consist of letters and `'-'` only; all rows have the declared length `alnlen`; there are at least two rows. -/
theorem kalignFile_integrity {ver base date : Bytes} {files : List (Option Bytes)} {type : Int} {gpo gpe tgpe : Float32}
    {fmt : Option String} {out : Bytes} (h : kalignFile ver base date files type gpo gpe tgpe fmt = .ok out) :
    ∃ m A t, Wrote ver base date files fmt out m A t ∧
      A.rows.map (fun r => (r.name, r.row.filter (· ≠ 45))) = keptRecs m.seqs ∧
      (∀ r ∈ A.rows, ∀ b ∈ r.row, b = 45 ∨ isAlpha b = true) ∧
      (∀ r ∈ A.rows, r.row.length = A.alnlen) ∧ 2 ≤ A.rows.length :=
  kalignFileWith_integrity (fun _ _ hr => runMsa_spec hr) h

/-- the guard of `runMsa` on the gap vectors (the one place where the file path could leave the ground covered by the
stage models) never fires: a run never ends with `FileErr.run PipeErr.fault` because of it -/
theorem kalignFile_no_fault (files : List (Option Bytes)) (m : Msa) (h : readFiles files = .ok m) (type : Int)
    (gpo gpe tgpe : Float32) :
    runMsa m type gpo gpe tgpe =
      kalignRunWith (fun _ => bioOfCode m.biotype) true ((dealignStep m).seqs.map toInSeq) type gpo gpe tgpe := by
  unfold runMsa
  simp only [gapsClear_of_read files m h, Bool.not_true, Bool.false_eq_true, if_false, dealignStep_biotype]

/-- FASTA (`fasta_shape`): per row the header line `>name`, then the row cut into lines that are exactly 60 wide except
the last one, which is 1..60 wide -/
def FastaShape (A : Alignment) (out : Bytes) : Prop :=
  out = emit (A.rows.flatMap fun r => (62 :: r.name) :: faChunks A.alnlen r) ∧
  ∀ r ∈ A.rows,
    (faChunks A.alnlen r).flatten = r.row.take A.alnlen ∧
    (∀ c ∈ (faChunks A.alnlen r).dropLast, c.length = 60) ∧
    (∀ c ∈ faChunks A.alnlen r, 1 ≤ c.length ∧ c.length ≤ 60)

/-- `block_columns`: `max 1 ⌈alnlen/60⌉` blocks of at most 60 columns whose columns concatenate to the row
(`blockText A b` lists every sequence of `A` in order: Lemmas/IO/Range.lean) -/
def BlocksShape (A : Alignment) : Prop :=
  ∀ r ∈ A.rows,
    numBlocks A.alnlen = max 1 ((A.alnlen + 59) / 60) ∧
    (∀ b, (chunkOf (r.row.take A.alnlen) b).length ≤ 60) ∧
    ((List.range (numBlocks A.alnlen)).map (chunkOf (r.row.take A.alnlen))).flatten = r.row.take A.alnlen

/-- Clustal (`blocks_shape_clu`): title line, empty line, then the blocks, every block listing every sequence -/
def CluShape (ver : Bytes) (A : Alignment) (out : Bytes) : Prop :=
  out = emit ([ascii "Kalign (" ++ ver ++ ascii ") multiple sequence alignment", []] ++
    (List.range (numBlocks A.alnlen)).flatMap (blockText A)) ∧ BlocksShape A

/-- MSF (`blocks_shape_msf`, `msf_len`, `msf_checksums`, `msf_type`): header, then the blocks; the header declares the
true alignment length (in the `MSF:` field and in every `Len:` field), the true GCG checksum of every row and their sum
mod 10000, and the molecule type of the run -/
def MsfShape (date : Bytes) (A : Alignment) (out : Bytes) : Prop :=
  out = emit ([msfMagic A, [], msfInfoLine date A, []] ++ A.rows.map (msfNameLine (maxNameLen A) A.alnlen) ++
    [[], ascii "//", []] ++ (List.range (numBlocks A.alnlen)).flatMap (blockText A)) ∧
  BlocksShape A ∧
  (∃ rest, msfInfoLine date A = 32 :: A.basename ++ ascii "  MSF: " ++ decDigits A.alnlen ++ ascii "  Type: " ++ rest) ∧
  (∀ r ∈ A.rows, ∃ pre post, msfNameLine (maxNameLen A) A.alnlen r =
      pre ++ ascii "  Len:  " ++ padLeft 5 (decDigits A.alnlen) ++ ascii "  Check: " ++ post) ∧
  decValue (decDigits A.alnlen) = A.alnlen ∧
  (∀ r ∈ A.rows, ∃ pre, msfNameLine (maxNameLen A) A.alnlen r =
      pre ++ ascii "  Check: " ++ padLeft 4 (decDigits (gcgSum 0 r.row % 10000)) ++ ascii "  Weight: 1.00") ∧
  (∃ pre, msfInfoLine date A =
      pre ++ ascii "  Check: " ++ decDigits ((A.rows.map fun r => gcgSum 0 r.row % 10000).sum % 10000) ++ ascii "  ..") ∧
  ((A.biotype = 0 ∧ msfMagic A = ascii "!!AA_MULTIPLE_ALIGNMENT 1.0" ∧ msfTypeChar A = 80) ∨
   (A.biotype = 1 ∧ msfMagic A = ascii "!!NA_MULTIPLE_ALIGNMENT 1.0" ∧ msfTypeChar A = 78))

theorem blocksShape_of (A : Alignment) (hb : A.InBounds) : BlocksShape A :=
  fun r hr => block_columns A r hr hb

theorem shape_of_wrote {ver base date : Bytes} {files : List (Option Bytes)} {fmt : Option String} {out : Bytes} {m : Msa}
    {A : Alignment} {t : Nat} (w : Wrote ver base date files fmt out m A t) (hlen : ∀ r ∈ A.rows, r.row.length = A.alnlen) :
    (t = 1 → FastaShape A out) ∧ (t = 3 → CluShape ver A out) ∧ (t = 2 → MsfShape date A out) := by
  refine ⟨?_, ?_, ?_⟩
  · intro ht
    have ho := w.out
    rw [ht] at ho
    simp only [writeAs, if_true] at ho
    rw [ho]
    exact fasta_shape A
  · intro ht
    have ho := w.out
    rw [ht] at ho
    simp only [writeAs, show ¬ (3 = 1) by decide, show ¬ (3 = 2) by decide, if_false] at ho
    rw [ho]
    exact ⟨blocks_shape_clu ver A w.inb, blocksShape_of A w.inb⟩
  · intro ht
    have ho := w.out
    rw [ht] at ho
    simp only [writeAs, show ¬ (2 = 1) by decide, if_false, if_true] at ho
    rw [ho]
    obtain ⟨l1, l2, l3⟩ := msf_len_of_width date A
    obtain ⟨c1, c2⟩ := msf_checksums_of_width date A hlen
    obtain ⟨hb, hcls, hL, _⟩ := w.hdr
    refine ⟨blocks_shape_msf date A w.inb, blocksShape_of A w.inb, l1, l2, l3, c1, c2, ?_⟩
    rcases hcls with h0 | h1
    · exact Or.inl ⟨by rw [hb, h0], (msf_type A).1 (by rw [hb, h0])⟩
    · have hb1 : A.biotype = 1 := by rw [hb, h1]
      have hL13 : A.L ≠ 13 := by rw [hL, h1]; decide
      exact Or.inr ⟨hb1, (msf_type A).2 hb1 hL13⟩

theorem kalignFileWith_output_shape {run : Msa → Except PipeErr (List (Name × GRow))}
    (hspec : ∀ m rows, run m = .ok rows → RunSpec m rows) {ver base date : Bytes} {files : List (Option Bytes)}
    {fmt : Option String} {out : Bytes} (h : kalignFileWith run ver base date files fmt = .ok out) :
    ∃ m A t, Wrote ver base date files fmt out m A t ∧
      (t = 1 → FastaShape A out) ∧ (t = 3 → CluShape ver A out) ∧ (t = 2 → MsfShape date A out) := by
  obtain ⟨m, A, t, w, _, _, hlen, _⟩ := kalignFileWith_integrity hspec h
  exact ⟨m, A, t, w, shape_of_wrote w hlen⟩

/-- C15 for the whole program: every file `run_kalign` writes is well-formed for the
format selected by `--format`: FASTA wrapped at 60; Clustal / MSF with their header and blocks of at most 60 columns,
every sequence in every block; the MSF header with the true length, the true per-row GCG checksums and the type letter
of the run (`P` for a protein run, `N` for a nucleotide run).  `A` is the alignment of `kalignFile_integrity`. -/
theorem kalignFile_output_shape {ver base date : Bytes} {files : List (Option Bytes)} {type : Int} {gpo gpe tgpe : Float32}
    {fmt : Option String} {out : Bytes} (h : kalignFile ver base date files type gpo gpe tgpe fmt = .ok out) :
    ∃ m A t, Wrote ver base date files fmt out m A t ∧
      (t = 1 → FastaShape A out) ∧ (t = 3 → CluShape ver A out) ∧ (t = 2 → MsfShape date A out) :=
  kalignFileWith_output_shape (fun _ _ hr => runMsa_spec hr) h

/-- C06 for the whole program: reading the file `run_kalign` wrote with
`kalign_read_input` returns exactly the aligned sequences `S` that were written — `S` has the names and residues of the
non-empty input records in input order and gap vectors of one common width, and the written alignment is
`finalise_alignment` of `S` — with the format sniffed correctly and the alphabet/status recomputed from `S`.
Hypotheses besides the run: the decidable name well-formedness `AlnWF` requires, for the non-empty records of the
input (`hn`: 1..200 characters over `[A-Za-z0-9_.|-]`), and `FileOK` for version string, output base name and date. -/
theorem kalignFile_roundtrip {ver base date : Bytes} {files : List (Option Bytes)} {type : Int} {gpo gpe tgpe : Float32}
    {fmt : Option String} {out : Bytes} (ok : FileOK ver base date)
    (hn : ∀ m, readFiles files = .ok m → ∀ p ∈ keptRecs m.seqs, NameOK p.1)
    (h : kalignFile ver base date files type gpo gpe tgpe fmt = .ok out) :
    ∃ m S t, readFiles files = .ok m ∧ AlnWF S ∧ namesRes S = keptRecs m.seqs ∧
      out = writeAs ver date t (finalise S m.biotype (alnAlphabet (bioOfCode m.biotype)) base) ∧
      readInput out = .ok (finishMsa S 2 255) := by
  obtain ⟨m, rows, t, hread, hrun, _, _, _, hout⟩ :=
    kalignFileWith_ok (run := fun m => runMsa m type gpo gpe tgpe) h
  obtain ⟨_, hrec⟩ := readFiles_seqs files m hread
  have wf := alnWF_rows (runMsa_spec hrun) hrec (hn m hread)
  rw [alignmentOf_eq_finalise] at hout
  refine ⟨m, rows.map recOfRow, t, hread, wf, ?_, hout, ?_⟩
  · rw [← (runMsa_spec hrun).1]
    simp [namesRes, recOfRow, Function.comp_def]
  · rw [hout]
    exact roundtrip_any _ wf _ _ ver base date ok t

/-! `kalignFile … = .ok out` involves binary32 arithmetic, which the kernel cannot evaluate; on the input below
`#eval kalignFile (ascii "3.4.1") (ascii "out.msf") exDate [some exFasta] (-1) (-1) (-1) (-1) (some "msf")` returns
`.ok` (a 2-row MSF file; the same for "fasta" and "clu").  The remaining hypotheses are checked here. -/

def exDate : Bytes := ascii "September 27, 2026 12:00"

theorem exFasta_recs (m : Msa) (h : readFiles [some exFasta] = .ok m) : m.seqs = exRecsFa.map recOf := by
  have e : [some exFasta] = [exFasta].map some := rfl
  rw [e, readFiles_map_some] at h
  rw [exFasta_presents.readInputs_one, ReadResult.ok.injEq] at h
  rw [← h, finishMsa_seqs]

/-- the hypotheses `ok` and `hn` of `kalignFile_roundtrip` hold for the FASTA file `exFasta` (names `s1`, `a|b`) -/
example (type : Int) (gpo gpe tgpe : Float32) (fmt : Option String) (out : Bytes)
    (h : kalignFile (ascii "3.4.1") (ascii "out.msf") exDate [some exFasta] type gpo gpe tgpe fmt = .ok out) :
    ∃ m S t, readFiles [some exFasta] = .ok m ∧ AlnWF S ∧ namesRes S = keptRecs m.seqs ∧
      out = writeAs (ascii "3.4.1") exDate t (finalise S m.biotype (alnAlphabet (bioOfCode m.biotype)) (ascii "out.msf")) ∧
      readInput out = .ok (finishMsa S 2 255) :=
  kalignFile_roundtrip (by unfold exDate; decide_ascii) (by
    intro m hm p hp
    rw [exFasta_recs m hm] at hp
    revert p
    unfold exRecsFa
    decide_ascii) h

/-- on that input the records `kalignFile_integrity` speaks about are the two records of the file -/
example (m : Msa) (h : readFiles [some exFasta] = .ok m) :
    keptRecs m.seqs = [(ascii "s1", ascii "ACGT"), (ascii "a|b", ascii "AGTT")] := by
  rw [exFasta_recs m h]; unfold exRecsFa; decide_ascii

/-! C10 along `recursive_aln` of the composed pipeline.
`Pipeline.recAln` returns every completed node as a value, so "node `v`'s alignment when it was completed" is the value
`V` of the call that completed it (`nodeVal … fuel' x' = .ok V`), and "the final alignment" is the value `R` of a call
above it in the call tree (`Calls`, Lemmas/NoFaultRec.lean; for the whole run `R` is the root:
`recAln_eq_nodeVal`).  The proof follows one path of the call tree with the three steps `woven_refl`, `woven_left`, `woven_right` of
Lemmas/Progressive.lean — the steps that give `C10_subalignment_preserved` along `Tree.Sub`; that theorem itself speaks about `alignTree` for an
aligner that is a function of the two groups, which `do_align` (profiles, flags) is not. -/

theorem nodeVal_ok (ap : AlnParam Float32) (tasks : Array (Nat × Nat × Nat)) (codes : Array (List Nat)) (n fuel x : Nat)
    (N : Node) (h : nodeVal ap tasks codes n fuel x = .ok N) : NodeOK (fun j => codes.getD j []) N.group N.len :=
  childOfC_groupOK ap tasks codes n fuel x N.toC (ok_of_map_toNode ((nodeVal_toC ap tasks codes n fuel x).symm.trans h))

theorem recAln_members_woven (ap : AlnParam Float32) (tasks : Array (Nat × Nat × Nat)) (codes : Array (List Nat)) (n : Nat)
    {p q : Nat × Nat} (hc : Calls tasks n p q) (R V : Node)
    (hR : nodeVal ap tasks codes n p.1 p.2 = .ok R) (hV : nodeVal ap tasks codes n q.1 q.2 = .ok V) :
    ∃ f, Woven V.group R.group f := by
  induction hc generalizing R with
  | refl p =>
    rw [hR] at hV
    cases hV
    exact ⟨id, woven_refl (nodeVal_ok ap tasks codes n _ _ V hR).1⟩
  | @left fuel x a b c q hx ht _ ih =>
    obtain ⟨A, B, hA, hB, hm⟩ := nodeVal_succ hx ht hR
    have okA := nodeVal_ok ap tasks codes n _ _ A hA
    have okB := nodeVal_ok ap tasks codes n _ _ B hB
    obtain ⟨cs, hg, hv, hp⟩ := mergeNodes_shape _ okA okB hm
    obtain ⟨f, w⟩ := ih A hA hV
    exact ⟨_, hg ▸ woven_left okA.1 hv (hg ▸ hp) w⟩
  | @right fuel x a b c q hx ht _ ih =>
    obtain ⟨A, B, hA, hB, hm⟩ := nodeVal_succ hx ht hR
    have okA := nodeVal_ok ap tasks codes n _ _ A hA
    have okB := nodeVal_ok ap tasks codes n _ _ B hB
    obtain ⟨cs, hg, hv, hp⟩ := mergeNodes_shape _ okA okB hm
    obtain ⟨f, w⟩ := ih B hB hV
    exact ⟨_, hg ▸ woven_right okB.1 hv (hg ▸ hp) w⟩

theorem recAln_eq_nodeVal (ap : AlnParam Float32) (tasks : Array (Nat × Nat × Nat)) (codes : Array (List Nat))
    (n fuel k : Nat) : recAln ap tasks codes n fuel k = nodeVal ap tasks codes n fuel (k + n) :=
  (nodeVal_add ap tasks codes n fuel k).symm

/-- C10 for `recAln`: let `V` be a node completed during the evaluation of node `R`.  Every member
of `V` is a member of `R` (`f m`: same input index, same residues), and the rows of these members in `R`, with the
columns that are gaps in all of them removed, are exactly the rows `V` had when it was completed: later merges only
insert all-gap columns into a finished sub-alignment.  No hypothesis besides the two successful calls. -/
theorem recAln_subalignment_preserved (ap : AlnParam Float32) (tasks : Array (Nat × Nat × Nat)) (codes : Array (List Nat))
    (n : Nat) {fuel x fuel' x' : Nat} (hc : Calls tasks n (fuel, x) (fuel', x')) (R V : Node)
    (hR : nodeVal ap tasks codes n fuel x = .ok R) (hV : nodeVal ap tasks codes n fuel' x' = .ok V) :
    ∃ f : Member Nat → Member Nat,
      (∀ m ∈ V.group, f m ∈ R.group ∧ (f m).idx = m.idx ∧ (f m).seq.res = m.seq.res) ∧
      dropAllGapCols (V.group.map fun m => (f m).seq.row) R.group.plen = V.group.map (·.seq.row) := by
  obtain ⟨f, w⟩ := recAln_members_woven ap tasks codes n hc R V hR hV
  exact ⟨f, fun m hm => ⟨w.mem m hm, w.idx m hm, w.res m hm⟩, w.rows⟩

/-- `recAln_subalignment_finalRow` up to `hnd`: the literal form of `C10_subalignment_preserved`, rows looked up by input
index.  `finalRow` finds the first member with a given index, so the statement needs the member indices of `R` to be pairwise
distinct (`hnd`).  For the task tables `buildTasks` produces this holds (every leaf is visited once): `hnd` is discharged in
Props/C10Pipeline.lean (`recAln_subalignment_finalRow`). -/
theorem recAln_subalignment_finalRow_partial (ap : AlnParam Float32) (tasks : Array (Nat × Nat × Nat))
    (codes : Array (List Nat)) (n : Nat) {fuel x fuel' x' : Nat} (hc : Calls tasks n (fuel, x) (fuel', x')) (R V : Node)
    (hR : nodeVal ap tasks codes n fuel x = .ok R) (hV : nodeVal ap tasks codes n fuel' x' = .ok V)
    (hnd : (R.group.map (·.idx)).Nodup) :
    dropAllGapCols (V.group.map fun m => (finalRow R.group m.idx).getD []) R.group.plen = V.group.map (·.seq.row) := by
  obtain ⟨f, w⟩ := recAln_members_woven ap tasks codes n hc R V hR hV
  rw [woven_finalRow w hnd]
  exact w.rows

/-- non-vacuity of `Calls`: in the task table of three sequences `[(0, 1, 3), (3, 2, 4)]` (node 3 = merge of the leaves
0 and 1, node 4 = merge of node 3 and leaf 2) the evaluation of the root 4 evaluates node 3, leaf 2 and leaf 0 -/
example : Calls #[(0, 1, 3), (3, 2, 4)] 3 (2, 4) (1, 3) ∧ Calls #[(0, 1, 3), (3, 2, 4)] 3 (2, 4) (1, 2) ∧
    Calls #[(0, 1, 3), (3, 2, 4)] 3 (2, 4) (0, 0) :=
  ⟨.left (a := 3) (b := 2) (c := 4) (by decide) (by decide) (.refl _),
   .right (a := 3) (b := 2) (c := 4) (by decide) (by decide) (.refl _),
   .left (a := 3) (b := 2) (c := 4) (by decide) (by decide)
     (.left (a := 0) (b := 1) (c := 3) (by decide) (by decide) (.refl _))⟩

/-- the leaves are completed nodes too: their value needs no arithmetic -/
example (ap : AlnParam Float32) :
    nodeVal ap #[(0, 1, 3), (3, 2, 4)] #[[0, 1], [1], [2, 2]] 3 1 2 = .ok (leafNode #[[0, 1], [1], [2, 2]] 2) := rfl

end Kalign.PipelineFile

import KalignModel.Lemmas.Dist
import KalignModel.Lemmas.Bpm256Lanes
import KalignModel.Lemmas.BpmWord
/-!
# C11 — the bit-parallel edit distance routines compute the minimum over substrings of the Levenshtein distance

"For every text and every pattern not longer than the text over the 13-symbol alphabet, the blocked bit-parallel
routine returns the minimum, over all substrings of the text, of the edit distance to the pattern (its first 1024
symbols), and the 64-bit and 256-bit single-word variants return the same value wherever they apply (patterns up to
63 / 255 symbols)."

Models (Model/Bpm.lean): `bpmBlock` = `bpm_block`, `bpm64` = `bpm`, `bpm256` = `bpm_256` (AVX2 lanes, `add256`,
`bitShiftLeft256ymm`), tied to the C code by the correspondence ops `bpm_block`, `bpm`, `bpm_256`, `sellers`, ….
Specification: `lev` (Levenshtein distance), `levSub p t` = minimum of `lev p s` over the substrings `s` of `t`.

The theorems do not need the hypothesis "pattern not longer than the text".
-/
namespace Kalign

theorem C11_levSub_spec (p t : List Nat) :
    (∀ s, s <:+: t → levSub p t ≤ lev p s) ∧ ∃ s, s <:+: t ∧ levSub p t = lev p s :=
  levSub_isMin p t

theorem C11_sellers_spec (p t : List Nat) : sellers p t = levSub p t := sellers_spec p t

theorem C11_cell_rule (init : Nat → Nat) (eq : Nat → Nat → Bool) (j i : Nat) :
    dV init eq (j + 1) i = cellV (dV init eq j i) (dH init eq j i) (eq i j) ∧
    dH init eq j (i + 1) = cellH (dV init eq j i) (dH init eq j i) (eq i j) :=
  cell_rule init eq j i

/-- one 64-bit block step of the C formulas (the delta encoding of a column includes `Pv &&& Mv = 0`) -/
theorem C11_block_step (Pv Mv Eq : BitVec 64) (hIn : Int) (v : Nat → Int) (e : Nat → Bool)
    (hEnc : Enc Pv Mv v) (hE : ∀ i, i < 64 → Eq.getLsbD i = e i) (hh : hIn = -1 ∨ hIn = 0 ∨ hIn = 1) :
    Enc (advanceBlock Pv Mv Eq hIn).1 (advanceBlock Pv Mv Eq hIn).2.1 (refV v e hIn) ∧
    (advanceBlock Pv Mv Eq hIn).2.2 = refH v e hIn 64 :=
  block_step Pv Mv Eq hIn v e (by omega) hEnc hE hh

theorem C11_enc_disjoint {w : Nat} (P M : BitVec w) (v : Nat → Int) (h : Enc P M v) : P &&& M = 0#w := by
  apply BitVec.eq_of_getLsbD_eq
  intro i hi
  obtain ⟨ht, hP, hM⟩ := h i hi
  rw [BitVec.getLsbD_and, hP, hM]
  rcases ht with h | h | h <;> simp [h]

/-- `bpm_block`: composition over the blocks, wildcard padding of the last block, `W` extra text columns; the
Ukkonen band is inactive (`y` starts at `b_max - 1`, cannot grow, and is proved never to shrink) -/
theorem C11_bpm_block_correct (t p : List Nat) (ht : ∀ c ∈ t, c < 13) :
    bpmBlock t p = some ((levSub (p.take 1024) t : Nat) : Int) := by
  rw [bpmBlock_eq_sellers t p ht, sellers_spec]

/-- `bpm` (one 64-bit word) for non-empty patterns (it uses the first 63 symbols) -/
theorem C11_bpm64_correct (t p : List Nat) (hp0 : p ≠ []) (ht : ∀ c ∈ t, c < 13) (hp : ∀ c ∈ p, c < 13) :
    bpm64 t p = some (levSub (p.take 63) t) := by
  rw [bpm64_eq_sellers t p hp0 ht hp, sellers_spec]

/-- `bpm_256` (AVX2 lane emulation; it uses the first 255 symbols) -/
theorem C11_bpm256_correct (t p : List Nat) (ht : ∀ c ∈ t, c < 13) (hp : ∀ c ∈ p, c < 13) :
    bpm256 t p = some (levSub (p.take 255) t) := by
  rw [bpm256_eq_sellers t p ht hp, sellers_spec]

theorem C11_add256 (A B : V256) : (add256 0 A B).toBV = A.toBV + B.toBV := toBV_add256 A B
theorem C11_shl256 (a : V256) (c : Nat) (hc : c ≤ 64) : (shl256 a c).toBV = a.toBV <<< c := toBV_shl256 a c hc

theorem C11 (t p : List Nat) (ht : ∀ c ∈ t, c < 13) (hp : ∀ c ∈ p, c < 13) :
    -- the blocked routine returns the minimum over the substrings of the text of the distance to the first 1024 symbols
    (∃ r : Nat, bpmBlock t p = some (r : Int) ∧
      (∀ s, s <:+: t → r ≤ lev (p.take 1024) s) ∧ (∃ s, s <:+: t ∧ r = lev (p.take 1024) s)) ∧
    -- the single-word variants agree with it where they apply
    (1 ≤ p.length → p.length ≤ 63 → (bpm64 t p).map (fun r => (r : Int)) = bpmBlock t p) ∧
    (p.length ≤ 255 → (bpm256 t p).map (fun r => (r : Int)) = bpmBlock t p) := by
  refine ⟨⟨levSub (p.take 1024) t, C11_bpm_block_correct t p ht, (levSub_isMin _ _).1, (levSub_isMin _ _).2⟩, ?_, ?_⟩
  · intro h1 h63
    have hp0 : p ≠ [] := by intro h; rw [h] at h1; simp at h1
    rw [C11_bpm64_correct t p hp0 ht hp, C11_bpm_block_correct t p ht,
      List.take_of_length_le (by omega : p.length ≤ 63), List.take_of_length_le (by omega : p.length ≤ 1024)]
    rfl
  · intro h255
    rw [C11_bpm256_correct t p ht hp, C11_bpm_block_correct t p ht,
      List.take_of_length_le h255, List.take_of_length_le (by omega : p.length ≤ 1024)]
    rfl

/-- non-vacuity: the hypotheses only ask for symbols of the 13-letter alphabet -/
example : ∃ r : Nat, bpmBlock [0, 1, 2, 3, 1, 2] [1, 2, 0] = some (r : Int) ∧
    (∀ s, s <:+: [0, 1, 2, 3, 1, 2] → r ≤ lev (List.take 1024 [1, 2, 0]) s) :=
  let ⟨r, h1, h2, _⟩ := (C11 [0, 1, 2, 3, 1, 2] [1, 2, 0] (by decide) (by decide)).1
  ⟨r, h1, h2⟩

/-- the specification side is the edit distance one expects (so `C11` is not a statement about a degenerate `lev`) -/
theorem C11_lev_sane {α : Type} [DecidableEq α] (a b : List α) :
    lev a b = lev b a ∧ (lev a b = 0 ↔ a = b) ∧
    a.length - b.length ≤ lev a b ∧ b.length - a.length ≤ lev a b ∧ lev a b ≤ max a.length b.length :=
  ⟨lev_symm a b, ⟨lev_eq_zero a b, fun h => h ▸ lev_self a⟩, by have := lev_bounds a b; omega⟩

end Kalign

import KalignModel.Props.C07Prof
/-!
# C07, groups of identical copies on the exact carrier — the theorems on concrete operands (non-vacuity)

The instance of `Props/C07Prof.lean` (`exProf2`, two copies of (0,1,2), against (0,2)): the slots the kernels read (`C07_profile_of_copies`),
the codes `dpCodes` returns from the sequence–profile and profile–profile kernels (`C07_doAlign_profile_seq_opt`, `_profile_profile_opt` with
`dpCodes_of_cols`), and `dpCodes` against `doAlign` (evaluated by the kernel).
-/
namespace Kalign

/-- what the kernels read from `exProf2` after `set_gap_penalties_n(·, 1)`: column 2 (residue 1) -/
example : (pget (setGapPenalties exProf2 1) 2 1, pget (setGapPenalties exProf2 1) 2 27,
    pget (setGapPenalties exProf2 1) 2 28, pget (setGapPenalties exProf2 1) 2 29,
    pget (setGapPenalties exProf2 1) 2 (32 + 1), pget (setGapPenalties exProf2 1) 2 (32 + 0)) =
    (some 4000, some (-2000), some (-1000), some (-400), some 20000, some (-16000)) := by
  have h := C07_profile_of_copies exP2 1000 500 200 exS exP2_ok #[0, 1, 2] (getD_lt_of_all _ (by decide +kernel)) exProf2 2 1
    exProf2_built
  rw [h.cnt 1 (by decide) 1 (by decide), h.g27 2 (by decide), h.g28 2 (by decide), h.g29 2 (by decide),
    h.subE 1 (by decide) 1 (by decide), h.subE 1 (by decide) 0 (by decide)]
  decide

/-- where `C07_doAlign_profile_seq_opt` applies (`exProf2_opt`), this is what the model computes, for the
sequence–profile and (with a second group of two copies of `b`) for the profile–profile kernels -/
example : dpCodes .parallel exP2 (.seqprof (setGapPenalties exProf2 1) #[0, 2] 2) false 3 2 3 2 = some [0, 2, 0] :=
  dpCodes_of_cols exProf2_opt

theorem exS_symm (x y : Nat) : exS x y = exS y x := by
  unfold exS
  simp only [and_comm, eq_comm]

example :
    let pb := (updateN exP2 (makeProfile exP2 #[0, 2]) (makeProfile exP2 #[0, 2]) [0, 0] 1 1).getD #[]
    dpCodes .serial exP2 (.profprof (setGapPenalties pb 2) (setGapPenalties exProf2 2)) true 2 3 3 2 =
      some [0, 2, 0] := by
  have h := C07_doAlign_profile_profile_opt .serial exP2 1000 500 200 exS exP2_ok (by decide) (by decide) (by decide) exS_symm
    #[0, 1, 2] #[0, 2] (getD_lt_of_all _ (by decide +kernel)) (getD_lt_of_all _ (by decide +kernel)) (by decide) (by decide)
    exProf2 _ 2 2 (by decide) (by decide) exProf2_built
    (built_pair exP2 #[0, 2])
    [.both, .gapB, .both] ⟨by decide, by decide, by decide⟩ (by decide) (MarginK.of_enum (by decide +kernel))
  rw [if_neg (by decide)] at h
  exact dpCodes_of_cols h

/-- `dpCodes` is literally what `do_align` computes: a concrete call (two single sequences, `len_a ≥ len_b`, swapped) -/
example :
    (doAlign .parallel exP2 (AlnState.init #[#[0, 1, 2], #[0, 2]]) 0 1 2 true).map (·.2.codes) =
      dpCodes .parallel exP2 (.seqseq #[0, 2] #[0, 1, 2]) true 2 3 3 2 := by
  decide +kernel

end Kalign

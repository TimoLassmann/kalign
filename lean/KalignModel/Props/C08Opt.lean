import KalignModel.Props.C07Opt
import KalignModel.Props.C08
import KalignModel.Lemmas.DiagOpt
import KalignModel.Props.C07Prof
import KalignModel.Props.C09
import KalignModel.Lemmas.ExactParam
/-!
# C08 on top of C07 — a sequence aligned with itself comes back as the gap-free diagonal

`C08_identical_pair_diag`: exact carrier, finite non-negative parameters, a non-empty sequence `seq` such that for all its
residues `x`, `y`

    sub x x + 2·c  >  max(0, tgpe−gpe, tgpe−gpo) + max(0, gpe−tgpe) + |seq|        (c = min(2·gpo, gpe, tgpe))
    2·sub x y ≤ sub x x + sub y y

(all in units of 1/2000; `|seq|` bounds the tie-break term of one meetup).  Then the controller on `(seq, seq)` returns
exactly `|seq|` aligned columns.  `c` is what the reference score charges at least per gap column: an internal run of `L`
columns costs `2·gpo + (L−1)·gpe ≥ L·min(2·gpo, gpe)`; it is `min(gpe, tgpe)` whenever `gpe ≤ 2·gpo`
(`C08_identical_pair_diag'`), which holds for every generated default.  Under the same condition, and a symmetric matrix where
`do_align` exchanges the operands, its DP part (`dpCodes`) on `k` copies against `m` copies of `seq` returns the diagonal
(`C08_identical_groups_diag`, `C08_identical_seq_group_diag`, `C08_identical_group_seq_diag`).
-/
namespace Kalign

theorem C08_identical_pair_diag (entry : Entry) (ap : AlnParam ExactScore) (gpo gpe tgpe : Int) (s : Nat → Nat → Int)
    (hap : ApOK ap gpo gpe tgpe s) (hgpo : 0 ≤ gpo) (hgpe : 0 ≤ gpe) (htgpe : 0 ≤ tgpe)
    (seq : Array Nat) (h1 : 1 ≤ seq.size)
    (hd : ∀ x ∈ seq.toList,
      max 0 (max (tgpe - gpe) (tgpe - gpo)) + max 0 (gpe - tgpe) + (seq.size : Int) <
        s x x + 2 * min (min (2 * gpo) gpe) tgpe)
    (h2 : ∀ x ∈ seq.toList, ∀ y ∈ seq.toList, 2 * s x y ≤ s x x + s y y) :
    let r := alnRun entry ap (.seqseq seq seq) seq.size seq.size (initMem seq.size seq.size)
    r.fault = false ∧
      ∃ codes, expandPath seq.size (r.pathEntries seq.size) = some codes ∧
        codes.map Col.ofCode = List.replicate seq.size .both :=
  C07_alnRun_opt entry ap gpo gpe tgpe s hap hgpo hgpe htgpe seq seq h1 h1 (diagCols seq.size) (validCols_diag _)
    (adjOK_diag _ _) ((MarginK.one_iff rfl).1 (diag_marginK gpo gpe tgpe s seq 1 seq.size (Nat.le_refl 1) hd h2))

/-- the same with `c = min(gpe, tgpe)`, when `gpe ≤ 2·gpo` -/
theorem C08_identical_pair_diag' (entry : Entry) (ap : AlnParam ExactScore) (gpo gpe tgpe : Int) (s : Nat → Nat → Int)
    (hap : ApOK ap gpo gpe tgpe s) (hgpo : 0 ≤ gpo) (hgpe : 0 ≤ gpe) (htgpe : 0 ≤ tgpe) (hge : gpe ≤ 2 * gpo)
    (seq : Array Nat) (h1 : 1 ≤ seq.size)
    (hd : ∀ x ∈ seq.toList,
      max 0 (max (tgpe - gpe) (tgpe - gpo)) + max 0 (gpe - tgpe) + (seq.size : Int) < s x x + 2 * min gpe tgpe)
    (h2 : ∀ x ∈ seq.toList, ∀ y ∈ seq.toList, 2 * s x y ≤ s x x + s y y) :
    let r := alnRun entry ap (.seqseq seq seq) seq.size seq.size (initMem seq.size seq.size)
    r.fault = false ∧
      ∃ codes, expandPath seq.size (r.pathEntries seq.size) = some codes ∧
        codes.map Col.ofCode = List.replicate seq.size .both := by
  have e : min (min (2 * gpo) gpe) tgpe = min gpe tgpe := by omega
  refine C08_identical_pair_diag entry ap gpo gpe tgpe s hap hgpo hgpe htgpe seq h1 ?_ h2
  rw [e]
  exact hd

/-! ## rows of the generated tables on the exact carrier (`exactParam`, `exactSub`: Lemmas/ExactParam.lean; table values are ×1000, the carrier counts 1/2000) -/

def diagCond (m : List (List Int)) (gpo gpe tgpe : Int) (seq : List Nat) : Bool :=
  seq.all fun x =>
    decide (max 0 (max (2 * tgpe - 2 * gpe) (2 * tgpe - 2 * gpo)) + max 0 (2 * gpe - 2 * tgpe) + (seq.length : Int) <
      exactSub m x x + 2 * min (2 * gpe) (2 * tgpe)) &&
    seq.all fun y => decide (2 * exactSub m x y ≤ exactSub m x x + exactSub m y y)

/-- **for a row of the generated table**: if the check `diagCond` passes for the sequence, the controller with the exact
parameters of that row returns the diagonal -/
theorem C08_identical_pair_diag_table (entry : Entry) (m : List (List Int)) (gpo gpe tgpe : Int)
    (hgpo : 0 ≤ gpo) (hgpe : 0 ≤ gpe) (htgpe : 0 ≤ tgpe) (hge : gpe ≤ 2 * gpo)
    (seq : Array Nat) (h1 : 1 ≤ seq.size) (hc : diagCond m gpo gpe tgpe seq.toList = true) :
    let r := alnRun entry (exactParam m gpo gpe tgpe) (.seqseq seq seq) seq.size seq.size (initMem seq.size seq.size)
    r.fault = false ∧
      ∃ codes, expandPath seq.size (r.pathEntries seq.size) = some codes ∧
        codes.map Col.ofCode = List.replicate seq.size .both := by
  unfold diagCond at hc
  simp only [List.all_eq_true, Bool.and_eq_true, decide_eq_true_eq, Array.length_toList] at hc
  exact C08_identical_pair_diag' entry _ (2 * gpo) (2 * gpe) (2 * tgpe) (exactSub m) (exactParam_ok m gpo gpe tgpe)
    (by omega) (by omega) (by omega) (by omega) seq h1 (fun x hx => (hc x hx).1) (fun x hx y hy => (hc x hx).2 y hy)

/-- protein defaults (`Gen.paramTable`, biotype 0, type −1: matrix 0, gpo 5.5, gpe 2.0, tgpe 1.0) -/
example : ∃ r ∈ Gen.paramTable, r.ok = true ∧ r.biotype = 0 ∧ r.gpo = 5500 ∧ r.gpe = 2000 ∧ r.tgpe = 1000 ∧
    Gen.matrices.getD r.mat [] = Gen.mat0 :=
  ⟨_, List.mem_cons_self, rfl, rfl, rfl, rfl, rfl, rfl⟩

/-- the check passes for a sequence over the twenty amino-acid codes … -/
example : diagCond Gen.mat0 5500 2000 1000 [0, 4, 7, 17, 19, 3, 3, 12] = true := by decide +kernel
/-- … so the theorem applies, and this is what the model computes -/
example :
    let r := alnRun .parallel (exactParam Gen.mat0 5500 2000 1000) (.seqseq #[0, 4, 7, 17, 19, 3, 3, 12]
      #[0, 4, 7, 17, 19, 3, 3, 12]) 8 8 (initMem 8 8)
    r.fault = false ∧ (expandPath 8 (r.pathEntries 8)).map (·.map Col.ofCode) = some (List.replicate 8 .both) := by
  decide +kernel

/-- every standard residue code (0..19) of the protein defaults leaves a margin of 10000 − |seq| (units 1/2000):
sequences of up to 9999 standard residues are covered -/
example : (List.range 20).all (fun x =>
    decide (max 0 (max (2 * 1000 - 2 * 2000) (2 * 1000 - 2 * 5500)) + max 0 (2 * 2000 - 2 * 1000) + 9999 <
      exactSub Gen.mat0 x x + 2 * min (2 * 2000) (2 * 1000)) &&
    (List.range 20).all fun y => decide (2 * exactSub Gen.mat0 x y ≤ exactSub Gen.mat0 x x + exactSub Gen.mat0 y y)) = true := by
  decide +kernel

/-- the wildcard code 22 has self-score −1.0: the safe margin is 0 and the hypothesis fails for every sequence that
contains it (the theorem is silent there, it does not say the diagonal is lost) -/
example : diagCond Gen.mat0 5500 2000 1000 [0, 22] = false := by decide +kernel
example : exactSub Gen.mat0 22 22 = -2000 := by decide +kernel

/-- **`k` copies against `m` copies of the same sequence** (profile – profile; equal lengths, so `do_align` exchanges the
operands and mirrors the path): the result is the gap-free diagonal -/
theorem C08_identical_groups_diag (entry : Entry) (ap : AlnParam ExactScore) (gpo gpe tgpe : Int) (s : Nat → Nat → Int)
    (hap : ApOK ap gpo gpe tgpe s) (hgpo : 0 ≤ gpo) (hgpe : 0 ≤ gpe) (htgpe : 0 ≤ tgpe) (hsym : ∀ x y, s x y = s y x)
    (seq : Array Nat) (h23 : ∀ i, seq.getD i 0 < 23) (h1 : 1 ≤ seq.size)
    (pa pb : Array ExactScore) (k m : Nat) (hk : 1 ≤ k) (hm : 1 ≤ m) (hpa : Built ap seq pa k) (hpb : Built ap seq pb m)
    (hd : ∀ x ∈ seq.toList,
      max 0 (max (tgpe - gpe) (tgpe - gpo)) + max 0 (gpe - tgpe) + (seq.size : Int) <
        s x x + 2 * min (min (2 * gpo) gpe) tgpe)
    (h2 : ∀ x ∈ seq.toList, ∀ y ∈ seq.toList, 2 * s x y ≤ s x x + s y y) :
    ∃ codes, dpCodes entry ap (.profprof (setGapPenalties pb k) (setGapPenalties pa m)) true seq.size seq.size
        seq.size seq.size = some codes ∧ codes.map Col.ofCode = List.replicate seq.size .both := by
  have hmarg : MarginK s gpo gpe tgpe seq seq (diagCols seq.size) (k * m) (max seq.size seq.size) := by
    rw [Nat.max_self]
    exact diag_marginK gpo gpe tgpe s seq (k * m) seq.size (Nat.mul_pos hk hm) hd h2
  have := C07_doAlign_profile_profile_opt entry ap gpo gpe tgpe s hap hgpo hgpe htgpe hsym seq seq h23 h23 h1 h1 pa pb
    k m hk hm hpa hpb (diagCols seq.size) (validCols_diag _) (adjOK_diag _ _) hmarg
  rw [if_neg (Nat.lt_irrefl _)] at this
  exact this

/-- **one sequence against `k` copies of itself** (sequence – profile, group on side `b`) -/
theorem C08_identical_seq_group_diag (entry : Entry) (ap : AlnParam ExactScore) (gpo gpe tgpe : Int) (s : Nat → Nat → Int)
    (hap : ApOK ap gpo gpe tgpe s) (hgpo : 0 ≤ gpo) (hgpe : 0 ≤ gpe) (htgpe : 0 ≤ tgpe) (hsym : ∀ x y, s x y = s y x)
    (seq : Array Nat) (h23 : ∀ i, seq.getD i 0 < 23) (h1 : 1 ≤ seq.size)
    (pb : Array ExactScore) (k : Nat) (hk : 1 ≤ k) (hpb : Built ap seq pb k)
    (hd : ∀ x ∈ seq.toList,
      max 0 (max (tgpe - gpe) (tgpe - gpo)) + max 0 (gpe - tgpe) + (seq.size : Int) <
        s x x + 2 * min (min (2 * gpo) gpe) tgpe)
    (h2 : ∀ x ∈ seq.toList, ∀ y ∈ seq.toList, 2 * s x y ≤ s x x + s y y) :
    ∃ codes, dpCodes entry ap (.seqprof (setGapPenalties pb 1) seq k) true seq.size seq.size seq.size seq.size =
        some codes ∧ codes.map Col.ofCode = List.replicate seq.size .both :=
  C07_doAlign_seq_profile_opt entry ap gpo gpe tgpe s hap hgpo hgpe htgpe hsym seq seq h23 h23 h1 h1 pb k hpb
    (diagCols seq.size) (validCols_diag _) (adjOK_diag _ _)
    (diag_marginK gpo gpe tgpe s seq k seq.size hk hd h2)

/-- **`k` copies against one sequence** (group on side `a`) -/
theorem C08_identical_group_seq_diag (entry : Entry) (ap : AlnParam ExactScore) (gpo gpe tgpe : Int) (s : Nat → Nat → Int)
    (hap : ApOK ap gpo gpe tgpe s) (hgpo : 0 ≤ gpo) (hgpe : 0 ≤ gpe) (htgpe : 0 ≤ tgpe)
    (seq : Array Nat) (h23 : ∀ i, seq.getD i 0 < 23) (h1 : 1 ≤ seq.size)
    (pa : Array ExactScore) (k : Nat) (hk : 1 ≤ k) (hpa : Built ap seq pa k)
    (hd : ∀ x ∈ seq.toList,
      max 0 (max (tgpe - gpe) (tgpe - gpo)) + max 0 (gpe - tgpe) + (seq.size : Int) <
        s x x + 2 * min (min (2 * gpo) gpe) tgpe)
    (h2 : ∀ x ∈ seq.toList, ∀ y ∈ seq.toList, 2 * s x y ≤ s x x + s y y) :
    ∃ codes, dpCodes entry ap (.seqprof (setGapPenalties pa 1) seq k) false seq.size seq.size seq.size seq.size =
        some codes ∧ codes.map Col.ofCode = List.replicate seq.size .both :=
  C07_doAlign_profile_seq_opt entry ap gpo gpe tgpe s hap hgpo hgpe htgpe seq seq h23 h23 h1 h1 pa k hpa
    (diagCols seq.size) (validCols_diag _) (adjOK_diag _ _)
    (diag_marginK gpo gpe tgpe s seq k seq.size hk hd h2)

theorem exactSub_symm_of_mem (m : List (List Int)) (hm : m ∈ Gen.matrices) : ∀ x y, exactSub m x y = exactSub m y x :=
  exactSub_symm m fun x hx y hy => C09_matrices_symmetric m hm x (List.mem_range.2 hx) y (List.mem_range.2 hy)

theorem mat0_symm : ∀ x y, exactSub Gen.mat0 x y = exactSub Gen.mat0 y x :=
  exactSub_symm_of_mem Gen.mat0 (by simp [Gen.matrices])

/-- two copies of the sequence (0,4,7,17) under the protein defaults, built by one diagonal `update_n` -/
def exGroup2 : Array ExactScore :=
  (updateN (exactParam Gen.mat0 5500 2000 1000) (makeProfile (exactParam Gen.mat0 5500 2000 1000) #[0, 4, 7, 17])
    (makeProfile (exactParam Gen.mat0 5500 2000 1000) #[0, 4, 7, 17]) [0, 0, 0, 0] 1 1).getD #[]

theorem exGroup2_built : Built (exactParam Gen.mat0 5500 2000 1000) #[0, 4, 7, 17] exGroup2 2 :=
  built_pair _ #[0, 4, 7, 17]

theorem exGroup2_diag : ∃ codes, dpCodes .parallel (exactParam Gen.mat0 5500 2000 1000)
      (.profprof (setGapPenalties exGroup2 2) (setGapPenalties exGroup2 2)) true 4 4 4 4 = some codes ∧
    codes.map Col.ofCode = List.replicate 4 .both :=
  C08_identical_groups_diag .parallel _ _ _ _ (exactSub Gen.mat0) (exactParam_ok Gen.mat0 5500 2000 1000)
    (by decide) (by decide) (by decide) mat0_symm #[0, 4, 7, 17] (getD_lt_of_all _ (by decide +kernel)) (by decide)
    exGroup2 exGroup2 2 2 (by decide) (by decide) exGroup2_built exGroup2_built (by decide +kernel) (by decide +kernel)

/-- the hypotheses of `C08_identical_groups_diag` hold for two copies against two copies -/
example : ∃ codes, dpCodes .parallel (exactParam Gen.mat0 5500 2000 1000)
      (.profprof (setGapPenalties exGroup2 2) (setGapPenalties exGroup2 2)) true 4 4 4 4 = some codes ∧
    codes.map Col.ofCode = List.replicate 4 .both :=
  exGroup2_diag

end Kalign

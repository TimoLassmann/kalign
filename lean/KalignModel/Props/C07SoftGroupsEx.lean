import KalignModel.Props.C07SoftGroups
/-!
# C07 / C08 on binary32, groups of identical copies — the theorems on concrete operands (non-vacuity)

The 2 × 2-copies instances of `Props/C07SoftGroups.lean`: the slots, the codes `dpCodesS` returns and the kernel equalities on concrete
tables are the instances of `C07Soft_profile_of_copies`, the group theorems and `ppForward_eqS` / `spBackward_eqS` (`dpCodes_of_cols` turns
`∃ codes, … ∧ codes.map Col.ofCode = P` into the literal); that `dpCodesS` is literally what `doAlign` computes on `SoftF32` is evaluated by the kernel.
-/
namespace Kalign
open SoftF32

theorem exGroup2S_profOK (m : Nat) (hm : 1 ≤ m) (hmU : 2 * m * 32 < 16777216) (h2m : 2 * m < 8388608) :
    ProfOKS (setGapPenalties exGroup2S m) #[0, 4, 7, 17] 2 m 11 4 2 (fun x y => exactSub Gen.mat0 x y / 1000) :=
  C07Soft_profile_of_copies 32 _ _ C07Soft_dyadic_protein 11000 4000 2000 _ (exactParam_ok Gen.mat0 5500 2000 1000)
    (by decide) (by decide) (by decide) _ (getD_lt_of_all _ (by decide +kernel)) _ 2 m exGroup2S_built hm hmU h2m

/-- `ProfOKS` on `exGroup2S`, prepared against a group of 2 (`k·m = 4`; protein defaults in half units: `go = 11`, `ge = 4`, `gt = 2`,
`sh 4 4 = 24`, `sh 4 0 = −4`): column 2 (residue 4) holds `−22.0F`, `−8.0F`, `−4.0F`, `24.0F`, `−4.0F`, counts `2.0F` and `+0` -/
example : (pget (setGapPenalties exGroup2S 2) 2 27, pget (setGapPenalties exGroup2S 2) 2 28,
    pget (setGapPenalties exGroup2S 2) 2 29, pget (setGapPenalties exGroup2S 2) 2 (32 + 4),
    pget (setGapPenalties exGroup2S 2) 2 (32 + 0), pget (setGapPenalties exGroup2S 2) 2 4,
    pget (setGapPenalties exGroup2S 2) 2 0) =
    (neg (half (11 * 4)), neg (half (4 * 4)), neg (half (2 * 4)), half (24 * 2), half (-4 * 2), SoftF32.ofNat 2, SoftF32.zero) ∧
    neg (half (11 * 4)) = ofRaw 0xc1b00000 ∧ half (24 * 2) = ofRaw 0x41c00000 ∧ SoftF32.ofNat 2 = ofRaw 0x40000000 := by
  have h := exGroup2S_profOK 2 (by decide) (by decide) (by decide)
  rw [h.g27 2 (by decide), h.g28 2 (by decide), h.g29 2 (by decide), h.subE 1 (by decide) 4 (by decide),
    h.subE 1 (by decide) 0 (by decide), h.cnt 1 (by decide) 4 (by decide), h.cnt 1 (by decide) 0 (by decide)]
  decide +kernel

/-- a zero penalty gives the slot `−0` (not `+0`): DNA defaults, `tgpe = 0` -/
example : pget (setGapPenalties (makeProfile (softParamOf 1 0) #[0, 1]) 3) 1 29 = neg (half 0) ∧ neg (half 0) = ofRaw 0x80000000 ∧
    half 0 = ofRaw 0 := by
  have h := C07Soft_profile_of_copies 32 _ _ C07Soft_dyadic_dna 16000 12000 0 _ (exactParam_ok Gen.mat3 8000 6000 0) (by decide)
    (by decide) (by decide) #[0, 1] (getD_lt_of_all _ (by decide +kernel)) _ 1 3 .leaf (by decide) (by decide) (by decide)
  rw [h.g29 1 (by decide)]
  decide +kernel

/-- two copies against two copies of (0,4,7,17), protein defaults, binary32: the diagonal -/
example : dpCodesS .parallel (softParamOf 0 3)
    (.profprof (setGapPenalties exGroup2S 2) (setGapPenalties exGroup2S 2)) true 4 4 4 4 = some [0, 0, 0, 0] :=
  dpCodes_of_cols exGroup2S_diag

/-- two copies of (W,C,W) against (W,W): `W W, C –, W W`, the `P` of `exMargin2S` -/
example : dpCodesS .parallel (softParamOf 0 3) (.seqprof (setGapPenalties exProf2S 1) #[17, 17] 2) false 3 2 3 2 =
    some [0, 2, 0] := dpCodes_of_cols exProf2S_opt

/-- the kernel equalities on concrete tables: the profile–profile forward kernel on the 2 × 2-copies profiles (`k·m = 4`) and the
sequence–profile backward kernel (`k = 2`) return cell by cell the bit patterns of the sequence–sequence kernels on the scaled
parameters -/
example :
    (kForward (softParamOf 0 3) (.profprof (setGapPenalties exGroup2S 2) (setGapPenalties exGroup2S 2)) ⟨0, 2, 0, 4, 4⟩
        oneHotA).map (fun c => (c.a, c.ga, c.gb)) =
      (kForward (scaleParamS (softParamOf 0 3) 4) (.seqseq #[0, 4, 7, 17] #[0, 4, 7, 17]) ⟨0, 2, 0, 4, 4⟩ oneHotA).map
        (fun c => (c.a, c.ga, c.gb)) ∧
    (kBackward (softParamOf 0 3) (.seqprof (setGapPenalties exProf2S 1) #[17, 17] 2) ⟨1, 3, 0, 2, 2⟩ oneHotA).map
        (fun c => (c.a, c.ga, c.gb)) =
      (kBackward (scaleParamS (softParamOf 0 3) 2) (.seqseq #[17, 4, 17] #[17, 17]) ⟨1, 3, 0, 2, 2⟩ oneHotA).map
        (fun c => (c.a, c.ga, c.gb)) := by
  have hh := (halfParam_of_dyadic C07Soft_dyadic_protein (exactParam_ok Gen.mat0 5500 2000 1000) (by decide) (by decide)
    (by decide)).1
  have hG := exGroup2S_profOK 2 (by decide) (by decide) (by decide)
  have hP := C07Soft_profile_of_copies 32 _ _ C07Soft_dyadic_protein 11000 4000 2000 _ (exactParam_ok Gen.mat0 5500 2000 1000)
    (by decide) (by decide) (by decide) _ (getD_lt_of_all _ (by decide +kernel)) _ 2 1 exProf2S_built (by decide) (by decide)
    (by decide)
  exact ⟨congrArg _ (ppForward_eqS 32 _ _ _ _ _ hh (fun x y => by rw [mat0_symm]) _ _ _ _ 2 2 (by decide) (by decide) (by decide)
      (by decide) hG hG (getD_lt_of_all _ (by decide +kernel)) ⟨0, 2, 0, 4, 4⟩ (by decide) (by decide) (by decide) oneHotA),
    congrArg _ (spBackward_eqS 32 _ _ _ _ _ hh _ _ #[17, 17] 2 (by decide) (by decide) (by decide) hP
      (getD_lt_of_all _ (by decide +kernel)) ⟨1, 3, 0, 2, 2⟩ (by decide) (by decide) oneHotA)⟩

/-- `dpCodesS` is literally what `do_align` computes on `SoftF32`: the progressive alignment of (W,C,W), (W,C,W), (W,W) — the first
call aligns the two identical sequences and builds `exProf2S` with `update_n`, the second call hands
`(.seqprof (setGapPenalties exProf2S 1) b 2)` to the controller; the result is the value of `dpCodesS` above -/
example :
    ((doAlign .parallel (softParamOf 0 3) (AlnState.init #[#[17, 4, 17], #[17, 4, 17], #[17, 17]]) 0 1 3 false).bind fun r =>
      doAlign .parallel (softParamOf 0 3) r.1 3 2 4 true).map (fun r => (r.2.codes, r.1.nsip.getD 4 0)) =
    some ([0, 2, 0], 3) := by
  decide +kernel

end Kalign

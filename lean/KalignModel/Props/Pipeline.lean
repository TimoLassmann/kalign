import KalignModel.Lemmas.PipelineCB
import KalignModel.Lemmas.NoFaultTree
import KalignModel.Props.C03
import KalignModel.Props.C14
/-!
# Composition theorems for the whole pipeline (`kalignRun`, Model/Pipeline.lean)

`kalignRun` is tied to the running `kalign()` by the system-level correspondence op `kalign_sys`
(harness/ops_pipe.c, tools/gen_pipe.py).  The theorems below hold for the model as it is executed: binary32
arithmetic is opaque to them (they never compute with a float), so they cover every rounding behaviour.

`kalignRun_integrity` — C01 for the composed model, no hypothesis besides `kalignRun … = .ok rows`.  Left out: the model
checks the column codes of every merge (run-time monitor of `mergeNodes`) and ends with `PipeErr.monitor` where they are
not valid; `do_align` (aln_run.c) has no such check and hands the path to `make_seq` as it is.  A run of the model that ends
in `.monitor` is not `.ok`, so the theorem says nothing about it; that it does not happen is `kalignRun_never_fault_monitor_partial`
(Props/C05Pipeline.lean, under `PipelineMonHyp`).
-/
namespace Kalign.Pipeline
open Kalign List

/-- C01 for `kalign_run` as executed: if the run succeeds, the rows are those of the non-empty inputs in input order
under their names, all of one length, and they are the renderings (`'-'` for a gap) of gapped rows that reproduce the
residues exactly. -/
theorem kalignRun_integrity (inp : List InSeq) (type : Int) (gpo gpe tgpe : Float32) (rows : List (Name × Row))
    (h : kalignRun inp type gpo gpe tgpe = .ok rows) :
    rows.map (·.1) = (inp.filter fun x => x.seq.length ≠ 0).map (·.name) ∧
    (∃ L, ∀ x ∈ rows, x.2.length = L) ∧
    ∃ grows : List GRow, rows.map (·.2) = grows.map render ∧
      grows.map degap = (inp.filter fun x => x.seq.length ≠ 0).map (·.seq) := by
  unfold kalignRun at h
  cases hg : kalignRunG inp type gpo gpe tgpe with
  | error e => rw [hg] at h; cases h
  | ok out =>
    rw [hg] at h
    simp only [Except.map, Except.ok.injEq] at h
    subst h
    obtain ⟨h1, h2, L, h3⟩ := kalignRunWith_integrity detectF true inp type gpo gpe tgpe out hg
    refine ⟨by simpa [map_map, Function.comp_def] using h1, ⟨L, ?_⟩, out.map (·.2), by simp [map_map, Function.comp_def], ?_⟩
    · intro x hx
      obtain ⟨z, hz, rfl⟩ := mem_map.1 hx
      simpa [length_render] using h3 z hz
    · simpa [map_map, Function.comp_def] using h2

/-- the same in the form "`degap row = residues`" on the printed characters, when no input residue is the
character `'-'` itself (the array API accepts any byte as a residue) -/
theorem kalignRun_integrity_chars (inp : List InSeq) (type : Int) (gpo gpe tgpe : Float32) (rows : List (Name × Row))
    (hdash : ∀ x ∈ inp, ∀ c ∈ x.seq, c ≠ '-')
    (h : kalignRun inp type gpo gpe tgpe = .ok rows) :
    rows.map (fun x => (x.1, x.2.filter (· ≠ '-'))) =
      (inp.filter fun x => x.seq.length ≠ 0).map fun x => (x.name, x.seq) := by
  obtain ⟨h1, _, grows, h3, h4⟩ := kalignRun_integrity inp type gpo gpe tgpe rows h
  have key : rows.map (fun x => x.2.filter (· ≠ '-')) = (inp.filter fun x => x.seq.length ≠ 0).map (·.seq) := by
    rw [← h4]
    have : rows.map (fun x => x.2.filter (· ≠ '-')) = (rows.map (·.2)).map (fun r => r.filter (· ≠ '-')) := by
      rw [map_map]; rfl
    rw [this, h3, map_map]
    apply map_congr_left
    intro g hg
    apply filter_render
    intro c hc
    have hmem : degap g ∈ grows.map degap := mem_map_of_mem hg
    rw [h4] at hmem
    obtain ⟨x, hx, hxe⟩ := mem_map.1 hmem
    exact hdash x (mem_filter.1 hx).1 c (by rw [hxe]; exact hc)
  rw [← zip_map', h1, key, zip_map']

/-- the task table `build_tree_kmeans` + `sort_tasks` hand to `create_msa_tree` is the sorted task list of the tree
`Kmeans.bisectingKmeans` builds from the anchor distance matrix, with the UPGMA tree of Model/Tree.lean as the
`< 100` branch (`smallOr`: where that branch faults the pipeline fails instead).  Hence `bisectingKmeans_leaves`,
`bisectingKmeans_fuel`, `kmeans_round_order_irrelevant` … of Props/C03Kmeans.lean are statements about the tree
`kalignRun` uses. -/
theorem buildTasks_is_bisectingKmeans (avx : Bool) (codes : Array (List Nat)) (tasks : Array (Nat × Nat × Nat))
    (h : buildTasks avx codes = .ok tasks) :
    ∃ anchors dm t, Kmeans.pickAnchors (codes.toList.map List.length) = some anchors ∧ anchorMatrix codes anchors = some dm ∧
      Kmeans.bisectingKmeans avx dm anchors.length (smallOr (smallTree codes)) (List.range codes.size) = .ok t ∧
      tasks = (Kmeans.sortTasks (Kmeans.treeTasks t codes.size)).toArray := by
  obtain ⟨anchors, dm, t, ha, hd, hb, rfl⟩ := buildTasksWith_ok h
  refine ⟨anchors, dm, t, ha, hd, ?_, rfl⟩
  have := bisectO_ok_bisect avx dm anchors.length (smallTree codes) _ _ t hb
  unfold Kmeans.bisectingKmeans
  rw [length_range]
  exact this

/-- C14 for the composed model: two inputs with the same names, the same detected
kind and the same internal codes (hence the same lengths) in the alphabets the run uses give the same result up to
the letters: the same error, or the same gap pattern under every name. -/
theorem kalignRun_codes_only (inp₁ inp₂ : List InSeq) (type : Int) (gpo gpe tgpe : Float32)
    (hbad : hasBadByte inp₁ = hasBadByte inp₂) (hbio : bioOf detectF inp₁ = bioOf detectF inp₂)
    (hkey : inp₁.map (codeKey (bioOf detectF inp₁)) = inp₂.map (codeKey (bioOf detectF inp₁))) :
    (kalignRunG inp₁ type gpo gpe tgpe).map gapPatterns = (kalignRunG inp₂ type gpo gpe tgpe).map gapPatterns :=
  kalignRunWith_codes_only detectF true inp₁ inp₂ type gpo gpe tgpe hbad hbio hkey

def respell (g : Char → Char) (inp : List InSeq) : List InSeq := inp.map fun x => { x with seq := x.seq.map g }

theorem bytesOf_map (g : Char → Char) (f : Nat → Nat) (hg : ∀ c, (g c).toNat = f c.toNat) (s : List Char) :
    bytesOf (s.map g) = (bytesOf s).map f := by
  simp [bytesOf, map_map, Function.comp_def, hg]

theorem hasBadByte_respell (g : Char → Char) (f : Nat → Nat) (hg : ∀ c, (g c).toNat = f c.toNat)
    (hbig : ∀ c, 128 ≤ f c ↔ 128 ≤ c) (inp : List InSeq) : hasBadByte (respell g inp) = hasBadByte inp := by
  simp only [hasBadByte, respell, any_map, Function.comp_def, hg, hbig]

def byteSeqs (inp : List InSeq) : List (List Nat) := inp.map fun x => bytesOf x.seq

theorem byteSeqs_respell (g : Char → Char) (f : Nat → Nat) (hg : ∀ c, (g c).toNat = f c.toNat) (inp : List InSeq) :
    byteSeqs (respell g inp) = (byteSeqs inp).map (·.map f) := by
  simp [byteSeqs, respell, map_map, Function.comp_def, bytesOf_map g f hg]

theorem bioOf_eq (det : List Nat → Bio) (inp : List InSeq) : bioOf det inp = det (histOf (byteSeqs inp)) := rfl

theorem bytes_lt_of_not_bad {inp : List InSeq} (h : hasBadByte inp = false) : ∀ s ∈ byteSeqs inp, ∀ c ∈ s, c < 128 := by
  intro s hs c hc
  simp only [byteSeqs, mem_map] at hs
  obtain ⟨x, hx, rfl⟩ := hs
  simp only [bytesOf, mem_map] at hc
  obtain ⟨ch, hch, rfl⟩ := hc
  simp only [hasBadByte, any_eq_false] at h
  have h' := h x hx
  simp only [Bool.not_eq_true, any_eq_false, decide_eq_true_eq] at h'
  have := h' ch hch
  omega

theorem kalignRunWith_respell_invariant (det : List Nat → Bio) (avx : Bool) (g : Char → Char) (f : Nat → Nat)
    (hg : ∀ c, (g c).toNat = f c.toNat) (hbig : ∀ c, 128 ≤ f c ↔ 128 ≤ c)
    (inp : List InSeq) (type : Int) (gpo gpe tgpe : Float32)
    (hdet : hasBadByte inp = false → bioOf det (respell g inp) = bioOf det inp)
    (hcodes : ∀ c, c < 128 → codeOf (treeAlphabet (bioOf det inp)) (f c) = codeOf (treeAlphabet (bioOf det inp)) c ∧
      codeOf (alnAlphabet (bioOf det inp)) (f c) = codeOf (alnAlphabet (bioOf det inp)) c) :
    (kalignRunWith det avx (respell g inp) type gpo gpe tgpe).map gapPatterns =
    (kalignRunWith det avx inp type gpo gpe tgpe).map gapPatterns := by
  have hbad := hasBadByte_respell g f hg hbig inp
  cases hb : hasBadByte inp with
  | true =>
    unfold kalignRunWith
    rw [hbad, hb]
    rfl
  | false =>
    symm
    apply kalignRunWith_codes_only det avx inp (respell g inp) type gpo gpe tgpe hbad.symm (hdet hb).symm
    unfold respell
    rw [map_map]
    apply map_congr_left
    intro x hx
    have hlt : ∀ c ∈ bytesOf x.seq, c < 128 := bytes_lt_of_not_bad hb _ (mem_map_of_mem hx)
    simp only [Function.comp_def, codeKey, bytesOf_map g f hg]
    rw [C14_convert_respell_invariant _ _ f (fun c hc => (hcodes c (hlt c hc)).1),
      C14_convert_respell_invariant _ _ f (fun c hc => (hcodes c (hlt c hc)).2)]

theorem treeAlphabet_used (b : Bio) : treeAlphabet b ∈ usedAlphabets := by cases b <;> decide
theorem alnAlphabet_used (b : Bio) : alnAlphabet b ∈ usedAlphabets := by cases b <;> decide

theorem toggleCase_big (c : Nat) : 128 ≤ toggleCase c ↔ 128 ≤ c := by
  unfold toggleCase
  split
  · rename_i h; simp only [Bool.and_eq_true, decide_eq_true_eq] at h; omega
  · split
    · rename_i h; simp only [Bool.and_eq_true, decide_eq_true_eq] at h; omega
    · rfl

theorem tToU_big (c : Nat) : 128 ≤ tToU c ↔ 128 ≤ c := by
  unfold tToU
  split
  · omega
  · split <;> omega

def toggleChar (c : Char) : Char := Char.ofNat (toggleCase c.toNat)
def tToUChar (c : Char) : Char := Char.ofNat (tToU c.toNat)

theorem toggleChar_toNat (c : Char) : (toggleChar c).toNat = toggleCase c.toNat := by
  unfold toggleChar
  apply toNat_ofNat_of_valid
  have hv : c.toNat.isValidChar := c.valid
  unfold toggleCase
  split
  · rename_i h; simp only [Bool.and_eq_true, decide_eq_true_eq] at h
    unfold Nat.isValidChar; omega
  · split
    · rename_i h; simp only [Bool.and_eq_true, decide_eq_true_eq] at h
      unfold Nat.isValidChar; omega
    · exact hv

theorem tToUChar_toNat (c : Char) : (tToUChar c).toNat = tToU c.toNat := by
  unfold tToUChar
  apply toNat_ofNat_of_valid
  have hv : c.toNat.isValidChar := c.valid
  unfold tToU
  split
  · unfold Nat.isValidChar; omega
  · split
    · unfold Nat.isValidChar; omega
    · exact hv

theorem kalignRunWith_case_invariant (det : List Nat → Bio) (avx : Bool) (g : Char → Char)
    (hg : ∀ c, (g c).toNat = toggleCase c.toNat) (inp : List InSeq) (type : Int) (gpo gpe tgpe : Float32)
    (hdet : hasBadByte inp = false → bioOf det (respell g inp) = bioOf det inp) :
    (kalignRunWith det avx (respell g inp) type gpo gpe tgpe).map gapPatterns =
    (kalignRunWith det avx inp type gpo gpe tgpe).map gapPatterns := by
  apply kalignRunWith_respell_invariant det avx g toggleCase hg toggleCase_big inp type gpo gpe tgpe hdet
  intro c hc
  have hr : c ∈ List.range 128 := mem_range.2 hc
  exact ⟨C14_codes_case_invariant _ (treeAlphabet_used _) c hr, C14_codes_case_invariant _ (alnAlphabet_used _) c hr⟩

theorem bioOf_exact_respell (g : Char → Char) (f : Nat → Nat) (hg : ∀ c, (g c).toNat = f c.toNat)
    (hf : ∀ c, c < 128 → f c < 128 ∧ sameClass c (f c) = true) (inp : List InSeq) (hb : hasBadByte inp = false) :
    bioOf detectExact (respell g inp) = bioOf detectExact inp := by
  rw [bioOf_eq, bioOf_eq, byteSeqs_respell g f hg]
  exact C14_detect_respell_invariant _ f hf (bytes_lt_of_not_bad hb)

/-- **`kalignRun_case_invariant`** with the exact-arithmetic reading of `detect_alphabet` (`detectExact`, tied to the
double-precision code by measurement, Props/C13): toggling the case of every letter changes nothing but the
letters.  No hypothesis. -/
theorem kalignRunExact_case_invariant (avx : Bool) (inp : List InSeq) (type : Int) (gpo gpe tgpe : Float32) :
    (kalignRunWith detectExact avx (respell toggleChar inp) type gpo gpe tgpe).map gapPatterns =
    (kalignRunWith detectExact avx inp type gpo gpe tgpe).map gapPatterns :=
  kalignRunWith_case_invariant detectExact avx toggleChar toggleChar_toNat inp type gpo gpe tgpe
    (bioOf_exact_respell toggleChar toggleCase toggleChar_toNat C14_toggleCase_respell inp)

/- Full statement wanted (not provable in Lean: `detectF` computes with opaque binary64 operations; the sums
   `Σ log p(c) · n_c` are accumulated in byte order, which a case change permutes):

     theorem kalignRun_case_invariant (inp) (type) (gpo gpe tgpe) :
       (kalignRunG (respell toggleChar inp) type gpo gpe tgpe).map gapPatterns =
       (kalignRunG inp type gpo gpe tgpe).map gapPatterns
-/
/-- **`kalignRun_case_invariant`, partial**: for the model as executed (`detectF`), given that the double-precision
detection decides the same for the respelled input (`hdet`; measured, never seen to fail: A-float of C13) -/
theorem kalignRun_case_invariant_partial (inp : List InSeq) (type : Int) (gpo gpe tgpe : Float32)
    (hdet : hasBadByte inp = false → bioOf detectF (respell toggleChar inp) = bioOf detectF inp) :
    (kalignRunG (respell toggleChar inp) type gpo gpe tgpe).map gapPatterns =
    (kalignRunG inp type gpo gpe tgpe).map gapPatterns :=
  kalignRunWith_case_invariant detectF true toggleChar toggleChar_toNat inp type gpo gpe tgpe hdet

theorem kalignRunWith_TU_invariant (det : List Nat → Bio) (avx : Bool) (g : Char → Char)
    (hg : ∀ c, (g c).toNat = tToU c.toNat) (inp : List InSeq) (type : Int) (gpo gpe tgpe : Float32)
    (hdna : bioOf det inp = .dna)
    (hdet : hasBadByte inp = false → bioOf det (respell g inp) = bioOf det inp) :
    (kalignRunWith det avx (respell g inp) type gpo gpe tgpe).map gapPatterns =
    (kalignRunWith det avx inp type gpo gpe tgpe).map gapPatterns := by
  apply kalignRunWith_respell_invariant det avx g tToU hg tToU_big inp type gpo gpe tgpe hdet
  intro c _
  rw [hdna]
  have h5 : codeOf 5 (tToU c) = codeOf 5 c := by
    unfold tToU
    split
    · rename_i h; subst h; exact C14_codes_TU.1
    · split
      · rename_i h; subst h; exact C14_codes_TU.2.1
      · rfl
  exact ⟨h5, h5⟩

/-- **`kalignRun_TU_invariant`** with the exact detector: for an input detected as nucleotide, writing U for T
changes nothing but the letters.  No further hypothesis. -/
theorem kalignRunExact_TU_invariant (avx : Bool) (inp : List InSeq) (type : Int) (gpo gpe tgpe : Float32)
    (hdna : bioOf detectExact inp = .dna) :
    (kalignRunWith detectExact avx (respell tToUChar inp) type gpo gpe tgpe).map gapPatterns =
    (kalignRunWith detectExact avx inp type gpo gpe tgpe).map gapPatterns :=
  kalignRunWith_TU_invariant detectExact avx tToUChar tToUChar_toNat inp type gpo gpe tgpe hdna
    (bioOf_exact_respell tToUChar tToU tToUChar_toNat C14_tToU_respell inp)

/- Full statement wanted (see `kalignRun_case_invariant` above for why it is not provable):

     theorem kalignRun_TU_invariant (inp) (type) (gpo gpe tgpe) (hdna : bioOf detectF inp = .dna) :
       (kalignRunG (respell tToUChar inp) type gpo gpe tgpe).map gapPatterns =
       (kalignRunG inp type gpo gpe tgpe).map gapPatterns
-/
/-- **`kalignRun_TU_invariant`, partial**: the model as executed, given the invariance of the double-precision
detection decision (`hdet`) -/
theorem kalignRun_TU_invariant_partial (inp : List InSeq) (type : Int) (gpo gpe tgpe : Float32)
    (hdna : bioOf detectF inp = .dna)
    (hdet : hasBadByte inp = false → bioOf detectF (respell tToUChar inp) = bioOf detectF inp) :
    (kalignRunG (respell tToUChar inp) type gpo gpe tgpe).map gapPatterns =
    (kalignRunG inp type gpo gpe tgpe).map gapPatterns :=
  kalignRunWith_TU_invariant detectF true tToUChar tToUChar_toNat inp type gpo gpe tgpe hdna hdet

def exNuc : List InSeq := [⟨[0x61], "ACGT".toList⟩, ⟨[0x62], "acgtn".toList⟩]

example : respell tToUChar exNuc = [⟨[0x61], "ACGU".toList⟩, ⟨[0x62], "acgun".toList⟩] := by decide +kernel
example : respell toggleChar exNuc = [⟨[0x61], "acgt".toList⟩, ⟨[0x62], "ACGTN".toList⟩] := by decide +kernel
-- the hypotheses of `kalignRunWith_codes_only` (exact detector) hold for a non-trivial pair of inputs
example : hasBadByte exNuc = hasBadByte (respell tToUChar exNuc) ∧
    bioOf detectExact exNuc = bioOf detectExact (respell tToUChar exNuc) ∧
    exNuc.map (codeKey (bioOf detectExact exNuc)) = (respell tToUChar exNuc).map (codeKey (bioOf detectExact exNuc)) ∧
    exNuc ≠ respell tToUChar exNuc := by decide +kernel
example : bioOf detectExact exNuc = .dna := by decide +kernel
example (avx : Bool) (type : Int) (gpo gpe tgpe : Float32) :
    (kalignRunWith detectExact avx (respell tToUChar exNuc) type gpo gpe tgpe).map gapPatterns =
    (kalignRunWith detectExact avx exNuc type gpo gpe tgpe).map gapPatterns :=
  kalignRunExact_TU_invariant avx exNuc type gpo gpe tgpe (by decide +kernel)
/- The hypothesis `hdet` of the two `_partial` theorems is a statement about binary64 arithmetic and cannot be
   evaluated in the kernel; on this instance `#eval bioOf detectF (respell tToUChar exNuc) == bioOf detectF exNuc`
   (and the same for `toggleChar`) print `true`; it is what the measurement A-float of C13 samples. -/

theorem kalignRun_is_run (inp : List InSeq) (type : Int) (gpo gpe tgpe : Float32) (out : List (Name × Row))
    (h : kalignRun inp type gpo gpe tgpe = .ok out) :
    ∃ l, run (pipeRows true (bioOf detectF inp) type gpo gpe tgpe) inp = some l ∧
      out = l.map fun x => (x.1.name, x.2) := by
  rw [kalignRun_eq] at h
  split at h
  · cases h
  · unfold run
    cases hc : canon inp with
    | none => rw [hc] at h; cases h
    | some c =>
      rw [hc] at h
      simp only at h
      cases hs : stagesG true (bioOf detectF inp) type gpo gpe tgpe (view c) with
      | error e => rw [hs] at h; cases h
      | ok rows =>
        rw [hs] at h
        simp only [Except.ok.injEq] at h
        refine ⟨_, rfl, ?_⟩
        rw [← h]
        simp only [pipeRows, hs, finish]

/-- the rows of `kalign_run` looked up by name, as a function of the byte check, the canonical view and the frame `run` of
Model/Canon.lean around stages 3-7: what a permutation of the input leaves alone -/
theorem kalignRun_lookup (inp : List InSeq) (type : Int) (gpo gpe tgpe : Float32) :
    (kalignRun inp type gpo gpe tgpe).map lookup =
      if hasBadByte inp then .error .badByte else
      match (canon inp).map view with
      | none => .error .tooFew
      | some V => (stagesG true (bioOf detectF inp) type gpo gpe tgpe V).map fun _ =>
          rowsByName (run (pipeRows true (bioOf detectF inp) type gpo gpe tgpe) inp) := by
  rw [kalignRun_eq]
  split
  · rfl
  · unfold run
    cases canon inp with
    | none => rfl
    | some c =>
      simp only [Option.map_some]
      cases hs : stagesG true (bioOf detectF inp) type gpo gpe tgpe (view c) with
      | error e => rfl
      | ok rows => simp only [Except.map, finish, lookup_names, pipeRows, hs]

/-- C03 for the composed pipeline (guide tree included: UPGMA below 100 sequences, bisecting k-means from 100 on, both
inside `stagesG`): if the same named sequences are supplied in a different order, the run fails with the same error or
succeeds with the same row under every name.
Premises: the property's own (names pairwise distinct) and NUL-freeness (names are C strings). -/
theorem kalignRun_order_independent {inp inp' : List InSeq} (hp : inp'.Perm inp)
    (hnames : (inp.map (·.name)).Nodup) (hnul : ∀ x ∈ inp, NulFree x.name)
    (type : Int) (gpo gpe tgpe : Float32) :
    (kalignRun inp' type gpo gpe tgpe).map lookup = (kalignRun inp type gpo gpe tgpe).map lookup := by
  rw [kalignRun_lookup, kalignRun_lookup, hasBadByte_perm hp, bioOf_perm detectF hp,
    canon_perm_invariant_of_distinct_names hp hnul hnames, order_independent _ hp hnames hnul]

theorem kalignRun_order_independent_of_distinct_names {inp inp' : List InSeq} (hp : inp'.Perm inp)
    (hnul : ∀ x ∈ inp, NulFree x.name) (hnames : inp.Pairwise fun a b => a.name ≠ b.name)
    (type : Int) (gpo gpe tgpe : Float32) :
    (kalignRun inp' type gpo gpe tgpe).map lookup = (kalignRun inp type gpo gpe tgpe).map lookup :=
  kalignRun_order_independent hp (by rw [Nodup, pairwise_map]; exact hnames) hnul type gpo gpe tgpe

-- non-vacuity: the premises hold for `Kalign.exInp'`, `Kalign.exInp` of Props/C03.lean
example (type : Int) (gpo gpe tgpe : Float32) :
    (kalignRun exInp' type gpo gpe tgpe).map lookup = (kalignRun exInp type gpo gpe tgpe).map lookup :=
  kalignRun_order_independent (by decide) (by decide) (by decide) type gpo gpe tgpe

end Kalign.Pipeline

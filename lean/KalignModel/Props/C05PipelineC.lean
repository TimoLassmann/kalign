import KalignModel.Props.C05Pipeline
/-!
# C05 (pipeline) over an arbitrary score carrier

`coreCB_cases`, `stagesCB_cases`, `kalignRunWithCB_buildTasks_cases` (Lemmas/NoFaultPipe.lean) for the carrier-generic pipeline
of `Model/PipelineSoft.lean` (`coreC`, `stagesC`, `kalignRunWithC` = the `…CB` functions on the task tables of `buildTasks`).
No `.tree` under `UpgmaHyp` / `PipelineUpgmaHyp` (the guide tree is computed on `Float32` whatever the DP carrier is); no
`.fault`, no `.monitor` under the monitor hypothesis on the carrier: `MonHypC` (unprimed theorems), or the weaker `MonHypInvC` —
the monitor only for operands satisfying the node invariant `NodeInvC` (primed theorems).
-/
namespace Kalign.Pipeline
open Kalign Kalign.Kmeans Kalign.Sched

variable {α : Type} [Score α]

theorem kalignRunWithC_cases' (pm : Bio → Option (AlnParam α)) (inp : List InSeq) :
    kalignRunWithC detectF true pm inp ≠ .error .fuel ∧
    (PipelineUpgmaHyp inp → kalignRunWithC detectF true pm inp ≠ .error .tree) ∧
    ((∀ c ap, canon inp = some c → pm (bioOf detectF inp) = some ap →
        MonHypInvC ap (alnCodes (bioOf detectF inp) c)) →
      kalignRunWithC detectF true pm inp ≠ .error .fault ∧ kalignRunWithC detectF true pm inp ≠ .error .monitor) := by
  rw [kalignRunWithC_eq_CB]
  exact kalignRunWithCB_buildTasks_cases detectF true pm inp _ fun hM c ap _ hc hp _ _ => (hM c ap hc hp).toL _

/-- `c1` = codes in the tree alphabet, `c2` = codes in the alignment alphabet -/
theorem coreC_cases' (avx : Bool) (pm : Option (AlnParam α)) (c1 c2 : List (List Nat))
    (hlen : c1.length = c2.length) (h13 : ∀ s ∈ c1, ∀ c ∈ s, c < 13)
    (h23 : ∀ s ∈ c2, s ≠ [] ∧ ∀ c ∈ s, c < 23) :
    coreC avx pm c1 c2 ≠ .error .fuel ∧
    (UpgmaHyp c1.toArray → coreC avx pm c1 c2 ≠ .error .tree) ∧
    ((∀ ap, pm = some ap → MonHypInvC ap c2.toArray) →
      coreC avx pm c1 c2 ≠ .error .fault ∧ coreC avx pm c1 c2 ≠ .error .monitor) := by
  rw [coreC_eq_CB]
  refine coreCB_cases (buildTasks avx) pm c1 c2 _ _ h23 fun h2 => ?_
  have hB := buildTasks_buildOK avx c1.toArray (by simp only [List.size_toArray]; omega) (by simpa using h13)
    (∀ ap, pm = some ap → MonHypInvC ap c2.toArray) (fun T => ∀ ap, pm = some ap → MonHypL ap c2.toArray T.leaves)
    (fun hM T _ _ ap hp => (hM ap hp).toL _)
  rwa [show c1.toArray.size = c2.length from hlen] at hB

theorem stagesC_cases' (avx : Bool) (bio : Bio) (pm : Bio → Option (AlnParam α)) (V : List (Name × List Char))
    (hV : ∀ x ∈ V, x.2 ≠ []) :
    stagesC avx bio pm V ≠ .error .fuel ∧
    (UpgmaHyp ((V.map fun x => bytesOf x.2).map (convertN (treeAlphabet bio))).toArray →
      stagesC avx bio pm V ≠ .error .tree) ∧
    ((∀ ap, pm bio = some ap →
        MonHypInvC ap ((V.map fun x => bytesOf x.2).map (convertN (alnAlphabet bio))).toArray) →
      stagesC avx bio pm V ≠ .error .fault ∧ stagesC avx bio pm V ≠ .error .monitor) := by
  rw [stagesC_eq_CB]
  refine stagesCB_cases (buildTasks avx) bio pm V _ _ hV fun h2 => ?_
  have hB := buildTasks_buildOK avx ((V.map fun x => bytesOf x.2).map (convertN (treeAlphabet bio))).toArray
    (by simp only [List.size_toArray, List.length_map]; omega) (by simpa using treeCodes_lt13 bio V)
    (∀ ap, pm bio = some ap → MonHypInvC ap ((V.map fun x => bytesOf x.2).map (convertN (alnAlphabet bio))).toArray)
    (fun T => ∀ ap, pm bio = some ap →
      MonHypL ap ((V.map fun x => bytesOf x.2).map (convertN (alnAlphabet bio))).toArray T.leaves)
    (fun hM T _ _ ap hp => (hM ap hp).toL _)
  simpa only [List.size_toArray, List.length_map] using hB

theorem coreC_cases (avx : Bool) (pm : Option (AlnParam α)) (c1 c2 : List (List Nat))
    (hlen : c1.length = c2.length) (h13 : ∀ s ∈ c1, ∀ c ∈ s, c < 13)
    (h23 : ∀ s ∈ c2, s ≠ [] ∧ ∀ c ∈ s, c < 23) :
    coreC avx pm c1 c2 ≠ .error .fuel ∧
    (UpgmaHyp c1.toArray → coreC avx pm c1 c2 ≠ .error .tree) ∧
    ((∀ ap, pm = some ap → MonHypC ap c2.toArray) →
      coreC avx pm c1 c2 ≠ .error .fault ∧ coreC avx pm c1 c2 ≠ .error .monitor) :=
  have h := coreC_cases' avx pm c1 c2 hlen h13 h23
  ⟨h.1, h.2.1, fun hM => h.2.2 fun ap hp => (hM ap hp).toInv⟩

theorem stagesC_cases (avx : Bool) (bio : Bio) (pm : Bio → Option (AlnParam α)) (V : List (Name × List Char))
    (hV : ∀ x ∈ V, x.2 ≠ []) :
    stagesC avx bio pm V ≠ .error .fuel ∧
    (UpgmaHyp ((V.map fun x => bytesOf x.2).map (convertN (treeAlphabet bio))).toArray →
      stagesC avx bio pm V ≠ .error .tree) ∧
    ((∀ ap, pm bio = some ap →
        MonHypC ap ((V.map fun x => bytesOf x.2).map (convertN (alnAlphabet bio))).toArray) →
      stagesC avx bio pm V ≠ .error .fault ∧ stagesC avx bio pm V ≠ .error .monitor) :=
  have h := stagesC_cases' avx bio pm V hV
  ⟨h.1, h.2.1, fun hM => h.2.2 fun ap hp => (hM ap hp).toInv⟩

theorem kalignRunWithC_cases (pm : Bio → Option (AlnParam α)) (inp : List InSeq) :
    kalignRunWithC detectF true pm inp ≠ .error .fuel ∧
    (PipelineUpgmaHyp inp → kalignRunWithC detectF true pm inp ≠ .error .tree) ∧
    ((∀ c ap, canon inp = some c → pm (bioOf detectF inp) = some ap → MonHypC ap (alnCodes (bioOf detectF inp) c)) →
      kalignRunWithC detectF true pm inp ≠ .error .fault ∧ kalignRunWithC detectF true pm inp ≠ .error .monitor) :=
  have h := kalignRunWithC_cases' pm inp
  ⟨h.1, h.2.1, fun hM => h.2.2 fun c ap hc hp => (hM c ap hc hp).toInv⟩

end Kalign.Pipeline

import KalignModel.Props.C05PipelineL
import KalignModel.Props.C05PipelineSoft
/-!
# C05 (pipeline) on the software binary32 carrier: no hypothesis about DP score values

`Props/C05PipelineSoft.lean` proves the Hirschberg monitor for every pair of reachable operands of bounded size (`monHyp_bounded`).
`Props/C05PipelineL.lean` (`kalignRunWithC_casesL`) needs the monitor only for the pairs of operands the recursion really forms, with
their leaf lists (`MonHypL ap codes T.leaves`: the leaves of both operands together are a sublist of the leaves of the guide tree
`T`).  Together: for inputs with at most 2¹⁷ sequences of at most `M` residues, `numseq · M < 2¹⁹`, the `SoftF32` run never ends in
`.fault` or `.monitor`, provided the leaves of the guide tree are pairwise distinct (`GuideTreeDistinct`: a structural statement about
`bisecting_kmeans` / `upgma` that mentions no DP score; proved in `Props/C05PipelineSoftFinal.lean`).
-/
namespace Kalign.Pipeline
open Kalign Kalign.Kmeans Kalign.SoftF32

theorem sublist_sum_le {l1 l2 : List Nat} (h : List.Sublist l1 l2) : l1.sum ≤ l2.sum := by
  induction h with
  | slnil => exact Nat.le_refl _
  | cons a _ ih => simp only [List.sum_cons]; omega
  | cons_cons a _ ih => simp only [List.sum_cons]; omega

theorem sum_map_le_length_mul (l : List Nat) (f : Nat → Nat) (M : Nat) (h : ∀ i ∈ l, f i ≤ M) :
    (l.map f).sum ≤ l.length * M := by
  induction l with
  | nil => simp
  | cons a l ih =>
    have h1 := h a (List.mem_cons_self ..)
    have h2 := ih (fun i hi => h i (List.mem_cons_of_mem _ hi))
    simp only [List.map_cons, List.sum_cons, List.length_cons, Nat.add_mul, Nat.one_mul]
    omega

theorem nodup_length_le (n : Nat) (l : List Nat) (hn : l.Nodup) (h : ∀ x ∈ l, x < n) : l.length ≤ n := by
  simpa using hn.length_le_of_subset (l₂ := List.range n) (fun x hx => List.mem_range.2 (h x hx))

/-- **the monitor for the pairs the recursion forms**, from size bounds only -/
theorem monHypL_of_bounds {bt : Nat} {t : Int} {gpo gpe tgpe : SoftF32} {ap : AlnParam SoftF32}
    (hp : paramOfTableS bt t gpo gpe tgpe = some ap) (codes : Array (List Nat)) (Ls : List Nat) (M : Nat)
    (hLs : Ls.length ≤ 131072) (hM : ∀ i ∈ Ls, (codes.getD i []).length ≤ M) (hprod : Ls.length * M < 524288) :
    MonHypL ap codes Ls := by
  intro A B la lb rA rB iA iB hsub
  have hlen := hsub.length_le
  rw [List.length_append] at hlen
  have hA := rA.nsip
  have hB := rB.nsip
  have hlA := rA.len_le
  have hlB := rB.len_le
  have hsum : (la.map fun i => (codes.getD i []).length).sum + (lb.map fun i => (codes.getD i []).length).sum ≤
      (la ++ lb).length * M := by
    rw [← List.sum_append, ← List.map_append]
    exact sum_map_le_length_mul _ _ M (fun i hi => hM i (hsub.subset hi))
  have hmul : (la ++ lb).length * M ≤ Ls.length * M := Nat.mul_le_mul_right _ hsub.length_le
  exact monHyp_bounded hp codes A B rA.reach rB.reach iA iB (by omega) (by omega) (by omega)

/-- every sample of the guide tree ends up in exactly one leaf (a statement about `bisecting_kmeans` / `upgma`, no DP score involved) -/
def GuideTreeDistinct (inp : List InSeq) : Prop :=
  ∀ c T, canon inp = some c →
    buildTasks true (treeCodes (bioOf detectF inp) c) =
      .ok (Kmeans.sortTasks (treeTasks T (treeCodes (bioOf detectF inp) c).size)).toArray → T.leaves.Nodup

/-- **stages "fault" and "monitor" on the `SoftF32` carrier, no hypothesis about DP score values**: at most 2¹⁷ sequences of at most
`M` residues with `numseq · M < 2¹⁹`, and a guide tree with pairwise distinct leaves -/
theorem kalignRunSoft_never_fault_monitor_of_distinct (inp : List InSeq) (type : Int) (gpo gpe tgpe : SoftF32) (M : Nat)
    (hn : inp.length ≤ 131072) (hlen : ∀ x ∈ inp, x.seq.length ≤ M) (hprod : inp.length * M < 524288)
    (hT : GuideTreeDistinct inp) :
    kalignRunSoft inp type gpo gpe tgpe ≠ .error .fault ∧ kalignRunSoft inp type gpo gpe tgpe ≠ .error .monitor := by
  refine (NoFault.map _ (kalignRunWithC_casesL (fun bio => paramOfTableS bio.code type gpo gpe tgpe) inp)).2.2 (by
    intro c ap T hc hp hb hleaves
    have hnd := hT c T hc hb
    have hsz := size_treeCodes (bioOf detectF inp) c
    have hsz2 := size_alnCodes (bioOf detectF inp) c
    have hcl := canon_length_le inp c hc
    have hTl : T.leaves.length ≤ (view c).length := by
      rw [← hsz]
      exact nodup_length_le _ _ hnd (fun x hx => (hleaves x).1 hx)
    refine monHypL_of_bounds hp _ T.leaves M (by omega) ?_ ?_
    · intro i hi
      have hi' : i < (alnCodes (bioOf detectF inp) c).size := by
        rw [hsz2, ← hsz]; exact (hleaves i).1 hi
      obtain ⟨x, hx, ex⟩ := alnCodes_length_inp hc _ i hi'
      rw [ex]
      exact hlen x hx
    · have : T.leaves.length * M ≤ inp.length * M := Nat.mul_le_mul_right _ (by omega)
      omega)

/-- all four stages: the only remaining hypotheses are about the guide tree (`PipelineUpgmaHyp`: `Float32` values in `upgma`;
`GuideTreeDistinct`: structural) -/
theorem kalignRunSoft_never_faults_of_distinct (inp : List InSeq) (type : Int) (gpo gpe tgpe : SoftF32) (M : Nat)
    (hn : inp.length ≤ 131072) (hlen : ∀ x ∈ inp, x.seq.length ≤ M) (hprod : inp.length * M < 524288)
    (hU : PipelineUpgmaHyp inp) (hT : GuideTreeDistinct inp) :
    kalignRunSoft inp type gpo gpe tgpe ≠ .error .fault ∧ kalignRunSoft inp type gpo gpe tgpe ≠ .error .tree ∧
    kalignRunSoft inp type gpo gpe tgpe ≠ .error .monitor ∧ kalignRunSoft inp type gpo gpe tgpe ≠ .error .fuel :=
  ⟨(kalignRunSoft_never_fault_monitor_of_distinct inp type gpo gpe tgpe M hn hlen hprod hT).1,
    kalignRunSoft_never_tree_partial inp type gpo gpe tgpe hU,
    (kalignRunSoft_never_fault_monitor_of_distinct inp type gpo gpe tgpe M hn hlen hprod hT).2,
    kalignRunSoft_never_fuel inp type gpo gpe tgpe⟩

end Kalign.Pipeline

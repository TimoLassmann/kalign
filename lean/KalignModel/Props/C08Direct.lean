import KalignModel.Lemmas.DiagRun
import KalignModel.Props.C08Opt
import KalignModel.Lemmas.DiagOpt
/-!
# C08, direct proof — a sequence aligned with itself comes back as the gap-free diagonal

`Props/C08Opt.lean` derives the diagonal from the general optimality theorem `C07_hirschberg_seqseq_opt`, whose safe margin
`max(0, tgpe−gpe, tgpe−gpo) + max(0, gpe−tgpe) + len/2000` is too coarse for the plain DNA row (`tgpe = 0`: `gpe − tgpe = 6 > 5`)
and for the wildcard `X` (self-score −1), and bounds the length for every row (for the RNA row `tgpe − gpe = 253.2` is charged
against the self-scores 283..383).  Here the diagonal is proved by induction on the Hirschberg recursion for the input `(seq, seq)`
(Lemmas/DiagMeet.lean, DiagCut.lean, DiagRun.lean), under a per-residue hypothesis (exact carrier, units 1/2000): penalties
non-negative and `0 < s x x + 2·min(gpo, gpe, tgpe)`, `2·s x y ≤ s x x + s y y` for all residues `x`, `y` of `seq`; no relation
between the penalties is needed (terminal gaps may be free).  The check `diagCondD` passes for **every** generated default row over
all codes that can occur (proteins: codes 0..22 including `X`; nucleotides: codes 0..4 including `N`).
-/
namespace Kalign

/-- **C08 (sequence – sequence, exact carrier, direct)**: both entry points of the controller return the diagonal -/
theorem C08_identical_pair_diag_direct (entry : Entry) (ap : AlnParam ExactScore) (gpo gpe tgpe : Int)
    (s : Nat → Nat → Int) (hap : ApOK ap gpo gpe tgpe s) (hgpo : 0 ≤ gpo) (hgpe : 0 ≤ gpe) (htgpe : 0 ≤ tgpe)
    (seq : Array Nat) (h1 : 1 ≤ seq.size)
    (hself : ∀ x ∈ seq.toList, 0 < s x x + 2 * min gpo (min gpe tgpe))
    (hdom : ∀ x ∈ seq.toList, ∀ y ∈ seq.toList, 2 * s x y ≤ s x x + s y y) :
    let r := alnRun entry ap (.seqseq seq seq) seq.size seq.size (initMem seq.size seq.size)
    r.fault = false ∧
      ∃ codes, expandPath seq.size (r.pathEntries seq.size) = some codes ∧
        codes.map Col.ofCode = List.replicate seq.size .both :=
  (diag_runOK entry ap gpo gpe tgpe s hap seq ⟨hgpo, hgpe, htgpe, hself, hdom⟩).codes (validCols_diag _) (adjOK_diag _ _) h1 h1

/-- the per-residue condition for a table row (values ×1000) over the codes `< L`, as a decidable check -/
def diagCondD (m : List (List Int)) (gpo gpe tgpe : Int) (L : Nat) : Bool :=
  decide (0 ≤ gpo) && decide (0 ≤ gpe) && decide (0 ≤ tgpe) &&
  (List.range L).all fun x =>
    decide (0 < exactSub m x x + 2 * min (2 * gpo) (min (2 * gpe) (2 * tgpe))) &&
    (List.range L).all fun y => decide (2 * exactSub m x y ≤ exactSub m x x + exactSub m y y)

theorem diagCondD_spec (m : List (List Int)) (gpo gpe tgpe : Int) (L : Nat) (hc : diagCondD m gpo gpe tgpe L = true)
    (seq : Array Nat) (hL : ∀ x ∈ seq.toList, x < L) :
    0 ≤ 2 * gpo ∧ 0 ≤ 2 * gpe ∧ 0 ≤ 2 * tgpe ∧
    (∀ x ∈ seq.toList, 0 < exactSub m x x + 2 * min (2 * gpo) (min (2 * gpe) (2 * tgpe))) ∧
    (∀ x ∈ seq.toList, ∀ y ∈ seq.toList, 2 * exactSub m x y ≤ exactSub m x x + exactSub m y y) := by
  unfold diagCondD at hc
  simp only [List.all_eq_true, Bool.and_eq_true, decide_eq_true_eq, List.mem_range] at hc
  obtain ⟨⟨⟨h0, h2⟩, h3⟩, h4⟩ := hc
  exact ⟨by omega, by omega, by omega, fun x hx => (h4 x (hL x hx)).1, fun x hx y hy => (h4 x (hL x hx)).2 y (hL y hy)⟩

/-- **for a row of the generated table**: if `diagCondD` passes for the codes `< L`, every non-empty sequence over these codes
aligned with itself under the exact parameters of that row comes back as the diagonal -/
theorem C08_identical_pair_diag_direct_table (entry : Entry) (m : List (List Int)) (gpo gpe tgpe : Int) (L : Nat)
    (hc : diagCondD m gpo gpe tgpe L = true) (seq : Array Nat) (h1 : 1 ≤ seq.size) (hL : ∀ x ∈ seq.toList, x < L) :
    let r := alnRun entry (exactParam m gpo gpe tgpe) (.seqseq seq seq) seq.size seq.size (initMem seq.size seq.size)
    r.fault = false ∧
      ∃ codes, expandPath seq.size (r.pathEntries seq.size) = some codes ∧
        codes.map Col.ofCode = List.replicate seq.size .both := by
  obtain ⟨a1, a2, a3, a4, a5⟩ := diagCondD_spec m gpo gpe tgpe L hc seq hL
  exact C08_identical_pair_diag_direct entry _ _ _ _ (exactSub m) (exactParam_ok m gpo gpe tgpe) a1 a2 a3 seq h1 a4 a5

/-- the check, evaluated once, on the five distinct parameter sets among the admissible rows of the generated table
(`phiDefaults`, Props/C08.lean) -/
theorem diagCondD_defaults : ∀ k ∈ phiDefaults,
    diagCondD (Gen.matrices.getD k.1 []) k.2.1 k.2.2.1 k.2.2.2.1 (if k.2.2.2.2 = 1 then 5 else 23) = true := by
  decide +kernel

/-- the check passes for **every admissible default row** of the generated table: nucleotide rows over codes `< 5`
(`A C G T/U N`), protein rows over codes `< 23` (including `B Z X`) -/
theorem C08_diagCondD_tables : ∀ r ∈ Gen.paramTable, r.ok = true →
    diagCondD (Gen.matrices.getD r.mat []) r.gpo r.gpe r.tgpe (if r.biotype = 1 then 5 else 23) = true :=
  fun r hr hok => diagCondD_defaults (r.mat, r.gpo, r.gpe, r.tgpe, r.biotype) (defaults_mem r hr hok)

/-- which codes fail: none that can occur.  Only the plain DNA row (`tgpe = 0`) fails, and only for the codes `5..22`, which the
nucleotide alphabet never produces (their matrix entries are 0) -/
theorem C08_diagCondD_dna0_codes :
    (List.range 23).filter (fun x =>
      !(decide (0 < exactSub Gen.mat3 x x + 2 * min (2 * 8000) (min (2 * 6000) (2 * 0))))) =
      [5, 6, 7, 8, 9, 10, 11, 12, 13, 14, 15, 16, 17, 18, 19, 20, 21, 22] := by
  decide +kernel

/-- **plain DNA parameters** (`type 0`: match 5, mismatch −4, gpo 8, gpe 6, tgpe 0) -/
theorem C08_identical_pair_diag_dna0 (entry : Entry) (seq : Array Nat) (h1 : 1 ≤ seq.size)
    (hL : ∀ x ∈ seq.toList, x < 5) :
    let r := alnRun entry (exactParam Gen.mat3 8000 6000 0) (.seqseq seq seq) seq.size seq.size (initMem seq.size seq.size)
    r.fault = false ∧
      ∃ codes, expandPath seq.size (r.pathEntries seq.size) = some codes ∧
        codes.map Col.ofCode = List.replicate seq.size .both :=
  C08_identical_pair_diag_direct_table entry Gen.mat3 8000 6000 0 5
    (diagCondD_defaults (3, 8000, 6000, 0, 1) (by decide)) seq h1 hL

/-- **DNA-internal parameters** (`type 1`: tgpe 8) -/
theorem C08_identical_pair_diag_dna1 (entry : Entry) (seq : Array Nat) (h1 : 1 ≤ seq.size)
    (hL : ∀ x ∈ seq.toList, x < 5) :
    let r := alnRun entry (exactParam Gen.mat3 8000 6000 8000) (.seqseq seq seq) seq.size seq.size
      (initMem seq.size seq.size)
    r.fault = false ∧
      ∃ codes, expandPath seq.size (r.pathEntries seq.size) = some codes ∧
        codes.map Col.ofCode = List.replicate seq.size .both :=
  C08_identical_pair_diag_direct_table entry Gen.mat3 8000 6000 8000 5
    (diagCondD_defaults (3, 8000, 6000, 8000, 1) (by decide)) seq h1 hL

/-- **RNA parameters** (`type 2`, and the default of nucleotide input with an undefined type: matrix 2, gpo 217, gpe 39.4,
tgpe 292.6), on the exact carrier (39.4 and 292.6 are exact there; they are not binary32 values) -/
theorem C08_identical_pair_diag_rna (entry : Entry) (seq : Array Nat) (h1 : 1 ≤ seq.size)
    (hL : ∀ x ∈ seq.toList, x < 5) :
    let r := alnRun entry (exactParam Gen.mat2 217000 39400 292600) (.seqseq seq seq) seq.size seq.size
      (initMem seq.size seq.size)
    r.fault = false ∧
      ∃ codes, expandPath seq.size (r.pathEntries seq.size) = some codes ∧
        codes.map Col.ofCode = List.replicate seq.size .both :=
  C08_identical_pair_diag_direct_table entry Gen.mat2 217000 39400 292600 5
    (diagCondD_defaults (2, 217000, 39400, 292600, 1) (by decide)) seq h1 hL

/-- **protein defaults** (matrix 0, gpo 5.5, gpe 2, tgpe 1) over **all 23 codes**, the wildcard `X` (code 22, self-score −1)
included, sequences of any length -/
theorem C08_identical_pair_diag_protein (entry : Entry) (seq : Array Nat) (h1 : 1 ≤ seq.size)
    (hL : ∀ x ∈ seq.toList, x < 23) :
    let r := alnRun entry (exactParam Gen.mat0 5500 2000 1000) (.seqseq seq seq) seq.size seq.size
      (initMem seq.size seq.size)
    r.fault = false ∧
      ∃ codes, expandPath seq.size (r.pathEntries seq.size) = some codes ∧
        codes.map Col.ofCode = List.replicate seq.size .both :=
  C08_identical_pair_diag_direct_table entry Gen.mat0 5500 2000 1000 23
    (diagCondD_defaults (0, 5500, 2000, 1000, 0) (by decide)) seq h1 hL

/-- **divergent-protein parameters** (`type 4`: matrix 1, gpo 55, gpe 8, tgpe 4) over all 23 codes -/
theorem C08_identical_pair_diag_protein_divergent (entry : Entry) (seq : Array Nat) (h1 : 1 ≤ seq.size)
    (hL : ∀ x ∈ seq.toList, x < 23) :
    let r := alnRun entry (exactParam Gen.mat1 55000 8000 4000) (.seqseq seq seq) seq.size seq.size
      (initMem seq.size seq.size)
    r.fault = false ∧
      ∃ codes, expandPath seq.size (r.pathEntries seq.size) = some codes ∧
        codes.map Col.ofCode = List.replicate seq.size .both :=
  C08_identical_pair_diag_direct_table entry Gen.mat1 55000 8000 4000 23
    (diagCondD_defaults (1, 55000, 8000, 4000, 0) (by decide)) seq h1 hL

/-- **`k` copies against `m` copies of the same sequence** (profile – profile; equal lengths, so `do_align` exchanges the
operands and mirrors the path): the result is the gap-free diagonal, under the per-residue condition alone -/
theorem C08_identical_groups_diag_direct (entry : Entry) (ap : AlnParam ExactScore) (gpo gpe tgpe : Int)
    (s : Nat → Nat → Int) (hap : ApOK ap gpo gpe tgpe s) (hgpo : 0 ≤ gpo) (hgpe : 0 ≤ gpe) (htgpe : 0 ≤ tgpe)
    (hsym : ∀ x y, s x y = s y x) (seq : Array Nat) (h23 : ∀ i, seq.getD i 0 < 23) (h1 : 1 ≤ seq.size)
    (pa pb : Array ExactScore) (k m : Nat) (hk : 1 ≤ k) (hm : 1 ≤ m) (hpa : Built ap seq pa k) (hpb : Built ap seq pb m)
    (hself : ∀ x ∈ seq.toList, 0 < s x x + 2 * min gpo (min gpe tgpe))
    (hdom : ∀ x ∈ seq.toList, ∀ y ∈ seq.toList, 2 * s x y ≤ s x x + s y y) :
    ∃ codes, dpCodes entry ap (.profprof (setGapPenalties pb k) (setGapPenalties pa m)) true seq.size seq.size
        seq.size seq.size = some codes ∧ codes.map Col.ofCode = List.replicate seq.size .both := by
  have hPa := built_profOK ap gpo gpe tgpe s hap seq pa k m hpa
  have hPb := built_profOK ap gpo gpe tgpe s hap seq pb m k hpb
  have hrun := diag_runOK_pp entry ap gpo gpe tgpe s hap hsym seq h23 ⟨hgpo, hgpe, htgpe, hself, hdom⟩ _ _ m k hm hk hPb hPa
  exact dp_swapped entry ap _ seq.size seq.size (diagCols seq.size) (by rw [diagCols_swap]; exact hrun)
    (validCols_diag _) (adjOK_diag _ _) h1 h1

/-- **one sequence against `k` copies of itself** (sequence – profile, group on side `b`) -/
theorem C08_identical_seq_group_diag_direct (entry : Entry) (ap : AlnParam ExactScore) (gpo gpe tgpe : Int)
    (s : Nat → Nat → Int) (hap : ApOK ap gpo gpe tgpe s) (hgpo : 0 ≤ gpo) (hgpe : 0 ≤ gpe) (htgpe : 0 ≤ tgpe)
    (seq : Array Nat) (h23 : ∀ i, seq.getD i 0 < 23) (h1 : 1 ≤ seq.size)
    (pb : Array ExactScore) (k : Nat) (hk : 1 ≤ k) (hpb : Built ap seq pb k)
    (hself : ∀ x ∈ seq.toList, 0 < s x x + 2 * min gpo (min gpe tgpe))
    (hdom : ∀ x ∈ seq.toList, ∀ y ∈ seq.toList, 2 * s x y ≤ s x x + s y y) :
    ∃ codes, dpCodes entry ap (.seqprof (setGapPenalties pb 1) seq k) true seq.size seq.size seq.size seq.size =
        some codes ∧ codes.map Col.ofCode = List.replicate seq.size .both := by
  have hPb := built_profOK ap gpo gpe tgpe s hap seq pb k 1 hpb
  have hrun := diag_runOK_sp entry ap gpo gpe tgpe s hap seq h23 ⟨hgpo, hgpe, htgpe, hself, hdom⟩ _ k hk hPb
  exact dp_swapped entry ap _ seq.size seq.size (diagCols seq.size) (by rw [diagCols_swap]; exact hrun)
    (validCols_diag _) (adjOK_diag _ _) h1 h1

/-- **`k` copies against one sequence** (group on side `a`) -/
theorem C08_identical_group_seq_diag_direct (entry : Entry) (ap : AlnParam ExactScore) (gpo gpe tgpe : Int)
    (s : Nat → Nat → Int) (hap : ApOK ap gpo gpe tgpe s) (hgpo : 0 ≤ gpo) (hgpe : 0 ≤ gpe) (htgpe : 0 ≤ tgpe)
    (seq : Array Nat) (h23 : ∀ i, seq.getD i 0 < 23) (h1 : 1 ≤ seq.size)
    (pa : Array ExactScore) (k : Nat) (hk : 1 ≤ k) (hpa : Built ap seq pa k)
    (hself : ∀ x ∈ seq.toList, 0 < s x x + 2 * min gpo (min gpe tgpe))
    (hdom : ∀ x ∈ seq.toList, ∀ y ∈ seq.toList, 2 * s x y ≤ s x x + s y y) :
    ∃ codes, dpCodes entry ap (.seqprof (setGapPenalties pa 1) seq k) false seq.size seq.size seq.size seq.size =
        some codes ∧ codes.map Col.ofCode = List.replicate seq.size .both := by
  have hPa := built_profOK ap gpo gpe tgpe s hap seq pa k 1 hpa
  have hrun := diag_runOK_sp entry ap gpo gpe tgpe s hap seq h23 ⟨hgpo, hgpe, htgpe, hself, hdom⟩ _ k hk hPa
  exact dp_unswapped entry ap _ seq.size seq.size (diagCols seq.size) hrun (validCols_diag _) (adjOK_diag _ _) h1 h1

/-- **plain DNA parameters, `k` copies against `m` copies** of a sequence over the five nucleotide codes -/
theorem C08_identical_groups_diag_dna0 (entry : Entry) (seq : Array Nat) (h1 : 1 ≤ seq.size) (hL : ∀ x ∈ seq.toList, x < 5)
    (h23 : ∀ i, seq.getD i 0 < 23) (pa pb : Array ExactScore) (k m : Nat) (hk : 1 ≤ k) (hm : 1 ≤ m)
    (hpa : Built (exactParam Gen.mat3 8000 6000 0) seq pa k) (hpb : Built (exactParam Gen.mat3 8000 6000 0) seq pb m) :
    ∃ codes, dpCodes entry (exactParam Gen.mat3 8000 6000 0) (.profprof (setGapPenalties pb k) (setGapPenalties pa m)) true
        seq.size seq.size seq.size seq.size = some codes ∧ codes.map Col.ofCode = List.replicate seq.size .both := by
  obtain ⟨a1, a2, a3, a4, a5⟩ := diagCondD_spec Gen.mat3 8000 6000 0 5
    (diagCondD_defaults (3, 8000, 6000, 0, 1) (by decide)) seq hL
  exact C08_identical_groups_diag_direct entry _ _ _ _ (exactSub Gen.mat3) (exactParam_ok Gen.mat3 8000 6000 0) a1 a2 a3
    (exactSub_symm_of_mem Gen.mat3 (by simp [Gen.matrices])) seq h23 h1 pa pb k m hk hm hpa hpb a4 a5

/-- the hypotheses of `C08_identical_pair_diag_direct` hold for a DNA sequence containing `N` (code 4) under the plain DNA
parameters (units 1/2000: gpo 16000, gpe 12000, tgpe 0, match 10000) … -/
example : (∀ x ∈ (#[0, 1, 4, 3, 3, 2] : Array Nat).toList,
      0 < exactSub Gen.mat3 x x + 2 * min (2 * 8000) (min (2 * 6000) (2 * 0))) ∧
    (∀ x ∈ (#[0, 1, 4, 3, 3, 2] : Array Nat).toList, ∀ y ∈ (#[0, 1, 4, 3, 3, 2] : Array Nat).toList,
      2 * exactSub Gen.mat3 x y ≤ exactSub Gen.mat3 x x + exactSub Gen.mat3 y y) := by decide +kernel

/-- … where the margin-based check of `Props/C08Opt.lean` fails … -/
example : diagCond Gen.mat3 8000 6000 0 [0, 1, 4, 3, 3, 2] = false := by decide +kernel

/-- … and the conclusion is what the model computes (both entry points) -/
example :
    let r := alnRun .parallel (exactParam Gen.mat3 8000 6000 0) (.seqseq #[0, 1, 4, 3, 3, 2] #[0, 1, 4, 3, 3, 2]) 6 6
      (initMem 6 6)
    r.fault = false ∧ (expandPath 6 (r.pathEntries 6)).map (·.map Col.ofCode) = some (List.replicate 6 .both) := by
  decide +kernel

/-- a protein sequence with the wildcard `X` (code 22, self-score −1.0): the direct condition holds, the margin-based one
fails, the model returns the diagonal -/
example : diagCond Gen.mat0 5500 2000 1000 [0, 22, 22, 7] = false ∧ exactSub Gen.mat0 22 22 = -2000 ∧
    (let r := alnRun .serial (exactParam Gen.mat0 5500 2000 1000) (.seqseq #[0, 22, 22, 7] #[0, 22, 22, 7]) 4 4 (initMem 4 4)
     r.fault = false ∧ (expandPath 4 (r.pathEntries 4)).map (·.map Col.ofCode) = some (List.replicate 4 .both)) := by
  decide +kernel

/-- the RNA row: the direct check holds for all five nucleotide codes (no length bound; the margin-based check of
`Props/C08Opt.lean` charges `max(0, tgpe − gpe) = 253.2` plus `len/2000` against the self-score and so bounds the length) -/
example : diagCondD Gen.mat2 217000 39400 292600 5 = true ∧
    (let r := alnRun .parallel (exactParam Gen.mat2 217000 39400 292600) (.seqseq #[4, 0, 3, 3] #[4, 0, 3, 3]) 4 4 (initMem 4 4)
     r.fault = false ∧ (expandPath 4 (r.pathEntries 4)).map (·.map Col.ofCode) = some (List.replicate 4 .both)) := by
  decide +kernel

/-- the condition is a genuine restriction: with a self-score of −20 and free terminal gaps (`tgpe = 0`) it fails, and the
model indeed does **not** return the diagonal (a hypothetical parameter row, not one of kalign's; for zero or mildly negative
self-scores the diagonal still wins, because an aligned column after a terminal gap run is charged `gpo`) -/
example : diagCondD [[-20000]] 8000 6000 0 1 = false ∧
    (let r := alnRun .serial (exactParam [[-20000]] 8000 6000 0) (.seqseq #[0, 0] #[0, 0]) 2 2 (initMem 2 2)
     r.pathEntries 2 = [-1, 1] ∧
     (expandPath 2 (r.pathEntries 2)).map (·.map Col.ofCode) = some [.gapB, .both, .gapA]) := by
  decide +kernel

/-- two copies of the DNA sequence (A,C,N,T) under the plain DNA parameters, built by one diagonal `update_n` -/
def exGroupD : Array ExactScore :=
  (updateN (exactParam Gen.mat3 8000 6000 0) (makeProfile (exactParam Gen.mat3 8000 6000 0) #[0, 1, 4, 3])
    (makeProfile (exactParam Gen.mat3 8000 6000 0) #[0, 1, 4, 3]) [0, 0, 0, 0] 1 1).getD #[]

theorem exGroupD_built : Built (exactParam Gen.mat3 8000 6000 0) #[0, 1, 4, 3] exGroupD 2 := by
  obtain ⟨p, hp, hb⟩ := built_merge_exists (exactParam Gen.mat3 8000 6000 0) #[0, 1, 4, 3] _ _ 1 1 1 1 Built.leaf Built.leaf
  have : exGroupD = p := by
    unfold exGroupD
    have h3 : (List.replicate (#[0, 1, 4, 3] : Array Nat).size 0) = [0, 0, 0, 0] := rfl
    rw [h3] at hp
    rw [hp]; rfl
  rw [this]; exact hb

theorem exGroupD_diag : ∃ codes, dpCodes .parallel (exactParam Gen.mat3 8000 6000 0)
      (.profprof (setGapPenalties exGroupD 2) (setGapPenalties exGroupD 2)) true 4 4 4 4 = some codes ∧
    codes.map Col.ofCode = List.replicate 4 .both :=
  C08_identical_groups_diag_dna0 .parallel #[0, 1, 4, 3] (by decide) (by decide) (getD_lt_of_all _ (by decide +kernel))
    exGroupD exGroupD 2 2 (by decide) (by decide) exGroupD_built exGroupD_built

/-- the hypotheses of `C08_identical_groups_diag_dna0` hold for two copies against two copies -/
example : ∃ codes, dpCodes .parallel (exactParam Gen.mat3 8000 6000 0)
      (.profprof (setGapPenalties exGroupD 2) (setGapPenalties exGroupD 2)) true 4 4 4 4 = some codes ∧
    codes.map Col.ofCode = List.replicate 4 .both :=
  exGroupD_diag

end Kalign

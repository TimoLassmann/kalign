import KalignModel.Props.C05PipelineSoftL
import KalignModel.Lemmas.TaskLeaves
/-!
# C05 (pipeline) on the software binary32 carrier: stages "fault" and "monitor", no hypothesis left

`Props/C05PipelineSoftL.lean` proves `kalignRunSoft_never_fault_monitor_of_distinct` under the structural hypothesis
`GuideTreeDistinct` (the leaves of every tree whose sorted task table `buildTasks` returned are pairwise distinct).  It holds for
every input (`guideTreeDistinct`): `Lemmas/C10Tree.lean` (`buildTasks_tree`) shows that every table `buildTasks` returns is the sorted
table of *some* tree whose leaf list is a permutation of `0 … n-1`; `Lemmas/TaskLeaves.lean` (`table_leaves_nodup`) shows that the
sorted table determines the leaf list up to order.  So `kalignRunSoft_never_fault_monitor` has size hypotheses only; for all four
stages the one hypothesis left is `PipelineUpgmaHyp` (binary32 values in `upgma`, computed on `Float32` in `kalignRunSoft`), which
`Props/C05PipelineSoft2.lean` removes for the pipeline whose `upgma` runs on `SoftF32` (`kalignRunSoft2`).
-/
namespace Kalign.Pipeline
open Kalign Kalign.Kmeans Kalign.SoftF32

theorem guideTreeDistinct (inp : List InSeq) : GuideTreeDistinct inp :=
  fun _ T _ hb => buildTasks_leaves_nodup true _ T hb

/-- **stages "fault" and "monitor" of the `SoftF32` pipeline: never reached** for inputs with at most 2¹⁷ sequences of at most `M`
residues with `numseq · M < 2¹⁹` — every `type`, every penalty triple, no other hypothesis -/
theorem kalignRunSoft_never_fault_monitor (inp : List InSeq) (type : Int) (gpo gpe tgpe : SoftF32) (M : Nat)
    (hn : inp.length ≤ 131072) (hlen : ∀ x ∈ inp, x.seq.length ≤ M) (hprod : inp.length * M < 524288) :
    kalignRunSoft inp type gpo gpe tgpe ≠ .error .fault ∧ kalignRunSoft inp type gpo gpe tgpe ≠ .error .monitor :=
  kalignRunSoft_never_fault_monitor_of_distinct inp type gpo gpe tgpe M hn hlen hprod (guideTreeDistinct inp)

/-- all four stages; missing fact = `PipelineUpgmaHyp` (the `Float32` values in `upgma` stay below `FLT_MAX`).
Full statement: the same without `hU` (proved for `kalignRunSoft2`, whose `upgma` runs on `SoftF32`: Props/C05PipelineSoft2.lean) -/
theorem kalignRunSoft_never_faults_upgma_partial (inp : List InSeq) (type : Int) (gpo gpe tgpe : SoftF32) (M : Nat)
    (hn : inp.length ≤ 131072) (hlen : ∀ x ∈ inp, x.seq.length ≤ M) (hprod : inp.length * M < 524288)
    (hU : PipelineUpgmaHyp inp) :
    kalignRunSoft inp type gpo gpe tgpe ≠ .error .fault ∧ kalignRunSoft inp type gpo gpe tgpe ≠ .error .tree ∧
    kalignRunSoft inp type gpo gpe tgpe ≠ .error .monitor ∧ kalignRunSoft inp type gpo gpe tgpe ≠ .error .fuel :=
  kalignRunSoft_never_faults_of_distinct inp type gpo gpe tgpe M hn hlen hprod hU (guideTreeDistinct inp)

/-! non-vacuity: three DNA sequences of at most 8 residues satisfy the size hypotheses (`3 · 8 < 2¹⁹`); a run of the `SoftF32` pipeline
(`kalignRunSoft2`'s core) is evaluated by the kernel in Props/C05PipelineSoft2Ex.lean -/
def exInp : List InSeq :=
  [{ name := [65], seq := "ACGTACGT".toList }, { name := [66], seq := "ACGTCGT".toList }, { name := [67], seq := "AGTACG".toList }]

example : kalignRunSoft exInp (-1) (ofRaw 0xbf800000) (ofRaw 0xbf800000) (ofRaw 0xbf800000) ≠ .error .fault ∧
    kalignRunSoft exInp (-1) (ofRaw 0xbf800000) (ofRaw 0xbf800000) (ofRaw 0xbf800000) ≠ .error .monitor :=
  kalignRunSoft_never_fault_monitor exInp (-1) _ _ _ 8 (by decide) (by decide) (by decide)

end Kalign.Pipeline

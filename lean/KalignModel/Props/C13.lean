import KalignModel.Model.Detect
import KalignModel.Lemmas.Detect
/-!
# C13 — nucleotide and protein inputs are recognised from their residue letters

`detectExact` (Model/Detect.lean) is the exact-arithmetic reading of `detect_alphabet`: DNA iff
Π pDna(c)^n_c > Π pProt(c)^n_c over the byte histogram; the letter sets and the four probabilities are
regenerated from the C text (Gen/Consts.lean).  The executable double-precision model `detectF` is tied to the C
function bit-for-bit by correspondence and to `detectExact` by measurement (A-float).
-/
namespace Kalign
open DetectLemmas

/-- (P1) input whose residues are all nucleotide letters (A, C, G, T, U, N in either case) is nucleotide -/
theorem C13_p1_dna (hist : List Nat) (hlen : hist.length = 128)
    (hall : countWhere isNuc hist = total hist) (hne : 0 < total hist) :
    detectExact hist = .dna := by
  have _ := hlen
  exact detect_dna_of_countWhere hist hall hne

/-- (P2) input in which at least a quarter of the residues are protein-only letters is protein.
`hletters`: everything counted is an ASCII letter (the readers count letters only). -/
theorem C13_p2_protein (hist : List Nat) (hlen : hist.length = 128)
    (hletters : countWhere (fun c => (65 ≤ c && c ≤ 90) || (97 ≤ c && c ≤ 122)) hist = total hist)
    (hq : total hist ≤ 4 * countWhere isProtOnly hist) (hne : 0 < total hist) :
    detectExact hist = .protein := by
  have _ := hlen
  have _ := hletters
  exact detect_protein_of_countWhere hist hq hne

/-- (P3) the decision is the same for any order of the sequences (names never enter) -/
theorem C13_p3_order (seqs seqs' : List (List Nat)) (h : seqs.Perm seqs') :
    detectExact (histOf seqs) = detectExact (histOf seqs') := by
  rw [histOf_perm h]

/-- the protein-only letters of the current source are exactly D E F H I K L M P Q R S V W Y (both cases) -/
theorem C13_protein_only_letters :
    (List.range 128).filter isProtOnly =
      [68, 69, 70, 72, 73, 75, 76, 77, 80, 81, 82, 83, 86, 87, 89,
       100, 101, 102, 104, 105, 107, 108, 109, 112, 113, 114, 115, 118, 119, 121] := by decide +kernel

/-- every nucleotide letter of the property is a DNA letter of the current source -/
theorem C13_nuc_letters : ∀ c ∈ List.range 128, isNuc c = Gen.dnaLettersB.contains c := by decide +kernel

/-! Class totals of `histOf seqs` are counts over the bytes of `seqs` (`sumW_hist`), so the instances below are decided by
looking at those few bytes instead of running `detectExact` over all 128 histogram entries. -/

-- non-vacuity: "ACGU" x 1 is nucleotide, "UD" "UD" is protein
-- (byte lists written out so that the kernel can evaluate them: "ACGU" = [65,67,71,85], "UD" = [85,68])
example : detectExact (histOf [[65, 67, 71, 85]]) = .dna := by
  rw [detectExact_histOf _ (by decide)]; decide +kernel
example : detectExact (histOf [[85, 68], [85, 68]]) = .protein := by
  rw [detectExact_histOf _ (by decide)]; decide +kernel

-- the hypotheses of P1 hold for the histogram of "ACGU", "acgtn"
example : (histOf [[65, 67, 71, 85], [97, 99, 103, 116, 110]]).length = 128 ∧
    countWhere isNuc (histOf [[65, 67, 71, 85], [97, 99, 103, 116, 110]]) =
      total (histOf [[65, 67, 71, 85], [97, 99, 103, 116, 110]]) ∧
    0 < total (histOf [[65, 67, 71, 85], [97, 99, 103, 116, 110]]) := by
  rw [histOf_length, countWhere_histOf _ _ (by decide), total_histOf _ (by decide)]; decide +kernel

-- the hypotheses of P2 hold together: "ACGD" (exactly a quarter protein-only: the boundary case) and
-- "MKVLAAGIX" + "mkwlsagn" (letters of all three classes, both cases; X is in neither set)
example : (histOf [[65, 67, 71, 68]]).length = 128 ∧
    countWhere (fun c => (65 ≤ c && c ≤ 90) || (97 ≤ c && c ≤ 122)) (histOf [[65, 67, 71, 68]]) =
      total (histOf [[65, 67, 71, 68]]) ∧
    total (histOf [[65, 67, 71, 68]]) ≤ 4 * countWhere isProtOnly (histOf [[65, 67, 71, 68]]) ∧
    0 < total (histOf [[65, 67, 71, 68]]) ∧ total (histOf [[65, 67, 71, 68]]) = 4 ∧
    detectExact (histOf [[65, 67, 71, 68]]) = .protein := by
  rw [histOf_length, countWhere_histOf _ _ (by decide), countWhere_histOf _ _ (by decide), total_histOf _ (by decide),
    detectExact_histOf _ (by decide)]
  decide +kernel

example :
    let h := histOf [[77, 75, 86, 76, 65, 65, 71, 73, 88], [109, 107, 119, 108, 115, 97, 103, 110]]
    h.length = 128 ∧
    countWhere (fun c => (65 ≤ c && c ≤ 90) || (97 ≤ c && c ≤ 122)) h = total h ∧
    total h ≤ 4 * countWhere isProtOnly h ∧ 0 < total h ∧ total h = 17 ∧ countWhere isProtOnly h = 10 := by
  intro h
  rw [histOf_length, countWhere_histOf _ _ (by decide), countWhere_histOf _ _ (by decide), total_histOf _ (by decide)]
  decide +kernel

example : detectExact (histOf [[65, 67, 71, 85], [97, 99, 103, 116, 110]]) = .dna :=
  C13_p1_dna _ (histOf_length _)
    (by rw [countWhere_histOf _ _ (by decide), total_histOf _ (by decide)]; decide +kernel)
    (by rw [total_histOf _ (by decide)]; decide)
example : detectExact (histOf [[65, 67, 71, 68]]) = .protein :=
  C13_p2_protein _ (histOf_length _)
    (by rw [countWhere_histOf _ _ (by decide), total_histOf _ (by decide)]; decide +kernel)
    (by rw [countWhere_histOf _ _ (by decide), total_histOf _ (by decide)]; decide +kernel)
    (by rw [total_histOf _ (by decide)]; decide)

-- P2's quarter is a sufficient, not a sharp threshold; the hypothesis `0 < total` is needed (empty input is undecided)
example : detectExact (histOf [[65, 67, 71, 84, 68]]) = .protein := by
  rw [detectExact_histOf _ (by decide)]; decide +kernel
example : detectExact (histOf []) = .unknown := by
  rw [detectExact_histOf _ (by decide)]; decide +kernel

end Kalign

import KalignModel.Model.IO.Read
import KalignModel.Model.IO.Write
import KalignModel.Props.C01
import KalignModel.Props.C07
import KalignModel.Props.C09
import KalignModel.Props.C14
import KalignModel.Props.C15
/-!
# C05 — no memory error, crash or hang on any input; failures are reported as failures

Lean does not prove memory safety of the C text.  What is proved here is about the *fault-aware* models: they return an
explicit fault value where the C code would read or write outside an object, and the theorems say that value is never
produced on the quantified inputs.  The correspondence (model verdict = sanitizer verdict on the same bytes) and the
sanitizer-instrumented search carry this to the code (tools/props/c05.py).
-/
namespace Kalign
open Kalign.IO

theorem ite_ne {α : Type} {c : Prop} [Decidable c] {a b x : α} (ha : a ≠ x) (hb : b ≠ x) :
    (if c then a else b) ≠ x := by
  split
  · exact ha
  · exact hb

/-- every byte string: reading one input never takes a path on which the C reader has undefined behaviour
(NULL dereference before the first header, negative histogram index, over-read of an MSF header line,
`sip[-2]` on an input without sequences — all repaired in /repo, so no leaf of `readInput1` is `.fault`) -/
theorem C05_read_never_faults (prev : Option Msa) (file : Bytes) : readInput1 prev file ≠ .fault := by
  unfold readInput1
  dsimp only
  refine ite_ne nofun (ite_ne nofun ?_)
  cases readAs _ _ with
  | none => nofun
  | some seqs =>
    refine ite_ne nofun ?_
    split
    · nofun
    · exact ite_ne nofun nofun

theorem C05_read_many_never_faults : ∀ (files : List Bytes) (prev : Option Msa), readInputs prev files ≠ .fault
  | [], none => by simp [readInputs]
  | [], some _ => by simp [readInputs]
  | f :: fs, prev => by
    rw [readInputs]
    cases hr : readInput1 prev f with
    | fault => exact absurd hr (C05_read_never_faults prev f)
    | fail => nofun
    | null => exact C05_read_many_never_faults fs prev
    | ok m => exact C05_read_many_never_faults fs (some m)

/-- every residue letter that is accepted is mapped to a defined residue class, inside the tables that are indexed with it:
codes of the guide-tree alphabets (nucleotide 5, reduced protein 13) index `Peq[13]` of the distance kernel, codes of the
alignment alphabets (5, 23) index the 23x23 substitution matrix -/
theorem C05_codes_in_range : ∀ c ∈ List.range 128, isAsciiLetter c = true →
    (0 ≤ codeOf 5 c ∧ codeOf 5 c < 5) ∧ (0 ≤ codeOf 13 c ∧ codeOf 13 c < 13) ∧ (0 ≤ codeOf 23 c ∧ codeOf 23 c < 23) := by
  decide +kernel

/-- the expansion of a well-shaped Hirschberg path stays inside the path buffer (no terminator overrun) -/
theorem C05_expandPath_no_fault (lenB : Nat) (path : List Int) (hb : 1 ≤ lenB) (hne : path ≠ [])
    (h : pathOK lenB path = true) : expandPath lenB path ≠ none := by
  obtain ⟨codes, hc, _⟩ := C01_expandPath_valid lenB path hb hne h
  simp [hc]

/-- penalties that would overflow the DP's `-FLT_MAX` sentinel are rejected before any alignment work -/
theorem C05_huge_penalties_rejected (bt : Nat) (t : Int) (g e x : Int) (h : capK < g ∨ capK < e ∨ capK < x) :
    alnParamInit bt t g e x = none := C09_over_cap_rejected bt t g e x h

/-- the writers index rows only below `alnlen`: for a finished alignment this is inside every row -/
theorem C05_write_in_bounds (S : List SeqRec) (wf : AlnWF S) (bio L : Nat) (base : Bytes) :
    (finalise S bio L base).InBounds := finalise_inBounds S wf bio L base

end Kalign

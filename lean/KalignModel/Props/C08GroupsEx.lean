import KalignModel.Props.C08Direct
/-!
# C08 on the exact carrier, groups of identical copies — the theorems on concrete operands (non-vacuity)

Two copies against two copies of one sequence, where the margin theorem (`Props/C08Opt.lean`, protein defaults) and the direct argument
(`Props/C08Direct.lean`, plain DNA with `tgpe = 0`, which the margin theorem does not reach) apply: the codes are the diagonal
(`dpCodes_of_cols` on `exGroup2_diag`, `exGroupD_diag`).
-/
namespace Kalign

/-- `C08_identical_groups_diag` applies (`exGroup2`, two copies of (0,4,7,17)) -/
example : dpCodes .parallel (exactParam Gen.mat0 5500 2000 1000)
    (.profprof (setGapPenalties exGroup2 2) (setGapPenalties exGroup2 2)) true 4 4 4 4 = some [0, 0, 0, 0] :=
  dpCodes_of_cols exGroup2_diag

/-- `C08_identical_groups_diag_dna0` applies (`exGroupD`, two copies of (0,1,4,3)) -/
example : dpCodes .parallel (exactParam Gen.mat3 8000 6000 0)
    (.profprof (setGapPenalties exGroupD 2) (setGapPenalties exGroupD 2)) true 4 4 4 4 = some [0, 0, 0, 0] :=
  dpCodes_of_cols exGroupD_diag

end Kalign

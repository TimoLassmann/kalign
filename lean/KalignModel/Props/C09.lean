import KalignModel.Lemmas.ParamSel
import KalignModel.Props.C09Ref
/-!
# C09 — the scoring parameters used are exactly the ones the caller selected

All statements are about `alnParamInit` / `setAlnType` (Model/Param.lean), whose data part is regenerated from the
C sources on every run: the default table by executing `aln_param_init`, the override guards and the `--type` word
chain by parsing.  A change of the C code that breaks the property changes that data and one of the theorems below
stops checking.
-/
namespace Kalign
open Gen

/-- an override replaces exactly its own field — for the guard list of the *current* source, any value
carrier and any values -/
theorem C09_override_exact {V : Type} (nonneg : V → Bool) (p : PSet V) (gpo gpe tgpe : V) :
    let q := applyGuards nonneg Gen.overrideGuardsT p gpo gpe tgpe
    q.gpo = (if nonneg gpo then gpo else p.gpo) ∧
    q.gpe = (if nonneg gpe then gpe else p.gpe) ∧
    q.tgpe = (if nonneg tgpe then tgpe else p.tgpe) ∧
    q.mat = p.mat := by
  rw [applyGuards_eq]
  exact ⟨rfl, rfl, rfl, rfl⟩

/-- every accepted (biotype, type) has non-negative defaults, so "negative = not given" loses no default -/
theorem C09_defaults_nonneg : ∀ r ∈ Gen.paramTable, r.ok = true → 0 ≤ r.gpo ∧ 0 ≤ r.gpe ∧ 0 ≤ r.tgpe := by
  decide +kernel

/-- every default passes the bound, so the bound only ever rejects explicit overrides -/
theorem C09_defaults_within_cap : ∀ r ∈ Gen.paramTable, r.ok = true → r.gpo ≤ capK ∧ r.gpe ≤ capK ∧ r.tgpe ≤ capK := by
  decide +kernel

theorem defaults_row {bt : Nat} {t : Int} {p : PSet Int} (h : alnParamInit bt t (-1) (-1) (-1) = some p) :
    ∃ r, lookupRow bt t = some r ∧ r.ok = true ∧ p = { gpo := r.gpo, gpe := r.gpe, tgpe := r.tgpe, mat := r.mat } ∧
      (0 ≤ r.gpo ∧ 0 ≤ r.gpe ∧ 0 ≤ r.tgpe) ∧ r.gpo ≤ capK ∧ r.gpe ≤ capK ∧ r.tgpe ≤ capK := by
  rw [alnParamInit_eq_select] at h
  obtain ⟨r, hm, hr, hok, -, rfl⟩ := selectParams_some h
  exact ⟨r, hr, hok, by simp, C09_defaults_nonneg r hm hok, C09_defaults_within_cap r hm hok⟩

/-- passing a type's defaults explicitly changes nothing -/
theorem C09_explicit_default_noop (bt : Nat) (t : Int) (p : PSet Int)
    (h : alnParamInit bt t (-1) (-1) (-1) = some p) :
    alnParamInit bt t p.gpo p.gpe p.tgpe = some p := by
  obtain ⟨r, hr, hok, rfl, hnn, hcap⟩ := defaults_row h
  simp [alnParamInit_eq, hr, hok, hnn, hcap]

/-- each of the three can be set on its own, end to end (any value between 0 and the bound) -/
theorem C09_single_override (bt : Nat) (t : Int) (p : PSet Int) (v : Int) (hv : 0 ≤ v) (hc : v ≤ capK)
    (h : alnParamInit bt t (-1) (-1) (-1) = some p) :
    alnParamInit bt t v (-1) (-1) = some { p with gpo := v } ∧
    alnParamInit bt t (-1) v (-1) = some { p with gpe := v } ∧
    alnParamInit bt t (-1) (-1) v = some { p with tgpe := v } := by
  obtain ⟨r, hr, hok, rfl, -, hcap⟩ := defaults_row h
  simp [alnParamInit_eq, hr, hok, hv, hc, hcap]

/-- acceptance does not depend on overrides that respect the bound -/
theorem C09_accept_indep (bt : Nat) (t : Int) (g e x : Int) (hg : g ≤ capK) (he : e ≤ capK) (hx : x ≤ capK) :
    (alnParamInit bt t g e x).isSome = (alnParamInit bt t (-1) (-1) (-1)).isSome := by
  simp only [alnParamInit_eq]
  cases hr : lookupRow bt t with
  | none => rfl
  | some r =>
    by_cases hok : r.ok = true
    case neg => simp [hok]
    obtain ⟨h1, h2, h3⟩ := C09_defaults_within_cap r (lookupRow_mem hr) hok
    have k1 : (if 0 ≤ g then g else r.gpo) ≤ capK := by split <;> assumption
    have k2 : (if 0 ≤ e then e else r.gpe) ≤ capK := by split <;> assumption
    have k3 : (if 0 ≤ x then x else r.tgpe) ≤ capK := by split <;> assumption
    simp [hok, k1, k2, k3, h1, h2, h3]

/-- an override above the bound is rejected (the overflow guard of the DP's -FLT_MAX sentinel) -/
theorem C09_over_cap_rejected (bt : Nat) (t : Int) (g e x : Int) (h : capK < g ∨ capK < e ∨ capK < x) :
    alnParamInit bt t g e x = none := by
  rw [alnParamInit_eq]
  cases lookupRow bt t with
  | none => rfl
  | some r =>
    have hk : (0 : Int) ≤ capK := by decide
    simp only [ite_eq_right_iff, reduceCtorEq, imp_false]
    intro _
    rcases h with h | h | h
    · rw [if_pos (by omega : 0 ≤ g)]; omega
    · rw [if_pos (by omega : 0 ≤ e)]; omega
    · rw [if_pos (by omega : 0 ≤ x)]; omega

def matOf (bt : Nat) (t : Int) : Option (List (List Int)) :=
  (alnParamInit bt t (-1) (-1) (-1)).bind fun p => Gen.matrices[p.mat]?

def pensOf (bt : Nat) (t : Int) : Option (Int × Int × Int) :=
  (alnParamInit bt t (-1) (-1) (-1)).map fun p => (p.gpo, p.gpe, p.tgpe)

/-- the nucleotide alphabet has five internal symbols (A, C, G, T/U and N, which stands for every ambiguity code): the documented
5 match / -4 mismatch holds for every pair of them, N included (N against N is a match, N against a base a mismatch) -/
def nucMatrixOK (m : List (List Int)) : Bool :=
  (List.range 5).all fun i => (List.range 5).all fun j =>
    (m.getD i []).getD j 0 == (if i == j then 5000 else -4000)

/-- README: `dna` = match 5, mismatch -4, gap open 8, extension 6, terminal 0 -/
theorem C09_defaults_dna :
    pensOf 1 Gen.KALIGN_TYPE_DNA = some (8000, 6000, 0) ∧
    (matOf 1 Gen.KALIGN_TYPE_DNA).map nucMatrixOK = some true := by decide +kernel

/-- README: `internal` = same as dna but terminal gaps 8 -/
theorem C09_defaults_internal :
    pensOf 1 Gen.KALIGN_TYPE_DNA_INTERNAL = some (8000, 6000, 8000) ∧
    matOf 1 Gen.KALIGN_TYPE_DNA_INTERNAL = matOf 1 Gen.KALIGN_TYPE_DNA := by decide +kernel

/-- README: `protein` uses CorBLOSUM66_13plus and is the default for protein input;
`divergent` uses Gonnet 250 -/
theorem C09_defaults_protein :
    matOf 0 Gen.KALIGN_TYPE_PROTEIN = some (Ref.corBlosum66_13plus.map (·.map (· * 1000))) ∧
    matOf 0 Gen.KALIGN_TYPE_UNDEFINED = matOf 0 Gen.KALIGN_TYPE_PROTEIN ∧
    pensOf 0 Gen.KALIGN_TYPE_UNDEFINED = pensOf 0 Gen.KALIGN_TYPE_PROTEIN := by decide +kernel

theorem C09_defaults_divergent :
    matOf 0 Gen.KALIGN_TYPE_PROTEIN_DIVERGENT = some (Ref.gonnet250.map (·.map (· * 1000))) := by decide +kernel

/-- `rna` is the default for nucleotide input and is a parameter set of its own -/
theorem C09_defaults_rna :
    pensOf 1 Gen.KALIGN_TYPE_UNDEFINED = pensOf 1 Gen.KALIGN_TYPE_RNA ∧
    matOf 1 Gen.KALIGN_TYPE_UNDEFINED = matOf 1 Gen.KALIGN_TYPE_RNA ∧
    matOf 1 Gen.KALIGN_TYPE_RNA ≠ matOf 1 Gen.KALIGN_TYPE_DNA ∧ (pensOf 1 Gen.KALIGN_TYPE_RNA).isSome := by decide +kernel

/-- every substitution matrix in use is symmetric -/
theorem C09_matrices_symmetric : ∀ m ∈ Gen.matrices, ∀ i ∈ List.range 23, ∀ j ∈ List.range 23,
    (m.getD i []).getD j 0 = (m.getD j []).getD i 0 := by decide +kernel

/-- every documented `--type` word selects the type of that name; no option = undefined -/
theorem C09_type_words :
    setAlnType (some [100, 110, 97]) = some Gen.KALIGN_TYPE_DNA ∧                                   -- "dna"
    setAlnType (some [114, 110, 97]) = some Gen.KALIGN_TYPE_RNA ∧                                   -- "rna"
    setAlnType (some [105, 110, 116, 101, 114, 110, 97, 108]) = some Gen.KALIGN_TYPE_DNA_INTERNAL ∧ -- "internal"
    setAlnType (some [112, 114, 111, 116, 101, 105, 110]) = some Gen.KALIGN_TYPE_PROTEIN ∧          -- "protein"
    setAlnType (some [100, 105, 118, 101, 114, 103, 101, 110, 116]) = some Gen.KALIGN_TYPE_PROTEIN_DIVERGENT ∧ -- "divergent"
    setAlnType none = some Gen.KALIGN_TYPE_UNDEFINED ∧
    setAlnType (some [102, 111, 111]) = none := by decide +kernel

/-- a type that does not fit the detected kind of sequence is rejected; fitting ones are accepted -/
theorem C09_mismatch_rejected :
    (∀ t ∈ [Gen.KALIGN_TYPE_PROTEIN, Gen.KALIGN_TYPE_PROTEIN_DIVERGENT], (alnParamInit 1 t (-1) (-1) (-1)).isNone) ∧
    (∀ t ∈ [Gen.KALIGN_TYPE_DNA, Gen.KALIGN_TYPE_DNA_INTERNAL, Gen.KALIGN_TYPE_RNA], (alnParamInit 0 t (-1) (-1) (-1)).isNone) ∧
    (∀ t ∈ [Gen.KALIGN_TYPE_DNA, Gen.KALIGN_TYPE_DNA_INTERNAL, Gen.KALIGN_TYPE_RNA, Gen.KALIGN_TYPE_UNDEFINED], (alnParamInit 1 t (-1) (-1) (-1)).isSome) ∧
    (∀ t ∈ [Gen.KALIGN_TYPE_PROTEIN, Gen.KALIGN_TYPE_PROTEIN_DIVERGENT, Gen.KALIGN_TYPE_UNDEFINED], (alnParamInit 0 t (-1) (-1) (-1)).isSome) ∧
    (∀ t, (alnParamInit 2 t (-1) (-1) (-1)).isNone) := by
  refine ⟨by decide +kernel, by decide +kernel, by decide +kernel, by decide +kernel, fun t => ?_⟩
  have hrows : ∀ r ∈ Gen.paramTable, r.biotype = 2 → r.ok = false := by decide +kernel
  rw [alnParamInit_eq]
  cases hr : lookupRow 2 t with
  | none => rfl
  | some r =>
    have hb := List.find?_some hr
    simp only [Bool.and_eq_true, beq_iff_eq] at hb
    simp [hrows r (lookupRow_mem hr) hb.1]

/-- all out-of-range type values executed by the translator take the same (`default:`) branch -/
theorem C09_default_branch_uniform : ∀ bt ∈ [0, 1, 2], ∀ t ∈ [(-1 : Int), 6, 99],
    (Gen.paramTable.find? fun r => r.biotype == bt && r.type == t).map (fun r => (r.ok, r.gpo, r.gpe, r.tgpe, r.mat)) =
    (Gen.paramTable.find? fun r => r.biotype == bt && r.type == 5).map (fun r => (r.ok, r.gpo, r.gpe, r.tgpe, r.mat)) := by
  decide +kernel

end Kalign

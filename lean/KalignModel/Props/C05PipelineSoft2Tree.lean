import KalignModel.Props.C05PipelineSoft2
/-!
# `kalignRunSoft2` on three DNA sequences: the guide tree and the task table (evaluated by the kernel)
-/
namespace Kalign.Pipeline
open Kalign Kalign.Kmeans Kalign.SoftF32

/-! Three DNA sequences (internal codes).  The kernel computes the `SoftF32` distance matrix (bit patterns), runs `upgmaS`
(`exSmall`), hence the task table `buildTasks2` returns (`exBuild`: `buildTasks2_small` + `exSmall`; `sort_tasks` by `simp`, its
well-founded merge sort does not reduce in the kernel).  Props/C05PipelineSoft2Ex.lean goes on from here with the complete progressive
alignment on `SoftF32` — one sequence–sequence and one sequence–profile Hirschberg run with their monitors, `update_n`,
`set_gap_penalties_n` — down to the gap vectors (`exCore`).  The op `kalign_sys_soft2` compares exactly this computation with the C program. -/

deriving instance DecidableEq for Tree

def exCodes : Array (List Nat) := #[[0, 1, 2, 3, 1], [0, 1, 3, 1], [0, 2, 3]]
def exTree2 : Tree := .node (.leaf 0) (.node (.leaf 1) (.leaf 2))

set_option maxRecDepth 100000 in
/-- `d_estimation(…,1)` on `SoftF32`: `dist + add` with `add = 5/10000, 4/10000, 3/10000` on the diagonal, `1 + 4/10000`, `1 + 3/10000` off it -/
example : (distMatrixS exCodes.toList).map (fun m => m.map fun r => r.map SoftF32.raw) =
    some [[973279855, 1065356571, 1065356571], [1065356571, 970045207, 1065355733], [1065356571, 1065355733, 966609234]] := by
  decide +kernel

set_option maxRecDepth 100000 in
theorem exSmall : smallTreeS exCodes (List.range exCodes.size) = some exTree2 := by decide +kernel

theorem exTable2 : (Kmeans.sortTasks (treeTasks exTree2 3)).toArray = #[(1, 2, 3), (0, 3, 4)] := by
  simp [Kmeans.sortTasks, treeTasks, exTree2, Sched.label, Sched.labelFrom, Kmeans.createTasks, Sched.LTree.id, msortBy, mergeBy,
    taskTakeLeft]

theorem exBuild : buildTasks2 true exCodes = .ok #[(1, 2, 3), (0, 3, 4)] := by
  rw [buildTasks2_small true exCodes (by decide) (by decide) (by decide), exSmall]
  exact congrArg Except.ok exTable2

theorem coreCB_congr {α : Type} [Score α] (build build' : Array (List Nat) → Except PipeErr (Array (Nat × Nat × Nat)))
    (pm : Option (AlnParam α)) (c1 c2 : List (List Nat)) (h : build c1.toArray = build' c1.toArray) :
    coreCB build pm c1 c2 = coreCB build' pm c1 c2 := by
  unfold coreCB
  rw [h]

end Kalign.Pipeline

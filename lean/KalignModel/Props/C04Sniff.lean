import KalignModel.Props.C04
/-!
# C01 / C04 — what format a file has is decided by how it begins (defect #25, repaired in 8e76171)

In kalign before 8e76171, `detect_alignment_format` let any Clustal signature among the first 100 lines override any MSF signature, and
that override any `>`; since the repair the first line that carries a hint decides (`detectFormat`).  `detectFormatOld` is the rule before
the repair, so that the difference is a theorem: a FASTA file whose description mentions "CLUSTAL W" is a Clustal file for the old rule
(`old_rule_misreads_described_fasta`) and a FASTA file for the repaired one, whatever its descriptions and residue lines contain
(`C04_fasta_sniffed`: no hypothesis on names or lines); likewise `C04_clu_sniffed`, `C04_msf_sniffed` for a Clustal title or MSF header in
the first line.  This discharges the sniffing side condition `hdet` of the constructors of `Presents` (Props/C04.lean):
`Presents.fasta_sniffed`, `Presents.clu_sniffed`, `Presents.msf_sniffed`.
-/
namespace Kalign.IO
open List

/-- the rule before 8e76171: every non-zero hint overwrites, fasta < msf < clu -/
def detectFormatOld (lines : List Bytes) : Int :=
  let (h0, h1, h2) := hints lines
  let t : Int := -1
  let t := if h0 ≠ 0 then 1 else t
  let t := if h1 ≠ 0 then 2 else t
  let t := if h2 ≠ 0 then 3 else t
  t

/-- the witness of defect #25: three FASTA records, the first described as "re-aligned from a CLUSTAL W run" -/
def describedFasta : List Bytes :=
  [ascii ">s1 re-aligned from a CLUSTAL W run", ascii "MKVLAAGIVGLLLAQWERT", ascii ">s2 second", ascii "MKVLSAGIVGLLAQWERT",
   ascii ">s3", ascii "MKVLAAGIVGLLLAQWET"]

theorem old_rule_misreads_described_fasta : detectFormatOld describedFasta = 3 := by
  unfold describedFasta
  decide_ascii
theorem new_rule_reads_described_fasta : detectFormat describedFasta = 1 := by
  unfold describedFasta
  decide_ascii

/-- an MSF file whose rows happen to contain "CLUSTAL W" (a sequence named CLUSTAL whose residues start with W) -/
def msfWithClustalRow : List Bytes :=
  [ascii "!!AA_MULTIPLE_ALIGNMENT 1.0", ascii "", ascii " x.msf  MSF: 4  Type: P  January 01, 2000 00:00  Check: 0  ..", ascii "",
   ascii " Name: CLUSTAL  Len: 4  Check: 0  Weight: 1.00", ascii " Name: b  Len: 4  Check: 0  Weight: 1.00", ascii "", ascii "//", ascii "",
   ascii "CLUSTAL WKVL", ascii "b WKIL"]

theorem old_rule_misreads_msf_row : detectFormatOld msfWithClustalRow = 3 := by
  unfold msfWithClustalRow
  decide_ascii
theorem new_rule_reads_msf_row : detectFormat msfWithClustalRow = 2 := by
  unfold msfWithClustalRow
  decide_ascii

theorem lineKind_junk (l : Bytes) (h : Junk l) : lineKind l = none := by
  obtain ⟨h62, hany⟩ := h
  have hno : ∀ b, (isAlpha b || isPunct b) = true → b ∉ l := by
    intro b hb hm
    have := List.any_eq_false.mp hany b hm
    simp [hb] at this
  have hf : fastaHint l = 0 := by
    unfold fastaHint
    cases l with
    | nil => simp
    | cons x xs => simp only [head?_cons] at h62 ⊢; simp; intro hx; exact h62 (by rw [hx])
  have hm : countHints msfHints l = 0 := noMsfHints l (hno 33 (by decide)) (hno 58 (by decide))
  have hc : countHints cluHints l = 0 :=
    countHints_eq_zero fun x hx => (cluHints_bytes x hx).2.elim (fun h => ⟨109, h, hno 109 (by decide)⟩)
      (fun h => ⟨67, h, hno 67 (by decide)⟩)
  unfold lineKind
  simp [hf, hm, hc]

theorem findSome_take_skip (pre : List Bytes) (x : Bytes) (rest : List Bytes) (v : Int) (n : Nat)
    (hpre : ∀ l ∈ pre, lineKind l = none) (hx : lineKind x = some v) (hn : pre.length < n) :
    ((pre ++ x :: rest).take n).findSome? lineKind = some v := by
  induction pre generalizing n with
  | nil =>
    cases n with
    | zero => simp at hn
    | succ n => simp [take_succ_cons, hx]
  | cons p ps ih =>
    cases n with
    | zero => simp at hn
    | succ n =>
      simp only [cons_append, take_succ_cons, findSome?_cons, hpre p (by simp)]
      exact ih n (fun l hl => hpre l (by simp [hl])) (by simp at hn; omega)

/-- **a file that begins (after fewer than 100 blank/junk lines) with a FASTA record is a FASTA file**, whatever the descriptions and the
residue lines of its records contain -/
theorem C04_fasta_sniffed (pre : List Bytes) (recs : List (Bytes × List Bytes)) (hpre : ∀ l ∈ pre, Junk l) (hlen : pre.length < 100)
    (hne : recs ≠ []) : detectFormat (pre ++ faPres recs) = 1 := by
  obtain ⟨r, rs, rfl⟩ := exists_cons_of_ne_nil hne
  unfold detectFormat
  simp only [faPres, flatMap_cons, cons_append]
  rw [findSome_take_skip pre (62 :: r.1) _ 1 100 (fun l hl => lineKind_junk l (hpre l hl)) (lineKind_fasta _ (by simp [fastaHint])) hlen]
  rfl

/-- a file whose first line is a Clustal title (does not start with '>', carries a Clustal signature) is a Clustal file, whatever follows -/
theorem C04_clu_sniffed (title : Bytes) (rest : List Bytes) (h0 : fastaHint title = 0) (h : countHints cluHints title ≠ 0) :
    detectFormat (title :: rest) = 3 :=
  detectFormat_head _ _ _ (lineKind_clu _ h0 h)

/-- a file whose first line is an MSF header line without a Clustal signature is an MSF file, whatever follows (rows named CLUSTAL included) -/
theorem C04_msf_sniffed (l : Bytes) (rest : List Bytes) (h0 : fastaHint l = 0) (h1 : countHints cluHints l = 0)
    (h : countHints msfHints l ≠ 0) : detectFormat (l :: rest) = 2 :=
  detectFormat_head _ _ _ (lineKind_msf _ h0 h1 h)

theorem Presents.fasta_sniffed (pre : List Bytes) (recs : List (Bytes × List Bytes))
    (hpre : ∀ l ∈ pre, Junk l) (hlen : pre.length < 100) (h62 : ∀ r ∈ recs, ∀ l ∈ r.2, l.head? ≠ some 62) (hne : recs ≠ [])
    (hcn : ∀ l ∈ pre ++ faPres recs, ∀ b ∈ l, isCntrl b = false)
    (hfirst : ∀ l ls, pre ++ faPres recs = l :: ls → l.length ≠ 1) :
    Presents (emit (pre ++ faPres recs)) (recs.map recOf) :=
  Presents.fasta pre recs hpre h62 hne hcn hfirst (C04_fasta_sniffed pre recs hpre hlen hne)

theorem Presents.clu_sniffed (title : Bytes) (junk : List Bytes) (extra : Nat → List Bytes × Nat) (k : Nat) (rs : List RowC)
    (hj : ∀ l ∈ junk, CluJunk l) (hx : ∀ b, ∀ l ∈ (extra b).1, BlankStart l)
    (hk : ∀ r ∈ rs, r.2.length = k + 1) (hn : ∀ r ∈ rs, NmOK' r.1) (hne : rs ≠ [])
    (hcn : ∀ l ∈ title :: (junk ++ cluPres extra (k + 1) 0 rs), ∀ b ∈ l, isCntrl b = false)
    (hfirst : title.length ≠ 1) (h0 : fastaHint title = 0) (ht : countHints cluHints title ≠ 0) :
    Presents (emit (title :: (junk ++ cluPres extra (k + 1) 0 rs))) (rs.map recOf) :=
  Presents.clu title junk extra k rs hj hx hk hn hne hcn hfirst (C04_clu_sniffed title _ h0 ht)

/-- `Presents.msf` without the sniffing side condition when the first header line is an MSF header line without a Clustal signature (as in
every file GCG tools and kalign write: `!!AA_MULTIPLE_ALIGNMENT`, `PileUp … MSF:`): rows named CLUSTAL further down do not matter -/
theorem Presents.msf_sniffed (h1 : HdrLine) (hdr : List HdrLine) (sep : Bytes) (junk : List Bytes) (extra : Nat → List Bytes × Nat) (k : Nat)
    (rs : List RowC) (hv : ∀ x ∈ h1 :: hdr, x.Valid) (hsep : hasSub (ascii "//") sep = true)
    (hj : ∀ l ∈ junk, CluJunk l) (hx : ∀ b, ∀ l ∈ (extra b).1, BlankStart l)
    (hk : ∀ r ∈ rs, r.2.length = k) (hnames : hdrNames (h1 :: hdr) = rs.map (·.1)) (hne : rs ≠ [])
    (hcn : ∀ l ∈ (h1 :: hdr).map (·.1) ++ sep :: (junk ++ msfPres extra k 0 rs), ∀ b ∈ l, isCntrl b = false)
    (hfirst : ∀ l ls, (h1 :: hdr).map (·.1) ++ sep :: (junk ++ msfPres extra k 0 rs) = l :: ls → l.length ≠ 1)
    (h0 : fastaHint h1.1 = 0) (hc : countHints cluHints h1.1 = 0) (hm : countHints msfHints h1.1 ≠ 0) :
    Presents (emit ((h1 :: hdr).map (·.1) ++ sep :: (junk ++ msfPres extra k 0 rs))) (rs.map recOf) :=
  Presents.msf (h1 :: hdr) sep junk extra k rs hv hsep hj hx hk hnames hne hcn hfirst
    (by simp only [map_cons, cons_append]; exact C04_msf_sniffed h1.1 _ h0 hc hm)

/-- non-vacuity: a described FASTA file with a leading blank line meets the premises -/
example : detectFormat ([ascii ""] ++ faPres [(ascii "s1 from a CLUSTAL W run  MSF: 3", [ascii "CLUSTAL W", ascii "ACGT"])]) = 1 :=
  C04_fasta_sniffed _ _ (by intro l hl; simp at hl; subst hl; exact ⟨by decide, by decide⟩) (by decide) (by simp)

end Kalign.IO

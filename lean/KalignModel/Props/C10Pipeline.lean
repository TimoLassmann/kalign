import KalignModel.Props.PipelineFile
import KalignModel.Lemmas.C10Tree
import KalignModel.Lemmas.Basic.OptionMapM
/-!
# C10 at pipeline level — `recursive_aln` of the composed model never re-aligns a completed node

Props/PipelineFile.lean proves the literal form of C10 (`finalRow`: rows looked up by input index) under the
hypothesis `hnd` that the member indices of the final node are pairwise distinct.  Here that hypothesis is discharged for
the task tables the pipeline really uses: every table `Pipeline.buildTasks` returns is `sortTasks (treeTasks T n)` for a
tree `T` whose leaf list is a permutation of `0 … n-1` (`buildTasks_tree`, Lemmas/C10Tree.lean), and on such a table the
members of the node `recursive_aln` completes for a labelled sub-tree are exactly the leaves below it (`nodeVal_members`).
-/
namespace Kalign.PipelineFile
open Kalign Kalign.Pipeline

theorem recAln_members_nodup {avx : Bool} {codes1 : Array (List Nat)} {tasks : Array (Nat × Nat × Nat)}
    (hb : buildTasks avx codes1 = .ok tasks) (ap : AlnParam Float32) (codes : Array (List Nat))
    (hsz : codes.size = codes1.size) {fuel x : Nat} {N : Node}
    (h : nodeVal ap tasks codes codes.size fuel x = .ok N) : (N.group.map (·.idx)).Nodup :=
  nodeVal_idx_nodup hb ap codes hsz h

/-- `recAln_subalignment_finalRow_partial` without its hypothesis `hnd` -/
theorem recAln_subalignment_finalRow {avx : Bool} {codes1 : Array (List Nat)} {tasks : Array (Nat × Nat × Nat)}
    (hb : buildTasks avx codes1 = .ok tasks) (ap : AlnParam Float32) (codes : Array (List Nat))
    (hsz : codes.size = codes1.size) {fuel x fuel' x' : Nat} (hc : Calls tasks codes.size (fuel, x) (fuel', x'))
    (R V : Node) (hR : nodeVal ap tasks codes codes.size fuel x = .ok R)
    (hV : nodeVal ap tasks codes codes.size fuel' x' = .ok V) :
    dropAllGapCols (V.group.map fun m => (finalRow R.group m.idx).getD []) R.group.plen = V.group.map (·.seq.row) :=
  recAln_subalignment_finalRow_partial ap tasks codes codes.size hc R V hR hV (nodeVal_idx_nodup hb ap codes hsz hR)

theorem recAln_subalignment_finalRow_tree (ap : AlnParam Float32) (T : Tree) (codes : Array (List Nat))
    (hperm : T.leaves.Perm (List.range codes.size)) {fuel x fuel' x' : Nat}
    (hc : Calls (Kmeans.sortTasks (Kmeans.treeTasks T codes.size)).toArray codes.size (fuel, x) (fuel', x'))
    (R V : Node)
    (hR : nodeVal ap (Kmeans.sortTasks (Kmeans.treeTasks T codes.size)).toArray codes codes.size fuel x = .ok R)
    (hV : nodeVal ap (Kmeans.sortTasks (Kmeans.treeTasks T codes.size)).toArray codes codes.size fuel' x' = .ok V) :
    (V.group.map (·.idx)).Nodup ∧
    dropAllGapCols (V.group.map fun m => (finalRow R.group m.idx).getD []) R.group.plen = V.group.map (·.seq.row) :=
  ⟨nodeVal_idx_nodup_tree ap T codes hperm hV,
   recAln_subalignment_finalRow_partial ap _ codes codes.size hc R V hR hV (nodeVal_idx_nodup_tree ap T codes hperm hR)⟩

/-- the member list of a merge is the two lists one after the other, each reversed, as `do_align` copies `sip[a]`,
`sip[b]` back to front -/
theorem recAln_members_partition {avx : Bool} {codes1 : Array (List Nat)} {tasks : Array (Nat × Nat × Nat)}
    (hb : buildTasks avx codes1 = .ok tasks) (ap : AlnParam Float32) (codes : Array (List Nat))
    (hsz : codes.size = codes1.size) {fuel x a b c : Nat} {N : Node} (hx : x ≥ codes.size)
    (ht : tasks[x - codes.size]? = some (a, b, c))
    (h : nodeVal ap tasks codes codes.size (fuel + 1) x = .ok N) :
    ∃ A B, nodeVal ap tasks codes codes.size fuel a = .ok A ∧ nodeVal ap tasks codes codes.size fuel b = .ok B ∧
      (∀ i ∈ A.group.map (·.idx), i ∉ B.group.map (·.idx)) ∧
      N.group.map (·.idx) = (A.group.map (·.idx)).reverse ++ (B.group.map (·.idx)).reverse ∧
      (N.group.map (·.idx)).Perm (A.group.map (·.idx) ++ B.group.map (·.idx)) := by
  obtain ⟨A, B, hA, hB, hm⟩ := nodeVal_succ hx ht h
  have hidx := mergeNodes_idx hm
  have hnd := nodeVal_idx_nodup hb ap codes hsz h
  rw [hidx] at hnd
  refine ⟨A, B, hA, hB, ?_, hidx, ?_⟩
  · intro i hi hi'
    exact (List.nodup_append.1 hnd).2.2 i (List.mem_reverse.2 hi) i (List.mem_reverse.2 hi') rfl
  · rw [hidx]
    exact (List.reverse_perm _).append (List.reverse_perm _)

def runTreeCodes (bio : Bio) (c : List RSeq) : List (List Nat) :=
  ((view c).map fun x => bytesOf x.2).map (convertN (treeAlphabet bio))
def runAlnCodes (bio : Bio) (c : List RSeq) : List (List Nat) :=
  ((view c).map fun x => bytesOf x.2).map (convertN (alnAlphabet bio))

/-- everything a successful `kalignRunWith det avx inp type gpo gpe tgpe = .ok out` went through; `root` is the node
`recursive_aln(n_tasks-1)` returned -/
structure Run (det : List Nat → Bio) (avx : Bool) (inp : List InSeq) (type : Int) (gpo gpe tgpe : Float32)
    (out : List (Name × GRow)) (c : List RSeq) (tasks : Array (Nat × Nat × Nat)) (ap : AlnParam Float32) (root : Node)
    (gaps : List (List Nat)) : Prop where
  hcanon : canon inp = some c
  htwo : 2 ≤ c.length
  htasks : buildTasks avx (runTreeCodes (bioOf det inp) c).toArray = .ok tasks
  hparam : paramOfTable (bioOf det inp).code type gpo gpe tgpe = some ap
  hroot : recAln ap tasks (runAlnCodes (bioOf det inp) c).toArray (runAlnCodes (bioOf det inp) c).toArray.size tasks.size
    (tasks.size - 1) = .ok root
  hgaps : (List.range c.length).mapM (finalGaps root.group) = some gaps
  hout : out = finish c (List.zipWith makeLinear (c.map (·.seq)) gaps)

theorem size_runAlnCodes (bio : Bio) (c : List RSeq) : (runAlnCodes bio c).toArray.size = c.length := by
  simp [runAlnCodes, view]
theorem size_runTreeCodes (bio : Bio) (c : List RSeq) : (runTreeCodes bio c).toArray.size = c.length := by
  simp [runTreeCodes, view]

theorem kalignRunWith_run {det : List Nat → Bio} {avx : Bool} {inp : List InSeq} {type : Int} {gpo gpe tgpe : Float32}
    {out : List (Name × GRow)} (h : kalignRunWith det avx inp type gpo gpe tgpe = .ok out) :
    ∃ c tasks ap root gaps, Run det avx inp type gpo gpe tgpe out c tasks ap root gaps := by
  rw [kalignRunWith_eq_CB] at h
  obtain ⟨c, rows, hcanon, hst, rfl⟩ := kalignRunWithCB_ok h
  obtain ⟨_, gaps, hcore, rfl⟩ := stagesCB_ok hst
  obtain ⟨hn, tasks, ap, root, htasks, hap, hroot, hgp⟩ := coreCB_ok hcore
  have hl : (runAlnCodes (bioOf det inp) c).length = c.length := by simp [runAlnCodes, view]
  refine ⟨c, tasks, ap, root.toNode, gaps, hcanon, ?_, htasks, hap, ?_, ?_, ?_⟩
  · rw [← hl]; exact hn
  · rw [recAln_toC]
    exact congrArg (Except.map NodeC.toNode) hroot
  · rw [← hl]; exact hgp
  · simp only [view, List.map_map]
    rfl

/-- the same for `kalign_run` as compiled (`detectF`, AVX2), whose rows carry `'-'` for the gap character -/
theorem kalignRun_run {inp : List InSeq} {type : Int} {gpo gpe tgpe : Float32} {out : List (Name × Row)}
    (h : kalignRun inp type gpo gpe tgpe = .ok out) :
    ∃ outG c tasks ap root gaps, Run detectF true inp type gpo gpe tgpe outG c tasks ap root gaps ∧
      out = outG.map fun x => (x.1, render x.2) := by
  unfold kalignRun kalignRunG at h
  cases hr : kalignRunWith detectF true inp type gpo gpe tgpe with
  | error e => rw [hr] at h; cases h
  | ok outG =>
    rw [hr] at h
    simp only [Except.map, Except.ok.injEq] at h
    obtain ⟨c, tasks, ap, root, gaps, r⟩ := kalignRunWith_run hr
    exact ⟨outG, c, tasks, ap, root, gaps, r, h.symm⟩

/-- `V` is a node completed during `recursive_aln(n_tasks-1)`: the value of a call in the call tree below the root call -/
def Completed (ap : AlnParam Float32) (tasks : Array (Nat × Nat × Nat)) (codes : Array (List Nat)) (V : Node) : Prop :=
  ∃ fuel x, Calls tasks codes.size (tasks.size, tasks.size - 1 + codes.size) (fuel, x) ∧
    nodeVal ap tasks codes codes.size fuel x = .ok V

section run
variable {det : List Nat → Bio} {avx : Bool} {inp : List InSeq} {type : Int} {gpo gpe tgpe : Float32}
  {out : List (Name × GRow)} {c : List RSeq} {tasks : Array (Nat × Nat × Nat)} {ap : AlnParam Float32} {root : Node}
  {gaps : List (List Nat)}

theorem size_runCodes (bio : Bio) (c : List RSeq) :
    (runAlnCodes bio c).toArray.size = (runTreeCodes bio c).toArray.size := by
  rw [size_runAlnCodes, size_runTreeCodes]

theorem Run.rootVal (r : Run det avx inp type gpo gpe tgpe out c tasks ap root gaps) :
    nodeVal ap tasks (runAlnCodes (bioOf det inp) c).toArray (runAlnCodes (bioOf det inp) c).toArray.size tasks.size
      (tasks.size - 1 + (runAlnCodes (bioOf det inp) c).toArray.size) = .ok root := by
  rw [← recAln_eq_nodeVal]; exact r.hroot

theorem Run.root_completed (r : Run det avx inp type gpo gpe tgpe out c tasks ap root gaps) :
    Completed ap tasks (runAlnCodes (bioOf det inp) c).toArray root :=
  ⟨_, _, .refl _, r.rootVal⟩

theorem kalignRun_root_members (r : Run det avx inp type gpo gpe tgpe out c tasks ap root gaps) :
    (root.group.map (·.idx)).Perm (List.range c.length) := by
  have := root_members_perm r.htasks ap (runAlnCodes (bioOf det inp) c).toArray (size_runCodes _ c)
    (by rw [size_runAlnCodes]; exact r.htwo) r.hroot
  rwa [size_runAlnCodes] at this

/-- **C10 for the composed pipeline**: in every successful run, for every node `V`
completed during the progressive alignment (leaf, inner node or the root itself): the members of `V` are pairwise distinct
canonical sequences, and their rows in the final alignment — looked up by sequence index — with the columns that hold
gaps in all of them removed are exactly the rows of `V`'s alignment at the moment `V` was completed. -/
theorem kalignRun_subalignment_finalRow (r : Run det avx inp type gpo gpe tgpe out c tasks ap root gaps) {V : Node}
    (hV : Completed ap tasks (runAlnCodes (bioOf det inp) c).toArray V) :
    (V.group.map (·.idx)).Nodup ∧ (∀ m ∈ V.group, m.idx < c.length) ∧
    dropAllGapCols (V.group.map fun m => (finalRow root.group m.idx).getD []) root.group.plen =
      V.group.map (·.seq.row) := by
  obtain ⟨fuel, x, hc, hv⟩ := hV
  refine ⟨nodeVal_idx_nodup r.htasks ap _ (size_runCodes _ c) hv, ?_,
    recAln_subalignment_finalRow r.htasks ap _ (size_runCodes _ c) hc root V r.rootVal hv⟩
  intro m hm
  obtain ⟨f, w⟩ := recAln_members_woven ap tasks _ _ hc root V r.rootVal hv
  have hmem : (f m).idx ∈ root.group.map (·.idx) := List.mem_map_of_mem (w.mem m hm)
  rw [w.idx m hm, (kalignRun_root_members r).mem_iff, List.mem_range] at hmem
  exact hmem

theorem kalignRun_members_partition (r : Run det avx inp type gpo gpe tgpe out c tasks ap root gaps)
    {fuel x a b c' : Nat} {N : Node} (hx : x ≥ (runAlnCodes (bioOf det inp) c).toArray.size)
    (ht : tasks[x - (runAlnCodes (bioOf det inp) c).toArray.size]? = some (a, b, c'))
    (h : nodeVal ap tasks (runAlnCodes (bioOf det inp) c).toArray (runAlnCodes (bioOf det inp) c).toArray.size
      (fuel + 1) x = .ok N) :
    ∃ A B,
      nodeVal ap tasks (runAlnCodes (bioOf det inp) c).toArray (runAlnCodes (bioOf det inp) c).toArray.size fuel a = .ok A ∧
      nodeVal ap tasks (runAlnCodes (bioOf det inp) c).toArray (runAlnCodes (bioOf det inp) c).toArray.size fuel b = .ok B ∧
      (∀ i ∈ A.group.map (·.idx), i ∉ B.group.map (·.idx)) ∧
      N.group.map (·.idx) = (A.group.map (·.idx)).reverse ++ (B.group.map (·.idx)).reverse ∧
      (N.group.map (·.idx)).Perm (A.group.map (·.idx) ++ B.group.map (·.idx)) :=
  recAln_members_partition r.htasks ap _ (size_runCodes _ c) hx ht h

theorem Completed.children (_r : Run det avx inp type gpo gpe tgpe out c tasks ap root gaps)
    {fuel x a b c' : Nat} {N : Node}
    (hcl : Calls tasks (runAlnCodes (bioOf det inp) c).toArray.size
      (tasks.size, tasks.size - 1 + (runAlnCodes (bioOf det inp) c).toArray.size) (fuel + 1, x))
    (hx : x ≥ (runAlnCodes (bioOf det inp) c).toArray.size)
    (ht : tasks[x - (runAlnCodes (bioOf det inp) c).toArray.size]? = some (a, b, c'))
    (h : nodeVal ap tasks (runAlnCodes (bioOf det inp) c).toArray (runAlnCodes (bioOf det inp) c).toArray.size
      (fuel + 1) x = .ok N) :
    ∃ A B, Completed ap tasks (runAlnCodes (bioOf det inp) c).toArray A ∧
      Completed ap tasks (runAlnCodes (bioOf det inp) c).toArray B ∧
      mergeNodes .parallel ap A B (x - (runAlnCodes (bioOf det inp) c).toArray.size + 1 == tasks.size) = .ok N := by
  obtain ⟨A, B, hA, hB, hm⟩ := nodeVal_succ hx ht h
  exact ⟨A, B, ⟨fuel, a, hcl.trans (.left hx ht (.refl _)), hA⟩, ⟨fuel, b, hcl.trans (.right hx ht (.refl _)), hB⟩, hm⟩

/-- second half of C10 (`C10_column_mates_stay`) for the composed pipeline: two
residues of members of a completed node `V` that share column `k` when `V` completes share a column of the final
alignment -/
theorem kalignRun_column_mates_stay (r : Run det avx inp type gpo gpe tgpe out c tasks ap root gaps) {V : Node}
    (hV : Completed ap tasks (runAlnCodes (bioOf det inp) c).toArray V)
    (m₁ m₂ : Member Nat) (h₁ : m₁ ∈ V.group) (h₂ : m₂ ∈ V.group) (k x y : Nat)
    (hx : cell m₁.seq.row k = some x) (hy : cell m₂.seq.row k = some y) :
    ∃ k', cell ((finalRow root.group m₁.idx).getD []) k' = some x ∧
          cell ((finalRow root.group m₂.idx).getD []) k' = some y :=
  column_mates_of_drop _ _ _ _ (kalignRun_subalignment_finalRow r hV).2.2 m₁ m₂ h₁ h₂ k x y hx hy

/-- **the rows the run returns are the final rows `finalRow` speaks about**: for canonical sequence `i`, `finalRow` of the
root is the sequence's internal codes woven with the gap vector `gaps[i]`, and the returned row (before `msa_sort_rank`
puts the rows back into input order, `Run.hout`) is the sequence's letters woven with the same gap vector — same length,
gaps in the same columns -/
theorem kalignRun_finalRow_output (r : Run det avx inp type gpo gpe tgpe out c tasks ap root gaps) (i : Nat)
    (hi : i < c.length) :
    ∃ (s : RSeq) (g : List Nat), c[i]? = some s ∧ gaps[i]? = some g ∧
      finalRow root.group i = some (makeLinear (convertN (alnAlphabet (bioOf det inp)) (bytesOf s.seq)) g) ∧
      (List.zipWith makeLinear (c.map (·.seq)) gaps)[i]? = some (makeLinear s.seq g) ∧
      (makeLinear s.seq g).map Option.isSome =
        (makeLinear (convertN (alnAlphabet (bioOf det inp)) (bytesOf s.seq)) g).map Option.isSome := by
  obtain ⟨hl, hg⟩ := mapM_some_get r.hgaps
  rw [List.length_range] at hl
  have hig : i < gaps.length := by omega
  have hgi := hg i (by simpa using hi) hig
  simp only [List.getElem_range] at hgi
  have hok := nodeVal_ok ap tasks _ _ _ _ root r.rootVal
  obtain ⟨m, hm, hidx, hgaps⟩ := finalGaps_some hgi
  have hfind : root.group.find? (·.idx = i) = some m := by
    have hnd : (root.group.map (·.idx)).Nodup := (kalignRun_root_members r).nodup_iff.2 List.nodup_range
    rw [← hidx]
    exact find?_idx_of_nodup root.group hnd m hm
  have hres := hok.1.res m hm
  simp only [hidx] at hres
  have hcode : (runAlnCodes (bioOf det inp) c).toArray.getD i [] =
      convertN (alnAlphabet (bioOf det inp)) (bytesOf c[i].seq) := by
    simp [runAlnCodes, view, hi]
  rw [hcode] at hres
  refine ⟨c[i], gaps[i], List.getElem?_eq_getElem hi, List.getElem?_eq_getElem hig, ?_, ?_, ?_⟩
  · simp only [finalRow, hfind, Option.map_some, GSeq.row, hres, hgaps]
  · simp [List.getElem?_zipWith, hi, hig]
  · exact isSome_makeLinear c[i].seq (convertN (alnAlphabet (bioOf det inp)) (bytesOf c[i].seq)) gaps[i]
      (by rw [length_convertN]; simp [bytesOf])

end run

/-! `buildTasks … = .ok tasks` and `kalignRunWith … = .ok out` involve binary32 arithmetic, which the kernel cannot evaluate:
`#eval kalignRun [⟨"a".toUTF8.toList, "ACGT".toList⟩, ⟨"b".toUTF8.toList, "AGTT".toList⟩, ⟨"c".toUTF8.toList, "ACGTT".toList⟩] (-1) (-1) (-1) (-1)`
returns `.ok` with three rows, so by `kalignRun_run` that run is a `Run`.  The hypotheses that do not involve binary32
values are checked below on the task table of the three-sequence tree `((0 1) 2)`. -/

def exTree : Tree := .node (.node (.leaf 0) (.leaf 1)) (.leaf 2)

theorem exTable : (Kmeans.sortTasks (Kmeans.treeTasks exTree 3)).toArray = #[(0, 1, 3), (3, 2, 4)] := by
  have e : Kmeans.treeTasks exTree 3 = [(3, 2, 4), (0, 1, 3)] := by decide
  rw [e]
  unfold Kmeans.sortTasks
  rw [Kmeans.msortBy]
  simp [Kmeans.msortBy, Kmeans.mergeBy, Kmeans.taskTakeLeft]

/-- on that table the hypotheses of `recAln_subalignment_finalRow_tree` besides the two successful calls hold:
for every parameter set and every three sequences, *if* `recursive_aln` completes, the rows of sequences 0 and 1 in the
result restrict to the alignment node 3 had -/
example (ap : AlnParam Float32) (s0 s1 s2 : List Nat) (R V : Node)
    (hR : nodeVal ap #[(0, 1, 3), (3, 2, 4)] #[s0, s1, s2] 3 2 4 = .ok R)
    (hV : nodeVal ap #[(0, 1, 3), (3, 2, 4)] #[s0, s1, s2] 3 1 3 = .ok V) :
    (V.group.map (·.idx)).Nodup ∧
    dropAllGapCols (V.group.map fun m => (finalRow R.group m.idx).getD []) R.group.plen = V.group.map (·.seq.row) := by
  have hc : Calls #[(0, 1, 3), (3, 2, 4)] 3 (2, 4) (1, 3) :=
    .left (a := 3) (b := 2) (c := 4) (by decide) (by decide) (.refl _)
  rw [← exTable] at hR hV hc
  exact recAln_subalignment_finalRow_tree ap exTree #[s0, s1, s2] (show exTree.leaves.Perm (List.range 3) by decide)
    hc R V hR hV

/-- the leaves are completed nodes of that table (no arithmetic needed), with one member each -/
example (ap : AlnParam Float32) :
    nodeVal ap (Kmeans.sortTasks (Kmeans.treeTasks exTree 3)).toArray #[[0, 1], [1], [2, 2]] 3 1 2 =
      .ok (leafNode #[[0, 1], [1], [2, 2]] 2) := rfl

/-- a tree that repeats a leaf is *not* covered: its leaf list is not a permutation of `0 … n-1` — the hypothesis
`hperm` (for `buildTasks`: the theorem `buildTasks_tree`) is what excludes it -/
example : ¬ (Tree.node (.node (.leaf 0) (.leaf 0)) (.leaf 2)).leaves.Perm (List.range 3) := by decide

end Kalign.PipelineFile

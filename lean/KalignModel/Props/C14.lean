import KalignModel.Model.Alphabet
import KalignModel.Model.Detect
import KalignModel.Props.C13
/-!
# C14 — letter case and RNA/DNA spelling do not influence the alignment

Everything downstream of `convert_msa_to_internal` sees residues only through their internal codes and lengths
(`kalign_run` works on `seq->s`; rows are produced by weaving the untouched `seq->seq` letters with the gap vectors).
So it suffices that (i) codes are invariant under case change for the three alphabets kalign_run uses and under T<->U for the
nucleotide alphabet (in the two protein alphabets T and U are different residues) and (ii) the DNA/protein decision is invariant.
-/
namespace Kalign
open DetectLemmas

/-- alphabets used by kalign_run: defDNA (5), redPROTEIN (13), ambigiousPROTEIN (23) -/
def usedAlphabets : List Nat := [5, 13, 23]

theorem toggleCase_invariant {α} (f : Nat → α) (h : ∀ i ∈ List.range 26, f (i + 97) = f (i + 65)) (c : Nat) :
    f (toggleCase c) = f c := by
  unfold toggleCase
  split
  · rename_i hc
    simp only [Bool.and_eq_true, decide_eq_true_eq] at hc
    have := h (c - 65) (List.mem_range.mpr (by omega))
    rwa [show c - 65 + 97 = c + 32 by omega, show c - 65 + 65 = c by omega] at this
  · split
    · rename_i hc
      simp only [Bool.and_eq_true, decide_eq_true_eq] at hc
      have := h (c - 97) (List.mem_range.mpr (by omega))
      rw [show c - 97 + 97 = c by omega, show c - 97 + 65 = c - 32 by omega] at this
      exact this.symm
    · rfl

theorem getD_window {α} (l : List α) (a b n i : Nat) (d : α) (h : (l.drop a).take n = (l.drop b).take n)
    (hi : i < n) : l.getD (i + a) d = l.getD (i + b) d := by
  have := congrArg (fun w => w.getD i d) h
  simpa [List.getD_eq_getElem?_getD, List.getElem?_take, hi, List.getElem?_drop, Nat.add_comm] using this

/-- (i-a) codes do not depend on case: in each table the 26 entries from `'a'` on repeat those from `'A'` on -/
theorem C14_codes_case_invariant : ∀ id ∈ usedAlphabets, ∀ c ∈ List.range 128,
    codeOf id (toggleCase c) = codeOf id c := by
  have h : ∀ id ∈ usedAlphabets, ∀ r ∈ alphaRow id,
      (r.toInternal.drop 97).take 26 = (r.toInternal.drop 65).take 26 := by decide +kernel
  intro id hid c _
  unfold codeOf
  rw [toggleCase_invariant (toInternal id) _ c]
  intro i hi
  unfold toInternal
  cases hr : alphaRow id with
  | none => rfl
  | some r => exact getD_window _ 97 65 26 i _ (h id hid r hr) (List.mem_range.mp hi)

/-- (i-b) U and T (either case) have the same code in the nucleotide alphabet -/
theorem C14_codes_TU : codeOf 5 85 = codeOf 5 84 ∧ codeOf 5 117 = codeOf 5 116 ∧ codeOf 5 85 = codeOf 5 116 := by decide

/-- every letter gets a code inside the alphabet (no -1, below L): checked for the upper-case letters, which by
`C14_codes_case_invariant` share their codes with the lower-case ones -/
theorem C14_codes_defined : ∀ id ∈ usedAlphabets, ∀ c ∈ List.range 128, isAsciiLetter c = true →
    0 ≤ codeOf id c ∧ codeOf id c < ((alphaRow id).map (·.L)).getD 0 := by
  have h : ∀ id ∈ usedAlphabets, ∀ i ∈ List.range 26,
      0 ≤ codeOf id (i + 65) ∧ codeOf id (i + 65) < ((alphaRow id).map (·.L)).getD 0 := by decide +kernel
  intro id hid c hc hl
  have upper : ∀ c, 65 ≤ c → c ≤ 90 → 0 ≤ codeOf id c ∧ codeOf id c < ((alphaRow id).map (·.L)).getD 0 := by
    intro c h1 h2
    have := h id hid (c - 65) (List.mem_range.mpr (by omega))
    rwa [show c - 65 + 65 = c by omega] at this
  simp only [isAsciiLetter, Bool.or_eq_true, Bool.and_eq_true, decide_eq_true_eq] at hl
  rcases hl with ⟨h1, h2⟩ | ⟨h1, h2⟩
  · exact upper c h1 h2
  · rw [← C14_codes_case_invariant id hid c hc]
    have : toggleCase c = c - 32 := by
      unfold toggleCase
      rw [if_neg (by simp; omega), if_pos (by simp; omega)]
    rw [this]
    exact upper (c - 32) (by omega) (by omega)

/-- (ii-a) both letter sets of `detect_alphabet` are closed under case change -/
theorem C14_detect_sets_case_closed : ∀ c ∈ List.range 128,
    Gen.dnaLettersB.contains (toggleCase c) = Gen.dnaLettersB.contains c ∧
    Gen.proteinLettersB.contains (toggleCase c) = Gen.proteinLettersB.contains c :=
  fun c _ => ⟨toggleCase_invariant Gen.dnaLettersB.contains (by decide +kernel) c,
    toggleCase_invariant Gen.proteinLettersB.contains (by decide +kernel) c⟩

/-- (ii-b) T and U are in the same classes of `detect_alphabet` -/
theorem C14_detect_sets_TU :
    Gen.dnaLettersB.contains 84 = Gen.dnaLettersB.contains 85 ∧ Gen.proteinLettersB.contains 84 = Gen.proteinLettersB.contains 85 ∧
    Gen.dnaLettersB.contains 116 = Gen.dnaLettersB.contains 117 ∧ Gen.proteinLettersB.contains 116 = Gen.proteinLettersB.contains 117 := by decide

def sameClass (c d : Nat) : Bool :=
  Gen.dnaLettersB.contains c == Gen.dnaLettersB.contains d && Gen.proteinLettersB.contains c == Gen.proteinLettersB.contains d

/-- (ii) the detected kind is invariant under any bytewise respelling that preserves the detection classes
(case changes and T<->U are such respellings by the two theorems above) -/
theorem C14_detect_respell_invariant (seqs : List (List Nat)) (f : Nat → Nat)
    (hf : ∀ c, c < 128 → f c < 128 ∧ sameClass c (f c) = true) (hs : ∀ s ∈ seqs, ∀ c ∈ s, c < 128) :
    detectExact (histOf (seqs.map (·.map f))) = detectExact (histOf seqs) := by
  have hflat : (seqs.map (·.map f)).flatten = seqs.flatten.map f := (List.map_flatten).symm
  have hb : ∀ b ∈ seqs.flatten, b < 128 := by
    intro b hbm
    obtain ⟨s, hs1, hs2⟩ := List.mem_flatten.mp hbm
    exact hs s hs1 b hs2
  have hb' : ∀ b ∈ (seqs.map (·.map f)).flatten, b < 128 := by
    rw [hflat]
    intro b hbm
    obtain ⟨a, ha, rfl⟩ := List.mem_map.mp hbm
    exact (hf a (hb a ha)).1
  -- a count that sees a byte only through its two memberships is the same before and after respelling
  have key : ∀ g : Bool → Bool → Bool, (seqs.flatten.map f).countP (fun c => g (isD c) (isP c)) =
      seqs.flatten.countP (fun c => g (isD c) (isP c)) := by
    intro g
    rw [List.countP_map]
    apply List.countP_congr
    intro b hbm
    have h := (hf b (hb b hbm)).2
    simp only [sameClass, Bool.and_eq_true, beq_iff_eq] at h
    simp only [Function.comp, isD, isP, h.1, h.2]
  rw [detectExact_histOf _ hb', detectExact_histOf _ hb, hflat, key (fun d p => d && p), key (fun d p => !d && p),
    key (fun d p => !d && !p)]

def tToU (c : Nat) : Nat := if c = 84 then 85 else if c = 116 then 117 else c

theorem sameClass_self (c : Nat) : sameClass c c = true := by simp [sameClass]

-- non-vacuity of `hf`: case toggling and T -> U are respellings in the sense of the theorem
theorem C14_toggleCase_respell : ∀ c, c < 128 → toggleCase c < 128 ∧ sameClass c (toggleCase c) = true := by
  intro c hc
  obtain ⟨hd, hp⟩ := C14_detect_sets_case_closed c (List.mem_range.mpr hc)
  refine ⟨?_, by rw [sameClass, hd, hp]; exact sameClass_self c⟩
  unfold toggleCase
  split
  · rename_i h; simp only [Bool.and_eq_true, decide_eq_true_eq] at h; omega
  · split <;> omega

theorem C14_tToU_respell : ∀ c, c < 128 → tToU c < 128 ∧ sameClass c (tToU c) = true := by
  intro c hc
  obtain ⟨d1, p1, d2, p2⟩ := C14_detect_sets_TU
  unfold tToU
  split
  · subst c; exact ⟨by omega, by rw [sameClass, ← d1, ← p1]; exact sameClass_self 84⟩
  · split
    · subst c; exact ⟨by omega, by rw [sameClass, ← d2, ← p2]; exact sameClass_self 116⟩
    · exact ⟨hc, sameClass_self c⟩

-- a concrete instance: "ACGT","acgtn" respelled to "ACGU","acgun" / to "acgt","ACGTN"
example : detectExact (histOf ([[65, 67, 71, 84], [97, 99, 103, 116, 110]].map (·.map tToU))) =
    detectExact (histOf [[65, 67, 71, 84], [97, 99, 103, 116, 110]]) :=
  C14_detect_respell_invariant _ tToU C14_tToU_respell (by decide)
example : detectExact (histOf ([[65, 67, 71, 84], [97, 99, 103, 116, 110]].map (·.map toggleCase))) =
    detectExact (histOf [[65, 67, 71, 84], [97, 99, 103, 116, 110]]) :=
  C14_detect_respell_invariant _ toggleCase C14_toggleCase_respell (by decide)
example : [[65, 67, 71, 84], [97, 99, 103, 116, 110]].map (·.map tToU) = [[65, 67, 71, 85], [97, 99, 103, 117, 110]] ∧
    [[65, 67, 71, 84], [97, 99, 103, 116, 110]].map (·.map toggleCase) = [[97, 99, 103, 116], [65, 67, 71, 84, 78]] := by
  decide

theorem C14_convert_respell_invariant (id : Nat) (s : List Nat) (f : Nat → Nat)
    (hf : ∀ c ∈ s, codeOf id (f c) = codeOf id c) :
    convert id (s.map f) = convert id s := by
  simp only [convert, List.map_map]
  apply List.map_congr_left
  intro c hc
  exact hf c hc

end Kalign

import KalignModel.Lemmas.Progressive
import KalignModel.Props.C01
/-!
# C10 — progressive merging never re-aligns a finished sub-alignment

For the progressive alignment `alignTree` over an arbitrary guide tree (Model/Progressive.lean: `recursive_aln` / `do_align` of
aln_run.c, the pairwise aligner a parameter).  `Woven V R f` (Lemmas/Progressive.lean) is the invariant: the members of a
finished group `V` sit in a later group `R` and their rows in `R`, with the columns that are gaps in all of them removed, are the
rows they had in `V`.  It holds of a group and itself and is carried over a merge on either side (a merge only weaves gap columns
into the rows of its operands, and removing the all-gap columns undoes the weave).  The hypothesis `hnd` (pairwise distinct
leaves) makes the lookup of a row by input index, `finalRow`, unambiguous; Props/C10Pipeline.lean discharges it for the trees
kalign builds.
-/
namespace Kalign
variable {α : Type}

theorem alignTree_woven (seqs : Nat → List α) (al : Aligner α) (hal : al.Valid) {T v : Tree} (hsub : Tree.Sub v T) :
    ∃ f, Woven (alignTree seqs al v) (alignTree seqs al T) f := by
  induction hsub with
  | refl => exact ⟨id, woven_refl (C01_tree_integrity seqs al hal v).1⟩
  | @left l r _ ih =>
    obtain ⟨f, w⟩ := ih
    have okl := (C01_tree_integrity seqs al hal l).1
    have okr := (C01_tree_integrity seqs al hal r).1
    exact ⟨_, woven_left okl (hal _ _) (C01_merge_integrity seqs _ _ _ okl okr (alignTree_ne_nil seqs al l)
      (alignTree_ne_nil seqs al r) (hal _ _)).2 w⟩
  | @right l r _ ih =>
    obtain ⟨f, w⟩ := ih
    have okl := (C01_tree_integrity seqs al hal l).1
    have okr := (C01_tree_integrity seqs al hal r).1
    exact ⟨_, woven_right okr (hal _ _) (C01_merge_integrity seqs _ _ _ okl okr (alignTree_ne_nil seqs al l)
      (alignTree_ne_nil seqs al r) (hal _ _)).2 w⟩

/-- For every guide tree `T`, every node `v` of it and every valid aligner: the final rows of
`v`'s members, with the columns that are gaps in all of them removed, are exactly `v`'s alignment as
it was when `v` completed. -/
theorem C10_subalignment_preserved (seqs : Nat → List α) (al : Aligner α) (hal : al.Valid)
    (T v : Tree) (hsub : Tree.Sub v T) (hnd : T.leaves.Nodup) :
    dropAllGapCols ((alignTree seqs al v).map fun m => ((finalRow (alignTree seqs al T) m.idx).getD []))
        (alignTree seqs al T).plen
      = (alignTree seqs al v).map (·.seq.row) := by
  obtain ⟨f, w⟩ := alignTree_woven seqs al hal hsub
  rw [woven_finalRow w (alignTree_idx_nodup seqs al hal T hnd)]
  exact w.rows

/-- two residues that share a column when `v` completes share a column at the end -/
theorem C10_column_mates_stay (seqs : Nat → List α) (al : Aligner α) (hal : al.Valid)
    (T v : Tree) (hsub : Tree.Sub v T) (hnd : T.leaves.Nodup)
    (m₁ m₂ : Member α) (h₁ : m₁ ∈ alignTree seqs al v) (h₂ : m₂ ∈ alignTree seqs al v)
    (k : Nat) (x y : α) (hx : cell m₁.seq.row k = some x) (hy : cell m₂.seq.row k = some y) :
    ∃ k', cell ((finalRow (alignTree seqs al T) m₁.idx).getD []) k' = some x ∧
          cell ((finalRow (alignTree seqs al T) m₂.idx).getD []) k' = some y :=
  column_mates_of_drop _ _ _ _ (C10_subalignment_preserved seqs al hal T v hsub hnd) m₁ m₂ h₁ h₂ k x y hx hy

end Kalign

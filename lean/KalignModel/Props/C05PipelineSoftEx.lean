import KalignModel.Props.C05PipelineSoft
/-!
# The monitor theorem on prepared profiles — its hypotheses hold (non-vacuity)

`exProf1`, `exProf2` (Props/C05PipelineSoft.lean: leaf profiles under the default protein parameters, prepared against a partner of 2
sequences) satisfy `EntBnd` with bounds `2²⁰` on the entries (`makeProfile_entBnd`) and `2·2²⁰` on the gap slots
(`setGapPenalties_entBnd`), unit `2⁴⁰`, so `pp_alnRun_mon` applies to the profile–profile run on them.
-/
namespace Kalign
open SoftF32 Pipeline

theorem exApS_bounded : ApBnd exApS := by
  have h : (paramOfTableS 0 (-1) (ofRaw 0xbf800000) (ofRaw 0xbf800000) (ofRaw 0xbf800000)).isSome = true := by decide +kernel
  obtain ⟨ap, hap⟩ := Option.isSome_iff_exists.1 h
  have : exApS = ap := by unfold exApS; rw [hap]; rfl
  rw [this]
  exact C07Soft_param_bounded hap

theorem exLeaf_entBnd (seq : Array Nat) : EntBnd 1048576 (2 * 2 ^ 20) (setGapPenalties (makeProfile exApS seq) 2) :=
  setGapPenalties_entBnd (N := 1048576) (n := 2) (c := 2) (t := 20)
    (fun i => Or.inr (by have := makeProfile_entBnd exApS exApS_bounded seq i; rwa [ite_self] at this))
    (by rw [size_makeProfile]; omega) (by decide) (by decide) (by decide) (by decide)

set_option maxRecDepth 100000 in
example : (alnRun .serial exApS (.profprof exProf1 exProf2) 2 3 (initMem 2 3)).mon = true :=
  pp_alnRun_mon (u := 40) (Nc1 := 1048576) (Ng1 := 2 * 2 ^ 20) (Nc2 := 1048576) (Ng2 := 2 * 2 ^ 20)
    ⟨by decide, exLeaf_entBnd _, exLeaf_entBnd _, by decide, by decide, by decide⟩
    (by decide) 2 3 (by decide) (by decide) (by decide) (by decide)

end Kalign

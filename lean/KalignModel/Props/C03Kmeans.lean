import KalignModel.Lemmas.Kmeans
import KalignModel.Lemmas.Basic.MergeSort
/-!
# C03 (guide tree part) — the bisecting k-means tree for ≥ 100 sequences

Model: Model/Kmeans.lean (bit-exact with bisectingKmeans.c / euclidean_dist.c / pick_anchor.c; tied to the
running code by the ops of harness/ops_kmeans.c, generator tools/gen_kmeans.py).
Whatever the distance matrix contains (NaN and ±inf included), a `split2` that returns hands back a partition of its
samples (`split2_partition`; the "one side empty" fallback keeps ALL samples also for odd counts), so the leaves of the
tree are a permutation of the input samples (`bisectingKmeans_leaves`), given that the small-set builder
(`d_estimation(…,1)` + `upgma`, a parameter here) returns a tree over exactly its samples; the recursion budget the model
passes (`samples.length`) always suffices (`bisectingKmeans_fuel`).  For the OpenMP build the completion order of the
four `split2` tasks of a round cannot influence `best`/`change` (`kmeans_round_order_irrelevant`): the tasks write
disjoint slots `res[k]` and the reduction `j = 0..3` runs after the `taskwait`.
-/
namespace Kalign.Kmeans
open Kalign Kalign.Sched

theorem split2_partition {avx : Bool} {dm : Array (Array Float32)} {samples : List Nat} {na seed : Nat}
    {r : Split} (h : split2 avx dm samples na seed = some r) :
    (r.sl ++ r.sr).Perm samples ∧
    (samples.Nodup → ∀ a ∈ r.sl, a ∉ r.sr) ∧
    (2 ≤ samples.length → r.sl ≠ [] ∧ r.sr ≠ []) ∧
    r.sl.Sublist samples ∧ r.sr.Sublist samples := by
  have hg := split2_good h
  refine ⟨hg.perm, ?_, hg.nonempty, hg.subl, hg.subr⟩
  intro hnd a ha hb
  have : (r.sl ++ r.sr).Nodup := hg.perm.nodup_iff.2 hnd
  exact (List.nodup_append.1 this).2.2 a ha a hb rfl

theorem split2_total {avx : Bool} {dm : Array (Array Float32)} {samples : List Nat} {na seed : Nat}
    (hv : RowsValid dm na samples) (hs : seed < samples.length) :
    ∃ r, split2 avx dm samples na seed = some r :=
  split2_isSome hv hs

theorem zero_rows_valid : RowsValid (Array.replicate 3 (Array.replicate 8 (0 : Float32))) 3 [0, 1, 2] := by
  intro s hs
  simp only [List.mem_cons, List.not_mem_nil, or_false] at hs
  rcases hs with rfl | rfl | rfl <;> exact ⟨Array.replicate 8 0, by simp, by simp [numVarOf]⟩

/-- non-vacuity of `split2_partition` / `split2_total` -/
example : ∃ r, split2 true (Array.replicate 3 (Array.replicate 8 (0 : Float32))) [0, 1, 2] 3 1 = some r :=
  split2_total zero_rows_valid (by decide)

theorem bisectingKmeans_leaves {avx : Bool} {dm : Array (Array Float32)} {na : Nat} {small : List Nat → Tree}
    {samples : List Nat} (hsmall : ∀ l, l ≠ [] → (small l).leaves.Perm l) (hne : samples ≠ []) {t : Tree}
    (h : bisectingKmeans avx dm na small samples = .ok t) : t.leaves.Perm samples :=
  (bisect_spec avx dm na small hsmall samples.length samples hne (Nat.le_refl _)).1 t h

theorem bisectingKmeans_fuel {avx : Bool} {dm : Array (Array Float32)} {na : Nat} {small : List Nat → Tree}
    {samples : List Nat} (hsmall : ∀ l, l ≠ [] → (small l).leaves.Perm l) (hne : samples ≠ []) :
    bisectingKmeans avx dm na small samples ≠ .error .fuel :=
  (bisect_spec avx dm na small hsmall samples.length samples hne (Nat.le_refl _)).2.1

theorem bisectingKmeans_total {avx : Bool} {dm : Array (Array Float32)} {na : Nat} {small : List Nat → Tree}
    {samples : List Nat} (hsmall : ∀ l, l ≠ [] → (small l).leaves.Perm l) (hne : samples ≠ [])
    (hv : RowsValid dm na samples) :
    ∃ t, bisectingKmeans avx dm na small samples = .ok t ∧ t.leaves.Perm samples := by
  obtain ⟨h1, _, h3⟩ := bisect_spec avx dm na small hsmall samples.length samples hne (Nat.le_refl _)
  obtain ⟨t, ht⟩ := h3 hv
  exact ⟨t, ht, h1 t ht⟩

/-- `samples[seed_pick]` of every restart of every round is in range (for the sample counts that reach the
rounds): the C expression `(i + 3) * step` with `i ≤ 36`, `step = n / 40` -/
theorem seed_pick_in_range (n i k : Nat) (hn : 100 ≤ n) (hi : i < 40) (hi4 : i % 4 = 0) (hk : k < 4) :
    (i + k) * (n / (if kmTries < n then kmTries else n)) < n := by
  have : kmTries < n := by show 40 < n; omega
  rw [if_pos this]
  exact mul_div_lt (m := 40) (by omega) (by omega)

theorem caterpillar_leaves (l : List Nat) (hne : l ≠ []) : (caterpillar l).leaves = l := by
  cases l with
  | nil => exact absurd rfl hne
  | cons s rest =>
    simp only [caterpillar]
    have : ∀ (t : Tree) (xs : List Nat),
        (xs.foldl (fun t x => Tree.node t (Tree.leaf x)) t).leaves = t.leaves ++ xs := by
      intro t xs
      induction xs generalizing t with
      | nil => simp
      | cons x xs ih => simp [List.foldl_cons, ih, Tree.leaves]
    rw [this]; rfl

/-- non-vacuity of the hypotheses of `bisectingKmeans_total`: the stand-in of the correspondence ops is a valid small-set
builder -/
example : ∃ t, bisectingKmeans true (Array.replicate 3 (Array.replicate 8 (0 : Float32))) 3 caterpillar [0, 1, 2] = .ok t ∧
    t.leaves.Perm [0, 1, 2] :=
  bisectingKmeans_total (fun l hl => by rw [caterpillar_leaves l hl]) (by simp) zero_rows_valid

theorem buildTreeTasks_count {avx : Bool} {dm : Array (Array Float32)} {na : Nat} {small : List Nat → Tree}
    {numseq : Nat} (hsmall : ∀ l, l ≠ [] → (small l).leaves.Perm l) (hn : 0 < numseq)
    {ts : List (Nat × Nat × Nat)} (h : buildTreeTasks avx dm na small numseq = .ok ts) :
    ts.length + 1 = numseq ∧ (sortTasks ts).Perm ts := by
  unfold buildTreeTasks at h
  cases hb : bisectingKmeans avx dm na small (List.range numseq) with
  | error e => rw [hb] at h; cases h
  | ok t =>
    rw [hb] at h
    simp only [Except.ok.injEq] at h
    subst h
    have hne : List.range numseq ≠ [] := by
      rw [Ne, List.range_eq_nil]
      omega
    have hp := bisectingKmeans_leaves hsmall hne hb
    refine ⟨?_, msortBy_perm _ _⟩
    rw [treeTasks_length, hp.length_eq, List.length_range]

/-- `pick_anchor` returns `MIN(32, numseq)` valid sequence indices (never reads outside `seq_sort[]`) -/
theorem pickAnchors_total (lens : List Nat) (hne : lens ≠ []) :
    ∃ a, pickAnchors lens = some a ∧ a.length = min 32 lens.length ∧ ∀ x ∈ a, x < lens.length :=
  pickAnchors_spec lens hne

/-- **the completion order of the four restarts does not matter**: for every schedule of a round the final
`best` and `change` are the values of the sequential reduction over `res[0..3]` used by `roundsGo` -/
theorem kmeans_round_order_irrelevant (sp : Nat → Option Split) (step i : Nat) (best : Option Split)
    (rs : List Split) (hrs : roundRes sp step i = some rs)
    (sched : List KmAtom) (hs : Lin kmeansRoundProg sched)
    (s0 : KmLoc → KmVal) (hi : s0 .input = .num i) (hb : s0 .best = .ptr best) :
    let s := exec (kmSem sp step).act sched s0
    s .best = .ptr (reduceRes (best, 0) rs).1 ∧ s .change = .num (reduceRes (best, 0) rs).2 := by
  intro s
  have hdet : s = exec (kmSem sp step).act kmeansRoundProg.atoms s0 :=
    determinacy (kmSem sp step) (kmSem_wf sp step) (by rw [kmSem_fp]; exact kmeansRound_safe) hs s0
  rw [hdet]
  exact kmRound_serial sp step i best rs hrs s0 hi hb

/-- any two schedules of a round end in the same state (also when a restart faults): the round, hence the
tree, is a function of its inputs only -/
theorem kmeans_fn_of_canon (sp : Nat → Option Split) (step : Nat) (sched sched' : List KmAtom)
    (hs : Lin kmeansRoundProg sched) (hs' : Lin kmeansRoundProg sched') (s0 : KmLoc → KmVal) :
    exec (kmSem sp step).act sched s0 = exec (kmSem sp step).act sched' s0 :=
  schedules_agree (kmSem sp step) (kmSem_wf sp step) (by rw [kmSem_fp]; exact kmeansRound_safe) hs hs' s0

/-- non-vacuity: the restarts completing in the order 3, 2, 1, 0 is a schedule of the round … -/
theorem reversed_is_schedule :
    Lin kmeansRoundProg [.split 3, .split 2, .split 1, .split 0, .reduce] := by
  have h23 : Lin (.par (.atom (KmAtom.split 2)) (.atom (.split 3))) [.split 3, .split 2] :=
    .par .atom .atom (Shuffle.append_rev [KmAtom.split 2] [KmAtom.split 3])
  have h123 : Lin (.par (.atom (KmAtom.split 1)) (.par (.atom (.split 2)) (.atom (.split 3))))
      [.split 3, .split 2, .split 1] :=
    .par .atom h23 (Shuffle.append_rev [KmAtom.split 1] [KmAtom.split 3, KmAtom.split 2])
  have h0123 : Lin (parAll [.atom (KmAtom.split 0), .atom (.split 1), .atom (.split 2), .atom (.split 3)])
      [.split 3, .split 2, .split 1, .split 0] :=
    .par .atom h123 (Shuffle.append_rev [KmAtom.split 0] [KmAtom.split 3, KmAtom.split 2, KmAtom.split 1])
  exact .seq h0123 .atom

/-- … and `roundRes … = some rs` holds for restarts that do not fault -/
example : roundRes (fun k => some { sl := [k], sr := [], score := 0 }) 3 4 =
    some [{ sl := [12], sr := [], score := 0 }, { sl := [15], sr := [], score := 0 },
          { sl := [18], sr := [], score := 0 }, { sl := [21], sr := [], score := 0 }] := rfl

end Kalign.Kmeans

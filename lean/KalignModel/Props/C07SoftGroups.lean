import KalignModel.Props.C07SoftProf
import KalignModel.Lemmas.SoftProfKernel
/-!
# C07 / C08 on binary32 — groups of identical copies

`Props/C07Prof.lean` and the group part of `Props/C08Opt.lean` on `SoftF32` (IEEE binary32 in core Lean, bit-exact with the C `float`
code) for dyadic parameter sets.  `Props/C07SoftProf.lean` has the two group theorems with the kernel equality as a hypothesis `hK`
(`_partial`); here `hK` is discharged.  `gpo / 1000` etc. are the parameters in half score units (the exact carrier counts 1/2000,
`DyadicParam` says every parameter is a multiple of 1000 of those).
Margin: `MarginK … K (T + 1000)`, `T` the column dimension the controller sees (the binary32 slack of 0.5 score units is *not* scaled).
-/
namespace Kalign
open SoftF32

theorem C07Soft_profile_of_copies (U : Nat) (ap : AlnParam SoftF32) (apE : AlnParam ExactScore) (hd : DyadicParam U ap apE)
    (gpo gpe tgpe : Int) (s : Nat → Nat → Int) (hap : ApOK apE gpo gpe tgpe s) (hgpo : 0 ≤ gpo) (hgpe : 0 ≤ gpe)
    (htgpe : 0 ≤ tgpe) (seq : Array Nat) (h23 : ∀ i, seq.getD i 0 < 23) (p : Array SoftF32) (k m : Nat)
    (h : BuiltS ap seq p k) (hm : 1 ≤ m) (hkmU : k * m * U < 16777216) (hkm : k * m < 8388608) :
    ProfOKS (setGapPenalties p m) seq k m (gpo / 1000) (gpe / 1000) (tgpe / 1000) (fun x y => s x y / 1000) :=
  builtS_profOKS U ap _ _ _ _ (halfParam_of_dyadic hd hap hgpo hgpe htgpe).1 seq p k m h hm hkmU hkm

/-- two binary32 profiles of copies can be merged along the diagonal (within the exactness budget), giving such a profile again -/
theorem C07Soft_profile_merge (U : Nat) (ap : AlnParam SoftF32) (apE : AlnParam ExactScore) (hd : DyadicParam U ap apE)
    (gpo gpe tgpe : Int) (s : Nat → Nat → Int) (hap : ApOK apE gpo gpe tgpe s) (hgpo : 0 ≤ gpo) (hgpe : 0 ≤ gpe)
    (htgpe : 0 ≤ tgpe) (seq : Array Nat) (h23 : ∀ i, seq.getD i 0 < 23)
    (p1 p2 : Array SoftF32) (k1 k2 sa sb : Nat) (h1 : BuiltS ap seq p1 k1) (h2 : BuiltS ap seq p2 k2)
    (hkU : (k1 + k2) * U < 16777216) (hk : k1 + k2 < 8388608) :
    ∃ p, updateN ap p1 p2 (List.replicate seq.size 0) sa sb = some p ∧ BuiltS ap seq p (k1 + k2) :=
  builtS_merge_exists ap seq p1 p2 k1 k2 sa sb h1 h2

theorem C07Soft_sp_kernels_scaled (U : Nat) (ap : AlnParam SoftF32) (apE : AlnParam ExactScore) (hd : DyadicParam U ap apE)
    (gpo gpe tgpe : Int) (s : Nat → Nat → Int) (hap : ApOK apE gpo gpe tgpe s) (hgpo : 0 ≤ gpo) (hgpe : 0 ≤ gpe)
    (htgpe : 0 ≤ tgpe) (prof : Array SoftF32) (seqA seq2 : Array Nat) (k : Nat) (hk1 : 1 ≤ k) (hk : k < 16777216)
    (hkU : k * U < 16777216)
    (hP : ProfOKS prof seqA k 1 (gpo / 1000) (gpe / 1000) (tgpe / 1000) (fun x y => s x y / 1000))
    (h2 : ∀ j, seq2.getD j 0 < 23) (lenB : Nat) :
    realKernels ap (.seqprof prof seq2 k) seqA.size lenB =
      realKernels (scaleParamS ap k) (.seqseq seqA seq2) seqA.size lenB :=
  sp_realKernels_eqS U ap _ _ _ _ (halfParam_of_dyadic hd hap hgpo hgpe htgpe).1 prof seqA seq2 k hk1 hk hkU hP h2 lenB

theorem C07Soft_pp_kernels_scaled (U : Nat) (ap : AlnParam SoftF32) (apE : AlnParam ExactScore) (hd : DyadicParam U ap apE)
    (gpo gpe tgpe : Int) (s : Nat → Nat → Int) (hap : ApOK apE gpo gpe tgpe s) (hgpo : 0 ≤ gpo) (hgpe : 0 ≤ gpe)
    (htgpe : 0 ≤ tgpe) (hsym : ∀ x y, s x y = s y x)
    (prof1 prof2 : Array SoftF32) (seqA seqB : Array Nat) (k m : Nat) (hk1 : 1 ≤ k) (hm1 : 1 ≤ m)
    (hKU : k * m * U < 16777216) (hK : k * m < 8388608)
    (hP1 : ProfOKS prof1 seqA k m (gpo / 1000) (gpe / 1000) (tgpe / 1000) (fun x y => s x y / 1000))
    (hP2 : ProfOKS prof2 seqB m k (gpo / 1000) (gpe / 1000) (tgpe / 1000) (fun x y => s x y / 1000))
    (hA23 : ∀ i, seqA.getD i 0 < 23) :
    realKernels ap (.profprof prof1 prof2) seqA.size seqB.size =
      realKernels (scaleParamS ap (k * m)) (.seqseq seqA seqB) seqA.size seqB.size :=
  pp_realKernels_eqS U ap _ _ _ _ (halfParam_of_dyadic hd hap hgpo hgpe htgpe).1
    (fun x y => by show s x y / 1000 = s y x / 1000; rw [hsym]) prof1 prof2 seqA seqB k m hk1 hm1 hKU hK hP1 hP2 hA23

/-- **sequence – profile, `k` identical copies, binary32** -/
theorem C07Soft_hirschberg_seqprofile_copies_opt (entry : Entry) (U : Nat) (ap : AlnParam SoftF32)
    (apE : AlnParam ExactScore) (hd : DyadicParam U ap apE) (gpo gpe tgpe : Int) (s : Nat → Nat → Int)
    (hap : ApOK apE gpo gpe tgpe s) (hgpo : 0 ≤ gpo) (hgpe : 0 ≤ gpe) (htgpe : 0 ≤ tgpe)
    (prof : Array SoftF32) (seqA seq2 : Array Nat) (k : Nat) (hk1 : 1 ≤ k) (hk : k < 16777216)
    (hP : ProfOKS prof seqA k 1 (gpo / 1000) (gpe / 1000) (tgpe / 1000) (fun x y => s x y / 1000))
    (h2 : ∀ j, seq2.getD j 0 < 23)
    (h1A : 1 ≤ seqA.size) (h1B : 1 ≤ seq2.size) (hkU : k * U < 16777216)
    (hsize : (k * U) * (seqA.size + seq2.size + 1) + seq2.size / 1000 + 1 < 16777216) (hlenB : seq2.size < 4194304)
    (P : List Col) (hV : ValidCols P seqA.size seq2.size) (hadj : adjOK .A P = true)
    (hmargin : ∀ Q, ValidCols Q seqA.size seq2.size → adjOK .A Q = true → Q ≠ P →
      (k : Int) * scoreST s gpo gpe tgpe Q seqA.toList seq2.toList + ((seq2.size : Int) + 1000) <
        (k : Int) * (scoreST s gpo gpe tgpe P seqA.toList seq2.toList - gpo * (nterm P : Int) -
          (max 0 (max (tgpe - gpe) (tgpe - gpo)) + max 0 (gpe - tgpe)))) :
    let r := alnRun entry ap (.seqprof prof seq2 k) seqA.size seq2.size (initMem seqA.size seq2.size)
    r.fault = false ∧
      ∃ codes, expandPath seq2.size (r.pathEntries seqA.size) = some codes ∧ codes.map Col.ofCode = P :=
  C07Soft_hirschberg_seqprofile_copies_opt_partial entry U ap apE hd gpo gpe tgpe s hap hgpo hgpe htgpe prof seqA seq2 k hk1 hk
    (C07Soft_sp_kernels_scaled U ap apE hd gpo gpe tgpe s hap hgpo hgpe htgpe prof seqA seq2 k hk1 hk hkU hP h2 seq2.size)
    h1A h1B hkU hsize hlenB P hV hadj hmargin

/-- **profile – profile, `k` copies against `m` copies, binary32** (symmetric matrix) -/
theorem C07Soft_hirschberg_profileprofile_copies_opt (entry : Entry) (U : Nat) (ap : AlnParam SoftF32)
    (apE : AlnParam ExactScore) (hd : DyadicParam U ap apE) (gpo gpe tgpe : Int) (s : Nat → Nat → Int)
    (hap : ApOK apE gpo gpe tgpe s) (hgpo : 0 ≤ gpo) (hgpe : 0 ≤ gpe) (htgpe : 0 ≤ tgpe) (hsym : ∀ x y, s x y = s y x)
    (prof1 prof2 : Array SoftF32) (seqA seqB : Array Nat) (k m : Nat) (hk1 : 1 ≤ k) (hm1 : 1 ≤ m) (hK : k * m < 8388608)
    (hP1 : ProfOKS prof1 seqA k m (gpo / 1000) (gpe / 1000) (tgpe / 1000) (fun x y => s x y / 1000))
    (hP2 : ProfOKS prof2 seqB m k (gpo / 1000) (gpe / 1000) (tgpe / 1000) (fun x y => s x y / 1000))
    (hA23 : ∀ i, seqA.getD i 0 < 23)
    (h1A : 1 ≤ seqA.size) (h1B : 1 ≤ seqB.size) (hkU : k * m * U < 16777216)
    (hsize : (k * m * U) * (seqA.size + seqB.size + 1) + seqB.size / 1000 + 1 < 16777216) (hlenB : seqB.size < 4194304)
    (P : List Col) (hV : ValidCols P seqA.size seqB.size) (hadj : adjOK .A P = true)
    (hmargin : ∀ Q, ValidCols Q seqA.size seqB.size → adjOK .A Q = true → Q ≠ P →
      ((k * m : Nat) : Int) * scoreST s gpo gpe tgpe Q seqA.toList seqB.toList + ((seqB.size : Int) + 1000) <
        ((k * m : Nat) : Int) * (scoreST s gpo gpe tgpe P seqA.toList seqB.toList - gpo * (nterm P : Int) -
          (max 0 (max (tgpe - gpe) (tgpe - gpo)) + max 0 (gpe - tgpe)))) :
    let r := alnRun entry ap (.profprof prof1 prof2) seqA.size seqB.size (initMem seqA.size seqB.size)
    r.fault = false ∧
      ∃ codes, expandPath seqB.size (r.pathEntries seqA.size) = some codes ∧ codes.map Col.ofCode = P :=
  C07Soft_hirschberg_profileprofile_copies_opt_partial entry U ap apE hd gpo gpe tgpe s hap hgpo hgpe htgpe prof1 prof2 seqA seqB
    k m (Nat.mul_pos hk1 hm1) (by omega)
    (C07Soft_pp_kernels_scaled U ap apE hd gpo gpe tgpe s hap hgpo hgpe htgpe hsym prof1 prof2 seqA seqB k m hk1 hm1 hkU hK hP1
      hP2 hA23)
    h1A h1B hkU hsize hlenB P hV hadj hmargin

/-- **sequence – sequence as `do_align` runs it, binary32** (`a` is the row dimension iff `len_a < len_b`) -/
theorem C07Soft_doAlign_seqseq_opt (entry : Entry) (U : Nat) (ap : AlnParam SoftF32) (apE : AlnParam ExactScore)
    (hd : DyadicParam U ap apE) (gpo gpe tgpe : Int) (s : Nat → Nat → Int)
    (hap : ApOK apE gpo gpe tgpe s) (hgpo : 0 ≤ gpo) (hgpe : 0 ≤ gpe) (htgpe : 0 ≤ tgpe) (hsym : ∀ x y, s x y = s y x)
    (a b : Array Nat) (h1A : 1 ≤ a.size) (h1B : 1 ≤ b.size) (hsz : SizeOKS 1 U a b)
    (P : List Col) (hV : ValidCols P a.size b.size) (hadj : adjOK .A P = true)
    (hm : MarginK s gpo gpe tgpe a b P 1 (max a.size b.size + 1000)) :
    ∃ codes, (if a.size < b.size then dpCodesS entry ap (.seqseq a b) false a.size b.size a.size b.size
        else dpCodesS entry ap (.seqseq b a) true b.size a.size a.size b.size) = some codes ∧
      codes.map Col.ofCode = P := by
  have hab := hsz.ab
  have hba := hsz.ba
  rw [Nat.one_mul] at hab hba
  by_cases hlt : a.size < b.size
  · rw [if_pos hlt]
    exact dp_unswappedS entry ap _ _ _ P (ss_runOKS entry U ap apE gpo gpe tgpe s a b P
      (optHypS_plain U ap apE hd gpo gpe tgpe s hap hgpo hgpe htgpe a b P hV hadj hab (hm.mono (by omega)))) hV hadj h1A h1B
  · rw [if_neg hlt]
    exact dp_swappedS entry ap _ _ _ P (ss_runOKS entry U ap apE gpo gpe tgpe s b a _
      (optHypS_plain U ap apE hd gpo gpe tgpe s hap hgpo hgpe htgpe b a _ (validCols_swap _ _ _ hV) (adjOK_swapA P hadj)
        hba ((hm.mono (by omega)).swap hsym))) hV hadj h1A h1B

/-- the binary32 controller on a profile of `k` copies (rows) and a sequence (columns) writes the path of `P` -/
theorem sp_runOKS (entry : Entry) (U : Nat) (ap : AlnParam SoftF32) (apE : AlnParam ExactScore)
    (hd : DyadicParam U ap apE) (gpo gpe tgpe : Int) (s : Nat → Nat → Int)
    (hap : ApOK apE gpo gpe tgpe s) (hgpo : 0 ≤ gpo) (hgpe : 0 ≤ gpe) (htgpe : 0 ≤ tgpe)
    (prof : Array SoftF32) (seqA seq2 : Array Nat) (k : Nat) (hk1 : 1 ≤ k) (hk : k < 16777216) (hkU : k * U < 16777216)
    (hP : ProfOKS prof seqA k 1 (gpo / 1000) (gpe / 1000) (tgpe / 1000) (fun x y => s x y / 1000))
    (h2 : ∀ j, seq2.getD j 0 < 23)
    (hsize : (k * U) * (seqA.size + seq2.size + 1) + seq2.size / 1000 + 1 < 16777216) (hlenB : seq2.size < 4194304)
    (P : List Col) (hV : ValidCols P seqA.size seq2.size) (hadj : adjOK .A P = true)
    (hm : MarginK s gpo gpe tgpe seqA seq2 P k (seq2.size + 1000)) :
    RunOKS entry ap (.seqprof prof seq2 k) seqA.size seq2.size P :=
  scaledS_runOK entry U ap apE hd gpo gpe tgpe s hap hgpo hgpe htgpe k hk1 hk hkU ap _ seqA seq2
    (C07Soft_sp_kernels_scaled U ap apE hd gpo gpe tgpe s hap hgpo hgpe htgpe prof seqA seq2 k hk1 hk hkU hP h2 seq2.size)
    P hV hadj ⟨hsize, hlenB⟩ hm

theorem pp_runOKS (entry : Entry) (U : Nat) (ap : AlnParam SoftF32) (apE : AlnParam ExactScore)
    (hd : DyadicParam U ap apE) (gpo gpe tgpe : Int) (s : Nat → Nat → Int)
    (hap : ApOK apE gpo gpe tgpe s) (hgpo : 0 ≤ gpo) (hgpe : 0 ≤ gpe) (htgpe : 0 ≤ tgpe) (hsym : ∀ x y, s x y = s y x)
    (prof1 prof2 : Array SoftF32) (seqA seqB : Array Nat) (k m : Nat) (hk1 : 1 ≤ k) (hm1 : 1 ≤ m)
    (hKU : k * m * U < 16777216) (hK : k * m < 8388608)
    (hP1 : ProfOKS prof1 seqA k m (gpo / 1000) (gpe / 1000) (tgpe / 1000) (fun x y => s x y / 1000))
    (hP2 : ProfOKS prof2 seqB m k (gpo / 1000) (gpe / 1000) (tgpe / 1000) (fun x y => s x y / 1000))
    (hA23 : ∀ i, seqA.getD i 0 < 23)
    (hsize : (k * m * U) * (seqA.size + seqB.size + 1) + seqB.size / 1000 + 1 < 16777216) (hlenB : seqB.size < 4194304)
    (P : List Col) (hV : ValidCols P seqA.size seqB.size) (hadj : adjOK .A P = true)
    (hm : MarginK s gpo gpe tgpe seqA seqB P (k * m) (seqB.size + 1000)) :
    RunOKS entry ap (.profprof prof1 prof2) seqA.size seqB.size P :=
  scaledS_runOK entry U ap apE hd gpo gpe tgpe s hap hgpo hgpe htgpe (k * m) (Nat.mul_pos hk1 hm1) (by omega) hKU ap _ seqA seqB
    (C07Soft_pp_kernels_scaled U ap apE hd gpo gpe tgpe s hap hgpo hgpe htgpe hsym prof1 prof2 seqA seqB k m hk1 hm1 hKU hK hP1
      hP2 hA23)
    P hV hadj ⟨hsize, hlenB⟩ hm

/-- **sequence – profile as `do_align` runs it, binary32, the group on side `a`** (`k > 1` copies of `a` built by diagonal merges,
one sequence `b`): operands `(.seqprof pa b k)`, not swapped -/
theorem C07Soft_doAlign_profile_seq_opt (entry : Entry) (U : Nat) (ap : AlnParam SoftF32) (apE : AlnParam ExactScore)
    (hd : DyadicParam U ap apE) (gpo gpe tgpe : Int) (s : Nat → Nat → Int)
    (hap : ApOK apE gpo gpe tgpe s) (hgpo : 0 ≤ gpo) (hgpe : 0 ≤ gpe) (htgpe : 0 ≤ tgpe)
    (a b : Array Nat) (ha23 : ∀ i, a.getD i 0 < 23) (hb23 : ∀ j, b.getD j 0 < 23) (h1A : 1 ≤ a.size) (h1B : 1 ≤ b.size)
    (pa : Array SoftF32) (k : Nat) (hpa : BuiltS ap a pa k) (hk : k < 8388608) (hkU : k * U < 16777216)
    (hsz : SizeOKS k U a b)
    (P : List Col) (hV : ValidCols P a.size b.size) (hadj : adjOK .A P = true)
    (hm : MarginK s gpo gpe tgpe a b P k (b.size + 1000)) :
    ∃ codes, dpCodesS entry ap (.seqprof (setGapPenalties pa 1) b k) false a.size b.size a.size b.size = some codes ∧
      codes.map Col.ofCode = P :=
  dp_unswappedS entry ap _ _ _ P (sp_runOKS entry U ap apE hd gpo gpe tgpe s hap hgpo hgpe htgpe _ a b k (builtS_pos hpa)
    (by omega) hkU
    (C07Soft_profile_of_copies U ap apE hd gpo gpe tgpe s hap hgpo hgpe htgpe a ha23 pa k 1 hpa (Nat.le_refl _)
      (by rw [Nat.mul_one]; exact hkU) (by rw [Nat.mul_one]; exact hk))
    hb23 hsz.ab.1 hsz.ab.2 P hV hadj hm) hV hadj h1A h1B

/-- **sequence – profile, binary32, the group on side `b`** (one sequence `a`, `k > 1` copies of `b`): operands
`(.seqprof pb a k)`, swapped, the path is mirrored; symmetric matrix -/
theorem C07Soft_doAlign_seq_profile_opt (entry : Entry) (U : Nat) (ap : AlnParam SoftF32) (apE : AlnParam ExactScore)
    (hd : DyadicParam U ap apE) (gpo gpe tgpe : Int) (s : Nat → Nat → Int)
    (hap : ApOK apE gpo gpe tgpe s) (hgpo : 0 ≤ gpo) (hgpe : 0 ≤ gpe) (htgpe : 0 ≤ tgpe) (hsym : ∀ x y, s x y = s y x)
    (a b : Array Nat) (ha23 : ∀ i, a.getD i 0 < 23) (hb23 : ∀ j, b.getD j 0 < 23) (h1A : 1 ≤ a.size) (h1B : 1 ≤ b.size)
    (pb : Array SoftF32) (k : Nat) (hpb : BuiltS ap b pb k) (hk : k < 8388608) (hkU : k * U < 16777216)
    (hsz : SizeOKS k U a b)
    (P : List Col) (hV : ValidCols P a.size b.size) (hadj : adjOK .A P = true)
    (hm : MarginK s gpo gpe tgpe a b P k (a.size + 1000)) :
    ∃ codes, dpCodesS entry ap (.seqprof (setGapPenalties pb 1) a k) true b.size a.size a.size b.size = some codes ∧
      codes.map Col.ofCode = P :=
  dp_swappedS entry ap _ _ _ P (sp_runOKS entry U ap apE hd gpo gpe tgpe s hap hgpo hgpe htgpe _ b a k (builtS_pos hpb)
    (by omega) hkU
    (C07Soft_profile_of_copies U ap apE hd gpo gpe tgpe s hap hgpo hgpe htgpe b hb23 pb k 1 hpb (Nat.le_refl _)
      (by rw [Nat.mul_one]; exact hkU) (by rw [Nat.mul_one]; exact hk))
    ha23 hsz.ba.1 hsz.ba.2 _ (validCols_swap _ _ _ hV) (adjOK_swapA P hadj) (hm.swap hsym)) hV hadj h1A h1B

/-- **profile – profile as `do_align` runs it, binary32** (`k` copies of `a`, `m` copies of `b`, both built by diagonal merges; `a`
is the row dimension iff `len_a < len_b`); symmetric matrix -/
theorem C07Soft_doAlign_profile_profile_opt (entry : Entry) (U : Nat) (ap : AlnParam SoftF32) (apE : AlnParam ExactScore)
    (hd : DyadicParam U ap apE) (gpo gpe tgpe : Int) (s : Nat → Nat → Int)
    (hap : ApOK apE gpo gpe tgpe s) (hgpo : 0 ≤ gpo) (hgpe : 0 ≤ gpe) (htgpe : 0 ≤ tgpe) (hsym : ∀ x y, s x y = s y x)
    (a b : Array Nat) (ha23 : ∀ i, a.getD i 0 < 23) (hb23 : ∀ j, b.getD j 0 < 23) (h1A : 1 ≤ a.size) (h1B : 1 ≤ b.size)
    (pa pb : Array SoftF32) (k m : Nat) (hpa : BuiltS ap a pa k) (hpb : BuiltS ap b pb m)
    (hK : k * m < 8388608) (hKU : k * m * U < 16777216) (hsz : SizeOKS (k * m) U a b)
    (P : List Col) (hV : ValidCols P a.size b.size) (hadj : adjOK .A P = true)
    (hm : MarginK s gpo gpe tgpe a b P (k * m) (max a.size b.size + 1000)) :
    ∃ codes, (if a.size < b.size then
          dpCodesS entry ap (.profprof (setGapPenalties pa m) (setGapPenalties pb k)) false a.size b.size a.size b.size
        else
          dpCodesS entry ap (.profprof (setGapPenalties pb k) (setGapPenalties pa m)) true b.size a.size a.size b.size)
        = some codes ∧ codes.map Col.ofCode = P := by
  have hk1 := builtS_pos hpa
  have hm1 := builtS_pos hpb
  have hPa := C07Soft_profile_of_copies U ap apE hd gpo gpe tgpe s hap hgpo hgpe htgpe a ha23 pa k m hpa hm1 hKU hK
  have hPb := C07Soft_profile_of_copies U ap apE hd gpo gpe tgpe s hap hgpo hgpe htgpe b hb23 pb m k hpb hk1
    (by rw [Nat.mul_comm m k]; exact hKU) (by rw [Nat.mul_comm m k]; exact hK)
  by_cases hlt : a.size < b.size
  · rw [if_pos hlt]
    exact dp_unswappedS entry ap _ _ _ P (pp_runOKS entry U ap apE hd gpo gpe tgpe s hap hgpo hgpe htgpe hsym _ _ a b k m hk1
      hm1 hKU hK hPa hPb ha23 hsz.ab.1 hsz.ab.2 P hV hadj (hm.mono (by omega))) hV hadj h1A h1B
  · rw [if_neg hlt]
    have hba := hsz.ba
    refine dp_swappedS entry ap _ _ _ P (pp_runOKS entry U ap apE hd gpo gpe tgpe s hap hgpo hgpe htgpe hsym _ _ b a m k hm1
      hk1 (by rw [Nat.mul_comm m k]; exact hKU) (by rw [Nat.mul_comm m k]; exact hK) hPb hPa hb23
      (by rw [Nat.mul_comm m k]; exact hba.1) hba.2 _ (validCols_swap _ _ _ hV) (adjOK_swapA P hadj) ?_) hV hadj h1A h1B
    rw [Nat.mul_comm m k]
    exact (hm.mono (by omega)).swap hsym

/-- **`k` copies against `m` copies of the same sequence, binary32** (profile – profile; equal lengths, so `do_align` exchanges the
operands and mirrors the path): the result is the gap-free diagonal.  The residue-wise condition is that of
`C08Soft_identical_pair_diag` (`|seq| + 1000` for the tie-break term and the binary32 slack) -/
theorem C08Soft_identical_groups_diag (entry : Entry) (U : Nat) (ap : AlnParam SoftF32) (apE : AlnParam ExactScore)
    (hd : DyadicParam U ap apE) (gpo gpe tgpe : Int) (s : Nat → Nat → Int)
    (hap : ApOK apE gpo gpe tgpe s) (hgpo : 0 ≤ gpo) (hgpe : 0 ≤ gpe) (htgpe : 0 ≤ tgpe) (hsym : ∀ x y, s x y = s y x)
    (seq : Array Nat) (h23 : ∀ i, seq.getD i 0 < 23) (h1 : 1 ≤ seq.size)
    (pa pb : Array SoftF32) (k m : Nat) (hpa : BuiltS ap seq pa k) (hpb : BuiltS ap seq pb m)
    (hK : k * m < 8388608) (hKU : k * m * U < 16777216)
    (hsize : (k * m * U) * (seq.size + seq.size + 1) + seq.size / 1000 + 1 < 16777216) (hlen : seq.size < 4194304)
    (hdg : ∀ x ∈ seq.toList,
      max 0 (max (tgpe - gpe) (tgpe - gpo)) + max 0 (gpe - tgpe) + ((seq.size : Int) + 1000) <
        s x x + 2 * min (min (2 * gpo) gpe) tgpe)
    (h2 : ∀ x ∈ seq.toList, ∀ y ∈ seq.toList, 2 * s x y ≤ s x x + s y y) :
    ∃ codes, dpCodesS entry ap (.profprof (setGapPenalties pb k) (setGapPenalties pa m)) true seq.size seq.size
        seq.size seq.size = some codes ∧ codes.map Col.ofCode = List.replicate seq.size .both := by
  have := C07Soft_doAlign_profile_profile_opt entry U ap apE hd gpo gpe tgpe s hap hgpo hgpe htgpe hsym seq seq h23 h23 h1 h1
    pa pb k m hpa hpb hK hKU (SizeOKS.diag hsize hlen) (diagCols seq.size) (validCols_diag _) (adjOK_diag _ _) (by
      rw [Nat.max_self]
      exact diag_marginS gpo gpe tgpe s seq (k * m) (Nat.mul_pos (builtS_pos hpa) (builtS_pos hpb)) hdg h2)
  rw [if_neg (Nat.lt_irrefl _)] at this
  exact this

/-- **one sequence against `k` copies of itself, binary32** (sequence – profile, group on side `b`) -/
theorem C08Soft_identical_seq_group_diag (entry : Entry) (U : Nat) (ap : AlnParam SoftF32) (apE : AlnParam ExactScore)
    (hd : DyadicParam U ap apE) (gpo gpe tgpe : Int) (s : Nat → Nat → Int)
    (hap : ApOK apE gpo gpe tgpe s) (hgpo : 0 ≤ gpo) (hgpe : 0 ≤ gpe) (htgpe : 0 ≤ tgpe) (hsym : ∀ x y, s x y = s y x)
    (seq : Array Nat) (h23 : ∀ i, seq.getD i 0 < 23) (h1 : 1 ≤ seq.size)
    (pb : Array SoftF32) (k : Nat) (hpb : BuiltS ap seq pb k) (hk : k < 8388608) (hkU : k * U < 16777216)
    (hsize : (k * U) * (seq.size + seq.size + 1) + seq.size / 1000 + 1 < 16777216) (hlen : seq.size < 4194304)
    (hdg : ∀ x ∈ seq.toList,
      max 0 (max (tgpe - gpe) (tgpe - gpo)) + max 0 (gpe - tgpe) + ((seq.size : Int) + 1000) <
        s x x + 2 * min (min (2 * gpo) gpe) tgpe)
    (h2 : ∀ x ∈ seq.toList, ∀ y ∈ seq.toList, 2 * s x y ≤ s x x + s y y) :
    ∃ codes, dpCodesS entry ap (.seqprof (setGapPenalties pb 1) seq k) true seq.size seq.size seq.size seq.size =
        some codes ∧ codes.map Col.ofCode = List.replicate seq.size .both :=
  C07Soft_doAlign_seq_profile_opt entry U ap apE hd gpo gpe tgpe s hap hgpo hgpe htgpe hsym seq seq h23 h23 h1 h1 pb k hpb hk
    hkU (SizeOKS.diag hsize hlen) (diagCols seq.size) (validCols_diag _) (adjOK_diag _ _)
    (diag_marginS gpo gpe tgpe s seq k (builtS_pos hpb) hdg h2)

/-- **`k` copies against one sequence, binary32** (group on side `a`) -/
theorem C08Soft_identical_group_seq_diag (entry : Entry) (U : Nat) (ap : AlnParam SoftF32) (apE : AlnParam ExactScore)
    (hd : DyadicParam U ap apE) (gpo gpe tgpe : Int) (s : Nat → Nat → Int)
    (hap : ApOK apE gpo gpe tgpe s) (hgpo : 0 ≤ gpo) (hgpe : 0 ≤ gpe) (htgpe : 0 ≤ tgpe)
    (seq : Array Nat) (h23 : ∀ i, seq.getD i 0 < 23) (h1 : 1 ≤ seq.size)
    (pa : Array SoftF32) (k : Nat) (hpa : BuiltS ap seq pa k) (hk : k < 8388608) (hkU : k * U < 16777216)
    (hsize : (k * U) * (seq.size + seq.size + 1) + seq.size / 1000 + 1 < 16777216) (hlen : seq.size < 4194304)
    (hdg : ∀ x ∈ seq.toList,
      max 0 (max (tgpe - gpe) (tgpe - gpo)) + max 0 (gpe - tgpe) + ((seq.size : Int) + 1000) <
        s x x + 2 * min (min (2 * gpo) gpe) tgpe)
    (h2 : ∀ x ∈ seq.toList, ∀ y ∈ seq.toList, 2 * s x y ≤ s x x + s y y) :
    ∃ codes, dpCodesS entry ap (.seqprof (setGapPenalties pa 1) seq k) false seq.size seq.size seq.size seq.size =
        some codes ∧ codes.map Col.ofCode = List.replicate seq.size .both :=
  C07Soft_doAlign_profile_seq_opt entry U ap apE hd gpo gpe tgpe s hap hgpo hgpe htgpe seq seq h23 h23 h1 h1 pa k hpa hk
    hkU (SizeOKS.diag hsize hlen) (diagCols seq.size) (validCols_diag _) (adjOK_diag _ _)
    (diag_marginS gpo gpe tgpe s seq k (builtS_pos hpa) hdg h2)

/-- **`k` against `m` copies, for a dyadic row of the generated table** (side conditions as in `C08Soft_identical_pair_diag_table`;
`hsymm`: the matrix of the row is symmetric) -/
theorem C08Soft_identical_groups_diag_table (entry : Entry) (U : Nat) (ap : AlnParam SoftF32) (mt : List (List Int))
    (gpo gpe tgpe : Int) (hd : DyadicParam U ap (exactParam mt gpo gpe tgpe))
    (hgpo : 0 ≤ gpo) (hgpe : 0 ≤ gpe) (htgpe : 0 ≤ tgpe) (hge : gpe ≤ 2 * gpo)
    (hsymm : ∀ x y, exactSub mt x y = exactSub mt y x)
    (seq : Array Nat) (h23 : ∀ i, seq.getD i 0 < 23) (h1 : 1 ≤ seq.size)
    (pa pb : Array SoftF32) (k m : Nat) (hpa : BuiltS ap seq pa k) (hpb : BuiltS ap seq pb m)
    (hK : k * m < 8388608) (hKU : k * m * U < 16777216)
    (hsize : (k * m * U) * (seq.size + seq.size + 1) + seq.size / 1000 + 1 < 16777216) (hlen : seq.size < 4194304)
    (hc : diagCondS mt gpo gpe tgpe seq.toList = true) :
    ∃ codes, dpCodesS entry ap (.profprof (setGapPenalties pb k) (setGapPenalties pa m)) true seq.size seq.size
        seq.size seq.size = some codes ∧ codes.map Col.ofCode = List.replicate seq.size .both :=
  C08Soft_identical_groups_diag entry U ap _ hd (2 * gpo) (2 * gpe) (2 * tgpe) (exactSub mt) (exactParam_ok mt gpo gpe tgpe)
    (by omega) (by omega) (by omega) hsymm seq h23 h1 pa pb k m hpa hpb hK hKU hsize hlen
    (diagCondS_hyp mt gpo gpe tgpe hge seq hc).1 (diagCondS_hyp mt gpo gpe tgpe hge seq hc).2

theorem C08Soft_identical_seq_group_diag_table (entry : Entry) (U : Nat) (ap : AlnParam SoftF32) (mt : List (List Int))
    (gpo gpe tgpe : Int) (hd : DyadicParam U ap (exactParam mt gpo gpe tgpe))
    (hgpo : 0 ≤ gpo) (hgpe : 0 ≤ gpe) (htgpe : 0 ≤ tgpe) (hge : gpe ≤ 2 * gpo)
    (hsymm : ∀ x y, exactSub mt x y = exactSub mt y x)
    (seq : Array Nat) (h23 : ∀ i, seq.getD i 0 < 23) (h1 : 1 ≤ seq.size)
    (pb : Array SoftF32) (k : Nat) (hpb : BuiltS ap seq pb k) (hk : k < 8388608) (hkU : k * U < 16777216)
    (hsize : (k * U) * (seq.size + seq.size + 1) + seq.size / 1000 + 1 < 16777216) (hlen : seq.size < 4194304)
    (hc : diagCondS mt gpo gpe tgpe seq.toList = true) :
    ∃ codes, dpCodesS entry ap (.seqprof (setGapPenalties pb 1) seq k) true seq.size seq.size seq.size seq.size =
        some codes ∧ codes.map Col.ofCode = List.replicate seq.size .both :=
  C08Soft_identical_seq_group_diag entry U ap _ hd (2 * gpo) (2 * gpe) (2 * tgpe) (exactSub mt) (exactParam_ok mt gpo gpe tgpe)
    (by omega) (by omega) (by omega) hsymm seq h23 h1 pb k hpb hk hkU hsize hlen
    (diagCondS_hyp mt gpo gpe tgpe hge seq hc).1 (diagCondS_hyp mt gpo gpe tgpe hge seq hc).2

theorem C08Soft_identical_group_seq_diag_table (entry : Entry) (U : Nat) (ap : AlnParam SoftF32) (mt : List (List Int))
    (gpo gpe tgpe : Int) (hd : DyadicParam U ap (exactParam mt gpo gpe tgpe))
    (hgpo : 0 ≤ gpo) (hgpe : 0 ≤ gpe) (htgpe : 0 ≤ tgpe) (hge : gpe ≤ 2 * gpo)
    (seq : Array Nat) (h23 : ∀ i, seq.getD i 0 < 23) (h1 : 1 ≤ seq.size)
    (pa : Array SoftF32) (k : Nat) (hpa : BuiltS ap seq pa k) (hk : k < 8388608) (hkU : k * U < 16777216)
    (hsize : (k * U) * (seq.size + seq.size + 1) + seq.size / 1000 + 1 < 16777216) (hlen : seq.size < 4194304)
    (hc : diagCondS mt gpo gpe tgpe seq.toList = true) :
    ∃ codes, dpCodesS entry ap (.seqprof (setGapPenalties pa 1) seq k) false seq.size seq.size seq.size seq.size =
        some codes ∧ codes.map Col.ofCode = List.replicate seq.size .both :=
  C08Soft_identical_group_seq_diag entry U ap _ hd (2 * gpo) (2 * gpe) (2 * tgpe) (exactSub mt) (exactParam_ok mt gpo gpe tgpe)
    (by omega) (by omega) (by omega) seq h23 h1 pa k hpa hk hkU hsize hlen
    (diagCondS_hyp mt gpo gpe tgpe hge seq hc).1 (diagCondS_hyp mt gpo gpe tgpe hge seq hc).2

theorem mat3_symm : ∀ x y, exactSub Gen.mat3 x y = exactSub Gen.mat3 y x :=
  exactSub_symm_of_mem Gen.mat3 (by simp [Gen.matrices])

/-- **default protein parameters in binary32** (type 3 or undefined): `k` against `m` identical copies.  With `U = 32` the size
condition reads `k·m·32·(2·|seq| + 1) + |seq|/1000 + 1 < 2²⁴` (e.g. `k·m ≤ 64` and `|seq| ≤ 4000`) -/
theorem C08Soft_identical_groups_diag_protein (entry : Entry) (t : Int) (ht : t = 3 ∨ ¬ (0 ≤ t ∧ t ≤ 4))
    (seq : Array Nat) (h23 : ∀ i, seq.getD i 0 < 23) (h1 : 1 ≤ seq.size)
    (pa pb : Array SoftF32) (k m : Nat) (hpa : BuiltS (softParamOf 0 t) seq pa k) (hpb : BuiltS (softParamOf 0 t) seq pb m)
    (hsize : (k * m * 32) * (seq.size + seq.size + 1) + seq.size / 1000 + 1 < 16777216)
    (hc : diagCondS Gen.mat0 5500 2000 1000 seq.toList = true) :
    ∃ codes, dpCodesS entry (softParamOf 0 t) (.profprof (setGapPenalties pb k) (setGapPenalties pa m)) true seq.size seq.size
        seq.size seq.size = some codes ∧ codes.map Col.ofCode = List.replicate seq.size .both := by
  obtain ⟨hK, hKU, hlen⟩ := size_bounds (Nat.mul_pos (builtS_pos hpa) (builtS_pos hpb)) (by decide) hsize
  exact C08Soft_identical_groups_diag_table entry 32 _ Gen.mat0 5500 2000 1000 (C07Soft_dyadic_protein_default t ht) (by decide) (by decide)
    (by decide) (by decide) mat0_symm seq h23 h1 pa pb k m hpa hpb hK hKU hsize hlen hc

theorem C08Soft_identical_seq_group_diag_protein (entry : Entry) (t : Int) (ht : t = 3 ∨ ¬ (0 ≤ t ∧ t ≤ 4))
    (seq : Array Nat) (h23 : ∀ i, seq.getD i 0 < 23) (h1 : 1 ≤ seq.size)
    (pb : Array SoftF32) (k : Nat) (hpb : BuiltS (softParamOf 0 t) seq pb k)
    (hsize : (k * 32) * (seq.size + seq.size + 1) + seq.size / 1000 + 1 < 16777216)
    (hc : diagCondS Gen.mat0 5500 2000 1000 seq.toList = true) :
    ∃ codes, dpCodesS entry (softParamOf 0 t) (.seqprof (setGapPenalties pb 1) seq k) true seq.size seq.size seq.size seq.size =
        some codes ∧ codes.map Col.ofCode = List.replicate seq.size .both := by
  obtain ⟨hk, hkU, hlen⟩ := size_bounds (builtS_pos hpb) (by decide) hsize
  exact C08Soft_identical_seq_group_diag_table entry 32 _ Gen.mat0 5500 2000 1000 (C07Soft_dyadic_protein_default t ht) (by decide)
    (by decide) (by decide) (by decide) mat0_symm seq h23 h1 pb k hpb hk hkU hsize hlen hc

theorem C08Soft_identical_group_seq_diag_protein (entry : Entry) (t : Int) (ht : t = 3 ∨ ¬ (0 ≤ t ∧ t ≤ 4))
    (seq : Array Nat) (h23 : ∀ i, seq.getD i 0 < 23) (h1 : 1 ≤ seq.size)
    (pa : Array SoftF32) (k : Nat) (hpa : BuiltS (softParamOf 0 t) seq pa k)
    (hsize : (k * 32) * (seq.size + seq.size + 1) + seq.size / 1000 + 1 < 16777216)
    (hc : diagCondS Gen.mat0 5500 2000 1000 seq.toList = true) :
    ∃ codes, dpCodesS entry (softParamOf 0 t) (.seqprof (setGapPenalties pa 1) seq k) false seq.size seq.size seq.size seq.size =
        some codes ∧ codes.map Col.ofCode = List.replicate seq.size .both := by
  obtain ⟨hk, hkU, hlen⟩ := size_bounds (builtS_pos hpa) (by decide) hsize
  exact C08Soft_identical_group_seq_diag_table entry 32 _ Gen.mat0 5500 2000 1000 (C07Soft_dyadic_protein_default t ht) (by decide)
    (by decide) (by decide) (by decide) seq h23 h1 pa k hpa hk hkU hsize hlen hc

/-- **DNA-internal parameters in binary32** (type 1: match 5, mismatch −4, penalties 8 / 6 / 8).  (With the plain DNA penalties,
`tgpe = 0`, `diagCondS` fails for every sequence — it asks for `13000 + |seq| < s x x`, and `s x x ≤ 10000` — so there is no
statement for them.) -/
theorem C08Soft_identical_groups_diag_dna_internal (entry : Entry)
    (seq : Array Nat) (h23 : ∀ i, seq.getD i 0 < 23) (h1 : 1 ≤ seq.size)
    (pa pb : Array SoftF32) (k m : Nat) (hpa : BuiltS (softParamOf 1 1) seq pa k) (hpb : BuiltS (softParamOf 1 1) seq pb m)
    (hsize : (k * m * 32) * (seq.size + seq.size + 1) + seq.size / 1000 + 1 < 16777216)
    (hc : diagCondS Gen.mat3 8000 6000 8000 seq.toList = true) :
    ∃ codes, dpCodesS entry (softParamOf 1 1) (.profprof (setGapPenalties pb k) (setGapPenalties pa m)) true seq.size seq.size
        seq.size seq.size = some codes ∧ codes.map Col.ofCode = List.replicate seq.size .both := by
  obtain ⟨hK, hKU, hlen⟩ := size_bounds (Nat.mul_pos (builtS_pos hpa) (builtS_pos hpb)) (by decide) hsize
  exact C08Soft_identical_groups_diag_table entry 32 _ Gen.mat3 8000 6000 8000 C07Soft_dyadic_dna_internal (by decide) (by decide)
    (by decide) (by decide) mat3_symm seq h23 h1 pa pb k m hpa hpb hK hKU hsize hlen hc

theorem C08Soft_identical_seq_group_diag_dna_internal (entry : Entry)
    (seq : Array Nat) (h23 : ∀ i, seq.getD i 0 < 23) (h1 : 1 ≤ seq.size)
    (pb : Array SoftF32) (k : Nat) (hpb : BuiltS (softParamOf 1 1) seq pb k)
    (hsize : (k * 32) * (seq.size + seq.size + 1) + seq.size / 1000 + 1 < 16777216)
    (hc : diagCondS Gen.mat3 8000 6000 8000 seq.toList = true) :
    ∃ codes, dpCodesS entry (softParamOf 1 1) (.seqprof (setGapPenalties pb 1) seq k) true seq.size seq.size seq.size seq.size =
        some codes ∧ codes.map Col.ofCode = List.replicate seq.size .both := by
  obtain ⟨hk, hkU, hlen⟩ := size_bounds (builtS_pos hpb) (by decide) hsize
  exact C08Soft_identical_seq_group_diag_table entry 32 _ Gen.mat3 8000 6000 8000 C07Soft_dyadic_dna_internal (by decide)
    (by decide) (by decide) (by decide) mat3_symm seq h23 h1 pb k hpb hk hkU hsize hlen hc

theorem C08Soft_identical_group_seq_diag_dna_internal (entry : Entry)
    (seq : Array Nat) (h23 : ∀ i, seq.getD i 0 < 23) (h1 : 1 ≤ seq.size)
    (pa : Array SoftF32) (k : Nat) (hpa : BuiltS (softParamOf 1 1) seq pa k)
    (hsize : (k * 32) * (seq.size + seq.size + 1) + seq.size / 1000 + 1 < 16777216)
    (hc : diagCondS Gen.mat3 8000 6000 8000 seq.toList = true) :
    ∃ codes, dpCodesS entry (softParamOf 1 1) (.seqprof (setGapPenalties pa 1) seq k) false seq.size seq.size seq.size seq.size =
        some codes ∧ codes.map Col.ofCode = List.replicate seq.size .both := by
  obtain ⟨hk, hkU, hlen⟩ := size_bounds (builtS_pos hpa) (by decide) hsize
  exact C08Soft_identical_group_seq_diag_table entry 32 _ Gen.mat3 8000 6000 8000 C07Soft_dyadic_dna_internal (by decide)
    (by decide) (by decide) (by decide) seq h23 h1 pa k hpa hk hkU hsize hlen hc

/-- two copies of the sequence (0,4,7,17) under the binary32 protein defaults, built by one diagonal `update_n` from two
`make_profile_n` profiles — exactly what `do_align` builds for two identical sequences -/
def exGroup2S : Array SoftF32 :=
  (updateN (softParamOf 0 3) (makeProfile (softParamOf 0 3) #[0, 4, 7, 17]) (makeProfile (softParamOf 0 3) #[0, 4, 7, 17])
    [0, 0, 0, 0] 1 1).getD #[]

theorem exGroup2S_built : BuiltS (softParamOf 0 3) #[0, 4, 7, 17] exGroup2S 2 :=
  builtS_pair _ #[0, 4, 7, 17]

theorem exGroup2S_diag : ∃ codes, dpCodesS .parallel (softParamOf 0 3)
      (.profprof (setGapPenalties exGroup2S 2) (setGapPenalties exGroup2S 2)) true 4 4 4 4 = some codes ∧
    codes.map Col.ofCode = List.replicate 4 .both :=
  C08Soft_identical_groups_diag_protein .parallel 3 (Or.inl rfl) #[0, 4, 7, 17] (getD_lt_of_all _ (by decide +kernel))
    (by decide) exGroup2S exGroup2S 2 2 exGroup2S_built exGroup2S_built (by decide) (by decide +kernel)

/-- the hypotheses of `C08Soft_identical_groups_diag_protein` hold for two copies against two copies of (0,4,7,17) -/
example : ∃ codes, dpCodesS .parallel (softParamOf 0 3)
      (.profprof (setGapPenalties exGroup2S 2) (setGapPenalties exGroup2S 2)) true 4 4 4 4 = some codes ∧
    codes.map Col.ofCode = List.replicate 4 .both :=
  exGroup2S_diag

/-- … and for one sequence against the two copies / the two copies against one sequence -/
example : (∃ codes, dpCodesS .serial (softParamOf 0 3) (.seqprof (setGapPenalties exGroup2S 1) #[0, 4, 7, 17] 2) true 4 4 4 4 =
      some codes ∧ codes.map Col.ofCode = List.replicate 4 .both) ∧
    (∃ codes, dpCodesS .serial (softParamOf 0 3) (.seqprof (setGapPenalties exGroup2S 1) #[0, 4, 7, 17] 2) false 4 4 4 4 =
      some codes ∧ codes.map Col.ofCode = List.replicate 4 .both) :=
  ⟨C08Soft_identical_seq_group_diag_protein .serial 3 (Or.inl rfl) #[0, 4, 7, 17] (getD_lt_of_all _ (by decide +kernel))
      (by decide) exGroup2S 2 exGroup2S_built (by decide) (by decide +kernel),
   C08Soft_identical_group_seq_diag_protein .serial 3 (Or.inl rfl) #[0, 4, 7, 17] (getD_lt_of_all _ (by decide +kernel))
      (by decide) exGroup2S 2 exGroup2S_built (by decide) (by decide +kernel)⟩

/-- two copies of a = (W,C,W) -/
def exProf2S : Array SoftF32 :=
  (updateN (softParamOf 0 3) (makeProfile (softParamOf 0 3) #[17, 4, 17]) (makeProfile (softParamOf 0 3) #[17, 4, 17])
    [0, 0, 0] 1 1).getD #[]

theorem exProf2S_built : BuiltS (softParamOf 0 3) #[17, 4, 17] exProf2S 2 :=
  builtS_pair _ #[17, 4, 17]

/-- the scaled margin with the binary32 slack (`K = 2`, tie bound `2 + 1000`) holds for `P = [both, gapB, both]`,
a = (W,C,W), b = (W,W) under the protein defaults -/
theorem exMargin2S : MarginK (exactSub Gen.mat0) 11000 4000 2000 #[17, 4, 17] #[17, 17] [.both, .gapB, .both] 2 (2 + 1000) :=
  MarginK.of_enum (by decide +kernel)

theorem exProf2S_opt : ∃ codes, dpCodesS .parallel (softParamOf 0 3) (.seqprof (setGapPenalties exProf2S 1) #[17, 17] 2) false 3 2 3 2 =
      some codes ∧ codes.map Col.ofCode = [.both, .gapB, .both] :=
  C07Soft_doAlign_profile_seq_opt .parallel 32 (softParamOf 0 3) _ C07Soft_dyadic_protein 11000 4000 2000 (exactSub Gen.mat0)
    (exactParam_ok Gen.mat0 5500 2000 1000) (by decide) (by decide) (by decide)
    #[17, 4, 17] #[17, 17] (getD_lt_of_all _ (by decide +kernel)) (getD_lt_of_all _ (by decide +kernel)) (by decide) (by decide)
    exProf2S 2 exProf2S_built (by decide) (by decide) ⟨by decide, by decide⟩ [.both, .gapB, .both]
    ⟨by decide, by decide, by decide⟩ (by decide) exMargin2S

/-- so `C07Soft_doAlign_profile_seq_opt` applies to the group of two copies of `a` against `b` (a non-diagonal optimum) -/
example : ∃ codes, dpCodesS .parallel (softParamOf 0 3) (.seqprof (setGapPenalties exProf2S 1) #[17, 17] 2) false 3 2 3 2 =
      some codes ∧ codes.map Col.ofCode = [.both, .gapB, .both] :=
  exProf2S_opt

end Kalign

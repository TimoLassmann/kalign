import KalignModel.Lemmas.IO.Asa
import KalignModel.Props.C04Sniff
/-!
# C06 — an alignment written by kalign and read back by kalign is the same alignment

`S : List SeqRec` are the aligned sequences as kalign holds them (name, residues, gap vector); `finalise S` is the
alignment handed to `kalign_write_msa` (rows = `make_linear_sequence`).  `AlnWF S` (Lemmas/IO/Spec.lean, decidable):
at least one row, all rows of one width ≥ 1, residues are letters, names are 1..200 bytes over
`[A-Za-z0-9_.|-]`.  Each theorem says that reading the written file returns exactly `S`.

The reason is one: a written file is a presentation (`Presents`, Props/C04.lean) of what the scanner makes of the rows
(`RowsOK.written_fasta`, `.written_clu`, `.written_msf`, for any alignment with well-formed names and rows), and the readers are
sound on presentations (`Presents.reads`).
-/
namespace Kalign.IO
open List

theorem finalise_name_plain (S : List SeqRec) (wf : AlnWF S) (bio L : Nat) (base : Bytes) :
    ∀ r ∈ (finalise S bio L base).rows, ∀ b ∈ r.name, plainChar b = true := by
  intro r hr b hb
  simp only [finalise, mem_map] at hr
  obtain ⟨s, hs, rfl⟩ := hr
  exact nameChar_plain b ((wf.names s hs).2.2 b hb)

theorem finalise_row_plain (S : List SeqRec) (wf : AlnWF S) (bio L : Nat) (base : Bytes) :
    ∀ r ∈ (finalise S bio L base).rows, ∀ b ∈ r.row, plainChar b = true := by
  intro r hr b hb
  simp only [finalise, mem_map] at hr
  obtain ⟨s, hs, rfl⟩ := hr
  exact rowChar_plain b (linRow_rowChar _ _ (wf.res s hs) b hb)

/-- non-vacuity of `AlnWF`: 3 rows of width 61 (two blocks), lower-case residues, names `-`, `a|b`, digits only -/
example : AlnWF [⟨ascii "-", replicate 59 65 ++ [99], replicate 60 0 ++ [1]⟩,
    ⟨ascii "a|b", replicate 61 71, 0 :: replicate 61 0⟩, ⟨ascii "12", replicate 30 84, 31 :: replicate 30 0⟩] := by
  decide_ascii

theorem scan_finalise (S : List SeqRec) (wf : AlnWF S) (bio L : Nat) (base : Bytes) :
    (finalise S bio L base).rows.map (scanRow (finalise S bio L base).alnlen) = S := by
  simp only [finalise, map_map]
  conv => rhs; rw [← map_id S]
  apply map_congr_left
  intro s hs
  simp only [Function.comp, scanRow, id]
  have hlen : (linRow s.res s.gaps).length = alnlenOf S := by
    rw [linRow_length _ _ (wf.gaps s hs), wf.width s hs]
  rw [← hlen, take_length]
  exact feed_linRow_new s.name s.res s.gaps (wf.res s hs) (wf.gaps s hs)

theorem numBlocks_pos (n : Nat) : ∃ k, numBlocks n = k + 1 := ⟨numBlocks n - 1, by unfold numBlocks; omega⟩

theorem rowsC_final (A : Alignment) :
    ((rowsC A).map fun r => feed (SeqAcc.new r.1) r.2.flatten).map SeqAcc.finish = A.rows.map (scanRow A.alnlen) := by
  simp only [rowsC, map_map]
  apply map_congr_left
  intro r _
  simp [Function.comp, scanRow, blocks_flatten]

def cluTitle (ver : Bytes) : Bytes := ascii "Kalign (" ++ ver ++ ascii ") multiple sequence alignment"

theorem cluTitle_sniff (ver : Bytes) : fastaHint (cluTitle ver) = 0 ∧ countHints cluHints (cluTitle ver) ≠ 0 := by
  refine ⟨by rw [cluTitle, ascii_ofList]; rfl, ?_⟩
  apply countHints_ne_zero (x := ascii "multiple sequence alignment") (mem_cons_self ..)
  have e : ascii ") multiple sequence alignment" = ascii ") " ++ ascii "multiple sequence alignment" := by decide_ascii
  rw [cluTitle, e, ← append_assoc, ← append_nil (_ ++ ascii "multiple sequence alignment")]
  exact hasSub_append ..

theorem msfMagic_fastaHint (A : Alignment) : fastaHint (msfMagic A) = 0 ∧ (msfMagic A).length ≠ 1 :=
  msfMagic_ind (fun l => fastaHint l = 0 ∧ l.length ≠ 1) (by decide_ascii) (by decide_ascii) A

theorem mem_padRows {pad : Bytes → Nat} {rs : List RowC} {P : RowC → Prop} (Q : RowC → Prop)
    (hPQ : ∀ r, P r → Q (r.1, r.2.map (replicate (pad r.1) 32 ++ ·))) (h : ∀ r ∈ rs, P r) : ∀ r ∈ padRows pad rs, Q r := by
  intro r hr
  obtain ⟨r0, h0, rfl⟩ := mem_map.mp hr
  exact hPQ r0 (h r0 h0)

theorem faLines_eq_pres (n : Nat) (rows : List Row) :
    faLines n rows = [] ++ faPres (rows.map fun r => (r.name, faChunks n r)) := by
  simp [faLines, faPres, flatMap_map]

/-- what the three writers need of an alignment so that the readers get it back -/
structure RowsOK (A : Alignment) : Prop where
  ne : A.rows ≠ []
  inb : A.InBounds
  nm : ∀ r ∈ A.rows, NmOK (maxNameLen A) r.name
  name : ∀ r ∈ A.rows, ∀ b ∈ r.name, plainChar b = true
  row : ∀ r ∈ A.rows, ∀ b ∈ r.row, plainChar b = true

theorem finalise_ok {S : List SeqRec} (wf : AlnWF S) (bio L : Nat) (base : Bytes) : RowsOK (finalise S bio L base) where
  ne := by simpa [finalise] using wf.ne
  inb := finalise_inBounds S wf bio L base
  nm r hr := by
    have hmx := maxNameLen_ge (finalise S bio L base) r hr
    simp only [finalise, mem_map] at hr
    obtain ⟨s, hs, rfl⟩ := hr
    obtain ⟨h1, h2, h3⟩ := wf.names s hs
    rw [show nameCut s.name = s.name from take_of_length_le (by omega)] at hmx
    exact ⟨fun h => by simp only at h; rw [h] at h1; simp at h1, h2,
      fun b hb => plain_not_space b (nameChar_plain b (h3 b hb)), hmx⟩
  name := finalise_name_plain S wf bio L base
  row := finalise_row_plain S wf bio L base

namespace RowsOK
variable {A : Alignment} (h : RowsOK A)
include h

theorem rowsC_ne : rowsC A ≠ [] := by simpa [rowsC] using h.ne

theorem rowsC_nm : ∀ r ∈ rowsC A, NmOK (maxNameLen A) r.1 := fun r hr => by
  obtain ⟨r0, h0, rfl⟩ := mem_map.mp hr
  exact h.nm r0 h0

theorem rowsC_len : ∀ r ∈ rowsC A, r.2.length = numBlocks A.alnlen := fun r hr => by
  obtain ⟨r0, h0, rfl⟩ := mem_map.mp hr
  exact rowsC_blocks A h.inb r0 h0

theorem major_not_cntrl (k : Nat) : ∀ l ∈ majorLines (maxNameLen A) k (rowsC A), ∀ b ∈ l, isCntrl b = false := by
  refine majorLines_bytes (fun b => isCntrl b = false) (by decide) _ _ _ fun r hr => ?_
  obtain ⟨r0, h0, rfl⟩ := mem_map.mp hr
  refine ⟨fun b hb => plain_not_cntrl b (h.name r0 h0 b hb), fun c hc b hb => ?_⟩
  have : b ∈ (blocks (r0.row.take A.alnlen)).flatten := mem_flatten.mpr ⟨c, hc, hb⟩
  rw [blocks_flatten] at this
  exact plain_not_cntrl b (h.row r0 h0 b (mem_of_mem_take this))

omit h in
theorem padRows_recOf (pad : Bytes → Nat) : (padRows pad (rowsC A)).map recOf = A.rows.map (scanRow A.alnlen) := by
  have := congrArg (map SeqAcc.finish) (feed_padRows pad (rowsC A))
  rw [rowsC_final, map_map] at this
  exact (map_congr_left fun r _ => recOf_eq_feed r).trans this

theorem major_eq_pres (pad : Bytes → Nat) (line : Bytes × Bytes → Bytes)
    (hline : ∀ nm c, NmOK (maxNameLen A) nm → seqLine (maxNameLen A) nm c = line (nm, replicate (pad nm) 32 ++ c)) :
    majorLines (maxNameLen A) (numBlocks A.alnlen) (rowsC A) =
      blockPres line (fun _ => ([], 1)) (numBlocks A.alnlen) 0 (padRows pad (rowsC A)) :=
  majorLines_eq_pres _ pad line hline _ 0 _ h.rowsC_ne h.rowsC_len h.rowsC_nm

theorem faLines_ok : ∀ l ∈ faLines A.alnlen A.rows, ∀ b ∈ l, isCntrl b = false := by
  intro l hl b hb
  simp only [faLines, mem_flatMap, mem_cons] at hl
  obtain ⟨r, hr, rfl | hl⟩ := hl
  · rcases mem_cons.mp hb with rfl | hb
    · decide
    · exact plain_not_cntrl b (h.name r hr b hb)
  · exact plain_not_cntrl b (h.row r hr b ((faChunks_mem _ r l hl).2 b hb))

theorem fasta_lines : splitLines (writeFasta A) = faLines A.alnlen A.rows := by
  rw [writeFasta_eq_emit, splitLines_emit _ h.faLines_ok]

theorem written_fasta : Presents (writeFasta A) (A.rows.map (scanRow A.alnlen)) := by
  have hS : (A.rows.map fun r => (r.name, faChunks A.alnlen r)).map recOf = A.rows.map (scanRow A.alnlen) := by
    rw [map_map]
    exact map_congr_left fun r _ => by simp [recOf_eq_feed, scanRow, faChunks_flatten]
  have hne : (A.rows.map fun r => (r.name, faChunks A.alnlen r)) ≠ [] := by simpa using h.ne
  have := Presents.fasta_plain (A.rows.map fun r => (r.name, faChunks A.alnlen r)) hne
    (fun r hr l hl => by
      obtain ⟨r0, h0, rfl⟩ := mem_map.mp hr
      obtain ⟨hne, hmem⟩ := faChunks_mem _ r0 l hl
      obtain ⟨b, t, rfl⟩ := exists_cons_of_ne_nil hne
      simpa using (plain_ne b (h.row r0 h0 b (hmem b (by simp)))).1)
    (faLines_eq_pres .. ▸ h.faLines_ok)
    (fun r hr => by
      obtain ⟨r0, h0, rfl⟩ := mem_map.mp hr
      exact (h.nm r0 h0).ne)
    (C04_fasta_sniffed [] _ (by simp) (by decide) hne)
  rwa [hS, ← faLines_eq_pres, ← writeFasta_eq_emit] at this

theorem cluLines_ok (ver : Bytes) (hver : ∀ b ∈ ver, isCntrl b = false) (k : Nat) :
    ∀ l ∈ cluTitle ver :: [] :: majorLines (maxNameLen A) k (rowsC A), ∀ b ∈ l, isCntrl b = false := by
  intro l hl b hb
  simp only [mem_cons] at hl
  rcases hl with rfl | rfl | hl
  · simp only [cluTitle, mem_append] at hb
    rcases hb with (hb | hb) | hb
    · revert b; decide_ascii
    · exact hver b hb
    · revert b; decide_ascii
  · simp at hb
  · exact h.major_not_cntrl _ l hl b hb

theorem clu_lines (ver : Bytes) (hver : ∀ b ∈ ver, isCntrl b = false) :
    splitLines (writeClu ver A) = cluTitle ver :: [] :: majorLines (maxNameLen A) (numBlocks A.alnlen) (rowsC A) := by
  rw [writeClu_eq ver _ h.inb]
  exact splitLines_emit _ (h.cluLines_ok ver hver _)

theorem written_clu (ver : Bytes) (hver : ∀ b ∈ ver, isCntrl b = false) :
    Presents (writeClu ver A) (A.rows.map (scanRow A.alnlen)) := by
  obtain ⟨k, hk⟩ := numBlocks_pos A.alnlen
  have hmaj := h.major_eq_pres (fun nm => maxNameLen A + 4 - nm.length) cluRowLine (seqLine_eq _)
  rw [← cluPres_eq] at hmaj
  have hlen := h.rowsC_len
  have hcn := h.cluLines_ok ver hver (numBlocks A.alnlen)
  rw [hk] at hmaj hlen hcn
  rw [hmaj] at hcn
  have := Presents.clu_sniffed (cluTitle ver) [[]] (fun _ => ([], 1)) k _ (by simp [CluJunk]) (by simp)
    (mem_padRows (P := fun r => r.2.length = k + 1) _ (fun r hr => by simpa using hr) hlen)
    (mem_padRows (fun r => NmOK' r.1) (fun r hr => ⟨hr.ne, hr.le, hr.nosp⟩) h.rowsC_nm)
    (by simpa [padRows] using h.rowsC_ne) hcn
    (by have : (ascii "Kalign (").length = 8 := by decide_ascii
        simp only [cluTitle, length_append, this]; omega)
    (cluTitle_sniff ver).1 (cluTitle_sniff ver).2
  rw [padRows_recOf, singleton_append, ← hmaj, ← hk] at this
  rwa [writeClu_eq ver _ h.inb]

theorem msfLines_ok (date : Bytes) (hh : HdrOK A.basename date) (k : Nat) :
    ∀ l ∈ msfHeaderLines date A ++ majorLines (maxNameLen A) k (rowsC A), ∀ b ∈ l, isCntrl b = false := by
  intro l hl b hb
  rcases mem_append.mp hl with hl | hl
  · simp only [msfHeaderLines, cons_append, nil_append, mem_cons, mem_append, mem_map] at hl
    rcases hl with rfl | rfl | rfl | rfl | ⟨r, hr, rfl⟩ | rfl | rfl | rfl | hl
    · exact (msfMagic_ok _).not_cntrl b hb
    · simp at hb
    · exact (msfInfoLine_ok date _ hh).not_cntrl b hb
    · simp at hb
    · exact (msfNameLine_ok _ _ r (h.name r hr)).not_cntrl b hb
    · simp at hb
    · revert b; decide_ascii
    · simp at hb
    · simp at hl
  · exact h.major_not_cntrl _ l hl b hb

theorem msf_lines (date : Bytes) (hh : HdrOK A.basename date) :
    splitLines (writeMsf date A) =
      msfHeaderLines date A ++ majorLines (maxNameLen A) (numBlocks A.alnlen) (rowsC A) := by
  rw [writeMsf_eq date _ h.inb, splitLines_emit _ (h.msfLines_ok date hh _)]

theorem written_msf (date : Bytes) (hh : HdrOK A.basename date) :
    Presents (writeMsf date A) (A.rows.map (scanRow A.alnlen)) := by
  obtain ⟨hv, hnames, hhl⟩ := writtenHdr_covers date A hh fun r hr => ⟨h.nm r hr, h.name r hr⟩
  have hmaj := h.major_eq_pres (fun nm => maxNameLen A + 5 - nm.length) msfRowLine
    (fun nm c h => by
      unfold seqLine msfRowLine nameCut
      rw [take_of_length_le (by have := h.le; omega), append_assoc])
  rw [← msfPres_eq] at hmaj
  have e : ∀ body : List Bytes, msfHeaderLines date A ++ body =
      ((msfMagic A, none) :: (writtenHdr date A).tail).map (·.1) ++ ascii "//" :: ([[]] ++ body) := by
    intro body; rw [hhl]; simp [writtenHdr]
  have hcn := h.msfLines_ok date hh (numBlocks A.alnlen)
  rw [e, hmaj] at hcn
  have := Presents.msf_sniffed (msfMagic A, none) (writtenHdr date A).tail (ascii "//") [[]] (fun _ => ([], 1)) _ _ hv
    (by decide_ascii) (by simp [CluJunk]) (by simp)
    (mem_padRows (P := fun r => r.2.length = numBlocks A.alnlen) _ (fun r hr => by simpa using hr) h.rowsC_len)
    (by rw [show (msfMagic A, none) :: (writtenHdr date A).tail = writtenHdr date A from rfl, hnames]; simp [padRows, rowsC])
    (by simpa [padRows] using h.rowsC_ne) hcn
    (by intro l ls hl; simp only [map_cons, cons_append, cons.injEq] at hl; rw [← hl.1]; exact (msfMagic_fastaHint A).2)
    (msfMagic_fastaHint A).1 (noCluHints _ (msfMagic_asa A).1) (msfMagic_asa A).2
  rw [padRows_recOf, ← hmaj, ← e] at this
  rwa [writeMsf_eq date _ h.inb]

theorem sniff_msf (date : Bytes) (hh : HdrOK A.basename date) : detectFormat (splitLines (writeMsf date A)) = 2 := by
  rw [h.msf_lines date hh]
  simp only [msfHeaderLines, cons_append]
  exact C04_msf_sniffed _ _ (msfMagic_fastaHint _).1 (noCluHints _ (msfMagic_asa _).1) (msfMagic_asa _).2

end RowsOK

theorem sniff_written_fasta (S : List SeqRec) (wf : AlnWF S) (bio L : Nat) (base : Bytes) :
    detectFormat (splitLines (writeFasta (finalise S bio L base))) = 1 := by
  rw [(finalise_ok wf bio L base).fasta_lines, faLines_eq_pres]
  exact C04_fasta_sniffed [] _ (by simp) (by decide) (by simpa [finalise] using wf.ne)

theorem written_fasta_presents (S : List SeqRec) (wf : AlnWF S) (bio L : Nat) (base : Bytes) :
    Presents (writeFasta (finalise S bio L base)) S := by
  have := (finalise_ok wf bio L base).written_fasta
  rwa [scan_finalise S wf] at this

theorem fasta_roundtrip (S : List SeqRec) (wf : AlnWF S) (bio L : Nat) (base : Bytes) :
    readFasta (splitLines (writeFasta (finalise S bio L base))) = some S := by
  have := (written_fasta_presents S wf bio L base).readAs
  rwa [sniff_written_fasta S wf] at this

/-- **FASTA round trip through `kalign_read_input`**: format sniffed, sequences, alphabet and alignment status -/
theorem fasta_roundtrip_input (S : List SeqRec) (wf : AlnWF S) (bio L : Nat) (base : Bytes) :
    readInput (writeFasta (finalise S bio L base)) = .ok (finishMsa S 2 255) :=
  (written_fasta_presents S wf bio L base).readInput

theorem sniff_written_clu (S : List SeqRec) (wf : AlnWF S) (bio L : Nat) (base ver : Bytes)
    (hver : ∀ b ∈ ver, isCntrl b = false) :
    detectFormat (splitLines (writeClu ver (finalise S bio L base))) = 3 := by
  rw [(finalise_ok wf bio L base).clu_lines ver hver]
  exact C04_clu_sniffed _ _ (cluTitle_sniff ver).1 (cluTitle_sniff ver).2

theorem written_clu_presents (S : List SeqRec) (wf : AlnWF S) (bio L : Nat) (base ver : Bytes)
    (hver : ∀ b ∈ ver, isCntrl b = false) : Presents (writeClu ver (finalise S bio L base)) S := by
  have := (finalise_ok wf bio L base).written_clu ver hver
  rwa [scan_finalise S wf] at this

theorem clu_roundtrip (S : List SeqRec) (wf : AlnWF S) (bio L : Nat) (base ver : Bytes)
    (hver : ∀ b ∈ ver, isCntrl b = false) :
    readClu (splitLines (writeClu ver (finalise S bio L base))) = S := by
  have := (written_clu_presents S wf bio L base ver hver).readAs
  rw [sniff_written_clu S wf bio L base ver hver] at this
  exact Option.some.inj this

theorem clu_roundtrip_input (S : List SeqRec) (wf : AlnWF S) (bio L : Nat) (base ver : Bytes)
    (hver : ∀ b ∈ ver, isCntrl b = false) :
    readInput (writeClu ver (finalise S bio L base)) = .ok (finishMsa S 2 255) :=
  (written_clu_presents S wf bio L base ver hver).readInput

/-- requirements on the parameters that are not part of the alignment: the version string of the Clustal title line,
the base name of the output file and the `strftime` text of the MSF header.  Decidable; satisfied by every version
string without control characters, every base name over `[A-Za-z0-9_.|-]`, and every date without control characters,
`/`, `n:`, a leading `:` or "letter, blank, letter" (`write_msa_msf` uses `"%B %d, %Y %H:%M"`, e.g. `September 27, 2026 12:00`). -/
structure FileOK (ver base date : Bytes) : Prop where
  ver : ∀ b ∈ ver, isCntrl b = false
  hdr : HdrOK base date
  dateAsa : asaFrom 0 date = false

instance (ver base date : Bytes) : Decidable (FileOK ver base date) :=
  if h : (∀ b ∈ ver, isCntrl b = false) ∧ HdrOK base date ∧ asaFrom 0 date = false
  then isTrue ⟨h.1, h.2.1, h.2.2⟩ else isFalse fun w => h ⟨w.ver, w.hdr, w.dateAsa⟩

example : FileOK (ascii "3.4.1") (ascii "out.msf") (ascii "September 27, 2026 12:00") := by decide_ascii

theorem written_msf_presents (S : List SeqRec) (wf : AlnWF S) (bio L : Nat) (base date : Bytes) (h : HdrOK base date) :
    Presents (writeMsf date (finalise S bio L base)) S := by
  have := (finalise_ok wf bio L base).written_msf date h
  rwa [scan_finalise S wf] at this

/-- a written MSF file is recognised as MSF (its first line is the `!!AA/NA_MULTIPLE_ALIGNMENT` line, which carries no Clustal hint) -/
theorem sniff_written_msf (S : List SeqRec) (wf : AlnWF S) (bio L : Nat) (base date : Bytes) (h : HdrOK base date)
    (hd : asaFrom 0 date = false) :
    detectFormat (splitLines (writeMsf date (finalise S bio L base))) = 2 :=
  (finalise_ok wf bio L base).sniff_msf date h

theorem msf_roundtrip (S : List SeqRec) (wf : AlnWF S) (bio L : Nat) (base date : Bytes) (h : HdrOK base date) :
    readMsf (splitLines (writeMsf date (finalise S bio L base))) = some S := by
  have := (written_msf_presents S wf bio L base date h).readAs
  rwa [(finalise_ok wf bio L base).sniff_msf date h] at this

theorem msf_roundtrip_input (S : List SeqRec) (wf : AlnWF S) (bio L : Nat) (base date : Bytes) (h : HdrOK base date)
    (hd : asaFrom 0 date = false) :
    readInput (writeMsf date (finalise S bio L base)) = .ok (finishMsa S 2 255) :=
  (written_msf_presents S wf bio L base date h).readInput

theorem roundtrip_any (S : List SeqRec) (wf : AlnWF S) (bio L : Nat) (ver base date : Bytes)
    (ok : FileOK ver base date) (fmt : Nat) :
    readInput (writeAs ver date fmt (finalise S bio L base)) = .ok (finishMsa S 2 255) := by
  unfold writeAs
  split
  · exact fasta_roundtrip_input S wf bio L base
  · split
    · exact msf_roundtrip_input S wf bio L base date ok.hdr ok.dateAsa
    · exact clu_roundtrip_input S wf bio L base ver ok.ver

/-- **converting between the formats through kalign loses nothing**: write in format `f1`, read, finalise what was
read (gap vectors → rows), write in format `f2`, read again: the same sequences, names and gaps as at the start -/
theorem cross_format (S : List SeqRec) (wf : AlnWF S) (bio L bio' L' : Nat) (ver base base' date date' : Bytes)
    (ok : FileOK ver base date) (ok' : FileOK ver base' date') (f1 f2 : Nat) :
    ∃ m, readInput (writeAs ver date f1 (finalise S bio L base)) = .ok m ∧
      readInput (writeAs ver date' f2 (finalise m.seqs bio' L' base')) = .ok (finishMsa S 2 255) ∧ m.seqs = S := by
  refine ⟨finishMsa S 2 255, roundtrip_any S wf bio L ver base date ok f1, ?_, finishMsa_seqs S 2 255⟩
  rw [finishMsa_seqs]
  exact roundtrip_any S wf bio' L' ver base' date' ok' f2

end Kalign.IO

import KalignModel.Props.C05PipelineSoft2Tree
/-!
# `kalignRunSoft2`: a run evaluated by the Lean kernel (non-vacuity of Props/C05PipelineSoft2.lean)

The complete progressive alignment on `SoftF32` of the three sequences of Props/C05PipelineSoft2Tree.lean on the task table `exBuild`,
under the protein default parameters `exApS` (under the nucleotide defaults: `exCoreDna`, Props/C05WholeProgramEx.lean).
-/
namespace Kalign.Pipeline
open Kalign Kalign.Kmeans Kalign.SoftF32

set_option maxRecDepth 100000 in
/-- the gap vectors of the three rows: `ACGTC / AC-TC / AG-T-` -/
theorem exCore : (coreCB (buildTasks2 true) (some exApS) exCodes.toList exCodes.toList).toOption =
    some [[0, 0, 0, 0, 0, 0], [0, 0, 1, 0, 0], [0, 0, 1, 1]] := by
  rw [coreCB_congr (buildTasks2 true) (fun _ => .ok #[(1, 2, 3), (0, 3, 4)]) (some exApS) exCodes.toList exCodes.toList
    (by rw [Array.toArray_toList]; exact exBuild)]
  decide +kernel

end Kalign.Pipeline

import KalignModel.Lemmas.IO.Fasta
import KalignModel.Lemmas.IO.Range
import KalignModel.Lemmas.IO.Numbers
import KalignModel.Lemmas.IO.Spec
/-!
# C15 — every file kalign writes is well-formed for its format

Model: `writeFasta`, `writeClu`, `writeMsf` (Model/IO/Write.lean; tied to `kalign_write_msa` by the ops `write`,
`write_read`, `gcg`).  `emit ls` is the text whose lines are `ls` (each followed by `'\n'`).

The layout theorems rest on `sortLines_layout` (Lemmas/IO/Sort.lean): sorting the line buffer by `(block, seq_id)`
interleaves the rows block by block.
-/
namespace Kalign.IO
open List

/-- squid's GCG checksum: Σ_{k < len} (k mod 57 + 1) · toupper(seq[k]) mod 10000 -/
theorem gcg_spec (seq : Bytes) (len : Nat) :
    gcgChecksum seq len =
      ((List.range (seq.take len).length).map fun k => (k % 57 + 1) * (toUpper (seq.take len)[k]!).toNat).sum % 10000 := by
  rw [gcgChecksum_eq, gcgSum_eq_sum]
  simp

theorem fasta_shape (A : Alignment) :
    writeFasta A = emit (A.rows.flatMap fun r => (62 :: r.name) :: faChunks A.alnlen r) ∧
    ∀ r ∈ A.rows,
      (faChunks A.alnlen r).flatten = r.row.take A.alnlen ∧
      (∀ c ∈ (faChunks A.alnlen r).dropLast, c.length = 60) ∧
      (∀ c ∈ faChunks A.alnlen r, 1 ≤ c.length ∧ c.length ≤ 60) := by
  refine ⟨writeFasta_eq_emit A, ?_⟩
  intro r _
  refine ⟨faChunks_flatten _ _, ?_, ?_⟩
  · unfold faChunks; split
    · simp
    · exact blocks_dropLast _
  · intro c hc
    unfold faChunks at hc
    split at hc
    · simp at hc
    · rename_i h
      exact ⟨blocks_pos _ (by simpa using h) c hc, blocks_length_le _ c hc⟩

/-- Clustal: title line, empty line, then `numBlocks alnlen` blocks; `blockText A b` lists every sequence in order -/
theorem blocks_shape_clu (ver : Bytes) (A : Alignment) (hb : A.InBounds) :
    writeClu ver A =
      emit ([ascii "Kalign (" ++ ver ++ ascii ") multiple sequence alignment", []] ++
        (List.range (numBlocks A.alnlen)).flatMap (blockText A)) := by
  rw [writeClu_eq ver A hb, majorLines_eq_blockText A hb]

theorem blocks_shape_msf (date : Bytes) (A : Alignment) (hb : A.InBounds) :
    writeMsf date A =
      emit ([msfMagic A, [], msfInfoLine date A, []] ++ A.rows.map (msfNameLine (maxNameLen A) A.alnlen) ++
        [[], ascii "//", []] ++ (List.range (numBlocks A.alnlen)).flatMap (blockText A)) := by
  rw [writeMsf_eq date A hb, majorLines_eq_blockText A hb]
  rfl

theorem block_columns (A : Alignment) (r : Row) (hr : r ∈ A.rows) (hb : A.InBounds) :
    numBlocks A.alnlen = max 1 ((A.alnlen + 59) / 60) ∧
    (∀ b, (chunkOf (r.row.take A.alnlen) b).length ≤ 60) ∧
    ((List.range (numBlocks A.alnlen)).map (chunkOf (r.row.take A.alnlen))).flatten = r.row.take A.alnlen := by
  refine ⟨rfl, fun b => chunkOf_length_le _ b, ?_⟩
  have := chunkOf_flatten (r.row.take A.alnlen)
  rwa [length_take, Nat.min_eq_left (hb r hr)] at this

theorem msf_len_of_width (date : Bytes) (A : Alignment) :
    (∃ rest, msfInfoLine date A = 32 :: A.basename ++ ascii "  MSF: " ++ decDigits A.alnlen ++ ascii "  Type: " ++ rest) ∧
    (∀ r ∈ A.rows, ∃ pre post, msfNameLine (maxNameLen A) A.alnlen r =
        pre ++ ascii "  Len:  " ++ padLeft 5 (decDigits A.alnlen) ++ ascii "  Check: " ++ post) ∧
    decValue (decDigits A.alnlen) = A.alnlen := by
  refine ⟨⟨[msfTypeChar A] ++ (ascii "  " ++ (date ++ (ascii "  Check: " ++ (decDigits (gcgMult A) ++ ascii "  ..")))), ?_⟩,
    ?_, decValue_decDigits _⟩
  · simp only [msfInfoLine, append_assoc, cons_append]
  · intro r _
    refine ⟨ascii " Name: " ++ padRight (maxNameLen A) (r.name.take (maxNameLen A)),
      padLeft 4 (decDigits (gcgChecksum r.row A.alnlen)) ++ ascii "  Weight: 1.00", ?_⟩
    simp only [msfNameLine, append_assoc]

/-- the checksums in the MSF header of any alignment whose rows have the declared width (only then is `GCGchecksum` of the
first `alnlen` bytes that of the whole row) -/
theorem msf_checksums_of_width (date : Bytes) (A : Alignment) (hlen : ∀ r ∈ A.rows, r.row.length = A.alnlen) :
    (∀ r ∈ A.rows, ∃ pre, msfNameLine (maxNameLen A) A.alnlen r =
        pre ++ ascii "  Check: " ++ padLeft 4 (decDigits (gcgSum 0 r.row % 10000)) ++ ascii "  Weight: 1.00") ∧
    (∃ pre, msfInfoLine date A =
        pre ++ ascii "  Check: " ++ decDigits ((A.rows.map fun r => gcgSum 0 r.row % 10000).sum % 10000) ++ ascii "  ..") := by
  have hchk : ∀ r ∈ A.rows, gcgChecksum r.row A.alnlen = gcgSum 0 r.row % 10000 := by
    intro r hr
    rw [gcgChecksum_eq, ← hlen r hr, take_length]
  constructor
  · intro r hr
    refine ⟨ascii " Name: " ++ padRight (maxNameLen A) (r.name.take (maxNameLen A)) ++ ascii "  Len:  " ++
      padLeft 5 (decDigits A.alnlen), ?_⟩
    rw [← hchk r hr]
    simp only [msfNameLine, append_assoc]
  · refine ⟨32 :: A.basename ++ ascii "  MSF: " ++ decDigits A.alnlen ++ ascii "  Type: " ++ [msfTypeChar A] ++ ascii "  " ++
      date, ?_⟩
    have : (A.rows.map fun r => gcgSum 0 r.row % 10000) = A.rows.map fun r => gcgChecksum r.row A.alnlen :=
      map_congr_left (fun r hr => (hchk r hr).symm)
    rw [this, ← gcgMult_eq]
    simp only [msfInfoLine, append_assoc]

/-- the MSF header declares the true alignment length: in the `MSF:` field and in the `Len:` field of every `Name:` line -/
theorem msf_len (S : List SeqRec) (wf : AlnWF S) (bio L : Nat) (base date : Bytes) :
    let A := finalise S bio L base
    (∀ r ∈ A.rows, r.row.length = A.alnlen) ∧
    (∃ rest, msfInfoLine date A = 32 :: base ++ ascii "  MSF: " ++ decDigits A.alnlen ++ ascii "  Type: " ++ rest) ∧
    (∀ r ∈ A.rows, ∃ pre post, msfNameLine (maxNameLen A) A.alnlen r =
        pre ++ ascii "  Len:  " ++ padLeft 5 (decDigits A.alnlen) ++ ascii "  Check: " ++ post) ∧
    decValue (decDigits A.alnlen) = A.alnlen := by
  intro A
  exact ⟨finalise_rows_length S wf bio L base, msf_len_of_width date A⟩

/-- the MSF header carries the true checksums: per row `GCGchecksum` of the whole row, and their sum mod 10000 -/
theorem msf_checksums (S : List SeqRec) (wf : AlnWF S) (bio L : Nat) (base date : Bytes) :
    let A := finalise S bio L base
    (∀ r ∈ A.rows, ∃ pre, msfNameLine (maxNameLen A) A.alnlen r =
        pre ++ ascii "  Check: " ++ padLeft 4 (decDigits (gcgSum 0 r.row % 10000)) ++ ascii "  Weight: 1.00") ∧
    (∃ pre, msfInfoLine date A =
        pre ++ ascii "  Check: " ++ decDigits ((A.rows.map fun r => gcgSum 0 r.row % 10000).sum % 10000) ++ ascii "  ..") := by
  intro A
  exact msf_checksums_of_width date A (finalise_rows_length S wf bio L base)

/-- molecule type: protein input gets `!!AA_MULTIPLE_ALIGNMENT` and `Type: P`, nucleotide input (whose internal alphabet
is not the reduced protein alphabet) gets `!!NA_MULTIPLE_ALIGNMENT` and `Type: N` -/
theorem msf_type (A : Alignment) :
    (A.biotype = 0 → msfMagic A = ascii "!!AA_MULTIPLE_ALIGNMENT 1.0" ∧ msfTypeChar A = 80) ∧
    (A.biotype = 1 → A.L ≠ 13 → msfMagic A = ascii "!!NA_MULTIPLE_ALIGNMENT 1.0" ∧ msfTypeChar A = 78) := by
  constructor
  · intro h; simp [msfMagic, msfTypeChar, h]
  · intro h hL; simp [msfMagic, msfTypeChar, h, hL]

/-- non-vacuity: a concrete well-formed alignment (2 rows, width 5, a gap in each row) -/
example : AlnWF [⟨ascii "s1", ascii "ACGT", [0, 0, 1, 0, 0]⟩, ⟨ascii "a|b", ascii "ACGT", [0, 0, 0, 0, 1]⟩] := by decide_ascii

end Kalign.IO

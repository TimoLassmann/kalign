import KalignModel.Lemmas.PathCols
/-!
# C01 — alignment integrity: every input sequence is reproduced exactly

Model: `alignTree` (Model/Progressive.lean; the merges of `do_align`, aln_run.c) over an arbitrary guide tree and an
arbitrary pairwise aligner.  Of the aligner only `Aligner.Valid` is assumed: every code of the column list it returns takes a
column of at least one profile, and together they consume exactly the columns of both profiles; how the path is computed is left out.
One merge preserves the group invariant `GroupOK` (Lemmas/Progressive.lean; `C01_merge_integrity`), hence every completed node and the final
alignment satisfy it (`C01_tree_integrity`); every input index has exactly one row, which degaps to the input
residues, and all rows have one length (`C01_rows`).  `C01_expandPath_valid`: the column list that
`add_gap_info_to_path_n` makes of a well-shaped Hirschberg path (`pathOK`, Lemmas/PathCols.lean) is valid in this sense.
-/
namespace Kalign
variable {α : Type}

theorem C01_merge_integrity (seqs : Nat → List α) (codes : List Nat) (A B : Group α)
    (hA : GroupOK seqs A) (hB : GroupOK seqs B) (hAne : A ≠ []) (hBne : B ≠ [])
    (hv : ValidCols (codes.map Col.ofCode) A.plen B.plen) :
    GroupOK seqs (mergeGroups codes A B) ∧ (mergeGroups codes A B).plen = codes.length := by
  have _ := hBne
  obtain ⟨hs, hca, hcb⟩ := hv
  have hla : ∀ m ∈ A, m.seq.row.length = consA (codes.map Col.ofCode) := fun m hm => by
    rw [hA.len m hm, hca]
  have hlb : ∀ m ∈ B, m.seq.row.length = consB (codes.map Col.ofCode) := fun m hm => by
    rw [hB.len m hm, hcb]
  have hmem : ∀ m ∈ mergeGroups codes A B,
      m.seq.WF ∧ m.seq.res = seqs m.idx ∧ m.seq.row.length = codes.length := by
    intro m' hm'
    rcases (mem_mergeGroups codes A B m').1 hm' with ⟨m, hm, rfl⟩ | ⟨m, hm, rfl⟩
    · refine ⟨updA_wf _ m (hA.wf m hm), hA.res m hm, ?_⟩
      rw [updA_row _ m (hA.wf m hm) (hla m hm), length_weaveA _ _ hs (hla m hm), List.length_map]
    · refine ⟨updB_wf _ m (hB.wf m hm), hB.res m hm, ?_⟩
      rw [updB_row _ m (hB.wf m hm) (hlb m hm), length_weaveB _ _ hs (hlb m hm), List.length_map]
  have hp := plen_of_forall _ _ (mergeGroups_ne_nil codes A B hAne) fun m hm => (hmem m hm).2.2
  refine ⟨⟨fun m hm => (hmem m hm).1, fun m hm => (hmem m hm).2.1, fun m hm => hp ▸ (hmem m hm).2.2, ?_⟩, hp⟩
  rw [hp]
  intro k hk
  rw [mergeGroups_rows codes A B hA.wf hB.wf hla hlb, colAllGap_append]
  have hk' : k < (codes.map Col.ofCode).length := by simpa using hk
  rw [colAllGap_weaveA _ hs _ k hk', colAllGap_weaveB _ hs _ k hk', List.map_reverse,
    List.map_reverse, colAllGap_reverse, colAllGap_reverse]
  -- a column that consumes a column of one side takes over a residue of that side
  have hget := List.getElem?_eq_getElem hk'
  generalize (codes.map Col.ofCode)[k] = c at hget
  cases c with
  | both | gapB =>
    have := hA.nogapcol _ (hca ▸ consA_take_lt _ k _ hget (by simp))
    simp [hget, this]
  | gapA =>
    have := hB.nogapcol _ (hcb ▸ consB_take_lt _ k _ hget (Or.inr rfl))
    simp [hget, this]
  | skip => exact absurd (List.mem_of_getElem? hget) hs

theorem alignTree_ne_nil (seqs : Nat → List α) (al : Aligner α) (T : Tree) : alignTree seqs al T ≠ [] := by
  induction T with
  | leaf i => simp [alignTree]
  | node l r ihl _ => exact mergeGroups_ne_nil _ _ _ ihl

theorem groupOK_leaf (seqs : Nat → List α) (i : Nat) :
    GroupOK seqs [{ idx := i, seq := { res := seqs i, gaps := List.replicate ((seqs i).length + 1) 0 } }] := by
  refine ⟨?_, ?_, ?_, ?_⟩
  · simp [GSeq.WF]
  · simp
  · simp [Group.plen]
  · intro k hk
    simp only [Group.plen, GSeq.row, makeLinear_replicate_zero, List.length_map] at hk
    simp [colAllGap, GSeq.row, makeLinear_replicate_zero, cell_map_some _ k hk]

theorem C01_tree_integrity (seqs : Nat → List α) (al : Aligner α) (hal : al.Valid) (T : Tree) :
    GroupOK seqs (alignTree seqs al T) ∧
    ((alignTree seqs al T).map (·.idx)).Perm T.leaves := by
  induction T with
  | leaf i =>
    exact ⟨groupOK_leaf seqs i, by simp [alignTree, Tree.leaves]⟩
  | node l r ihl ihr =>
    simp only [alignTree]
    refine ⟨(C01_merge_integrity seqs _ _ _ ihl.1 ihr.1 (alignTree_ne_nil seqs al l)
      (alignTree_ne_nil seqs al r) (hal _ _)).1, ?_⟩
    rw [mergeGroups_idx, Tree.leaves]
    exact (List.reverse_perm _).trans ihl.2 |>.append ((List.reverse_perm _).trans ihr.2)

theorem alignTree_idx_nodup (seqs : Nat → List α) (al : Aligner α) (hal : al.Valid) (T : Tree)
    (hnd : T.leaves.Nodup) : ((alignTree seqs al T).map (·.idx)).Nodup :=
  (C01_tree_integrity seqs al hal T).2.nodup_iff.2 hnd

theorem exists_mem_of_leaf (seqs : Nat → List α) (al : Aligner α) (hal : al.Valid) (T : Tree)
    (i : Nat) (hi : i ∈ T.leaves) : ∃ m ∈ alignTree seqs al T, m.idx = i := by
  have := (C01_tree_integrity seqs al hal T).2.mem_iff.2 hi
  simpa using this

/-- only gap characters (`none`) are added: that is what `degap row = seqs i` says -/
theorem C01_rows (seqs : Nat → List α) (al : Aligner α) (hal : al.Valid) (T : Tree)
    (hnd : T.leaves.Nodup) :
    ∀ i ∈ T.leaves, ∃ row, finalRow (alignTree seqs al T) i = some row ∧
      degap row = seqs i ∧ row.length = (alignTree seqs al T).plen := by
  intro i hi
  obtain ⟨m, hm, rfl⟩ := exists_mem_of_leaf seqs al hal T i hi
  have ok := (C01_tree_integrity seqs al hal T).1
  refine ⟨m.seq.row, finalRow_of_mem _ (alignTree_idx_nodup seqs al hal T hnd) m hm, ?_, ok.len m hm⟩
  rw [GSeq.row, degap_makeLinear _ _ (ok.wf m hm), ok.res m hm]

theorem C01_no_allgap_column (seqs : Nat → List α) (al : Aligner α) (hal : al.Valid) (T : Tree) :
    NoAllGapCol ((alignTree seqs al T).map (·.seq.row)) (alignTree seqs al T).plen :=
  (C01_tree_integrity seqs al hal T).1.nogapcol

theorem C01_expandPath_valid (lenB : Nat) (path : List Int) (hb : 1 ≤ lenB) (hne : path ≠ [])
    (h : pathOK lenB path = true) :
    ∃ codes, expandPath lenB path = some codes ∧
      ValidCols (codes.map Col.ofCode) path.length lenB := by
  obtain ⟨P, rfl, hadj, hB⟩ := cols_of_pathOK lenB path 0 false h
  have hV : ValidCols P (pathFrom 0 P).length lenB := ⟨adjOK_noskip _ _ hadj, (length_pathFrom 0 P).symm, by omega⟩
  obtain ⟨codes, hc, rfl⟩ := expandPath_valid hV hadj (List.length_pos_iff.2 hne) hb
  exact ⟨codes, hc, hV⟩

/-- non-vacuity: a concrete path with leading, internal and trailing gaps on both sides -/
example : pathOK 7 [2, 3, -1, -1, 4, 6, 7, -1] = true := by decide
example : expandPath 7 [2, 3, -1, -1, 4, 6, 7, -1] = some [33, 0, 0, 2, 2, 0, 1, 0, 0, 34] := by decide

end Kalign

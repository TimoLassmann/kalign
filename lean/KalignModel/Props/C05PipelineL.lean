import KalignModel.Props.C05PipelineC
/-!
# C05 (pipeline, generic carrier) with the monitor hypothesis restricted to the pairs of operands of the guide tree

`kalignRunWithC_casesL` = `kalignRunWithC_cases'` (Props/C05PipelineC.lean) in which the hypothesis of the third conjunct is
`MonHypL ap codes T.leaves` for the guide tree `T` that `buildTasks` returned: the monitor is only asked for pairs `A`, `B` of
`ReachL` nodes whose leaf lists `la ++ lb` form a sublist of `T.leaves`, so that `A.nsip + B.nsip ≤ n` (`ReachL.nsip`) and
`A.len + B.len ≤` the total length of those leaf sequences (`ReachL.len_le`).
-/
namespace Kalign.Pipeline
open Kalign Kalign.Kmeans Kalign.Sched

variable {α : Type} [Score α]

theorem kalignRunWithC_casesL (pm : Bio → Option (AlnParam α)) (inp : List InSeq) :
    kalignRunWithC detectF true pm inp ≠ .error .fuel ∧
    (PipelineUpgmaHyp inp → kalignRunWithC detectF true pm inp ≠ .error .tree) ∧
    ((∀ c ap T, canon inp = some c → pm (bioOf detectF inp) = some ap →
        buildTasks true (treeCodes (bioOf detectF inp) c) =
          .ok (Kmeans.sortTasks (treeTasks T (treeCodes (bioOf detectF inp) c).size)).toArray →
        (∀ x, x ∈ T.leaves ↔ x < (treeCodes (bioOf detectF inp) c).size) →
        MonHypL ap (alnCodes (bioOf detectF inp) c) T.leaves) →
      kalignRunWithC detectF true pm inp ≠ .error .fault ∧ kalignRunWithC detectF true pm inp ≠ .error .monitor) := by
  rw [kalignRunWithC_eq_CB]
  exact kalignRunWithCB_buildTasks_cases detectF true pm inp _ fun hM => hM

end Kalign.Pipeline

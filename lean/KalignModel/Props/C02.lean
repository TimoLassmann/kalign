import KalignModel.Lemmas.SchedKalign
import KalignModel.Props.C02Pragmas
/-!
# C02 — same alignment for every thread count and schedule

"For a given input and parameter set the alignment is byte-identical whatever number of threads is
requested, however the OpenMP runtime schedules the tasks, however often the run is repeated, and also
when the library is built without OpenMP. No merge of two groups starts before both groups are complete,
and the forward and backward halves of a dynamic-programming step are both finished before they are
combined."

Proved here (level **S**: about the fork-join model of the pragma structure): each of the four parallel regions is
footprint-safe (the recursion of `bisecting_kmeans` apart from its stores of one constant to `BROADCAST_MASK`, below), hence every
schedule computes what the serial elision computes (`tree_threads_irrelevant`, …), and the two ordering claims
(`merge_after_children`, `meetup_after_halves`).  The pragma structure is re-checked against the C text on every run
(`skeleton_matches`, `thread_use_sites`, `writable_globals`, Props/C02Pragmas.lean) and the `Prog` shapes are computed from
the pragma list (`*_shape`, `*_is_skeleton_image`).

What is trusted / checked elsewhere: that the OpenMP runtime implements task/taskwait/barrier, that
data-race-free atoms may be regarded as atomic, and that the declared footprints are the real ones
(trace validation + TSan build, DESIGN §3 C02).  The number of threads does not occur in the model at
all: a team of `n` threads can only realise some of the linearisations quantified over here.
-/
namespace Kalign.C02
open Kalign Kalign.Sched

/-- concurrent merges lie in disjoint subtrees ⇒ disjoint leaf sets and node ids ⇒ disjoint footprints -/
theorem tree_prog_safe : ∀ T : LTree, T.ids.Nodup → Safe mergeFp (treeProg T) := by
  intro T hnd
  induction T with
  | leaf i => trivial
  | node c l r ihl ihr =>
    obtain ⟨hl, hr, hdis, -⟩ := nodup_node hnd
    exact ⟨⟨ihl hl, ihr hr, fun m1 hm1 m2 hm2 => disjoint_of_names mergeFp KLoc.idx MergeAtom.names owns_idx
      touches_merge (atoms_treeProg_names l m1 hm1) (atoms_treeProg_names r m2 hm2) hdis⟩, trivial⟩

/-- the labelling kalign computes (`label_internal(root, numseq)`) has pairwise distinct ids whenever the
leaves are distinct input indices `< numseq` -/
theorem label_distinct (T : Tree) (numseq : Nat) (hnd : T.leaves.Nodup) (hlt : ∀ i ∈ T.leaves, i < numseq) :
    (label T numseq).ids.Nodup ∧ (label T numseq).erase = T :=
  ⟨labelFrom_nodup T numseq hnd hlt, (labelFrom_spec T numseq).2.2.1⟩

theorem tree_prog_safe_of_label (T : Tree) (numseq : Nat) (hnd : T.leaves.Nodup)
    (hlt : ∀ i ∈ T.leaves, i < numseq) : Safe mergeFp (treeProg (label T numseq)) :=
  tree_prog_safe _ (label_distinct T numseq hnd hlt).1

/-- every schedule of the merge tasks (any thread count, any runtime decisions) computes the state that
the serial post-order execution — the build without OpenMP — computes.  `act` is *any* action that
respects the declared footprints. -/
theorem tree_threads_irrelevant {Val : Type} (act : MergeAtom → (KLoc → Val) → (KLoc → Val))
    (hwf : (Sem.mk mergeFp act).WellFormed) (T : LTree) (hnd : T.ids.Nodup)
    (sched : List MergeAtom) (hs : Lin (treeProg T) sched) (s : KLoc → Val) :
    exec act sched s = exec act T.serialMerges s := by
  rw [← atoms_treeProg]
  exact determinacy (Sem.mk mergeFp act) hwf (tree_prog_safe T hnd) hs s

/-- two runs (repetition, different thread counts) agree -/
theorem tree_runs_agree {Val : Type} (act : MergeAtom → (KLoc → Val) → (KLoc → Val))
    (hwf : (Sem.mk mergeFp act).WellFormed) (T : LTree) (hnd : T.ids.Nodup)
    (sched sched' : List MergeAtom) (hs : Lin (treeProg T) sched) (hs' : Lin (treeProg T) sched')
    (s : KLoc → Val) : exec act sched s = exec act sched' s :=
  schedules_agree (Sem.mk mergeFp act) hwf (tree_prog_safe T hnd) hs hs' s

/-- the serial post-order is itself one of the schedules (so the statement above is not about an
unreachable reference) and in every schedule each merge runs exactly once -/
theorem tree_serial_is_schedule (T : LTree) : Lin (treeProg T) T.serialMerges := by
  rw [← atoms_treeProg]; exact Lin.serial _

theorem tree_each_merge_once (T : LTree) (hnd : T.ids.Nodup) (sched : List MergeAtom)
    (hs : Lin (treeProg T) sched) : sched.Perm T.serialMerges ∧ sched.Nodup := by
  have hp : sched.Perm T.serialMerges := by rw [← atoms_treeProg]; exact hs.perm
  exact ⟨hp, hp.nodup_iff.2 (serialMerges_nodup T hnd)⟩

/-- **no merge of two groups starts before both groups are complete**: in every schedule, every merge
inside the subtrees `l` and `r` occurs before `merge(c)` -/
theorem merge_after_subtrees (T : LTree) {c : Nat} {l r : LTree} (hsub : LTree.Sub (.node c l r) T)
    (sched : List MergeAtom) (hs : Lin (treeProg T) sched) (m : MergeAtom)
    (hm : m ∈ l.serialMerges ∨ m ∈ r.serialMerges) : Before sched m (LTree.mergeAtom c l r) := by
  have hsp : Prog.Sub (.seq (.par (treeProg l) (treeProg r)) (.atom (LTree.mergeAtom c l r))) (treeProg T) :=
    treeProg_sub hsub
  refine order hsp hs ?_ (by simp [Prog.atoms])
  simp only [Prog.atoms, List.mem_append, atoms_treeProg]
  exact hm

theorem merge_after_children (T : LTree) {c : Nat} {l r : LTree} (hsub : LTree.Sub (.node c l r) T)
    (sched : List MergeAtom) (hs : Lin (treeProg T) sched) :
    (∀ a la ra, l = .node a la ra → Before sched (LTree.mergeAtom a la ra) (LTree.mergeAtom c l r)) ∧
    (∀ b lb rb, r = .node b lb rb → Before sched (LTree.mergeAtom b lb rb) (LTree.mergeAtom c l r)) := by
  constructor
  · intro a la ra e
    apply merge_after_subtrees T hsub sched hs
    left; subst e; simp [LTree.serialMerges]
  · intro b lb rb e
    apply merge_after_subtrees T hsub sched hs
    right; subst e; simp [LTree.serialMerges]

theorem merge_after_children_pos (T : LTree) (hnd : T.ids.Nodup) {c : Nat} {l r : LTree}
    (hsub : LTree.Sub (.node c l r) T) (sched : List MergeAtom) (hs : Lin (treeProg T) sched)
    (m : MergeAtom) (hm : m ∈ l.serialMerges ∨ m ∈ r.serialMerges) :
    sched.idxOf m < sched.idxOf (LTree.mergeAtom c l r) :=
  before_idxOf (tree_each_merge_once T hnd sched hs).2 (merge_after_subtrees T hsub sched hs m hm)

theorem hirsch_prog_safe : Safe hirschFp hirschProg := ⟨safe_par_atoms _ fwd_bwd_disjoint, trivial⟩

/-- forward and backward are both finished before they are combined -/
theorem meetup_after_halves (sched : List HAtom) (hs : Lin hirschProg sched) :
    Before sched .fwd .meetup ∧ Before sched .bwd .meetup :=
  ⟨order (.refl _) hs (by simp [Prog.atoms]) (by simp [Prog.atoms]),
   order (.refl _) hs (by simp [Prog.atoms]) (by simp [Prog.atoms])⟩

theorem hirsch_schedules (sched : List HAtom) (hs : Lin hirschProg sched) :
    sched = [.fwd, .bwd, .meetup] ∨ sched = [.bwd, .fwd, .meetup] := by
  cases hs with
  | seq h1 h2 =>
    cases h2
    cases h1 with
    | par ha hb hsh =>
      cases ha; cases hb
      cases hsh with
      | left h => cases h with
        | right h' => cases h'; exact Or.inl rfl
      | right h => cases h with
        | left h' => cases h'; exact Or.inr rfl

theorem hirsch_threads_irrelevant {Val : Type} (act : HAtom → (HLoc → Val) → (HLoc → Val))
    (hwf : (Sem.mk hirschFp act).WellFormed) (sched : List HAtom) (hs : Lin hirschProg sched)
    (s : HLoc → Val) : exec act sched s = act .meetup (act .bwd (act .fwd s)) :=
  determinacy (Sem.mk hirschFp act) hwf hirsch_prog_safe hs s

/-- the whole recursion of `aln_runner`: a `par` only inside each step, the sub-rectangles sequential -/
theorem hirsch_rec_safe (t : HTree) : Safe (fun a : List Bool × HAtom => hirschFp a.2) (hirschRecProg t []) :=
  hirschRec_safe t []

theorem kmeans_round_safe : Safe kmFp kmeansRoundProg := kmeansRound_safe

theorem kmeans_round_threads_irrelevant {Val : Type} (act : KmAtom → (KmLoc → Val) → (KmLoc → Val))
    (hwf : (Sem.mk kmFp act).WellFormed) (sched : List KmAtom) (hs : Lin kmeansRoundProg sched)
    (s : KmLoc → Val) :
    exec act sched s = act .reduce (act (.split 3) (act (.split 2) (act (.split 1) (act (.split 0) s)))) :=
  determinacy (Sem.mk kmFp act) hwf kmeans_round_safe hs s

/-- the reduction over `res[0..3]` is a single sequential atom after the `taskwait` -/
theorem reduce_after_splits (sched : List KmAtom) (hs : Lin kmeansRoundProg sched) (k : Nat) (hk : k < 4) :
    Before sched (.split k) .reduce := by
  refine order (.refl _) hs ?_ (by simp [Prog.atoms])
  have : k = 0 ∨ k = 1 ∨ k = 2 ∨ k = 3 := by omega
  rcases this with e | e | e | e <;> subst e <;> simp [parAll, Prog.atoms]

theorem dist_prog_safe (n m : Nat) : Safe dFp (distProg n m) := (dEstimation_safe n m).2

theorem dist_threads_irrelevant {Val : Type} (act : DAtom → (DLoc → Val) → (DLoc → Val))
    (hwf : (Sem.mk dFp act).WellFormed) (n m : Nat) (sched : List DAtom)
    (hs : Lin (dEstimationProg n m) sched) (s : DLoc → Val) :
    exec act sched s = exec act (dEstimationProg n m).atoms s :=
  determinacy (Sem.mk dFp act) hwf (dEstimation_safe n m) hs s

theorem mask_set_before_cells (n m : Nat) (sched : List DAtom) (hs : Lin (dEstimationProg n m) sched)
    (a : DAtom) (ha : a ∈ (distProg n m).atoms) : Before sched .setMask a :=
  order (.refl _) hs (by simp [Prog.atoms]) ha

/-! ## the recursion of `bisecting_kmeans` and the write/write race on `BROADCAST_MASK`

`bisecting_kmeans` calls `d_estimation(…, 1)` in every small call, and `d_estimation` starts with
`set_broadcast_mask()`.  Two small sibling calls are concurrent tasks, so the file-scope array
`BROADCAST_MASK` is written concurrently: the footprint discipline of `determinacy` is **violated**
(`kmeans_rec_not_footprint_safe`).  The result is nevertheless schedule-independent because every writer
stores the same constants and nothing that is computed depends on the previous content
(`kmeans_rec_threads_irrelevant`, via `indep_withStore`).  In C11 terms this remains a data race
(undefined behaviour); in practice the stores are idempotent and, in the current tree, the only reader
(`bpm_256`) is not called at all (`BPM` is `bpm_block`, bpm.h:41).  Note for the supporting TSan build:
the stores are 32-byte AVX stores, which ThreadSanitizer does not instrument — it cannot see this race. -/

theorem kmeans_rec_safe_without_mask (T : KTree) (hnd : T.ids.Nodup) : Safe krFp0 (kmeansRecProg T) := by
  induction T with
  | small i => trivial
  | big i l r ihl ihr =>
    obtain ⟨hl, hr, hdis, -⟩ := nodup_node hnd
    exact ⟨trivial, ⟨ihl hl, ihr hr, fun a ha b hb => disjoint_of_names krFp0 KRLoc.idx KRAtom.names kr_wr_idx
      kr_touches_idx (atoms_kmeansRec_names l a ha) (atoms_kmeansRec_names r b hb) hdis⟩, trivial⟩

theorem kmeans_rec_not_footprint_safe : ¬ Safe krFp (kmeansRecProg (.big 2 (.small 0) (.small 1))) := by
  intro h
  have h' := h.2.1.2.2 (.upgma 0) (by simp [kmeansRecProg, Prog.atoms]) (.upgma 1) (by simp [kmeansRecProg, Prog.atoms])
  exact (h' .mask).1 (by simp [krFp, krWr]) (Or.inr (by simp [krFp, krWr]))

/-- every schedule of the recursion computes what the serial elision computes, for every action `act0`
that respects the mask-free footprints, extended by "small calls store the constant `K` to the mask" -/
theorem kmeans_rec_threads_irrelevant {Val : Type} (act0 : KRAtom → (KRLoc → Val) → (KRLoc → Val))
    (hwf : (Sem.mk krFp0 act0).WellFormed) (K : Val) (T : KTree) (hnd : T.ids.Nodup)
    (sched : List KRAtom) (hs : Lin (kmeansRecProg T) sched) (s : KRLoc → Val) :
    exec (withStore act0 KRAtom.setsMask .mask K) sched s =
      exec (withStore act0 KRAtom.setsMask .mask K) (kmeansRecProg T).atoms s :=
  determinacyI _ (safeI_withStore (Sem.mk krFp0 act0) hwf KRAtom.setsMask .mask K kr_no_mask
    (kmeans_rec_safe_without_mask T hnd)) hs s

/-- the action above really writes the mask in every small call (so the conflict is not modelled away) -/
example {Val : Type} (act0 : KRAtom → (KRLoc → Val) → (KRLoc → Val)) (K : Val) (i : Nat) (s : KRLoc → Val) :
    withStore act0 KRAtom.setsMask .mask K (.upgma i) s .mask = K := by
  simp [withStore, KRAtom.setsMask, upd]

open Kalign.Gen in
/-- the pragma structure the proofs above are about.  `Gen.ompSkeleton` is regenerated from
/repo/lib/src on every run; deleting a `taskwait`, changing a `shared`/`firstprivate`/`if` clause,
adding a `reduction`, a new task or a new parallel region makes `skeleton_matches` fail. -/
def expectedSkeleton : List (String × List Dir) := [
  ("create_msa_tree", [.par, .singleNowait]),
  ("recursive_aln", [.task "recursive_aln" "" "msa,t,ap,active" "a", .task "recursive_aln" "" "msa,t,ap,active" "b", .taskwait]),
  ("aln_runner", [.par, .singleNowait,
    .task "aln_seqseq_foward" "m->run_parallel" "m" "", .task "aln_seqseq_backward" "m->run_parallel" "m" "", .taskwait,
    .task "aln_profileprofile_foward" "m->run_parallel" "m" "", .task "aln_profileprofile_backward" "m->run_parallel" "m" "", .taskwait,
    .task "aln_seqprofile_foward" "m->run_parallel" "m" "", .task "aln_seqprofile_backward" "m->run_parallel" "m" "", .taskwait]),
  ("build_tree_kmeans", [.par, .singleNowait]),
  ("bisecting_kmeans", [
    .task "split2" "" "dm,samples,num_anchors,num_samples,i,step,res" "",
    .task "split2" "" "dm,samples,num_anchors,num_samples,i,step,res" "",
    .task "split2" "" "dm,samples,num_anchors,num_samples,i,step,res" "",
    .task "split2" "" "dm,samples,num_anchors,num_samples,i,step,res" "", .taskwait,
    .task "bisecting_kmeans" "" "msa,n,dm" "", .task "bisecting_kmeans" "" "msa,n,dm,num_anchors" "", .taskwait]),
  ("d_estimation", [.pfor "shared(dm, s) private(i, j) collapse(2) schedule(static)"])
]

def expectedThreadUses : List String := [
  "aln_controller.c:aln_runner:run_parallel",
  "aln_mem.c:alloc_aln_mem:run_parallel",
  "aln_param.c:aln_param_init:n_threads+nthreads",
  "aln_run.c:create_msa_tree:nthreads+run_parallel",
  "aln_run.c:recursive_aln:run_parallel",
  "aln_wrap.c:kalign:n_threads",
  "aln_wrap.c:kalign_run:n_threads+omp_set_num_threads"]

theorem skeleton_matches : Gen.ompSkeleton = expectedSkeleton := rfl

/-- the thread count is mentioned only to (i) set the team size, (ii) derive `run_parallel`, which only
feeds `if()` clauses of tasks (deferred vs. undeferred execution — both are linearisations).  No
`omp_get_thread_num`, no per-thread buffers, no thread-count-dependent chunking of data. -/
theorem thread_use_sites : Gen.threadUses = expectedThreadUses := rfl

/-- the only writable file-scope object of the library -/
theorem writable_globals : Gen.writableGlobals = ["bpm.c:BROADCAST_MASK"] := rfl

theorem recursive_aln_shape :
    progOfSkeleton Gen.ompSkeleton "recursive_aln" =
      .seq (.par (.atom (.task "recursive_aln" 0)) (.atom (.task "recursive_aln" 1))) (.atom (.after 0)) := by
  decide +kernel

/-- what fills the holes of `recursive_aln(c)`: the recursive calls on the children (no task and no
call when the child is a leaf: `skip`) and `do_align(c)` after the `taskwait` -/
def treeSubst (c : Nat) (l r : LTree) : Slot → Prog MergeAtom
  | .task _ 0 => treeProg l
  | .task _ 1 => treeProg r
  | .after 0 => .atom (LTree.mergeAtom c l r)
  | _ => .skip

theorem treeProg_is_skeleton_image (c : Nat) (l r : LTree) :
    treeProg (.node c l r) = (progOfSkeleton Gen.ompSkeleton "recursive_aln").bind (treeSubst c l r) := by
  rw [recursive_aln_shape]; rfl

/-- `create_msa_tree` and `build_tree_kmeans` only open the region (`parallel` + `single nowait`): one
thread runs the root call, the others serve tasks -/
theorem region_openers :
    progOfSkeleton Gen.ompSkeleton "create_msa_tree" = .skip ∧
    progOfSkeleton Gen.ompSkeleton "build_tree_kmeans" = .skip := by decide +kernel

def hirschSubst : Slot → Prog HAtom
  | .task callee _ =>
    if callee = "aln_seqseq_foward" ∨ callee = "aln_profileprofile_foward" ∨ callee = "aln_seqprofile_foward" then .atom .fwd
    else if callee = "aln_seqseq_backward" ∨ callee = "aln_profileprofile_backward" ∨ callee = "aln_seqprofile_backward" then .atom .bwd
    else .skip
  | .after _ => .atom .meetup
  | .loop _ => .skip

/-- `aln_runner` has three `taskwait`-terminated segments (the seq-seq, profile-profile and seq-profile
branches of one `if / else if / else`; a call executes exactly one of them) and each of them is
`hirschProg` -/
theorem hirschProg_is_skeleton_image :
    (segsOfSkeleton Gen.ompSkeleton "aln_runner").map (·.bind hirschSubst) = [hirschProg, hirschProg, hirschProg] := by
  decide +kernel

def kmSubst : Slot → Prog KmAtom
  | .task callee n => if callee = "split2" then .atom (.split n) else .skip
  | .after 0 => .atom .reduce
  | _ => .skip

/-- first segment of `bisecting_kmeans` = one k-means round; second segment = the two recursive calls,
joined before `*ret_n = n` -/
theorem kmeansRoundProg_is_skeleton_image :
    (segsOfSkeleton Gen.ompSkeleton "bisecting_kmeans").map (·.bind kmSubst) =
      [kmeansRoundProg, .seq (.par .skip .skip) .skip] := by
  decide +kernel

theorem bisecting_kmeans_recursion_shape :
    (segsOfSkeleton Gen.ompSkeleton "bisecting_kmeans")[1]? =
      some (.seq (.par (.atom (.task "bisecting_kmeans" 4)) (.atom (.task "bisecting_kmeans" 5))) (.atom (.after 1))) := by
  decide +kernel

def kmRecSubst (i : Nat) (l r : KTree) : Slot → Prog KRAtom
  | .task _ 4 => kmeansRecProg l
  | .task _ 5 => kmeansRecProg r
  | .after 1 => .atom (.join i l.id r.id)
  | _ => .skip

/-- a big call = its (sequential succession of) k-means rounds, collapsed into `rounds`, followed by the
image of the second segment of the skeleton -/
theorem kmeansRecProg_is_skeleton_image (i : Nat) (l r : KTree) :
    (segsOfSkeleton Gen.ompSkeleton "bisecting_kmeans")[1]?.map (fun seg =>
        Prog.seq (.atom (KRAtom.rounds i l.id r.id)) (seg.bind (kmRecSubst i l r)))
      = some (kmeansRecProg (.big i l r)) := by
  rw [bisecting_kmeans_recursion_shape]; rfl

/-- `d_estimation` is a single work-sharing loop, without `reduction`, `nowait` or `ordered` -/
theorem d_estimation_shape :
    progOfSkeleton Gen.ompSkeleton "d_estimation" = .atom (.loop 0) ∧
    Gen.ompSkeleton.lookup "d_estimation" = some [.pfor "shared(dm, s) private(i, j) collapse(2) schedule(static)"] := by
  decide +kernel

theorem distProg_is_skeleton_image (n m : Nat) :
    (progOfSkeleton Gen.ompSkeleton "d_estimation").bind (fun _ => distProg n m) = distProg n m := by
  rw [d_estimation_shape.1]; rfl

/-- parallel constructs occur in these six functions only, all of them below `kalign_run` -/
theorem parallel_functions :
    Gen.ompSkeleton.map (·.1) =
      ["create_msa_tree", "recursive_aln", "aln_runner", "build_tree_kmeans", "bisecting_kmeans", "d_estimation"] := rfl

section Examples

def T3 : LTree := label (.node (.node (.leaf 0) (.leaf 1)) (.leaf 2)) 3
def T5 : LTree := label (.node (.node (.leaf 0) (.leaf 1)) (.node (.node (.leaf 2) (.leaf 3)) (.leaf 4))) 5

example : T3 = .node 4 (.node 3 (.leaf 0) (.leaf 1)) (.leaf 2) := by decide +kernel
example : T5 = .node 8 (.node 5 (.leaf 0) (.leaf 1)) (.node 7 (.node 6 (.leaf 2) (.leaf 3)) (.leaf 4)) := by decide +kernel
example : T3.ids.Nodup := by decide +kernel
example : T5.ids.Nodup := by decide +kernel

def m3 : MergeAtom := ⟨3, 0, 1, [0, 1]⟩
def m4 : MergeAtom := ⟨4, 3, 2, [0, 1, 2]⟩
def m5 : MergeAtom := ⟨5, 0, 1, [0, 1]⟩
def m6 : MergeAtom := ⟨6, 2, 3, [2, 3]⟩
def m7 : MergeAtom := ⟨7, 6, 4, [2, 3, 4]⟩
def m8 : MergeAtom := ⟨8, 5, 7, [0, 1, 2, 3, 4]⟩

example : T3.serialMerges = [m3, m4] := by decide +kernel
example : T5.serialMerges = [m5, m6, m7, m8] := by decide +kernel

/-- a caterpillar has a single schedule -/
example (sched : List MergeAtom) (hs : Lin (treeProg T3) sched) : sched = [m3, m4] := by
  have hp := (tree_each_merge_once T3 (by decide) sched hs)
  have hb : Before sched m3 m4 :=
    merge_after_subtrees T3 (c := 4) (l := .node 3 (.leaf 0) (.leaf 1)) (r := .leaf 2) (.refl _) sched hs m3
      (Or.inl (by decide))
  have hlen : sched.length = 2 := hp.1.length_eq
  match sched, hlen, hb with
  | [x, y], _, hb =>
    have h1 : Before [x, y] m3 m4 := hb
    unfold Before at h1
    have := List.Sublist.eq_of_length h1 rfl
    exact this.symm

/-- three different schedules of the 5-leaf tree (2 threads can realise all of them) -/
theorem T5_sched_a : Lin (treeProg T5) [m5, m6, m7, m8] := tree_serial_is_schedule T5
theorem T5_sched_b : Lin (treeProg T5) [m6, m5, m7, m8] :=
  Lin.seq (l1 := [m6, m5, m7]) (l2 := [m8])
    (Lin.par (l1 := [m5]) (l2 := [m6, m7]) (tree_serial_is_schedule (.node 5 (.leaf 0) (.leaf 1)))
      (tree_serial_is_schedule (.node 7 (.node 6 (.leaf 2) (.leaf 3)) (.leaf 4))) (.right (.left (.right .nil)))) .atom
theorem T5_sched_c : Lin (treeProg T5) [m6, m7, m5, m8] :=
  Lin.seq (l1 := [m6, m7, m5]) (l2 := [m8])
    (Lin.par (l1 := [m5]) (l2 := [m6, m7]) (tree_serial_is_schedule (.node 5 (.leaf 0) (.leaf 1)))
      (tree_serial_is_schedule (.node 7 (.node 6 (.leaf 2) (.leaf 3)) (.leaf 4))) (.right (.right (.left .nil)))) .atom

/-- but not one in which the root merge overtakes a child -/
example : ¬ Lin (treeProg T5) [m5, m6, m8, m7] := by
  intro h
  have hb : Before [m5, m6, m8, m7] m7 m8 :=
    merge_after_subtrees T5 (c := 8) (l := .node 5 (.leaf 0) (.leaf 1))
      (r := .node 7 (.node 6 (.leaf 2) (.leaf 3)) (.leaf 4)) (.refl _) _ h m7 (Or.inr (by decide))
  exact before_asymm (l := [m5, m6, m8, m7]) (by decide) hb (show List.Sublist [m8, m7] [m5, m6, m8, m7] by decide)

/-- an order-sensitive executable semantics respecting the merge footprints: every owned location
receives the log `c :: a :: b :: (old profile[a] ++ old profile[b])` -/
def logSem : Sem MergeAtom KLoc (List Nat) :=
  Sem.ofKernel mergeRd mergeWr fun m s _ => m.c :: m.a :: m.b :: (s (.profile m.a) ++ s (.profile m.b))

theorem logSem_wf : logSem.WellFormed := Sem.ofKernel_wf _ _ _

example : logSem.fp = mergeFp := rfl

/-- hence (by the theorem) all three schedules agree on the whole state … -/
example (s : KLoc → List Nat) :
    exec logSem.act [m6, m7, m5, m8] s = exec logSem.act [m5, m6, m7, m8] s :=
  tree_runs_agree logSem.act logSem_wf T5 (by decide) _ _ T5_sched_c T5_sched_a s

/-- … and (by evaluation) on the root profile, whose value records the data flow of all four merges -/
example : exec logSem.act [m5, m6, m7, m8] (fun _ => []) (.profile 8) = [8, 5, 7, 5, 0, 1, 7, 6, 4, 6, 2, 3] := by decide +kernel
example : exec logSem.act [m6, m5, m7, m8] (fun _ => []) (.profile 8) = [8, 5, 7, 5, 0, 1, 7, 6, 4, 6, 2, 3] := by decide +kernel
example : exec logSem.act [m6, m7, m5, m8] (fun _ => []) (.profile 8) = [8, 5, 7, 5, 0, 1, 7, 6, 4, 6, 2, 3] := by decide +kernel
/-- the non-schedule gives something else: the ordering is what makes the result right -/
example : exec logSem.act [m5, m6, m8, m7] (fun _ => []) (.profile 8) = [8, 5, 7, 5, 0, 1] := by decide +kernel

/-- the distinct-ids hypothesis is not redundant: with a repeated internal id two merges that are
concurrent write the same `profile[]` slot and the two schedules differ -/
def Tbad : LTree := .node 9 (.node 5 (.leaf 0) (.leaf 1)) (.node 5 (.leaf 2) (.leaf 3))
def mb1 : MergeAtom := ⟨5, 0, 1, [0, 1]⟩
def mb2 : MergeAtom := ⟨5, 2, 3, [2, 3]⟩
def mb9 : MergeAtom := ⟨9, 5, 5, [0, 1, 2, 3]⟩
example : Tbad.serialMerges = [mb1, mb2, mb9] := by decide +kernel
example : ¬ Tbad.ids.Nodup := by decide +kernel
example : exec logSem.act [mb1, mb2, mb9] (fun _ => []) (.profile 9) ≠
          exec logSem.act [mb2, mb1, mb9] (fun _ => []) (.profile 9) := by decide +kernel

def hLog : Sem HAtom HLoc (List Nat) :=
  Sem.ofKernel hirschRd hirschWr fun a s _ =>
    match a with
    | .fwd => 1 :: s .f
    | .bwd => 2 :: s .b
    | .meetup => 3 :: (s .f ++ s .b)
example : hLog.fp = hirschFp := rfl
example : Lin hirschProg [.bwd, .fwd, .meetup] :=
  Lin.seq (l1 := [HAtom.bwd, HAtom.fwd]) (l2 := [HAtom.meetup])
    (Lin.par (l1 := [HAtom.fwd]) (l2 := [HAtom.bwd]) .atom .atom (.right (.left .nil))) .atom
example : exec hLog.act [.bwd, .fwd, .meetup] (fun _ => [0]) .meet = [3, 1, 0, 2, 0] := by decide +kernel
example : exec hLog.act [.fwd, .bwd, .meetup] (fun _ => [0]) .meet = [3, 1, 0, 2, 0] := by decide +kernel

example : (distProg 2 2).atoms = [.cell 0 0, .cell 0 1, .cell 1 0, .cell 1 1] := by decide +kernel
example : Lin (distProg 2 2) [.cell 1 1, .cell 0 1, .cell 1 0, .cell 0 0] :=
  Lin.par (l1 := [.cell 0 1, .cell 0 0]) (l2 := [.cell 1 1, .cell 1 0])
    (Lin.par .atom .atom (.right (.left .nil))) (Lin.par .atom .atom (.right (.left .nil)))
    (.right (.left (.right (.left .nil))))

/-- the well-formedness hypotheses of the k-means / distance / recursion theorems are satisfiable for every
kernel: `Sem.ofKernel` produces a well-formed semantics with exactly the declared footprints -/
example (g : KmAtom → (KmLoc → Nat) → KmLoc → Nat) :
    (Sem.ofKernel kmRd kmWr g).fp = kmFp ∧ (Sem.ofKernel kmRd kmWr g).WellFormed := ⟨rfl, Sem.ofKernel_wf _ _ _⟩
example (g : DAtom → (DLoc → Nat) → DLoc → Nat) :
    (Sem.ofKernel dRd dWr g).fp = dFp ∧ (Sem.ofKernel dRd dWr g).WellFormed := ⟨rfl, Sem.ofKernel_wf _ _ _⟩
example (g : KRAtom → (KRLoc → Nat) → KRLoc → Nat) :
    (Sem.ofKernel krRd krWr0 g).fp = krFp0 ∧ (Sem.ofKernel krRd krWr0 g).WellFormed := ⟨rfl, Sem.ofKernel_wf _ _ _⟩

/-- k-means round: the reduction is order-sensitive (it keeps the *first* best), the splits are not -/
def kmLog : Sem KmAtom KmLoc (List Nat) :=
  Sem.ofKernel kmRd kmWr fun a s x =>
    match a with
    | .split k => [k]
    | .reduce => if x = .best then s (.res 0) ++ s (.res 1) ++ s (.res 2) ++ s (.res 3) else []
example : Lin kmeansRoundProg [.split 2, .split 0, .split 3, .split 1, .reduce] :=
  Lin.seq (l1 := [KmAtom.split 2, .split 0, .split 3, .split 1]) (l2 := [KmAtom.reduce])
    (Lin.par (l1 := [KmAtom.split 0]) (l2 := [KmAtom.split 2, .split 3, .split 1]) .atom
      (Lin.par (l1 := [KmAtom.split 1]) (l2 := [KmAtom.split 2, .split 3]) .atom
        (Lin.par (l1 := [KmAtom.split 2]) (l2 := [KmAtom.split 3]) .atom .atom (.left (.right .nil)))
        (.right (.right (.left .nil))))
      (.right (.left (.right (.right .nil))))) .atom
example : exec kmLog.act [.split 2, .split 0, .split 3, .split 1, .reduce] (fun _ => []) .best = [0, 1, 2, 3] := by decide +kernel
example : exec kmLog.act [.split 0, .split 1, .split 2, .split 3, .reduce] (fun _ => []) .best = [0, 1, 2, 3] := by decide +kernel

end Examples

end Kalign.C02

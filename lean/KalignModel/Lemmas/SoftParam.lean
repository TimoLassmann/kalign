import KalignModel.Lemmas.SoftKernel
import KalignModel.Lemmas.ExactParam
import KalignModel.Lemmas.ParamSel
import KalignModel.Model.PipelineSoft
/-!
# The parameters `aln_param_init` admits are bounded (software binary32)

`paramOfTableS_bnd`: every parameter set `paramOfTableS` returns satisfies `ApBnd`: the three penalties are either table values or
user values that passed `>= 0.0` and the cap `<= 1e6`, so they are finite, non-negative and at most 1e6 < 2²⁰; the substitution
scores are entries of the generated matrices (checked by `decide`) or the default `0.0`.
-/
set_option exponentiation.threshold 512
namespace Kalign.Pipeline
open Kalign Kalign.SoftF32

/-- decidable bound on a bit pattern: magnitude at most that of 2²⁰ -/
def bnd20 (n : Nat) : Bool := decide ((n % 4294967296) % 2147483648 ≤ 1233125376)

theorem absLe_of_bnd20 {n : Nat} (h : bnd20 n = true) : absLe (ofRaw n) 1048576 := by
  have hm : (ofRaw n).mag ≤ 1233125376 := by
    simpa [bnd20, mag, raw_ofRaw] using h
  refine ⟨by omega, ?_⟩
  have := magVal_mono hm
  have h20 : magVal 1233125376 = 1048576 * 2 ^ 149 := by decide
  omega

theorem absLe_of_ge_le {x : SoftF32} (h0 : SoftF32.ge x SoftF32.zero = true)
    (h1 : SoftF32.le x (SoftF32.ofNat 1000000) = true) : absLe x 1048576 := by
  have hk : (SoftF32.ofNat 1000000).key = 1232348160 := by decide
  have hz : SoftF32.zero.key = 0 := by decide
  simp only [SoftF32.ge, SoftF32.le, Bool.and_eq_true, Bool.not_eq_true', decide_eq_true_eq, hk, hz] at h0 h1
  have hm : x.mag ≤ 1232348160 := by
    have := h0.2
    have := h1.2
    have := natAbs_key x
    omega
  refine ⟨by omega, ?_⟩
  have := magVal_mono hm
  have h6 : magVal 1232348160 = 1000000 * 2 ^ 149 := by decide
  omega

def rowOK (r : Gen.ParamRow) : Bool :=
  !r.ok || (SoftF32.ge (ofRaw r.gpoBits) SoftF32.zero && SoftF32.ge (ofRaw r.gpeBits) SoftF32.zero &&
    SoftF32.ge (ofRaw r.tgpeBits) SoftF32.zero)

theorem rows_ok : Gen.paramTable.all rowOK = true := by decide

theorem mats_ok : Gen.matricesBits.all (fun m => m.all fun row => row.all bnd20) = true := by decide

theorem entry_ok (rows : List (List Nat)) (h : rows.all (fun row => row.all bnd20) = true) (i j : Nat) :
    bnd20 ((rows.getD i []).getD j 0) = true := by
  rw [List.getD_eq_getElem?_getD, List.getD_eq_getElem?_getD]
  cases hi : rows[i]? with
  | none => simp; decide
  | some row =>
    simp only [Option.getD_some]
    cases hj : row[j]? with
    | none => simp; decide
    | some x =>
      simp only [Option.getD_some]
      have hrow : row ∈ rows := List.mem_of_getElem? hi
      have hx : x ∈ row := List.mem_of_getElem? hj
      rw [List.all_eq_true] at h
      have := h row hrow
      rw [List.all_eq_true] at this
      exact this x hx

theorem alnParamInitS_eq (bt : Nat) (t : Int) (g e x : SoftF32) :
    alnParamInitS bt t g e x = selectParams (fun v => SoftF32.ge v SoftF32.zero) (fun v c => SoftF32.le v (SoftF32.ofNat c))
      (fun r => { gpo := SoftF32.ofRaw r.gpoBits, gpe := SoftF32.ofRaw r.gpeBits,
                  tgpe := SoftF32.ofRaw r.tgpeBits, mat := r.mat }) bt t g e x := by
  unfold alnParamInitS selectParams
  cases lookupRow bt t <;> rfl

theorem ge_ite_zero {v x : SoftF32} (hx : SoftF32.ge x SoftF32.zero = true) :
    SoftF32.ge (if SoftF32.ge v SoftF32.zero = true then v else x) SoftF32.zero = true := by
  split
  · assumption
  · exact hx

theorem capOK_pen {p : PSet SoftF32} (h1 : SoftF32.ge p.gpo SoftF32.zero = true) (h2 : SoftF32.ge p.gpe SoftF32.zero = true)
    (h3 : SoftF32.ge p.tgpe SoftF32.zero = true) (hcap : capOK (fun v c => SoftF32.le v (SoftF32.ofNat c)) p = true) :
    absLe p.gpo 1048576 ∧ absLe p.gpe 1048576 ∧ absLe p.tgpe 1048576 := by
  simp only [capOK, Gen.penaltyCaps, List.getD_cons_zero, List.getD_cons_succ, Bool.and_eq_true, Bool.or_eq_true,
    beq_iff_eq] at hcap
  obtain ⟨⟨c1, c2⟩, c3⟩ := hcap
  exact ⟨absLe_of_ge_le h1 (c1.resolve_left (by decide)), absLe_of_ge_le h2 (c2.resolve_left (by decide)),
    absLe_of_ge_le h3 (c3.resolve_left (by decide))⟩

theorem alnParamInitS_pen {bt : Nat} {t : Int} {gpo gpe tgpe : SoftF32} {p : PSet SoftF32}
    (h : alnParamInitS bt t gpo gpe tgpe = some p) :
    absLe p.gpo 1048576 ∧ absLe p.gpe 1048576 ∧ absLe p.tgpe 1048576 := by
  rw [alnParamInitS_eq] at h
  obtain ⟨r, hm, -, hok, hcap, rfl⟩ := selectParams_some h
  have hr := List.all_eq_true.1 rows_ok r hm
  simp only [rowOK, hok, Bool.not_true, Bool.false_or, Bool.and_eq_true] at hr
  -- every field is non-negative: table value or guarded user value (`hcap` first: it fixes the parameter set)
  refine capOK_pen ?_ ?_ ?_ hcap
  · exact ge_ite_zero hr.1.1
  · exact ge_ite_zero hr.1.2
  · exact ge_ite_zero hr.2

theorem sub_entry (rows : List (List Nat)) (h : rows.all (fun row => row.all bnd20) = true) (i j : Nat) :
    absLe (AlnParam.sub (α := SoftF32)
      { subm := (Array.range 23).map fun i => (Array.range 23).map fun j => SoftF32.ofRaw ((rows.getD i []).getD j 0),
        gpo := g1, gpe := g2, tgpe := g3 } i j) 1048576 := by
  rw [AlnParam.sub_tab]
  split
  · exact absLe_of_bnd20 (entry_ok rows h i j)
  · exact absLe_zero _

theorem paramOfTableS_bnd {bt : Nat} {t : Int} {gpo gpe tgpe : SoftF32} {ap : AlnParam SoftF32}
    (h : paramOfTableS bt t gpo gpe tgpe = some ap) : ApBnd ap := by
  unfold paramOfTableS at h
  cases hp : alnParamInitS bt t gpo gpe tgpe with
  | none => rw [hp] at h; cases h
  | some p =>
    rw [hp] at h
    simp only at h
    obtain ⟨q1, q2, q3⟩ := alnParamInitS_pen hp
    cases hm : Gen.matricesBits[p.mat]? with
    | none => rw [hm] at h; cases h
    | some rows =>
      rw [hm] at h
      simp only [Option.some.injEq] at h
      subst h
      have hrows : rows.all (fun row => row.all bnd20) = true :=
        List.all_eq_true.1 mats_ok rows (List.mem_of_getElem? hm)
      exact ⟨q1, q2, q3, fun i j => sub_entry rows hrows i j⟩

end Kalign.Pipeline

import KalignModel.Model.Bpm
/-! The Levenshtein distance `lev` (Model/Bpm.lean): its defining equations, the same recurrence read at the right end
(`lev_snoc_snoc`, the form a column DP consumes), symmetry and length bounds. -/
namespace Kalign
variable {α : Type} [DecidableEq α]

def cost (x y : α) : Nat := if x = y then 0 else 1

theorem lev_nil_left (b : List α) : lev [] b = b.length := by
  simp [lev]

theorem lev_nil_right (a : List α) : lev a [] = a.length := by
  cases a <;> simp [lev]

theorem lev_cons_cons (x : α) (a : List α) (y : α) (b : List α) :
    lev (x :: a) (y :: b) = min (min (lev a (y :: b) + 1) (lev (x :: a) b + 1)) (lev a b + cost x y) := by
  rw [lev]; rfl

theorem lev_snoc_snoc (a b : List α) (x y : α) :
    lev (a ++ [x]) (b ++ [y]) = min (min (lev a (b ++ [y]) + 1) (lev (a ++ [x]) b + 1)) (lev a b + cost x y) := by
  induction a generalizing b with
  | nil =>
    induction b with
    | nil => simp [lev_cons_cons, lev_nil_left, lev_nil_right]
    | cons y' b' ihb =>
      simp only [List.nil_append, List.cons_append] at ihb ⊢
      rw [lev_cons_cons, ihb, lev_cons_cons x [] y' b']
      simp only [lev_nil_left, List.length_cons, List.length_append, List.length_nil, ← Nat.add_min_add_right,
        Nat.add_assoc]
      ac_rfl
  | cons x' a' iha =>
    induction b with
    | nil =>
      have h1 := iha []
      simp only [List.nil_append, List.cons_append] at h1 ⊢
      rw [lev_cons_cons, h1, lev_cons_cons x' a' y []]
      simp only [lev_nil_right, List.length_cons, List.length_append, List.length_nil, ← Nat.add_min_add_right,
        Nat.add_assoc]
      ac_rfl
    | cons y' b' ihb =>
      have h1 := iha (y' :: b')
      have h3 := iha b'
      simp only [List.cons_append] at h1 h3 ihb ⊢
      rw [lev_cons_cons, h1, ihb, h3, lev_cons_cons x' a' y' (b' ++ [y]), lev_cons_cons x' (a' ++ [x]) y' b',
        lev_cons_cons x' a' y' b']
      -- both sides are the minimum of the same nine sums
      simp only [← Nat.add_min_add_right, Nat.add_assoc]
      ac_rfl

theorem cost_comm (x y : α) : cost x y = cost y x := by
  unfold cost
  by_cases h : x = y
  · simp [h]
  · have : ¬ y = x := fun e => h e.symm
    simp [h, this]

theorem lev_symm (a b : List α) : lev a b = lev b a := by
  fun_induction lev a b with
  | case1 b => cases b <;> simp [lev_nil_right]
  | case2 x a => simp [lev_nil_left]
  | case3 x a y b ih1 ih2 ih3 =>
    have h := lev_cons_cons y b x a
    rw [h, ← ih1, ← ih2, ← ih3, cost_comm y x]
    show min (min (lev a (y :: b) + 1) (lev (x :: a) b + 1)) (lev a b + cost x y) = _
    omega

theorem lev_bounds (a b : List α) :
    a.length ≤ lev a b + b.length ∧ b.length ≤ lev a b + a.length ∧ lev a b ≤ max a.length b.length := by
  fun_induction lev a b with
  | case1 b => simp
  | case2 x a => simp
  | case3 x a y b ih1 ih2 ih3 =>
    simp only [List.length_cons] at *
    split <;> omega

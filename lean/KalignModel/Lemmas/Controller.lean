import KalignModel.Model.Hirschberg
/-!
# The Hirschberg controller: `aln_runner`, `aln_runner_serial`, `aln_continue` of lib/src/aln_controller.c (Model/Hirschberg.lean)

`aln_continue` and the meetup contract are brought into one shape for all six transitions (`alnContinue_generic`,
`contract_generic`).  What a call of `aln_runner_serial` does in `ALN_MODE_FULL` is a relation, `Run K s n x y`, every call is such a run
(`runnerSerial_run`), and a statement about the controller is a rule induction over it; what the writes of one call change
(`afterStep`, `setPath`, `optSet`, `cutMem`) is said once, here.  The missing `return` after
`aln_runner_serial(m)` in `aln_runner` (aln_controller.c:31-33) is harmless on the runs on which `aln_continue` found a case
at every call (`Run.runner_eq`).
-/
namespace Kalign
variable {φ α : Type}

/-- the six transitions `aln_continue` has a case for -/
def ValidT (t : Int) : Prop := t = 1 ∨ t = 2 ∨ t = 3 ∨ t = 5 ∨ t = 6 ∨ t = 7

instance (t : Int) : Decidable (ValidT t) := by unfold ValidT; infer_instance

def Kernels.ValidTrans (K : Kernels φ α) : Prop :=
  ∀ f b sa mid ea sb eb r, K.step f b sa mid ea sb eb = some r → ValidT r.transition

/-- the rectangle test at the head of both runners -/
def Mem.Deg (m : Mem φ α) : Prop := m.starta ≥ m.enda ∨ m.startb ≥ m.endb

/-- `aln_runner` called on such a memory returns without doing anything -/
def Mem.Stops (m : Mem φ α) : Prop := m.fault = true ∨ m.Deg

/-- kind of the column in front of the cut (`fkOf`) and behind it (`bkOf`) for a transition code -/
def fkOf (t : Int) : Kind := if t = 5 then .GA else if t = 6 ∨ t = 7 then .GB else .A
def bkOf (t : Int) : Kind := if t = 2 then .GA else if t = 3 ∨ t = 6 then .GB else .A

/-- rows / columns of b consumed by a column of kind `k` (as `Int` offsets of the child rectangles) -/
def da (k : Kind) : Int := if k = .GA then 0 else 1
def db (k : Kind) : Int := if k = .GB then 0 else 1

theorem da_nonneg (k : Kind) : 0 ≤ da k := by cases k <;> decide
theorem db_nonneg (k : Kind) : 0 ≤ db k := by cases k <;> decide
theorem da_add_db (k : Kind) : 1 ≤ da k + db k := by cases k <;> decide
theorem db_le_one (k : Kind) : db k ≤ 1 := by cases k <;> decide
theorem da_cases (k : Kind) : (k = .GA ∧ da k = 0) ∨ (k ≠ .GA ∧ da k = 1) := by
  cases k <;> simp [da]
theorem db_cases (k : Kind) : (k = .GB ∧ db k = 0) ∨ (k ≠ .GB ∧ db k = 1) := by
  cases k <;> simp [db]

def optSet (m : Mem φ α) (b : Bool) (i v : Int) : Mem φ α := if b then m.setPath i v else m

theorem alnContinue_generic (K : Kernels φ α) (rec : Mem φ α → Mem φ α) (m : Mem φ α) (inF inB : States α)
    (fk bk : Kind) (sa ea sb eb mid meet t : Int) (ht : ValidT t) :
    alnContinue K rec m inF inB fk bk sa ea sb eb mid meet t =
      rec (alnBwd K
        (rec (alnFwd K (optSet (optSet m (fkOf t == .A) mid meet) (bkOf t == .A) (mid + 1) (meet + 1)) inF fk (fkOf t)
          sa (mid - da (fkOf t)) sb (meet - db (fkOf t))))
        inB bk (bkOf t) (mid + da (bkOf t)) ea (meet + db (bkOf t)) eb) := by
  rcases ht with h | h | h | h | h | h <;> subst h <;>
    simp [alnContinue, fkOf, bkOf, da, db, optSet]

theorem alnContinue_invalid (K : Kernels φ α) (rec : Mem φ α → Mem φ α) (m : Mem φ α) (inF inB : States α)
    (fk bk : Kind) (sa ea sb eb mid meet t : Int) (ht : ¬ ValidT t) :
    alnContinue K rec m inF inB fk bk sa ea sb eb mid meet t = m := by
  simp only [ValidT, not_or] at ht
  obtain ⟨h1, h2, h3, h5, h6, h7⟩ := ht
  unfold alnContinue
  dsimp only
  rw [if_neg h1, if_neg h2, if_neg h3, if_neg h5, if_neg h6, if_neg h7]

/-- memory after the kernels of one level have run (the record updates of `runnerBody`) -/
def afterStep (x : Mem φ α) (mid : Int) (r : KStep φ α) : Mem φ α :=
  { { x with enda := mid, starta2 := mid, enda2 := x.enda } with
    f := r.f, b := r.b,
    mon := x.mon && meetupContract x.fk x.bk x.starta x.enda x.startb x.endb mid r.meet r.transition,
    trace := ⟨x.starta, x.enda, x.startb, x.endb, r.meet, r.transition, r.score⟩ :: x.trace }

def Mem.mid (x : Mem φ α) : Int := (x.enda - x.starta) / 2 + x.starta

theorem Mem.not_stops {x : Mem φ α} (h : ¬ x.Stops) :
    x.fault = false ∧ x.starta < x.enda ∧ x.startb < x.endb ∧ x.starta ≤ x.mid ∧ x.mid < x.enda := by
  simp only [Mem.Stops, Mem.Deg, not_or, Bool.not_eq_true] at h
  unfold Mem.mid
  exact ⟨h.1, by omega, by omega, by omega, by omega⟩

/-- the kernel call of `runnerBody` on `x` -/
def Mem.kstep (K : Kernels φ α) (x : Mem φ α) : Option (KStep φ α) :=
  K.step x.f x.b x.starta x.mid x.enda x.startb x.endb

theorem runnerBody_eq (K : Kernels φ α) (rec : Mem φ α → Mem φ α) (x : Mem φ α) (r : KStep φ α) (hstep : x.kstep K = some r) :
    runnerBody K false rec x =
      alnContinue K rec (afterStep x x.mid r) (K.get0 x.f) (K.get0 x.b) x.fk x.bk x.starta x.enda x.startb x.endb x.mid
        r.meet r.transition := by
  simp only [Mem.kstep, Mem.mid] at hstep
  unfold runnerBody
  simp only [hstep, Bool.false_eq_true, if_false]
  rfl

/-- memory after the kernels answered `r` and `aln_continue` wrote the entries at the cut -/
def cutMem (x : Mem φ α) (r : KStep φ α) : Mem φ α :=
  optSet (optSet (afterStep x x.mid r) (fkOf r.transition == .A) x.mid r.meet) (bkOf r.transition == .A) (x.mid + 1) (r.meet + 1)

/-- argument of the first recursive call -/
def fwdCall (K : Kernels φ α) (x : Mem φ α) (r : KStep φ α) : Mem φ α :=
  alnFwd K (cutMem x r) (K.get0 x.f) x.fk (fkOf r.transition) x.starta (x.mid - da (fkOf r.transition)) x.startb
    (r.meet - db (fkOf r.transition))

/-- argument of the second recursive call, `L` the memory the first one returned -/
def bwdCall (K : Kernels φ α) (x : Mem φ α) (r : KStep φ α) (L : Mem φ α) : Mem φ α :=
  alnBwd K L (K.get0 x.b) x.bk (bkOf r.transition) (x.mid + da (bkOf r.transition)) x.enda
    (r.meet + db (bkOf r.transition)) x.endb

theorem runnerBody_node (K : Kernels φ α) (rec : Mem φ α → Mem φ α) (x : Mem φ α) (r : KStep φ α)
    (hstep : x.kstep K = some r) (ht : ValidT r.transition) :
    runnerBody K false rec x = rec (bwdCall K x r (rec (fwdCall K x r))) := by
  rw [runnerBody_eq K rec x r hstep, alnContinue_generic _ _ _ _ _ _ _ _ _ _ _ _ _ _ ht]
  rfl

theorem runnerBody_skip (K : Kernels φ α) (rec : Mem φ α → Mem φ α) (x : Mem φ α) (r : KStep φ α)
    (hstep : x.kstep K = some r) (ht : ¬ ValidT r.transition) :
    runnerBody K false rec x = afterStep x x.mid r := by
  rw [runnerBody_eq K rec x r hstep, alnContinue_invalid _ _ _ _ _ _ _ _ _ _ _ _ _ _ ht]

def kfaultMem (x : Mem φ α) : Mem φ α :=
  { { x with enda := x.mid, starta2 := x.mid, enda2 := x.enda } with fault := true }

theorem runnerBody_none (K : Kernels φ α) (so : Bool) (rec : Mem φ α → Mem φ α) (x : Mem φ α) (h : x.kstep K = none) :
    runnerBody K so rec x = kfaultMem x := by
  simp only [Mem.kstep, Mem.mid] at h
  unfold runnerBody
  simp only [h]
  rfl

/-- which runs `Run` admits: all of them, or only those on which `aln_continue` found a case at every call -/
inductive RunMode
  | all | strict

/-- `Run K s n x y`: the call of `aln_runner_serial` on `x` with fuel `n` returns `y`.  The rule `skip` (a transition outside the
six: `aln_continue` does nothing) is there only for `s = .all`, so that `Run K .strict` are the runs on which every call found a case. -/
inductive Run (K : Kernels φ α) (s : RunMode) : Nat → Mem φ α → Mem φ α → Prop
  | out (x) : Run K s 0 x { x with fault := true }
  | stop (n x) : x.Stops → Run K s (n + 1) x x
  | kfault (n x) : ¬ x.Stops → x.kstep K = none → Run K s (n + 1) x (kfaultMem x)
  | skip (n x r) : s = .all → ¬ x.Stops → x.kstep K = some r → ¬ ValidT r.transition → Run K s (n + 1) x (afterStep x x.mid r)
  | node (n x r L y) : ¬ x.Stops → x.kstep K = some r → ValidT r.transition →
      Run K s n (fwdCall K x r) L → Run K s n (bwdCall K x r L) y → Run K s (n + 1) x y

theorem runnerSerial_stop (K : Kernels φ α) (so : Bool) (n : Nat) (x : Mem φ α) (h : x.Stops) :
    runnerSerial K so (n + 1) x = x := by
  rw [runnerSerial]
  rcases h with h | h | h <;> simp [h]

theorem runnerSerial_body (K : Kernels φ α) (so : Bool) (n : Nat) (x : Mem φ α) (h : ¬ x.Stops) :
    runnerSerial K so (n + 1) x = runnerBody K so (runnerSerial K so n) x := by
  simp only [Mem.Stops, Mem.Deg, not_or] at h
  rw [runnerSerial, if_neg h.1, if_neg h.2.1, if_neg h.2.2]

theorem runnerSerial_run (K : Kernels φ α) (n : Nat) (x : Mem φ α) : Run K .all n x (runnerSerial K false n x) := by
  induction n generalizing x with
  | zero => exact .out x
  | succ n ih =>
    by_cases hs : x.Stops
    · rw [runnerSerial_stop K false n x hs]; exact .stop n x hs
    rw [runnerSerial_body K false n x hs]
    cases hstep : x.kstep K with
    | none => rw [runnerBody_none K false _ x hstep]; exact .kfault n x hs hstep
    | some r =>
      by_cases ht : ValidT r.transition
      · rw [runnerBody_node K _ x r hstep ht]; exact .node n x r _ _ hs hstep ht (ih _) (ih _)
      · rw [runnerBody_skip K _ x r hstep ht]; exact .skip n x r rfl hs hstep ht

theorem Run.eq_runnerSerial {K : Kernels φ α} {s : RunMode} {n : Nat} {x y : Mem φ α} (h : Run K s n x y) : y = runnerSerial K false n x := by
  induction h with
  | out x => rfl
  | stop n x hs => rw [runnerSerial_stop K false n x hs]
  | kfault n x hs hstep =>
    rw [runnerSerial_body K false n x hs, runnerBody_none K false _ x hstep]
  | skip n x r _ hs hstep ht => rw [runnerSerial_body K false n x hs, runnerBody_skip K _ x r hstep ht]
  | node n x r L y hs hstep ht _ _ ih1 ih2 => rw [runnerSerial_body K false n x hs, runnerBody_node K _ x r hstep ht, ← ih1, ← ih2]

theorem Run.stops {K : Kernels φ α} {n : Nat} {x y : Mem φ α} (h : Run K .strict n x y) : y.Stops := by
  induction h with
  | out x => exact Or.inl rfl
  | stop n x hs => exact hs
  | kfault n x hs hstep => exact Or.inl rfl
  | skip n x r h => cases h
  | node n x r L y hs hstep ht _ _ ih1 ih2 => exact ih2

/-- after a serial run that stops, the code `aln_runner` falls through into returns at once -/
theorem runner_of_serial_stops (K : Kernels φ α) (n : Nat) (m : Mem φ α) (hf : ¬ m.fault = true)
    (hs : m.enda - m.starta < 500) (h : (runnerSerial K false (n + 1) m).Stops) :
    runner K false (n + 1) m = runnerSerial K false (n + 1) m := by
  rw [runner, if_neg hf]
  simp only [hs, if_true]
  rcases h with h | h | h <;> simp [h]

theorem runner_succ (K : Kernels φ α) (n : Nat) (x y : Mem φ α) (hy : y = runnerSerial K false (n + 1) x) (hs : y.Stops)
    (hb : ¬ x.Stops → runnerBody K false (runner K false n) x = runnerBody K false (runnerSerial K false n) x) :
    runner K false (n + 1) x = y := by
  subst hy
  by_cases hf : x.fault = true
  · rw [runner, if_pos hf, runnerSerial, if_pos hf]
  by_cases hsm : x.enda - x.starta < 500
  · exact runner_of_serial_stops K n x hf hsm hs
  by_cases hx : x.Stops
  · rw [runnerSerial_stop K false n x hx, runner, if_neg hf]
    simp only [hsm, if_false]
    rcases hx with h | h | h <;> simp [h]
  · rw [runnerSerial_body K false n x hx, ← hb hx, runner, if_neg hf]
    simp only [Mem.Stops, Mem.Deg, not_or] at hx
    simp only [hsm, if_false]
    rw [if_neg hx.1, if_neg hx.2.1, if_neg hx.2.2]

/-- **The missing `return` is harmless** on every run on which `aln_continue` always found a case -/
theorem Run.runner_eq {K : Kernels φ α} {n : Nat} {x y : Mem φ α} (h : Run K .strict n x y) : runner K false n x = y := by
  induction h with
  | out x => rfl
  | stop n x hs => exact runner_succ K n x x (Run.stop (s := .strict) n x hs).eq_runnerSerial hs (fun h => absurd hs h)
  | kfault n x hs hstep =>
    refine runner_succ K n x _ (Run.kfault (s := .strict) n x hs hstep).eq_runnerSerial (Or.inl rfl) (fun _ => ?_)
    rw [runnerBody_none K false _ x hstep, runnerBody_none K false _ x hstep]
  | skip n x r h => cases h
  | node n x r L y hs hstep ht h1 h2 ih1 ih2 =>
    refine runner_succ K n x y (Run.node n x r L y hs hstep ht h1 h2).eq_runnerSerial h2.stops (fun _ => ?_)
    rw [runnerBody_node K _ x r hstep ht, runnerBody_node K _ x r hstep ht, ih1, ih2, ← h1.eq_runnerSerial, ← h2.eq_runnerSerial]

theorem Run.strict_of_validTrans {K : Kernels φ α} (hK : K.ValidTrans) {n : Nat} {x y : Mem φ α} (h : Run K .all n x y) :
    Run K .strict n x y := by
  induction h with
  | out x => exact .out x
  | stop n x hs => exact .stop n x hs
  | kfault n x hs hstep => exact .kfault n x hs hstep
  | skip n x r _ hs hstep ht => exact absurd (hK _ _ _ _ _ _ _ _ hstep) ht
  | node n x r L y hs hstep ht h1 h2 ih1 ih2 => exact .node n x r L y hs hstep ht ih1 ih2

/-- **The missing `return` is harmless** whenever `meetup` delivers one of the six transitions:
`aln_runner` and `aln_runner_serial` are the same function (same path, same state arrays, same everything). -/
theorem runner_eq_runnerSerial (K : Kernels φ α) (hK : K.ValidTrans) (n : Nat) (m : Mem φ α) :
    runner K false n m = runnerSerial K false n m :=
  ((runnerSerial_run K n m).strict_of_validTrans hK).runner_eq

/-- `path[i]` (−1 outside the array: never used for an index the controller touches) -/
def Mem.pe (m : Mem φ α) (i : Int) : Int := m.path.getD i.toNat (-1)

theorem setPath_inrange (m : Mem φ α) (i v : Int) (h0 : 0 ≤ i) (h1 : i.toNat < m.path.size) :
    m.setPath i v = { m with path := m.path.set! i.toNat v } := by
  unfold Mem.setPath
  rw [if_pos ⟨h0, h1⟩]

theorem setPath_pe (m : Mem φ α) (i v j : Int) (h0 : 0 ≤ i) (h1 : i.toNat < m.path.size) (hj : 0 ≤ j) :
    (m.setPath i v).pe j = if j = i then v else m.pe j := by
  rw [setPath_inrange m i v h0 h1]
  simp only [Mem.pe, Array.getD_eq_getD_getElem?, Array.set!_eq_setIfInBounds, Array.getElem?_setIfInBounds, h1]
  by_cases hji : j = i
  · subst hji; simp
  · have : i.toNat ≠ j.toNat := by omega
    simp [this, hji]

theorem setPath_ok (m : Mem φ α) (i v : Int) (h : (m.setPath i v).fault = false) :
    m.fault = false ∧ 0 ≤ i ∧ m.setPath i v = { m with path := m.path.set! i.toNat v } ∧
      ∀ j, 0 ≤ j → (m.setPath i v).pe j = if j = i then v else m.pe j := by
  by_cases hc : 0 ≤ i ∧ i.toNat < m.path.size
  · rw [setPath_inrange m i v hc.1 hc.2] at h
    exact ⟨h, hc.1, setPath_inrange m i v hc.1 hc.2, fun j hj => setPath_pe m i v j hc.1 hc.2 hj⟩
  · unfold Mem.setPath at h
    simp [hc] at h

@[simp] theorem alnFwd_path (K : Kernels φ α) (m : Mem φ α) (s : States α) (k1 k2 : Kind) (a b c d : Int) :
    (alnFwd K m s k1 k2 a b c d).path = m.path := rfl
@[simp] theorem alnFwd_pe (K : Kernels φ α) (m : Mem φ α) (s : States α) (k1 k2 : Kind) (a b c d : Int) :
    (alnFwd K m s k1 k2 a b c d).pe = m.pe := rfl
@[simp] theorem alnFwd_fault (K : Kernels φ α) (m : Mem φ α) (s : States α) (k1 k2 : Kind) (a b c d : Int) :
    (alnFwd K m s k1 k2 a b c d).fault = m.fault := rfl
@[simp] theorem alnFwd_mon (K : Kernels φ α) (m : Mem φ α) (s : States α) (k1 k2 : Kind) (a b c d : Int) :
    (alnFwd K m s k1 k2 a b c d).mon = m.mon := rfl
@[simp] theorem alnFwd_starta (K : Kernels φ α) (m : Mem φ α) (s : States α) (k1 k2 : Kind) (a b c d : Int) :
    (alnFwd K m s k1 k2 a b c d).starta = a := rfl
@[simp] theorem alnFwd_enda (K : Kernels φ α) (m : Mem φ α) (s : States α) (k1 k2 : Kind) (a b c d : Int) :
    (alnFwd K m s k1 k2 a b c d).enda = b := rfl
@[simp] theorem alnFwd_startb (K : Kernels φ α) (m : Mem φ α) (s : States α) (k1 k2 : Kind) (a b c d : Int) :
    (alnFwd K m s k1 k2 a b c d).startb = c := rfl
@[simp] theorem alnFwd_endb (K : Kernels φ α) (m : Mem φ α) (s : States α) (k1 k2 : Kind) (a b c d : Int) :
    (alnFwd K m s k1 k2 a b c d).endb = d := rfl
@[simp] theorem alnFwd_fk (K : Kernels φ α) (m : Mem φ α) (s : States α) (k1 k2 : Kind) (a b c d : Int) :
    (alnFwd K m s k1 k2 a b c d).fk = k1 := rfl
@[simp] theorem alnFwd_bk (K : Kernels φ α) (m : Mem φ α) (s : States α) (k1 k2 : Kind) (a b c d : Int) :
    (alnFwd K m s k1 k2 a b c d).bk = k2 := rfl
@[simp] theorem alnFwd_f (K : Kernels φ α) (m : Mem φ α) (s : States α) (k1 k2 : Kind) (a b c d : Int) :
    (alnFwd K m s k1 k2 a b c d).f = K.set0 m.f s := rfl
@[simp] theorem alnFwd_b (K : Kernels φ α) (m : Mem φ α) (s : States α) (k1 k2 : Kind) (a b c d : Int) :
    (alnFwd K m s k1 k2 a b c d).b = K.set0 m.b (K.st k2) := rfl

@[simp] theorem alnBwd_path (K : Kernels φ α) (m : Mem φ α) (s : States α) (k1 k2 : Kind) (a b c d : Int) :
    (alnBwd K m s k1 k2 a b c d).path = m.path := rfl
@[simp] theorem alnBwd_pe (K : Kernels φ α) (m : Mem φ α) (s : States α) (k1 k2 : Kind) (a b c d : Int) :
    (alnBwd K m s k1 k2 a b c d).pe = m.pe := rfl
@[simp] theorem alnBwd_fault (K : Kernels φ α) (m : Mem φ α) (s : States α) (k1 k2 : Kind) (a b c d : Int) :
    (alnBwd K m s k1 k2 a b c d).fault = m.fault := rfl
@[simp] theorem alnBwd_mon (K : Kernels φ α) (m : Mem φ α) (s : States α) (k1 k2 : Kind) (a b c d : Int) :
    (alnBwd K m s k1 k2 a b c d).mon = m.mon := rfl
@[simp] theorem alnBwd_starta (K : Kernels φ α) (m : Mem φ α) (s : States α) (k1 k2 : Kind) (a b c d : Int) :
    (alnBwd K m s k1 k2 a b c d).starta = a := rfl
@[simp] theorem alnBwd_enda (K : Kernels φ α) (m : Mem φ α) (s : States α) (k1 k2 : Kind) (a b c d : Int) :
    (alnBwd K m s k1 k2 a b c d).enda = b := rfl
@[simp] theorem alnBwd_startb (K : Kernels φ α) (m : Mem φ α) (s : States α) (k1 k2 : Kind) (a b c d : Int) :
    (alnBwd K m s k1 k2 a b c d).startb = c := rfl
@[simp] theorem alnBwd_endb (K : Kernels φ α) (m : Mem φ α) (s : States α) (k1 k2 : Kind) (a b c d : Int) :
    (alnBwd K m s k1 k2 a b c d).endb = d := rfl
/-- `alnBwd` takes the *b* kind first (`inBk`), then the fresh *f* kind -/
@[simp] theorem alnBwd_fk (K : Kernels φ α) (m : Mem φ α) (s : States α) (k1 k2 : Kind) (a b c d : Int) :
    (alnBwd K m s k1 k2 a b c d).fk = k2 := rfl
@[simp] theorem alnBwd_bk (K : Kernels φ α) (m : Mem φ α) (s : States α) (k1 k2 : Kind) (a b c d : Int) :
    (alnBwd K m s k1 k2 a b c d).bk = k1 := rfl
@[simp] theorem alnBwd_f (K : Kernels φ α) (m : Mem φ α) (s : States α) (k1 k2 : Kind) (a b c d : Int) :
    (alnBwd K m s k1 k2 a b c d).f = K.set0 m.f (K.st k2) := rfl
@[simp] theorem alnBwd_b (K : Kernels φ α) (m : Mem φ α) (s : States α) (k1 k2 : Kind) (a b c d : Int) :
    (alnBwd K m s k1 k2 a b c d).b = K.set0 m.b s := rfl

@[simp] theorem fwdCall_starta (K : Kernels φ α) (x : Mem φ α) (r : KStep φ α) : (fwdCall K x r).starta = x.starta := rfl
@[simp] theorem fwdCall_enda (K : Kernels φ α) (x : Mem φ α) (r : KStep φ α) : (fwdCall K x r).enda = x.mid - da (fkOf r.transition) := rfl
@[simp] theorem fwdCall_startb (K : Kernels φ α) (x : Mem φ α) (r : KStep φ α) : (fwdCall K x r).startb = x.startb := rfl
@[simp] theorem fwdCall_endb (K : Kernels φ α) (x : Mem φ α) (r : KStep φ α) : (fwdCall K x r).endb = r.meet - db (fkOf r.transition) := rfl
@[simp] theorem fwdCall_fk (K : Kernels φ α) (x : Mem φ α) (r : KStep φ α) : (fwdCall K x r).fk = x.fk := rfl
@[simp] theorem fwdCall_bk (K : Kernels φ α) (x : Mem φ α) (r : KStep φ α) : (fwdCall K x r).bk = fkOf r.transition := rfl
@[simp] theorem fwdCall_pe (K : Kernels φ α) (x : Mem φ α) (r : KStep φ α) : (fwdCall K x r).pe = (cutMem x r).pe := rfl
@[simp] theorem fwdCall_path (K : Kernels φ α) (x : Mem φ α) (r : KStep φ α) : (fwdCall K x r).path = (cutMem x r).path := rfl
@[simp] theorem fwdCall_fault (K : Kernels φ α) (x : Mem φ α) (r : KStep φ α) : (fwdCall K x r).fault = (cutMem x r).fault := rfl
@[simp] theorem fwdCall_mon (K : Kernels φ α) (x : Mem φ α) (r : KStep φ α) : (fwdCall K x r).mon = (cutMem x r).mon := rfl
@[simp] theorem fwdCall_f (K : Kernels φ α) (x : Mem φ α) (r : KStep φ α) : (fwdCall K x r).f = K.set0 (cutMem x r).f (K.get0 x.f) := rfl
@[simp] theorem fwdCall_b (K : Kernels φ α) (x : Mem φ α) (r : KStep φ α) : (fwdCall K x r).b = K.set0 (cutMem x r).b (K.st (fkOf r.transition)) := rfl
@[simp] theorem bwdCall_starta (K : Kernels φ α) (x : Mem φ α) (r : KStep φ α) (L : Mem φ α) : (bwdCall K x r L).starta = x.mid + da (bkOf r.transition) := rfl
@[simp] theorem bwdCall_enda (K : Kernels φ α) (x : Mem φ α) (r : KStep φ α) (L : Mem φ α) : (bwdCall K x r L).enda = x.enda := rfl
@[simp] theorem bwdCall_startb (K : Kernels φ α) (x : Mem φ α) (r : KStep φ α) (L : Mem φ α) : (bwdCall K x r L).startb = r.meet + db (bkOf r.transition) := rfl
@[simp] theorem bwdCall_endb (K : Kernels φ α) (x : Mem φ α) (r : KStep φ α) (L : Mem φ α) : (bwdCall K x r L).endb = x.endb := rfl
@[simp] theorem bwdCall_fk (K : Kernels φ α) (x : Mem φ α) (r : KStep φ α) (L : Mem φ α) : (bwdCall K x r L).fk = bkOf r.transition := rfl
@[simp] theorem bwdCall_bk (K : Kernels φ α) (x : Mem φ α) (r : KStep φ α) (L : Mem φ α) : (bwdCall K x r L).bk = x.bk := rfl
@[simp] theorem bwdCall_pe (K : Kernels φ α) (x : Mem φ α) (r : KStep φ α) (L : Mem φ α) : (bwdCall K x r L).pe = L.pe := rfl
@[simp] theorem bwdCall_path (K : Kernels φ α) (x : Mem φ α) (r : KStep φ α) (L : Mem φ α) : (bwdCall K x r L).path = L.path := rfl
@[simp] theorem bwdCall_fault (K : Kernels φ α) (x : Mem φ α) (r : KStep φ α) (L : Mem φ α) : (bwdCall K x r L).fault = L.fault := rfl
@[simp] theorem bwdCall_mon (K : Kernels φ α) (x : Mem φ α) (r : KStep φ α) (L : Mem φ α) : (bwdCall K x r L).mon = L.mon := rfl
@[simp] theorem bwdCall_f (K : Kernels φ α) (x : Mem φ α) (r : KStep φ α) (L : Mem φ α) : (bwdCall K x r L).f = K.set0 L.f (K.st (bkOf r.transition)) := rfl
@[simp] theorem bwdCall_b (K : Kernels φ α) (x : Mem φ α) (r : KStep φ α) (L : Mem φ α) : (bwdCall K x r L).b = K.set0 L.b (K.get0 x.b) := rfl

/-! ### what the writes of one call change: `afterStep`, `setPath`, `optSet`, `cutMem`

`…_keeps`: what no write touches; `…_pe_ne`: an entry that is not the one written, in range or not; `…_ok`: the entries after a
write that did not fault; `…_fault`: a write inside the array does not fault. -/

@[simp] theorem afterStep_pe (x : Mem φ α) (mid : Int) (r : KStep φ α) : (afterStep x mid r).pe = x.pe := rfl
@[simp] theorem afterStep_path (x : Mem φ α) (mid : Int) (r : KStep φ α) : (afterStep x mid r).path = x.path := rfl
@[simp] theorem afterStep_fault (x : Mem φ α) (mid : Int) (r : KStep φ α) : (afterStep x mid r).fault = x.fault := rfl
@[simp] theorem afterStep_f (x : Mem φ α) (mid : Int) (r : KStep φ α) : (afterStep x mid r).f = r.f := rfl
@[simp] theorem afterStep_b (x : Mem φ α) (mid : Int) (r : KStep φ α) : (afterStep x mid r).b = r.b := rfl

theorem setPath_keeps (m : Mem φ α) (i v : Int) :
    (m.setPath i v).f = m.f ∧ (m.setPath i v).b = m.b ∧ (m.setPath i v).mon = m.mon ∧
      (m.setPath i v).path.size = m.path.size := by
  unfold Mem.setPath; split
  · exact ⟨rfl, rfl, rfl, by simp⟩
  · exact ⟨rfl, rfl, rfl, rfl⟩

theorem setPath_pe_ne (m : Mem φ α) (j v i : Int) (hi : 0 ≤ i) (hne : i ≠ j) : (m.setPath j v).pe i = m.pe i := by
  unfold Mem.setPath
  split
  · rename_i h
    have : j.toNat ≠ i.toNat := by omega
    simp [Mem.pe, Array.getD_eq_getD_getElem?, Array.set!_eq_setIfInBounds, this]
  · rfl

theorem optSet_keeps (m : Mem φ α) (c : Bool) (i v : Int) :
    (optSet m c i v).f = m.f ∧ (optSet m c i v).b = m.b ∧ (optSet m c i v).mon = m.mon ∧
      (optSet m c i v).path.size = m.path.size := by
  unfold optSet; split
  · exact setPath_keeps m i v
  · exact ⟨rfl, rfl, rfl, rfl⟩

theorem optSet_pe_ne (m : Mem φ α) (c : Bool) (j v i : Int) (hi : 0 ≤ i) (hne : i ≠ j) : (optSet m c j v).pe i = m.pe i := by
  unfold optSet; split
  · exact setPath_pe_ne m j v i hi hne
  · rfl

theorem optSet_ok (m : Mem φ α) (c : Bool) (i v : Int) (h : (optSet m c i v).fault = false) :
    m.fault = false ∧ ∀ j, 0 ≤ j → (optSet m c i v).pe j = if c = true ∧ j = i then v else m.pe j := by
  cases c with
  | true =>
    obtain ⟨h1, _, _, h4⟩ := setPath_ok m i v h
    refine ⟨h1, fun j hj => ?_⟩
    simpa [optSet] using h4 j hj
  | false => exact ⟨h, fun j _ => by simp [optSet]⟩

theorem optSet_fault (m : Mem φ α) (c : Bool) (i v : Int) (h0 : 0 ≤ i) (h1 : i.toNat < m.path.size) :
    (optSet m c i v).fault = m.fault := by
  unfold optSet; split
  · rw [setPath_inrange m i v h0 h1]
  · rfl

@[simp] theorem cutMem_f (x : Mem φ α) (r : KStep φ α) : (cutMem x r).f = r.f :=
  ((optSet_keeps _ _ _ _).1.trans (optSet_keeps _ _ _ _).1)
@[simp] theorem cutMem_b (x : Mem φ α) (r : KStep φ α) : (cutMem x r).b = r.b :=
  ((optSet_keeps _ _ _ _).2.1.trans (optSet_keeps _ _ _ _).2.1)
@[simp] theorem cutMem_path_size (x : Mem φ α) (r : KStep φ α) : (cutMem x r).path.size = x.path.size :=
  ((optSet_keeps _ _ _ _).2.2.2.trans (optSet_keeps _ _ _ _).2.2.2)
theorem cutMem_mon (x : Mem φ α) (r : KStep φ α) :
    (cutMem x r).mon = (x.mon && meetupContract x.fk x.bk x.starta x.enda x.startb x.endb x.mid r.meet r.transition) :=
  ((optSet_keeps _ _ _ _).2.2.1.trans (optSet_keeps _ _ _ _).2.2.1)

theorem cutMem_pe_ne (x : Mem φ α) (r : KStep φ α) (i : Int) (hi : 0 ≤ i) (h1 : i ≠ x.mid) (h2 : i ≠ x.mid + 1) :
    (cutMem x r).pe i = x.pe i :=
  (optSet_pe_ne _ _ _ _ _ hi h2).trans (optSet_pe_ne _ _ _ _ _ hi h1)

theorem cutMem_ok (x : Mem φ α) (r : KStep φ α) (h : (cutMem x r).fault = false) :
    x.fault = false ∧ ∀ j, 0 ≤ j → (cutMem x r).pe j =
      if bkOf r.transition = .A ∧ j = x.mid + 1 then r.meet + 1
      else if fkOf r.transition = .A ∧ j = x.mid then r.meet else x.pe j := by
  obtain ⟨h', hB⟩ := optSet_ok _ _ _ _ h
  obtain ⟨hx, hA⟩ := optSet_ok _ _ _ _ h'
  exact ⟨hx, fun j hj => by rw [cutMem, hB j hj, hA j hj]; simp only [beq_iff_eq]; rfl⟩

theorem cutMem_fault (x : Mem φ α) (r : KStep φ α) (h0 : 0 ≤ x.mid) (h1 : x.mid.toNat + 1 < x.path.size) :
    (cutMem x r).fault = x.fault :=
  (optSet_fault _ _ _ _ (by omega) (by rw [(optSet_keeps _ _ _ _).2.2.2]; show (x.mid + 1).toNat < x.path.size; omega)).trans
    (optSet_fault _ _ _ _ h0 (by show x.mid.toNat < x.path.size; omega))

theorem Run.mono {K : Kernels φ α} {s : RunMode} {n : Nat} {x y : Mem φ α} (h : Run K s n x y) :
    (y.fault = false → x.fault = false) ∧ (y.mon = true → x.mon = true) := by
  induction h with
  | out x => exact ⟨nofun, id⟩
  | stop n x hs => exact ⟨id, id⟩
  | kfault n x hs hstep => exact ⟨nofun, id⟩
  | skip n x r _ hs hstep ht => exact ⟨id, fun h => (Bool.and_eq_true_iff.mp h).1⟩
  | node n x r L y hs hstep ht _ _ ih1 ih2 =>
    exact ⟨fun h => (cutMem_ok x r (ih1.1 (ih2.1 h))).1,
      fun h => (Bool.and_eq_true_iff.mp (cutMem_mon x r ▸ ih1.2 (ih2.2 h))).1⟩

theorem Run.frame {K : Kernels φ α} {s : RunMode} {n : Nat} {x y : Mem φ α} (h : Run K s n x y) :
    0 ≤ x.starta → ∀ i, 0 ≤ i → (i < x.starta ∨ x.enda < i) → y.pe i = x.pe i := by
  induction h with
  | out x => exact fun _ _ _ _ => rfl
  | stop n x hs => exact fun _ _ _ _ => rfl
  | kfault n x hs hstep => exact fun _ _ _ _ => rfl
  | skip n x r _ hs hstep ht => exact fun _ _ _ _ => rfl
  | node n x r L y hs hstep ht _ _ ih1 ih2 =>
    intro h0 i hi hout
    obtain ⟨_, _, _, hm1, hm2⟩ := x.not_stops hs
    have hu := da_nonneg (fkOf r.transition)
    have hv := da_nonneg (bkOf r.transition)
    rw [ih2 (by rw [bwdCall_starta]; omega) i hi (by rw [bwdCall_starta, bwdCall_enda]; omega), bwdCall_pe,
      ih1 h0 i hi (by rw [fwdCall_starta, fwdCall_enda]; omega), fwdCall_pe, cutMem_pe_ne x r i hi (by omega) (by omega)]

/-- the "forward part is an aligned pair at (mid, c)" clause of the contract (transitions 1, 2, 3) -/
def LeftA (fk : Kind) (sa sb mid c : Int) : Prop :=
  (mid = sa → c = sb ∧ fk = .A) ∧ (mid ≠ sa → childOK fk .A sa (mid - 1) sb (c - 1) = true)
/-- forward part ends in a gap-in-b column at (mid, c) (transitions 6, 7) -/
def LeftGB (fk : Kind) (sa sb mid c : Int) : Prop :=
  (mid = sa → c = sb ∧ fk = .GB) ∧ (mid ≠ sa → childOK fk .GB sa (mid - 1) sb c = true)
/-- forward part ends in a gap-in-a column (transition 5) -/
def LeftGA (fk : Kind) (sa sb mid c : Int) : Prop :=
  (mid = sa ∧ c = sb → fk = .GA) ∧ (¬ (mid = sa ∧ c = sb) → childOK fk .GA sa mid sb (c - 1) = true)

/-- the forward part of the contract, by the kind `u` of the column in front of the cut -/
def LeftOf (u fk : Kind) (sa sb mid c : Int) : Prop :=
  match u with
  | .A => LeftA fk sa sb mid c
  | .GA => LeftGA fk sa sb mid c
  | .GB => LeftGB fk sa sb mid c

theorem leftAB_iff {fk k : Kind} {sa sb mid c : Int} {x : Bool} :
    (if mid = sa then decide (c = sb) && (fk == k) else x) = true ↔
      (mid = sa → c = sb ∧ fk = k) ∧ (mid ≠ sa → x = true) := by
  by_cases e : mid = sa
  · rw [if_pos e, Bool.and_eq_true, decide_eq_true_eq, beq_iff_eq]
    exact ⟨fun h => ⟨fun _ => h, fun ne => absurd e ne⟩, fun h => h.1 e⟩
  · rw [if_neg e]
    exact ⟨fun h => ⟨fun e' => absurd e' e, fun _ => h⟩, fun h => h.2 e⟩

theorem leftGA_iff {fk : Kind} {sa sb mid c : Int} {x : Bool} :
    (if mid = sa ∧ c = sb then fk == .GA else x) = true ↔
      (mid = sa ∧ c = sb → fk = .GA) ∧ (¬ (mid = sa ∧ c = sb) → x = true) := by
  by_cases e : mid = sa ∧ c = sb
  · rw [if_pos e, beq_iff_eq]
    exact ⟨fun h => ⟨fun _ => h, fun ne => absurd e ne⟩, fun h => h.1 e⟩
  · rw [if_neg e]
    exact ⟨fun h => ⟨fun e' => absurd e' e, fun _ => h⟩, fun h => h.2 e⟩

theorem contract_generic (fk bk : Kind) (sa ea sb eb mid c t : Int)
    (h : meetupContract fk bk sa ea sb eb mid c t = true) :
    ValidT t ∧ sb ≤ c ∧ c + db (bkOf t) ≤ eb ∧ LeftOf (fkOf t) fk sa sb mid c ∧
      childOK (bkOf t) bk (mid + da (bkOf t)) ea (c + db (bkOf t)) eb = true := by
  unfold meetupContract at h
  rw [Bool.and_eq_true, decide_eq_true_eq] at h
  obtain ⟨⟨h1, h2⟩, h⟩ := h
  have hv : ValidT t := by
    refine Decidable.byContradiction fun hn => ?_
    simp only [ValidT, not_or] at hn
    obtain ⟨n1, n2, n3, n5, n6, n7⟩ := hn
    rw [if_neg n1, if_neg n2, if_neg n3, if_neg n5, if_neg n6, if_neg n7] at h
    exact absurd h (by decide)
  refine ⟨hv, h1, ?_⟩
  rcases hv with e | e | e | e | e | e <;> subst e <;>
    simp only [Int.reduceEq, ↓reduceIte, Bool.and_eq_true, decide_eq_true_eq] at h
  · exact ⟨h.1.1, leftAB_iff.mp h.1.2, h.2⟩
  · exact ⟨h.1.1, leftAB_iff.mp h.1.2, by simpa [bkOf, da, db] using h.2⟩
  · exact ⟨by simpa [bkOf, db] using h2, leftAB_iff.mp h.1, by simpa [bkOf, da, db] using h.2⟩
  · exact ⟨h.1.1, leftGA_iff.mp h.1.2, h.2⟩
  · exact ⟨by simpa [bkOf, db] using h2, leftAB_iff.mp h.1, by simpa [bkOf, da, db] using h.2⟩
  · exact ⟨h.1.1, leftAB_iff.mp h.1.2, h.2⟩

theorem contract_intro (fk bk : Kind) (sa ea sb eb mid c t : Int) (ht : ValidT t) (h1 : sb ≤ c)
    (h2 : c + db (bkOf t) ≤ eb) (hL : LeftOf (fkOf t) fk sa sb mid c)
    (hR : childOK (bkOf t) bk (mid + da (bkOf t)) ea (c + db (bkOf t)) eb = true) :
    meetupContract fk bk sa ea sb eb mid c t = true := by
  have hdb := db_nonneg (bkOf t)
  unfold meetupContract
  rw [Bool.and_eq_true, decide_eq_true_eq]
  refine ⟨⟨h1, by omega⟩, ?_⟩
  rcases ht with e | e | e | e | e | e <;> subst e <;>
    simp only [Int.reduceEq, ↓reduceIte, Bool.and_eq_true, decide_eq_true_eq]
  · exact ⟨⟨h2, leftAB_iff.mpr hL⟩, hR⟩
  · exact ⟨⟨h2, leftAB_iff.mpr hL⟩, by simpa [bkOf, da, db] using hR⟩
  · exact ⟨leftAB_iff.mpr hL, by simpa [bkOf, da, db] using hR⟩
  · exact ⟨⟨h2, leftGA_iff.mpr hL⟩, hR⟩
  · exact ⟨leftAB_iff.mpr hL, by simpa [bkOf, da, db] using hR⟩
  · exact ⟨⟨h2, leftAB_iff.mpr hL⟩, hR⟩

theorem fkOf_GA {t : Int} (ht : ValidT t) : fkOf t = .GA → bkOf t = .A := by
  rcases ht with e | e | e | e | e | e <;> subst e <;> decide
theorem bkOf_GA {t : Int} (ht : ValidT t) : bkOf t = .GA → fkOf t = .A := by
  rcases ht with e | e | e | e | e | e <;> subst e <;> decide

/-- a property `Q fk bk sa ea sb eb` of (boundary kinds, rectangle) required of the two recursive calls of `aln_continue` for transition `t` -/
def ChildrenQ (Q : Kind → Kind → Int → Int → Int → Int → Prop) (fk bk : Kind) (sa ea sb eb mid meet t : Int) : Prop :=
  (t = 1 → Q fk .A sa (mid - 1) sb (meet - 1) ∧ Q .A bk (mid + 1) ea (meet + 1) eb) ∧
  (t = 2 → Q fk .A sa (mid - 1) sb (meet - 1) ∧ Q .GA bk mid ea (meet + 1) eb) ∧
  (t = 3 → Q fk .A sa (mid - 1) sb (meet - 1) ∧ Q .GB bk (mid + 1) ea meet eb) ∧
  (t = 5 → Q fk .GA sa mid sb (meet - 1) ∧ Q .A bk (mid + 1) ea (meet + 1) eb) ∧
  (t = 6 → Q fk .GB sa (mid - 1) sb meet ∧ Q .GB bk (mid + 1) ea meet eb) ∧
  (t = 7 → Q fk .GB sa (mid - 1) sb meet ∧ Q .A bk (mid + 1) ea (meet + 1) eb)

/-- for one of the six transitions the clause list is the two rectangles of `fwdCall`, `bwdCall` -/
theorem ChildrenQ.iff {Q : Kind → Kind → Int → Int → Int → Int → Prop} {fk bk : Kind} {sa ea sb eb mid meet t : Int}
    (ht : ValidT t) :
    ChildrenQ Q fk bk sa ea sb eb mid meet t ↔
      Q fk (fkOf t) sa (mid - da (fkOf t)) sb (meet - db (fkOf t)) ∧
        Q (bkOf t) bk (mid + da (bkOf t)) ea (meet + db (bkOf t)) eb := by
  rcases ht with e | e | e | e | e | e <;> subst e <;> simp [ChildrenQ, fkOf, bkOf, da, db]

theorem Run.strict_of_mon {K : Kernels φ α} {n : Nat} {x y : Mem φ α} (h : Run K .all n x y) (hf : y.fault = false)
    (hm : y.mon = true) : Run K .strict n x y := by
  induction h with
  | out x => exact .out x
  | stop n x hs => exact .stop n x hs
  | kfault n x hs hstep => exact .kfault n x hs hstep
  | skip n x r _ hs hstep ht =>
    exact absurd (contract_generic _ _ _ _ _ _ _ _ _ (Bool.and_eq_true_iff.mp hm).2).1 ht
  | node n x r L y hs hstep ht h1 h2 ih1 ih2 =>
    exact .node n x r L y hs hstep ht (ih1 (h2.mono.1 hf) (h2.mono.2 hm)) (ih2 hf hm)

theorem runner_eq_runnerSerial_of_mon (K : Kernels φ α) (n : Nat) (m : Mem φ α)
    (hf : (runnerSerial K false n m).fault = false) (hm : (runnerSerial K false n m).mon = true) :
    runner K false n m = runnerSerial K false n m :=
  ((runnerSerial_run K n m).strict_of_mon hf hm).runner_eq

def RecPath (rec : Mem φ α → Mem φ α) : Prop := ∀ m, (rec m).path.size = m.path.size

theorem alnContinue_path_size (K : Kernels φ α) (rec : Mem φ α → Mem φ α) (hrec : RecPath rec) (m : Mem φ α)
    (inF inB : States α) (fk bk : Kind) (sa ea sb eb mid meet t : Int) :
    (alnContinue K rec m inF inB fk bk sa ea sb eb mid meet t).path.size = m.path.size := by
  by_cases ht : ValidT t
  · rw [alnContinue_generic _ _ _ _ _ _ _ _ _ _ _ _ _ _ ht, hrec, alnBwd_path, hrec, alnFwd_path, (optSet_keeps _ _ _ _).2.2.2,
      (optSet_keeps _ _ _ _).2.2.2]
  · rw [alnContinue_invalid _ _ _ _ _ _ _ _ _ _ _ _ _ _ ht]

theorem runnerBody_path_size (K : Kernels φ α) (so : Bool) (rec : Mem φ α → Mem φ α) (hrec : RecPath rec) (m : Mem φ α) :
    (runnerBody K so rec m).path.size = m.path.size := by
  unfold runnerBody
  dsimp only
  split
  · rfl
  · split
    · rfl
    · rw [alnContinue_path_size K rec hrec]

theorem runnerSerial_path_size (K : Kernels φ α) (n : Nat) : RecPath (runnerSerial K false n) := by
  induction n with
  | zero => intro m; rfl
  | succ n ih =>
    intro m
    by_cases hs : m.Stops
    · rw [runnerSerial_stop K false n m hs]
    · rw [runnerSerial_body K false n m hs, runnerBody_path_size K false _ ih]

theorem runner_path_size (K : Kernels φ α) (n : Nat) : RecPath (runner K false n) := by
  induction n with
  | zero => intro m; rfl
  | succ n ih =>
    intro m
    rw [runner]
    split
    · rfl
    dsimp only
    have hs : (if m.enda - m.starta < 500 then runnerSerial K false (n + 1) m else m).path.size = m.path.size := by
      split
      · exact runnerSerial_path_size K (n + 1) m
      · rfl
    generalize (if m.enda - m.starta < 500 then runnerSerial K false (n + 1) m else m) = m' at hs ⊢
    repeat' split
    all_goals first | exact hs | (rw [runnerBody_path_size K false _ ih]; exact hs)

end Kalign

import KalignModel.Model.Weave
/-! The weave identity, for C01 / C10.  kalign keeps a sequence as residues plus a gap vector and prints it with
`make_linear_sequence` (`makeLinear`); a merge only rewrites the gap vector (`update_gaps`, weave_alignment.c).  `weave`: on
the printed row this rewrite is the insertion of whole gap columns (`insertCols`).  With it, `degap_makeLinear` (removing
the gaps gives back the residues) and `length_makeLinear`; the hypotheses on lengths are the C preconditions. -/
namespace Kalign
variable {α : Type}

theorem length_bump (l : List Nat) (h : l ≠ []) : (bump l).length = l.length := by
  cases l with
  | nil => exact absurd rfl h
  | cons a l => rfl

theorem sum_bump (l : List Nat) : (bump l).sum = l.sum + 1 := by
  cases l <;> simp [bump]; omega

theorem degap_replicate (n : Nat) : degap (List.replicate n (none : Option α)) = [] := by
  induction n with
  | zero => rfl
  | succ n ih => simp [degap, List.replicate_succ]

theorem degap_append (a b : List (Option α)) : degap (a ++ b) = degap a ++ degap b := by
  simp [degap, List.filterMap_append]

theorem degap_makeLinear (s : List α) (g : List Nat) (h : g.length = s.length + 1) :
    degap (makeLinear s g) = s := by
  induction s generalizing g with
  | nil =>
    match g, h with
    | [x], _ => simp [makeLinear, degap]
  | cons x xs ih =>
    match g, h with
    | y :: ys, h =>
      simp only [makeLinear]
      have := ih ys (by simpa using h)
      simp [degap] at this ⊢
      exact this

theorem rep_cons_rep {β : Type} (x : β) (a b : Nat) (L : List β) :
    List.replicate a x ++ x :: (List.replicate b x ++ L) = List.replicate (a + 1 + b) x ++ L := by
  induction a with
  | zero =>
    have : 0 + 1 + b = b + 1 := by omega
    rw [this, List.replicate_succ]; simp
  | succ a ih =>
    have : a + 1 + 1 + b = (a + 1 + b) + 1 := by omega
    rw [this, List.replicate_succ, List.replicate_succ, List.cons_append, List.cons_append, ih]

theorem insertCols_replicate_append (g : Nat) (rest : List (Option α)) (ng : List Nat)
    (h : g ≤ ng.length) :
    insertCols (List.replicate g none ++ rest) ng
      = List.replicate (g + (ng.take g).sum) none ++ insertCols rest (ng.drop g) := by
  induction g generalizing ng with
  | zero => simp
  | succ g ih =>
    match ng, h with
    | n :: ns, h =>
      have h' : g ≤ ns.length := by simpa using h
      simp only [List.replicate_succ, List.cons_append, insertCols, List.take_succ_cons,
        List.sum_cons, List.drop_succ_cons]
      rw [ih ns h']
      rw [rep_cons_rep]
      congr 2; omega

theorem length_makeLinear (s : List α) (g : List Nat) (h : g.length = s.length + 1) :
    (makeLinear s g).length = s.length + g.sum := by
  induction s generalizing g with
  | nil => match g, h with
    | [x], _ => simp [makeLinear]
  | cons x xs ih => match g, h with
    | y :: ys, h =>
      simp only [makeLinear, List.length_append, List.length_replicate, List.length_cons, List.sum_cons]
      rw [ih ys (by simpa using h)]; omega

theorem isSome_makeLinear {α β : Type} (s : List α) (s' : List β) (g : List Nat) (h : s.length = s'.length) :
    (makeLinear s g).map Option.isSome = (makeLinear s' g).map Option.isSome := by
  induction s generalizing s' g with
  | nil =>
    cases s' with
    | nil => cases g <;> simp [makeLinear]
    | cons _ _ => simp at h
  | cons x xs ih =>
    cases s' with
    | nil => simp at h
    | cons y ys =>
      have h' : xs.length = ys.length := by simpa using h
      cases g with
      | nil =>
        have e : ∀ {γ : Type} (l : List γ), l.map (Option.isSome ∘ some) = List.replicate l.length true := by
          intro γ l
          induction l with
          | nil => rfl
          | cons a l ihl => simp [ihl, List.replicate_succ]
        simp only [makeLinear, List.map_map]
        rw [e, e, h]
      | cons n ns =>
        simp only [makeLinear, List.map_append, List.map_cons, Option.isSome_some]
        rw [ih ys ns h']
        simp

theorem drop_eq_cons {β : Type} {l : List β} {k : Nat} {a : β} {rest : List β} (h : l.drop k = a :: rest) :
    l.take (k + 1) = l.take k ++ [a] ∧ l.drop (k + 1) = rest := by
  constructor
  · rw [List.take_add_one]; congr 1
    have := congrArg List.head? h; simpa [List.head?_drop] using this
  · have := congrArg List.tail h; simpa [List.tail_drop] using this

theorem weave (s : List α) (g ng : List Nat) (hg : g.length = s.length + 1)
    (hng : ng.length = (makeLinear s g).length + 1) :
    insertCols (makeLinear s g) ng = makeLinear s (updateGaps g ng) := by
  induction s generalizing g ng with
  | nil =>
    match g, hg with
    | [x], _ =>
      simp only [makeLinear, List.length_replicate] at hng
      simp only [makeLinear, updateGaps]
      have := insertCols_replicate_append (α := α) x [] ng (by omega)
      simp only [List.append_nil] at this
      rw [this]
      have hd : (ng.drop x).length = 1 := by simp [hng]
      match hdd : ng.drop x, hd with
      | [n], _ =>
        simp only [insertCols]
        rw [List.replicate_append_replicate, (drop_eq_cons hdd).1]
        congr 1
        simp; omega
  | cons y ys ih =>
    match g, hg with
    | x :: xs, hg =>
      have hxs : xs.length = ys.length + 1 := by simpa using hg
      have hl := length_makeLinear ys xs hxs
      simp only [makeLinear, List.length_append, List.length_replicate, List.length_cons] at hng
      simp only [makeLinear, updateGaps]
      rw [insertCols_replicate_append x _ ng (by omega)]
      have hd : (ng.drop x).length = (makeLinear ys xs).length + 2 := by simp [hng]; omega
      match hdd : ng.drop x, hd with
      | n :: rest, hd =>
        obtain ⟨htake, hdrop⟩ := drop_eq_cons hdd
        simp only [insertCols]
        rw [ih xs rest hxs (by simpa using hd), ← List.append_assoc, List.replicate_append_replicate,
          htake, hdrop]
        congr 2
        simp; omega

end Kalign

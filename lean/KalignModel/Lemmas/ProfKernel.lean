import KalignModel.Model.Profile
import KalignModel.Lemmas.ViewAgree
/-!
`ProfOK prof seq k m gpo gpe tgpe s`: what the kernels read from the profile `prof` of `k` gap-free copies of `seq` prepared
(`set_gap_penalties_n`) against a group of `m` sequences: gap entries `−k·m·(gpo|gpe|tgpe)` in slots 27/28/29 of every
column, substitution entries `k·s(seq[i], c)` in slots `32+c`, residue counts `k` (i.e. `2000·k` on the exact carrier) in
slot `seq[i]` and 0 in the other count slots.  Under `ProfOK` the view of a sequence–profile pair (the group is the row
dimension) agrees with the sequence–sequence view on `scaleParam ap k`, so the kernels are equal (`sp_realKernels_eq`).
The tie-break term of the meetup is *not* scaled.
-/
namespace Kalign

theorem oaddi_neg (x : Option Int) (g : Int) : oaddi x (-g) = osub x g := by
  cases x <;> simp [Int.sub_eq_add_neg]

theorem ex_add_neg (x : ExactScore) (g : Int) : Score.add x (some (-g) : ExactScore) = osub x g := by
  rw [ex_add_some, oaddi_neg]

theorem ex_mul_ofNat (g : Int) (k : Nat) : Score.mul (some g : ExactScore) (Score.ofNat k) = some (g * k) := by
  show some (g * (ExactScore.scale * (k : Int)) / ExactScore.scale) = some (g * k)
  congr 1
  unfold ExactScore.scale
  rw [show g * (2000 * (k : Int)) = 2000 * (g * k) by rw [Int.mul_left_comm]]
  exact Int.mul_ediv_cancel_left _ (by decide)

structure ProfOK (prof : Array ExactScore) (seq : Array Nat) (k m : Nat) (gpo gpe tgpe : Int) (s : Nat → Nat → Int) :
    Prop where
  g27 : ∀ col, col ≤ seq.size + 1 → pget prof col 27 = some (-((k * m : Nat) * gpo))
  g28 : ∀ col, col ≤ seq.size + 1 → pget prof col 28 = some (-((k * m : Nat) * gpe))
  g29 : ∀ col, col ≤ seq.size + 1 → pget prof col 29 = some (-((k * m : Nat) * tgpe))
  subE : ∀ i, i < seq.size → ∀ c, c < 23 → pget prof (i + 1) (32 + c) = some ((k : Int) * s (seq.getD i 0) c)
  cnt : ∀ i, i < seq.size → ∀ c, c < 23 →
    pget prof (i + 1) c = some (if c = seq.getD i 0 then 2000 * (k : Int) else 0)

/-! `GapSlots apK prof n`: on both carriers `apK` is `ap` with all scores multiplied by the number of copies; what differs is
why `x + slot = x − penalty`. -/

section scaled
variable {α : Type} [Score α]

structure GapSlots (apK : AlnParam α) (prof : Array α) (n : Nat) : Prop where
  o : ∀ col, col ≤ n + 1 → ∀ x, Score.add x (pget prof col 27) = Score.sub x apK.gpo
  e : ∀ col, col ≤ n + 1 → ∀ x, Score.add x (pget prof col 28) = Score.sub x apK.gpe
  t : ∀ col, col ≤ n + 1 → ∀ x, Score.add x (pget prof col 29) = Score.sub x apK.tgpe

/-- the column side does not depend on the column, so any `lenB` will do -/
theorem sp_agree {ap apK : AlnParam α} {prof : Array α} {seqA seq2 : Array Nat} {sip : Nat} (G : GapSlots apK prof seqA.size)
    (po : Score.mul ap.gpo (Score.ofNat sip) = apK.gpo) (pe : Score.mul ap.gpe (Score.ofNat sip) = apK.gpe)
    (pt : Score.mul ap.tgpe (Score.ofNat sip) = apK.tgpe)
    (hs : ∀ i, i < seqA.size → ∀ c, c < 23 → pget prof (i + 1) (32 + c) = apK.sub (seqA.getD i 0) c)
    (h2 : ∀ j, seq2.getD j 0 < 23) (lenB : Nat) :
    (spView ap prof seq2 sip).AgreeOn (ssView apK seqA seq2) seqA.size lenB := by
  refine ⟨⟨fun i hi => funext (G.o i hi), fun i hi => funext (G.e i hi), fun i hi => funext (G.t i hi), fun _ _ => ?_, fun _ _ => ?_,
    fun _ _ => ?_⟩, fun i j hi1 hi hj1 hj => ?_⟩
  · simp only [spView, ssView, po]
  · simp only [spView, ssView, pe]
  · simp only [spView, ssView, pt]
  · obtain ⟨i, rfl⟩ : ∃ i', i = i' + 1 := ⟨i - 1, by omega⟩
    simp only [spView, ssView, hs i (by omega) _ (h2 _), Nat.add_sub_cancel]

end scaled

theorem penalties_mul_ofNat (ap : AlnParam ExactScore) (gpo gpe tgpe : Int) (s : Nat → Nat → Int) (hap : ApOK ap gpo gpe tgpe s) (k : Nat) :
    Score.mul ap.gpo (Score.ofNat k : ExactScore) = some ((k : Int) * gpo) ∧
    Score.mul ap.gpe (Score.ofNat k : ExactScore) = some ((k : Int) * gpe) ∧
    Score.mul ap.tgpe (Score.ofNat k : ExactScore) = some ((k : Int) * tgpe) := by
  rw [hap.gpo, hap.gpe, hap.tgpe, ex_mul_ofNat, ex_mul_ofNat, ex_mul_ofNat, Int.mul_comm gpo, Int.mul_comm gpe,
    Int.mul_comm tgpe]
  exact ⟨rfl, rfl, rfl⟩

/-- the entries of a mapped matrix (`f` fixes the default `0`) -/
theorem sub_map {α : Type} [Score α] (subm : Array (Array α)) (g1 g2 g3 h1 h2 h3 : α) (f : α → α)
    (hf : f Score.zero = Score.zero) (i j : Nat) :
    (⟨subm.map fun row => row.map f, h1, h2, h3⟩ : AlnParam α).sub i j = f ((⟨subm, g1, g2, g3⟩ : AlnParam α).sub i j) := by
  unfold AlnParam.sub
  simp only [Array.getD_eq_getD_getElem?, Array.getElem?_map]
  cases subm[i]? with
  | none => simp [hf]
  | some row =>
    simp only [Option.map_some, Option.getD_some, Array.getElem?_map]
    cases row[j]? with
    | none => simp [hf]
    | some e => simp

theorem mul_zero_ofNat_E (K : Nat) : Score.mul (Score.zero : ExactScore) (Score.ofNat K) = Score.zero := by
  show Score.mul (some 0 : ExactScore) (Score.ofNat K) = some 0
  rw [ex_mul_ofNat]; simp

def scaleParam (ap : AlnParam ExactScore) (K : Nat) : AlnParam ExactScore :=
  { subm := ap.subm.map fun row => row.map fun e => Score.mul e (Score.ofNat K)
    gpo := Score.mul ap.gpo (Score.ofNat K)
    gpe := Score.mul ap.gpe (Score.ofNat K)
    tgpe := Score.mul ap.tgpe (Score.ofNat K) }

theorem scaleParam_sub (ap : AlnParam ExactScore) (K i j : Nat) :
    (scaleParam ap K).sub i j = Score.mul (ap.sub i j) (Score.ofNat K) :=
  sub_map ap.subm ap.gpo ap.gpe ap.tgpe _ _ _ (fun e => Score.mul e (Score.ofNat K)) (mul_zero_ofNat_E K) i j

theorem scaleParam_ok (ap : AlnParam ExactScore) (gpo gpe tgpe : Int) (s : Nat → Nat → Int)
    (hap : ApOK ap gpo gpe tgpe s) (K : Nat) :
    ApOK (scaleParam ap K) ((K : Int) * gpo) ((K : Int) * gpe) ((K : Int) * tgpe) (fun x y => (K : Int) * s x y) := by
  obtain ⟨ho, he, ht⟩ := penalties_mul_ofNat ap gpo gpe tgpe s hap K
  exact ⟨ho, he, ht, fun i j => by rw [scaleParam_sub, hap.sub, ex_mul_ofNat, Int.mul_comm]⟩

section sp
variable (ap : AlnParam ExactScore) (gpo gpe tgpe : Int) (s : Nat → Nat → Int) (hap : ApOK ap gpo gpe tgpe s)
include hap

theorem ProfOK.gapSlots {prof : Array ExactScore} {seq : Array Nat} {k m : Nat} (hP : ProfOK prof seq k m gpo gpe tgpe s) :
    GapSlots (scaleParam ap (k * m)) prof seq.size := by
  have hok := scaleParam_ok ap gpo gpe tgpe s hap (k * m)
  refine ⟨fun col hc x => ?_, fun col hc x => ?_, fun col hc x => ?_⟩
  · rw [hok.gpo, hP.g27 col hc, ex_add_neg, ex_sub_some]
  · rw [hok.gpe, hP.g28 col hc, ex_add_neg, ex_sub_some]
  · rw [hok.tgpe, hP.g29 col hc, ex_add_neg, ex_sub_some]

theorem sp_realKernels_eq (prof : Array ExactScore) (seqA seq2 : Array Nat) (k : Nat)
    (hP : ProfOK prof seqA k 1 gpo gpe tgpe s) (h2 : ∀ j, seq2.getD j 0 < 23) (lenB : Nat) :
    realKernels ap (.seqprof prof seq2 k) seqA.size lenB =
      realKernels (scaleParam ap k) (.seqseq seqA seq2) seqA.size lenB :=
  realKernels_of_view (sp_agree (by simpa only [Nat.mul_one] using hP.gapSlots ap gpo gpe tgpe s hap) rfl rfl rfl
    (fun i hi c hc => by rw [hP.subE i hi c hc, (scaleParam_ok ap gpo gpe tgpe s hap k).sub]) h2 lenB)

end sp

end Kalign

import KalignModel.Lemmas.SoftClass
import KalignModel.Lemmas.KernelSpec
/-!
# The DP kernel tables on the software binary32, unit `2^u` and cost `C` per cell formula as parameters

`genTab_clsU`: if the cell formulas of a kernel on `SoftF32` and of a kernel on the exact carrier correspond (`OpsRelU`: class in ⟹
class out, at a cost of `C` units of `2^u`), the two tables have the same finiteness pattern: cell `(p,k)` of the `SoftF32` table is
sentinel-like (`-FLT_MAX` or `-∞`) where the exact cell is `−∞`, and finite with magnitude `≤ (B₀ + C·(p+k))·2^u` where it is finite
(`genTab_rel` for the relation "class with bound `B₀ + C·d` at level `d`").  The sequence–sequence kernels have unit 2²⁰ and cost 1
(`StCls`, `OpsRel`, `GaRel`); the profile kernels take their unit from the bound on the profile entries, and a profile–profile cell costs 12
(`SoftProfMon.lean`).
-/
namespace Kalign
open SoftF32

def StClsU (u B : Nat) (s : States SoftF32) (e : States ExactScore) : Prop :=
  ClsU u B s.a e.a.isSome ∧ ClsU u B s.ga e.ga.isSome ∧ ClsU u B s.gb e.gb.isSome

theorem StClsU.mono {u B B' : Nat} {s : States SoftF32} {e : States ExactScore} (h : StClsU u B s e) (hB : B ≤ B') :
    StClsU u B' s e := ⟨h.1.mono hB, h.2.1.mono hB, h.2.2.mono hB⟩

theorem stClsU_negInf (u B : Nat) : StClsU u B (States.negInf : States SoftF32) (States.negInf : States ExactScore) :=
  ⟨clsU_negInf u B, clsU_negInf u B, clsU_negInf u B⟩

/-- class in ⟹ class out; every cell formula costs at most `C` units, the aligned cell at most `2·C` -/
structure OpsRelU (u C : Nat) (oS : RowOps SoftF32) (oE : RowOps ExactScore) : Prop where
  gbFirst : ∀ (B : Nat) (x y : SoftF32) (ex ey : ExactScore), B + 2 * C < 16777216 → ClsU u B x ex.isSome →
    ClsU u B y ey.isSome → ClsU u (B + C) (oS.gbFirst x y) (oE.gbFirst ex ey).isSome
  aCell : ∀ (k B : Nat) (x y z : SoftF32) (ex ey ez : ExactScore), B + 2 * C < 16777216 → ClsU u B x ex.isSome →
    ClsU u B y ey.isSome → ClsU u B z ez.isSome → ClsU u (B + 2 * C) (oS.aCell k x y z) (oE.aCell k ex ey ez).isSome
  gaCell : ∀ (k B : Nat) (x y : SoftF32) (ex ey : ExactScore), B + 2 * C < 16777216 → ClsU u B x ex.isSome →
    ClsU u B y ey.isSome → ClsU u (B + C) (oS.gaCell k x y) (oE.gaCell k ex ey).isSome
  gbMid : ∀ (B : Nat) (x y : SoftF32) (ex ey : ExactScore), B + 2 * C < 16777216 → ClsU u B x ex.isSome →
    ClsU u B y ey.isSome → ClsU u (B + C) (oS.gbMid x y) (oE.gbMid ex ey).isSome
  gbLast : ∀ (B : Nat) (x y : SoftF32) (ex ey : ExactScore), B + 2 * C < 16777216 → ClsU u B x ex.isSome →
    ClsU u B y ey.isSome → ClsU u (B + C) (oS.gbLast x y) (oE.gbLast ex ey).isSome

def GaRelU (u C : Nat) (gS : Nat → SoftF32 → SoftF32 → SoftF32) (gE : Nat → ExactScore → ExactScore → ExactScore) : Prop :=
  ∀ (k B : Nat) (x y : SoftF32) (ex ey : ExactScore), B + 2 * C < 16777216 → ClsU u B x ex.isSome → ClsU u B y ey.isSome →
    ClsU u (B + C) (gS k x y) (gE k ex ey).isSome

/-- the bound of level `d` is `B₀ + C·d`; below level `L` there is room for a cell formula, and `k` levels up pay `k·C` for it -/
private theorem room {B0 C L d d' k : Nat} (hL : B0 + C * L + 2 * C < 16777216) (e : d' = d + k) (hd : d' ≤ L) :
    B0 + C * d + 2 * C < 16777216 ∧ B0 + C * d' = B0 + C * d + k * C := by
  subst e
  have := Nat.mul_le_mul_left C hd
  rw [Nat.mul_add, Nat.mul_comm C k] at this ⊢
  omega

theorem GaRelU.lift {u C : Nat} {gS : Nat → SoftF32 → SoftF32 → SoftF32} {gE : Nat → ExactScore → ExactScore → ExactScore}
    (h : GaRelU u C gS gE) (B0 L : Nat) (hL : B0 + C * L + 2 * C < 16777216) :
    GaLift (fun d x (e : ExactScore) => ClsU u (B0 + C * d) x e.isSome) L gS gE := by
  intro k d d' x y ex ey e hd hx hy
  obtain ⟨r, e'⟩ := room hL e hd
  simp only [e', Nat.one_mul]
  exact h k _ x y ex ey r hx hy

theorem OpsRelU.lift {u C : Nat} {oS : RowOps SoftF32} {oE : RowOps ExactScore} (h : OpsRelU u C oS oE) (B0 L : Nat)
    (hL : B0 + C * L + 2 * C < 16777216) : OpsLift (fun d x (e : ExactScore) => ClsU u (B0 + C * d) x e.isSome) L oS oE := by
  refine ⟨GaRelU.lift (fun _ => h.gbFirst) B0 L hL, ?_, GaRelU.lift h.gaCell B0 L hL, GaRelU.lift (fun _ => h.gbMid) B0 L hL,
    GaRelU.lift (fun _ => h.gbLast) B0 L hL⟩
  intro k d d' x y z ex ey ez e hd hx hy hz
  obtain ⟨r, e'⟩ := room hL e hd
  simp only [e']
  exact h.aCell (k + 1) _ x y z ex ey ez r hx hy hz

theorem genTab_clsU (u C : Nat) (gS : Nat → SoftF32 → SoftF32 → SoftF32) (gE : Nat → ExactScore → ExactScore → ExactScore)
    (hg : GaRelU u C gS gE) (n : Nat) (sS : States SoftF32) (sE : States ExactScore)
    (oS : Nat → RowOps SoftF32) (oE : Nat → RowOps ExactScore) (ho : ∀ p, OpsRelU u C (oS p) (oE p))
    (B0 L : Nat) (hL : B0 + C * L + 2 * C < 16777216) (hs : StClsU u B0 sS sE) :
    ∀ p k, p + k ≤ L → StClsU u (B0 + C * (p + k)) (genTab gS n sS oS p k) (genTab gE n sE oE p k) :=
  genTab_rel (fun d x (e : ExactScore) => ClsU u (B0 + C * d) x e.isSome) L (fun _ => clsU_negInf u _) (hg.lift B0 L hL) n
    (fun p => (ho p).lift B0 L hL) hs

/-! ## correspondence with the exact kernel `absOps`: an exact cell is finite as soon as one of its arguments is -/

theorem gGap_isSome (term : Bool) (gpo gpe tgpe : Int) (g a : Option Int) :
    (gGap term gpo gpe tgpe g a).isSome = (g.isSome || a.isSome) := by
  unfold gGap
  cases term <;> cases g <;> cases a <;> simp [omax, osub]

theorem gAl_isSome (gpo s : Int) (a ga gb : Option Int) :
    (gAl gpo s a ga gb).isSome = (a.isSome || ga.isSome || gb.isSome) := by
  unfold gAl
  cases a <;> cases ga <;> cases gb <;> simp [omax, osub, oaddi]

theorem opsRelU_absOps {u C : Nat} {gbF gbM gbL : SoftF32 → SoftF32 → SoftF32} {aC : Nat → SoftF32 → SoftF32 → SoftF32 → SoftF32}
    {gaC : Nat → SoftF32 → SoftF32 → SoftF32} (c : KCfg) (p : Nat)
    (gbFirst : ∀ (B : Nat) (x y : SoftF32) (a b : Bool), B + 2 * C < 16777216 → ClsU u B x a → ClsU u B y b →
      ClsU u (B + C) (gbF x y) (a || b))
    (aCell : ∀ (k B : Nat) (x y z : SoftF32) (a b d : Bool), B + 2 * C < 16777216 → ClsU u B x a → ClsU u B y b →
      ClsU u B z d → ClsU u (B + 2 * C) (aC k x y z) (a || b || d))
    (gaCell : ∀ (k B : Nat) (x y : SoftF32) (a b : Bool), B + 2 * C < 16777216 → ClsU u B x a → ClsU u B y b →
      ClsU u (B + C) (gaC k x y) (a || b))
    (gbMid : ∀ (B : Nat) (x y : SoftF32) (a b : Bool), B + 2 * C < 16777216 → ClsU u B x a → ClsU u B y b →
      ClsU u (B + C) (gbM x y) (a || b))
    (gbLast : ∀ (B : Nat) (x y : SoftF32) (a b : Bool), B + 2 * C < 16777216 → ClsU u B x a → ClsU u B y b →
      ClsU u (B + C) (gbL x y) (a || b)) :
    OpsRelU u C { gbFirst := gbF, aCell := aC, gaCell := gaC, gbMid := gbM, gbLast := gbL } (absOps c p) where
  gbFirst B x y ex ey hB hx hy := by simp only [absOps, gGap_isSome]; exact gbFirst B x y _ _ hB hx hy
  aCell k B x y z ex ey ez hB hx hy hz := by simp only [absOps, gAl_isSome]; exact aCell k B x y z _ _ _ hB hx hy hz
  gaCell k B x y ex ey hB hx hy := by simp only [absOps, gGap_isSome]; exact gaCell k B x y _ _ hB hx hy
  gbMid B x y ex ey hB hx hy := by simp only [absOps, gGap_isSome]; exact gbMid B x y _ _ hB hx hy
  gbLast B x y ex ey hB hx hy := by simp only [absOps, gGap_isSome]; exact gbLast B x y _ _ hB hx hy

theorem gaRelU_absGaInit {u C : Nat} {gS : Nat → SoftF32 → SoftF32 → SoftF32} (c : KCfg)
    (h : ∀ (k B : Nat) (x y : SoftF32) (a b : Bool), B + 2 * C < 16777216 → ClsU u B x a → ClsU u B y b →
      ClsU u (B + C) (gS k x y) (a || b)) : GaRelU u C gS (absGaInit c) := by
  intro k B x y ex ey hB hx hy
  simp only [absGaInit, gGap_isSome]
  exact h k B x y _ _ hB hx hy

def StCls (B : Nat) (s : States SoftF32) (e : States ExactScore) : Prop :=
  Cls B s.a e.a.isSome ∧ Cls B s.ga e.ga.isSome ∧ Cls B s.gb e.gb.isSome

structure OpsRel (oS : RowOps SoftF32) (oE : RowOps ExactScore) : Prop where
  gbFirst : ∀ (B : Nat) (x y : SoftF32) (ex ey : ExactScore), B + 2 < 16777216 → Cls B x ex.isSome → Cls B y ey.isSome →
    Cls (B + 1) (oS.gbFirst x y) (oE.gbFirst ex ey).isSome
  aCell : ∀ (k B : Nat) (x y z : SoftF32) (ex ey ez : ExactScore), B + 2 < 16777216 → Cls B x ex.isSome →
    Cls B y ey.isSome → Cls B z ez.isSome → Cls (B + 2) (oS.aCell k x y z) (oE.aCell k ex ey ez).isSome
  gaCell : ∀ (k B : Nat) (x y : SoftF32) (ex ey : ExactScore), B + 2 < 16777216 → Cls B x ex.isSome → Cls B y ey.isSome →
    Cls (B + 1) (oS.gaCell k x y) (oE.gaCell k ex ey).isSome
  gbMid : ∀ (B : Nat) (x y : SoftF32) (ex ey : ExactScore), B + 2 < 16777216 → Cls B x ex.isSome → Cls B y ey.isSome →
    Cls (B + 1) (oS.gbMid x y) (oE.gbMid ex ey).isSome
  gbLast : ∀ (B : Nat) (x y : SoftF32) (ex ey : ExactScore), B + 2 < 16777216 → Cls B x ex.isSome → Cls B y ey.isSome →
    Cls (B + 1) (oS.gbLast x y) (oE.gbLast ex ey).isSome

def GaRel (gS : Nat → SoftF32 → SoftF32 → SoftF32) (gE : Nat → ExactScore → ExactScore → ExactScore) : Prop :=
  ∀ (k B : Nat) (x y : SoftF32) (ex ey : ExactScore), B + 2 < 16777216 → Cls B x ex.isSome → Cls B y ey.isSome →
    Cls (B + 1) (gS k x y) (gE k ex ey).isSome

theorem stClsU_20 (B : Nat) (s : States SoftF32) (e : States ExactScore) : StClsU 20 B s e ↔ StCls B s e := Iff.rfl

theorem opsRelU_of_opsRel {oS : RowOps SoftF32} {oE : RowOps ExactScore} (h : OpsRel oS oE) : OpsRelU 20 1 oS oE :=
  ⟨h.gbFirst, h.aCell, h.gaCell, h.gbMid, h.gbLast⟩

theorem gaRelU_of_gaRel {gS : Nat → SoftF32 → SoftF32 → SoftF32} {gE : Nat → ExactScore → ExactScore → ExactScore}
    (h : GaRel gS gE) : GaRelU 20 1 gS gE := h

end Kalign

import KalignModel.Model.TreeSoft
import KalignModel.Lemmas.NoFaultTree
import KalignModel.Lemmas.TreeSoftBound
import KalignModel.Lemmas.C10Tree
/-!
# `kalignRunSoft2` (Model/TreeSoft.lean): the guide-tree stage never faults

* `buildTasks2_tree`: for a non-empty array of at most 2²² code lists below 13, `buildTasks2` **returns** the sorted task table of a tree
  whose leaf list is a permutation of `0 … n-1` — no hypothesis about values (`smallTreeS_some` for the `< 100` parts, `bisectO_spec`
  for the k-means recursion, whose control flow does not depend on the `Float32` values it computes).
-/
namespace Kalign.Pipeline
open Kalign Kalign.Kmeans Kalign.Sched

theorem buildTasks2_eq_with (avx : Bool) (codes : Array (List Nat)) :
    buildTasks2 avx codes = buildTasksWith (smallTreeS codes) avx codes := rfl

theorem buildTasks2_tree (avx : Bool) (codes : Array (List Nat)) (hn : codes.size ≠ 0) (hsz : codes.size ≤ 4194304)
    (h13 : ∀ s ∈ codes.toList, ∀ c ∈ s, c < 13) :
    ∃ T : Tree, buildTasks2 avx codes = .ok (Kmeans.sortTasks (treeTasks T codes.size)).toArray ∧
      T.leaves.Perm (List.range codes.size) := by
  obtain ⟨anchors, dm, hrows, e⟩ := buildTasksWith_eq (smallTreeS codes) avx codes hn h13
  have hrne : List.range codes.size ≠ [] := by rwa [Ne, List.range_eq_nil]
  obtain ⟨s1, _, s3⟩ := bisectO_spec avx dm anchors.length (smallTreeS codes) (smallTreeS_leaves codes) codes.size
    (List.range codes.size) hrne (by simp)
  obtain ⟨t, ht⟩ := s3 hrows (fun l hl hsub => smallTreeS_some codes h13 l hl (by
    have := hsub.length_le
    simp only [List.length_range] at this
    omega))
  rw [buildTasks2_eq_with, e, ht]
  exact ⟨t, rfl, bisectO_leaves_perm avx dm anchors.length (smallTreeS codes)
    (fun l t _ hs => smallTreeS_leaves_perm codes l t hs) _ _ t List.nodup_range ht⟩

end Kalign.Pipeline

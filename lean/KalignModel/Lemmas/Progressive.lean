import KalignModel.Model.Progressive
import KalignModel.Lemmas.Weave
/-! The weave algebra on column lists and groups, for C01 / C10: a merge (`make_seq`) weaves every row of side a by `weaveA`
and every row of side b by `weaveB` (`updA_row`, `updB_row`, `mergeGroups_rows`), and deleting the all-gap columns of a set
of woven rows gives back what deleting them from the old rows gives (`dropAllGapCols_weaveA/B`).  Side b is side a under
`Col.swap`, so the column-wise facts are proved for side a only.
`GroupOK`: the group invariant of C01.  `Woven V R f`: the members of a finished group `V` sit in a later group `R` with their
rows unchanged up to all-gap columns (`woven_refl`, and `woven_left` / `woven_right` over a merge). -/
namespace Kalign
variable {α : Type}

theorem length_updateGaps (g ng : List Nat) : (updateGaps g ng).length = g.length := by
  induction g generalizing ng with
  | nil => rfl
  | cons x xs ih => simp [updateGaps, ih]

@[simp] theorem consA_nil : consA [] = 0 := rfl
@[simp] theorem consB_nil : consB [] = 0 := rfl
@[simp] theorem consA_both (cs : List Col) : consA (.both :: cs) = consA cs + 1 := by simp [consA]
@[simp] theorem consA_gapB (cs : List Col) : consA (.gapB :: cs) = consA cs + 1 := by simp [consA]
@[simp] theorem consA_gapA (cs : List Col) : consA (.gapA :: cs) = consA cs := by simp [consA]
@[simp] theorem consA_skip (cs : List Col) : consA (.skip :: cs) = consA cs := by simp [consA]
@[simp] theorem consB_both (cs : List Col) : consB (.both :: cs) = consB cs + 1 := by simp [consB]
@[simp] theorem consB_gapA (cs : List Col) : consB (.gapA :: cs) = consB cs + 1 := by simp [consB]
@[simp] theorem consB_gapB (cs : List Col) : consB (.gapB :: cs) = consB cs := by simp [consB]
@[simp] theorem consB_skip (cs : List Col) : consB (.skip :: cs) = consB cs := by simp [consB]

theorem consA_append (a b : List Col) : consA (a ++ b) = consA a + consA b := by
  simp [consA, List.filter_append]
theorem consB_append (a b : List Col) : consB (a ++ b) = consB a + consB b := by
  simp [consB, List.filter_append]

def Col.swap : Col → Col
  | .both => .both | .gapA => .gapB | .gapB => .gapA | .skip => .skip

theorem consB_eq_swap (cs : List Col) : consB cs = consA (cs.map Col.swap) := by
  induction cs with
  | nil => rfl
  | cons c cs ih => cases c <;> simp [Col.swap, ih]

theorem gapVecB_eq_swap (cs : List Col) : gapVecB cs = gapVecA (cs.map Col.swap) := by
  induction cs with
  | nil => rfl
  | cons c cs ih => cases c <;> simp [Col.swap, gapVecA, gapVecB, ih]

theorem weaveB_eq_swap (cs : List Col) : weaveB (α := α) cs = weaveA (cs.map Col.swap) := by
  funext r
  induction cs generalizing r with
  | nil => rfl
  | cons c cs ih => cases c <;> cases r <;> simp [Col.swap, weaveA, weaveB, ih]

theorem skip_not_mem_swap (cs : List Col) (h : Col.skip ∉ cs) : Col.skip ∉ cs.map Col.swap := by
  intro hm
  obtain ⟨c, hc, e⟩ := List.mem_map.1 hm
  cases c
  case skip => exact h hc
  all_goals cases e

theorem map_swap_swap (cs : List Col) : (cs.map Col.swap).map Col.swap = cs := by
  induction cs with
  | nil => rfl
  | cons c cs ih => cases c <;> simp [Col.swap, ih]

theorem consA_swap (cs : List Col) : consA (cs.map Col.swap) = consB cs := (consB_eq_swap cs).symm
theorem consB_swap (cs : List Col) : consB (cs.map Col.swap) = consA cs := by
  have := consB_eq_swap (cs.map Col.swap)
  rw [map_swap_swap] at this
  exact this

theorem validCols_swap (cs : List Col) (la lb : Nat) (h : ValidCols cs la lb) : ValidCols (cs.map Col.swap) lb la :=
  ⟨skip_not_mem_swap cs h.1, by rw [consA_swap]; exact h.2.2, by rw [consB_swap]; exact h.2.1⟩

theorem length_gapVecA (cs : List Col) : (gapVecA cs).length = consA cs + 1 := by
  induction cs with
  | nil => rfl
  | cons c cs ih =>
    cases c with
    | gapA =>
      have hne : gapVecA cs ≠ [] := by intro h; rw [h] at ih; simp at ih
      simp [gapVecA, length_bump _ hne, ih]
    | both | gapB | skip => simp [gapVecA, ih]

theorem length_gapVecB (cs : List Col) : (gapVecB cs).length = consB cs + 1 := by
  rw [gapVecB_eq_swap, consB_eq_swap, length_gapVecA]

theorem insertCols_bump (r : List (Option α)) (g : List Nat) (h : g ≠ []) :
    insertCols r (bump g) = none :: insertCols r g := by
  cases g with
  | nil => exact absurd rfl h
  | cons n ns => cases r <;> simp [bump, insertCols, List.replicate_succ]

theorem weaveA_eq_insertCols (cs : List Col) (r : List (Option α)) (h : r.length = consA cs) :
    weaveA cs r = insertCols r (gapVecA cs) := by
  induction cs generalizing r with
  | nil =>
    have : r = [] := by simpa using h
    subst this; simp [weaveA, gapVecA, insertCols]
  | cons c cs ih =>
    cases c with
    | both | gapB =>
      match r, h with
      | x :: r', h =>
        simp only [weaveA, gapVecA, insertCols, List.replicate_zero, List.nil_append]
        rw [ih r' (by simpa using h)]
    | gapA =>
      have hne : gapVecA cs ≠ [] := by
        intro h'; have := length_gapVecA cs; rw [h'] at this; simp at this
      simp only [weaveA, gapVecA]
      rw [insertCols_bump _ _ hne, ih r (by simpa using h)]
    | skip =>
      simp only [weaveA, gapVecA]
      exact ih r (by simpa using h)

theorem row_updateGaps_A (cs : List Col) (s : GSeq α) (hwf : s.WF) (hl : s.row.length = consA cs) :
    makeLinear s.res (updateGaps s.gaps (gapVecA cs)) = weaveA cs s.row := by
  rw [weaveA_eq_insertCols cs s.row hl]
  exact (weave s.res s.gaps (gapVecA cs) hwf (by rw [length_gapVecA]; exact congrArg (· + 1) hl.symm)).symm

theorem row_updateGaps_B (cs : List Col) (s : GSeq α) (hwf : s.WF) (hl : s.row.length = consB cs) :
    makeLinear s.res (updateGaps s.gaps (gapVecB cs)) = weaveB cs s.row := by
  rw [gapVecB_eq_swap, weaveB_eq_swap]
  exact row_updateGaps_A _ s hwf (by rw [← consB_eq_swap]; exact hl)

theorem length_weaveA (cs : List Col) (r : List (Option α)) (hs : Col.skip ∉ cs)
    (h : r.length = consA cs) : (weaveA cs r).length = cs.length := by
  induction cs generalizing r with
  | nil => simpa [weaveA] using h
  | cons c cs ih =>
    have hs' : Col.skip ∉ cs := fun hm => hs (List.mem_cons_of_mem _ hm)
    cases c with
    | both | gapB =>
      match r, h with
      | x :: r', h => simp [weaveA, ih r' hs' (by simpa using h)]
    | gapA => simp [weaveA, ih r hs' (by simpa using h)]
    | skip => exact absurd (List.mem_cons_self) hs

theorem length_weaveB (cs : List Col) (r : List (Option α)) (hs : Col.skip ∉ cs)
    (h : r.length = consB cs) : (weaveB cs r).length = cs.length := by
  rw [weaveB_eq_swap, length_weaveA _ _ (skip_not_mem_swap cs hs) (by rw [← consB_eq_swap]; exact h),
    List.length_map]

@[simp] theorem cell_nil (k : Nat) : cell ([] : List (Option α)) k = none := by simp [cell]
@[simp] theorem cell_cons_zero (x : Option α) (r : List (Option α)) : cell (x :: r) 0 = x := by
  cases x <;> simp [cell]
@[simp] theorem cell_cons_succ (x : Option α) (r : List (Option α)) (k : Nat) :
    cell (x :: r) (k + 1) = cell r k := by simp [cell]

theorem cell_weaveA_nil (cs : List Col) (k : Nat) : cell (weaveA cs ([] : List (Option α))) k = none := by
  induction cs generalizing k with
  | nil => simp [weaveA]
  | cons c cs ih =>
    cases c <;> simp only [weaveA] <;> first | exact ih k | (cases k <;> simp [ih])

theorem cell_weaveA (cs : List Col) (r : List (Option α)) (hs : Col.skip ∉ cs) (k : Nat)
    (hk : k < cs.length) :
    cell (weaveA cs r) k = if cs[k]? = some Col.gapA then none else cell r (consA (cs.take k)) := by
  induction cs generalizing r k with
  | nil => simp at hk
  | cons c cs ih =>
    have hs' : Col.skip ∉ cs := fun hm => hs (List.mem_cons_of_mem _ hm)
    cases c with
    | both | gapB =>
      cases r with
      | nil => simp [weaveA, cell_weaveA_nil]
      | cons x r' =>
        cases k with
        | zero => simp [weaveA]
        | succ k => simp [weaveA, ih r' hs' k (by simpa using hk)]
    | gapA =>
      cases k with
      | zero => simp [weaveA]
      | succ k => simp [weaveA, ih r hs' k (by simpa using hk)]
    | skip => exact absurd (List.mem_cons_self) hs

theorem filter_range_succ (n : Nat) (p : Nat → Bool) :
    (List.range (n + 1)).filter p
      = (if p 0 then [0] else []) ++ ((List.range n).filter (fun k => p (k + 1))).map (· + 1) := by
  rw [List.range_succ_eq_map, List.filter_cons, List.filter_map]
  cases p 0 <;> simp [Function.comp_def]

theorem keep_map (cs : List Col) (hs : Col.skip ∉ cs) (P : Nat → Bool) :
    ((List.range cs.length).filter
        (fun k => decide (cs[k]? ≠ some Col.gapA) && P (consA (cs.take k)))).map
        (fun k => consA (cs.take k))
      = (List.range (consA cs)).filter P := by
  induction cs generalizing P with
  | nil => simp
  | cons c cs ih =>
    have hs' : Col.skip ∉ cs := fun hm => hs (List.mem_cons_of_mem _ hm)
    rw [List.length_cons, filter_range_succ]
    cases c with
    | both | gapB =>
      have := ih hs' (fun j => P (j + 1))
      simp only [consA_both, consA_gapB]
      rw [filter_range_succ, ← this]
      cases h0 : P 0 <;> simp [Function.comp_def, h0]
    | gapA =>
      have := ih hs' P
      simp [← this, Function.comp_def]
    | skip => exact absurd (List.mem_cons_self) hs

theorem colAllGap_weaveA (cs : List Col) (hs : Col.skip ∉ cs) (R : List (List (Option α)))
    (k : Nat) (hk : k < cs.length) :
    colAllGap (R.map (weaveA cs)) k
      = (decide (cs[k]? = some Col.gapA) || colAllGap R (consA (cs.take k))) := by
  induction R with
  | nil => simp [colAllGap]
  | cons r R ih =>
    simp only [colAllGap, List.map_cons, List.all_cons] at ih ⊢
    rw [ih, cell_weaveA cs r hs k hk]
    by_cases h : cs[k]? = some Col.gapA <;> simp [h]

theorem dropAllGapCols_weaveA (cs : List Col) (hs : Col.skip ∉ cs) (R : List (List (Option α))) :
    dropAllGapCols (R.map (weaveA cs)) cs.length = dropAllGapCols R (consA cs) := by
  unfold dropAllGapCols
  simp only [List.map_map]
  apply List.map_congr_left
  intro r _
  simp only [Function.comp_apply]
  have hf : (List.range cs.length).filter (fun k => !colAllGap (R.map (weaveA cs)) k)
      = (List.range cs.length).filter
          (fun k => decide (cs[k]? ≠ some Col.gapA) && !colAllGap R (consA (cs.take k))) := by
    apply List.filter_congr
    intro k hk
    rw [colAllGap_weaveA cs hs R k (by simpa using hk)]
    simp
  rw [hf, ← keep_map cs hs (fun j => !colAllGap R j), List.map_map]
  apply List.map_congr_left
  intro k hk
  have hk' := List.mem_filter.1 hk
  rw [Function.comp_apply, cell_weaveA cs r hs k (by simpa using hk'.1)]
  have : cs[k]? ≠ some Col.gapA := by have := hk'.2; simp at this; exact this.1
  simp [this]

theorem getElem?_map_swap_gapA (cs : List Col) (k : Nat) :
    ((cs.map Col.swap)[k]? = some Col.gapA) ↔ (cs[k]? = some Col.gapB) := by
  rw [List.getElem?_map]
  cases h : cs[k]? with
  | none => simp
  | some c => cases c <;> simp [Col.swap]

theorem cell_weaveB (cs : List Col) (r : List (Option α)) (hs : Col.skip ∉ cs) (k : Nat)
    (hk : k < cs.length) :
    cell (weaveB cs r) k = if cs[k]? = some Col.gapB then none else cell r (consB (cs.take k)) := by
  rw [weaveB_eq_swap, cell_weaveA _ r (skip_not_mem_swap cs hs) k (by simpa using hk),
    consB_eq_swap, List.map_take]
  simp only [getElem?_map_swap_gapA]

theorem colAllGap_weaveB (cs : List Col) (hs : Col.skip ∉ cs) (R : List (List (Option α)))
    (k : Nat) (hk : k < cs.length) :
    colAllGap (R.map (weaveB cs)) k
      = (decide (cs[k]? = some Col.gapB) || colAllGap R (consB (cs.take k))) := by
  rw [weaveB_eq_swap, colAllGap_weaveA _ (skip_not_mem_swap cs hs) R k (by simpa using hk),
    consB_eq_swap, List.map_take]
  simp only [getElem?_map_swap_gapA]

theorem dropAllGapCols_weaveB (cs : List Col) (hs : Col.skip ∉ cs) (R : List (List (Option α))) :
    dropAllGapCols (R.map (weaveB cs)) cs.length = dropAllGapCols R (consB cs) := by
  rw [weaveB_eq_swap, consB_eq_swap, ← dropAllGapCols_weaveA _ (skip_not_mem_swap cs hs) R, List.length_map]

theorem consA_take_lt (cs : List Col) (k : Nat) (c : Col) (hc : cs[k]? = some c)
    (h : c = .both ∨ c = .gapB) : consA (cs.take k) < consA cs := by
  obtain ⟨hk, rfl⟩ := List.getElem?_eq_some_iff.1 hc
  have := congrArg consA (List.take_append_drop k cs)
  rw [consA_append, List.drop_eq_getElem_cons hk] at this
  rcases h with h | h <;> simp [h] at this <;> omega

theorem consB_take_lt (cs : List Col) (k : Nat) (c : Col) (hc : cs[k]? = some c)
    (h : c = .both ∨ c = .gapA) : consB (cs.take k) < consB cs := by
  rw [consB_eq_swap, consB_eq_swap, List.map_take]
  apply consA_take_lt _ k c.swap
  · rw [List.getElem?_map, hc]; rfl
  · rcases h with rfl | rfl <;> simp [Col.swap]

def updA (cs : List Col) (m : Member α) : Member α :=
  { m with seq := { m.seq with gaps := updateGaps m.seq.gaps (gapVecA cs) } }
def updB (cs : List Col) (m : Member α) : Member α :=
  { m with seq := { m.seq with gaps := updateGaps m.seq.gaps (gapVecB cs) } }

theorem mergeGroups_eq (codes : List Nat) (A B : Group α) :
    mergeGroups codes A B
      = A.reverse.map (updA (codes.map Col.ofCode)) ++ B.reverse.map (updB (codes.map Col.ofCode)) :=
  rfl

/-- `make_seq` on sequences without their input indices (`mergeStep`, Model/Weave.lean: what the unit correspondence op
`make_seq` runs) is `mergeGroups`, of which C01 and C10 speak, with the indices dropped -/
theorem mergeGroups_seq (codes : List Nat) (A B : Group α) :
    (mergeGroups codes A B).map (·.seq) = mergeStep codes (A.map (·.seq)) (B.map (·.seq)) := by
  simp [mergeGroups, mergeStep, Function.comp_def]

@[simp] theorem updA_idx (cs : List Col) (m : Member α) : (updA cs m).idx = m.idx := rfl
@[simp] theorem updB_idx (cs : List Col) (m : Member α) : (updB cs m).idx = m.idx := rfl
@[simp] theorem updA_res (cs : List Col) (m : Member α) : (updA cs m).seq.res = m.seq.res := rfl
@[simp] theorem updB_res (cs : List Col) (m : Member α) : (updB cs m).seq.res = m.seq.res := rfl

theorem updA_wf (cs : List Col) (m : Member α) (h : m.seq.WF) : (updA cs m).seq.WF := by
  simp only [GSeq.WF, updA, length_updateGaps]; exact h
theorem updB_wf (cs : List Col) (m : Member α) (h : m.seq.WF) : (updB cs m).seq.WF := by
  simp only [GSeq.WF, updB, length_updateGaps]; exact h

theorem updA_row (cs : List Col) (m : Member α) (h : m.seq.WF) (hl : m.seq.row.length = consA cs) :
    (updA cs m).seq.row = weaveA cs m.seq.row := row_updateGaps_A cs m.seq h hl
theorem updB_row (cs : List Col) (m : Member α) (h : m.seq.WF) (hl : m.seq.row.length = consB cs) :
    (updB cs m).seq.row = weaveB cs m.seq.row := row_updateGaps_B cs m.seq h hl

theorem mem_mergeGroups (codes : List Nat) (A B : Group α) (m' : Member α) :
    m' ∈ mergeGroups codes A B ↔
      (∃ m ∈ A, m' = updA (codes.map Col.ofCode) m) ∨ (∃ m ∈ B, m' = updB (codes.map Col.ofCode) m) := by
  simp only [mergeGroups_eq, List.mem_append, List.mem_map, List.mem_reverse, eq_comm]

theorem mergeGroups_idx (codes : List Nat) (A B : Group α) :
    (mergeGroups codes A B).map (·.idx) = (A.map (·.idx)).reverse ++ (B.map (·.idx)).reverse := by
  simp [mergeGroups_eq, Function.comp_def]

theorem mergeGroups_rows (codes : List Nat) (A B : Group α)
    (wfA : ∀ m ∈ A, m.seq.WF) (wfB : ∀ m ∈ B, m.seq.WF)
    (lenA : ∀ m ∈ A, m.seq.row.length = consA (codes.map Col.ofCode))
    (lenB : ∀ m ∈ B, m.seq.row.length = consB (codes.map Col.ofCode)) :
    (mergeGroups codes A B).map (·.seq.row)
      = (A.reverse.map (·.seq.row)).map (weaveA (codes.map Col.ofCode)) ++
        (B.reverse.map (·.seq.row)).map (weaveB (codes.map Col.ofCode)) := by
  rw [mergeGroups_eq, List.map_append, List.map_map, List.map_map, List.map_map, List.map_map]
  congr 1
  · apply List.map_congr_left
    intro m hm
    have hm' := List.mem_reverse.1 hm
    exact updA_row _ m (wfA m hm') (lenA m hm')
  · apply List.map_congr_left
    intro m hm
    have hm' := List.mem_reverse.1 hm
    exact updB_row _ m (wfB m hm') (lenB m hm')

theorem plen_of_forall (g : Group α) (n : Nat) (hne : g ≠ []) (h : ∀ m ∈ g, m.seq.row.length = n) :
    g.plen = n := by
  cases g with
  | nil => exact absurd rfl hne
  | cons m g => exact h m List.mem_cons_self

theorem colAllGap_append (X Y : List (List (Option α))) (k : Nat) :
    colAllGap (X ++ Y) k = (colAllGap X k && colAllGap Y k) := by
  simp [colAllGap]

theorem colAllGap_reverse (X : List (List (Option α))) (k : Nat) :
    colAllGap X.reverse k = colAllGap X k := by
  simp [colAllGap]

theorem mergeGroups_ne_nil (codes : List Nat) (A B : Group α) (hA : A ≠ []) :
    mergeGroups codes A B ≠ [] := by
  cases A with
  | nil => exact absurd rfl hA
  | cons a A => simp [mergeGroups_eq]

theorem makeLinear_replicate_zero (s : List α) :
    makeLinear s (List.replicate (s.length + 1) 0) = s.map some := by
  induction s with
  | nil => simp [makeLinear]
  | cons x xs ih =>
    rw [List.length_cons, List.replicate_succ]
    simp only [makeLinear, List.replicate_zero, List.nil_append, List.map_cons, ih]

theorem cell_map_some (s : List α) (k : Nat) (hk : k < s.length) :
    cell (s.map some) k = some s[k] := by
  simp [cell, hk]

theorem find?_idx_of_nodup (g : Group α) (hnd : (g.map (·.idx)).Nodup) (m : Member α) (hm : m ∈ g) :
    g.find? (·.idx = m.idx) = some m := by
  induction g with
  | nil => cases hm
  | cons a g ih =>
    rw [List.map_cons, List.nodup_cons] at hnd
    rcases List.mem_cons.1 hm with rfl | hm'
    · simp
    · have hne : a.idx ≠ m.idx := by
        intro h; apply hnd.1; rw [h]; exact List.mem_map_of_mem hm'
      rw [List.find?_cons_of_neg (by simpa using hne)]
      exact ih hnd.2 hm'

theorem finalRow_of_mem (g : Group α) (hnd : (g.map (·.idx)).Nodup) (m : Member α) (hm : m ∈ g) :
    finalRow g m.idx = some m.seq.row := by
  simp [finalRow, find?_idx_of_nodup g hnd m hm]

theorem range_map_cell (r : List (Option α)) : (List.range r.length).map (cell r) = r := by
  apply List.ext_getElem
  · simp
  · intro k h1 h2
    simp [cell, h2]

theorem dropAllGapCols_id (R : List (List (Option α))) (L : Nat) (hl : ∀ r ∈ R, r.length = L)
    (hn : NoAllGapCol R L) : dropAllGapCols R L = R := by
  unfold dropAllGapCols
  have hf : (List.range L).filter (fun k => !colAllGap R k) = List.range L := by
    apply List.filter_eq_self.2
    intro k hk
    simp [hn k (by simpa using hk)]
  rw [hf]
  conv => rhs; rw [← List.map_id R]
  apply List.map_congr_left
  intro r hr
  rw [← hl r hr, range_map_cell]; rfl

theorem cell_map_cell (r : List (Option α)) (l : List Nat) (k : Nat) (x : α)
    (h : cell (l.map (cell r)) k = some x) : ∃ k', cell r k' = some x ∧ l[k]? = some k' := by
  unfold cell at h
  rw [List.getElem?_map] at h
  cases hk : l[k]? with
  | none => rw [hk] at h; simp at h
  | some k' =>
    rw [hk] at h
    exact ⟨k', by simpa [cell] using h, rfl⟩

theorem column_mates_of_drop {β : Type} (G : List β) (full part : β → List (Option α)) (L : Nat)
    (h : dropAllGapCols (G.map full) L = G.map part) (m₁ m₂ : β) (h₁ : m₁ ∈ G) (h₂ : m₂ ∈ G)
    (k : Nat) (x y : α) (hx : cell (part m₁) k = some x) (hy : cell (part m₂) k = some y) :
    ∃ k', cell (full m₁) k' = some x ∧ cell (full m₂) k' = some y := by
  unfold dropAllGapCols at h
  rw [List.map_map] at h
  have h' := List.map_inj_left.1 h
  have e1 := h' m₁ h₁
  have e2 := h' m₂ h₂
  simp only [Function.comp_apply] at e1 e2
  rw [← e1] at hx
  rw [← e2] at hy
  obtain ⟨k1, hk1, hl1⟩ := cell_map_cell _ _ _ _ hx
  obtain ⟨k2, hk2, hl2⟩ := cell_map_cell _ _ _ _ hy
  rw [hl1] at hl2
  cases hl2
  exact ⟨k1, hk1, hk2⟩

structure GroupOK (seqs : Nat → List α) (g : Group α) : Prop where
  wf : ∀ m ∈ g, m.seq.WF
  res : ∀ m ∈ g, m.seq.res = seqs m.idx
  len : ∀ m ∈ g, m.seq.row.length = g.plen
  nogapcol : NoAllGapCol (g.map (·.seq.row)) g.plen

/-- how the members of a finished group `V` sit in a later group `R`: `f` sends a member to its later self -/
structure Woven (V R : Group α) (f : Member α → Member α) : Prop where
  mem : ∀ m ∈ V, f m ∈ R
  idx : ∀ m ∈ V, (f m).idx = m.idx
  res : ∀ m ∈ V, (f m).seq.res = m.seq.res
  rows : dropAllGapCols (V.map fun m => (f m).seq.row) R.plen = V.map (·.seq.row)

theorem woven_refl {seqs : Nat → List α} {V : Group α} (h : GroupOK seqs V) : Woven V V id := by
  refine ⟨fun _ hm => hm, fun _ _ => rfl, fun _ _ => rfl, ?_⟩
  apply dropAllGapCols_id _ _ _ h.nogapcol
  intro r hr
  obtain ⟨m, hm, rfl⟩ := List.mem_map.1 hr
  exact h.len m hm

/-- one merge, seen from the side `A` the finished group is on: `upd`, `weave`, `n` are `updA cs`, `weaveA cs`, `consA cs` or
their `B` twins, `R` is the merged group -/
theorem woven_step {seqs : Nat → List α} {V A R : Group α} {f : Member α → Member α} {cs : List Col} {n : Nat}
    {upd : Member α → Member α} {weave : List (Option α) → List (Option α)}
    (hA : GroupOK seqs A) (hn : A.plen = n) (hp : R.plen = cs.length)
    (hmem : ∀ m ∈ A, upd m ∈ R) (hidx : ∀ m, (upd m).idx = m.idx) (hres : ∀ m, (upd m).seq.res = m.seq.res)
    (hrow : ∀ m, m.seq.WF → m.seq.row.length = n → (upd m).seq.row = weave m.seq.row)
    (hdrop : ∀ X : List (List (Option α)), dropAllGapCols (X.map weave) cs.length = dropAllGapCols X n)
    (w : Woven V A f) : Woven V R (fun m => upd (f m)) := by
  refine ⟨fun m hm => hmem _ (w.mem m hm), fun m hm => (hidx _).trans (w.idx m hm),
    fun m hm => (hres _).trans (w.res m hm), ?_⟩
  have e : (V.map fun m => (upd (f m)).seq.row) = (V.map fun m => (f m).seq.row).map weave := by
    rw [List.map_map]
    exact List.map_congr_left fun m hm =>
      hrow _ (hA.wf _ (w.mem m hm)) (by rw [hA.len _ (w.mem m hm), hn])
  rw [e, hp, hdrop, ← hn]
  exact w.rows

theorem woven_left {seqs : Nat → List α} {V A B : Group α} {f : Member α → Member α} {codes : List Nat}
    (hA : GroupOK seqs A) (hv : ValidCols (codes.map Col.ofCode) A.plen B.plen)
    (hp : (mergeGroups codes A B).plen = codes.length) (w : Woven V A f) :
    Woven V (mergeGroups codes A B) (fun m => updA (codes.map Col.ofCode) (f m)) :=
  woven_step hA hv.2.1.symm (by rw [hp, List.length_map])
    (fun m hm => (mem_mergeGroups _ _ _ _).2 (Or.inl ⟨m, hm, rfl⟩)) (updA_idx _) (updA_res _)
    (fun m h hl => updA_row _ m h hl) (fun X => dropAllGapCols_weaveA _ hv.1 X) w

theorem woven_right {seqs : Nat → List α} {V A B : Group α} {f : Member α → Member α} {codes : List Nat}
    (hB : GroupOK seqs B) (hv : ValidCols (codes.map Col.ofCode) A.plen B.plen)
    (hp : (mergeGroups codes A B).plen = codes.length) (w : Woven V B f) :
    Woven V (mergeGroups codes A B) (fun m => updB (codes.map Col.ofCode) (f m)) :=
  woven_step hB hv.2.2.symm (by rw [hp, List.length_map])
    (fun m hm => (mem_mergeGroups _ _ _ _).2 (Or.inr ⟨m, hm, rfl⟩)) (updB_idx _) (updB_res _)
    (fun m h hl => updB_row _ m h hl) (fun X => dropAllGapCols_weaveB _ hv.1 X) w

theorem woven_finalRow {V R : Group α} {f : Member α → Member α} (w : Woven V R f)
    (hnd : (R.map (·.idx)).Nodup) :
    (V.map fun m => (finalRow R m.idx).getD []) = V.map fun m => (f m).seq.row := by
  apply List.map_congr_left
  intro m hm
  have := finalRow_of_mem R hnd (f m) (w.mem m hm)
  rw [w.idx m hm] at this
  rw [this]; rfl

end Kalign

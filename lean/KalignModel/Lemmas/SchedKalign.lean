import KalignModel.Model.SchedKalign
import KalignModel.Lemmas.Sched
/-!
# Footprints of kalign's task programs: the ids an atom names, and which atoms are disjoint

And the numbering `label_internal` gives a guide tree (`labelFrom_spec`, `labelFrom_iids`, `LTree.ids_perm`): the inner nodes get
`n … n + nint T − 1` in post-order, so the ids of a tree over distinct leaves below `n` are distinct (`labelFrom_nodup`).
-/
namespace Kalign.Sched
open Kalign

/-- what distinct ids mean at a node of `LTree.ids` / `KTree.ids` (left ids, right ids, then the node) -/
theorem nodup_node {l r : List Nat} {c : Nat} (h : (l ++ r ++ [c]).Nodup) :
    l.Nodup ∧ r.Nodup ∧ (∀ i, i ∈ l → i ∈ r → False) ∧ ∀ i ∈ l ++ r, i ≠ c :=
  have hlr := (List.nodup_append.1 h).1
  ⟨(List.nodup_append.1 hlr).1, (List.nodup_append.1 hlr).2.1,
    fun i h1 h2 => (List.nodup_append.1 hlr).2.2 i h1 i h2 rfl,
    fun i hi e => (List.nodup_append.1 h).2.2 i hi c (by simp) e⟩

theorem LTree.id_mem_ids (t : LTree) : t.id ∈ t.ids := by
  cases t <;> simp [LTree.id, LTree.ids]

theorem LTree.leaves_subset_ids (t : LTree) : ∀ i ∈ t.leaves, i ∈ t.ids := by
  induction t with
  | leaf i => simp [LTree.leaves, LTree.ids]
  | node c l r ihl ihr =>
    intro i hi
    simp only [LTree.leaves, List.mem_append] at hi
    simp only [LTree.ids, List.mem_append]
    exact hi.elim (fun h => Or.inl (Or.inl (ihl i h))) (fun h => Or.inl (Or.inr (ihr i h)))

theorem LTree.Sub.ids_subset {v t : LTree} (h : LTree.Sub v t) : ∀ i ∈ v.ids, i ∈ t.ids := by
  induction h with
  | refl => exact fun _ h => h
  | left _ ih => intro i hi; simp only [LTree.ids, List.mem_append]; exact Or.inl (Or.inl (ih i hi))
  | right _ ih => intro i hi; simp only [LTree.ids, List.mem_append]; exact Or.inl (Or.inr (ih i hi))

def MergeAtom.names (m : MergeAtom) : List Nat := m.a :: m.b :: m.c :: m.members

theorem atoms_treeProg_names (t : LTree) (m : MergeAtom) (hm : m ∈ (treeProg t).atoms) :
    ∀ i ∈ m.names, i ∈ t.ids := by
  induction t with
  | leaf i => simp [treeProg, Prog.atoms] at hm
  | node c l r ihl ihr =>
    simp only [treeProg, Prog.atoms, List.mem_append, List.mem_singleton] at hm
    intro i hi
    simp only [LTree.ids, List.mem_append, List.mem_singleton]
    rcases hm with (hm | hm) | hm
    · exact Or.inl (Or.inl (ihl hm i hi))
    · exact Or.inl (Or.inr (ihr hm i hi))
    · subst hm
      simp only [MergeAtom.names, LTree.mergeAtom, List.mem_cons, List.mem_append] at hi
      rcases hi with e | e | e | e | e
      · exact Or.inl (Or.inl (e ▸ l.id_mem_ids))
      · exact Or.inl (Or.inr (e ▸ r.id_mem_ids))
      · exact Or.inr e
      · exact Or.inl (Or.inl (l.leaves_subset_ids i e))
      · exact Or.inl (Or.inr (r.leaves_subset_ids i e))

def KLoc.idx : KLoc → Option Nat
  | .input => none
  | .gaps i => some i
  | .profile k => some k
  | .sip k => some k
  | .nsip k => some k
  | .plen k => some k
  | .active k => some k

theorem owns_idx (m : MergeAtom) (x : KLoc) (h : m.owns x = true) : ∃ k, x.idx = some k ∧ k ∈ m.names := by
  cases x with
  | input => simp [MergeAtom.owns] at h
  | gaps i => exact ⟨i, rfl, by simp [MergeAtom.names, show i ∈ m.members by simpa [MergeAtom.owns] using h]⟩
  | profile k | sip k | nsip k | plen k | active k =>
    have h' : k = m.a ∨ k = m.b ∨ k = m.c := by simpa [MergeAtom.owns, or_assoc] using h
    exact ⟨k, rfl, by rcases h' with e | e | e <;> simp [MergeAtom.names, e]⟩

theorem touches_merge (m : MergeAtom) (x : KLoc) (h : (mergeFp m).touches x) :
    x.idx = none ∨ ∃ k, x.idx = some k ∧ k ∈ m.names := by
  rcases h with h | h
  · have h' : x = .input ∨ m.owns x = true := by simpa [mergeFp, mergeRd] using h
    exact h'.elim (fun e => Or.inl (e ▸ rfl)) (fun o => Or.inr (owns_idx m x o))
  · exact Or.inr (owns_idx m x h)

theorem atoms_treeProg (T : LTree) : (treeProg T).atoms = T.serialMerges := by
  induction T with
  | leaf i => rfl
  | node c l r ihl ihr => simp only [treeProg, Prog.atoms, LTree.serialMerges, ihl, ihr]

theorem treeProg_sub {v T : LTree} (h : LTree.Sub v T) : Prog.Sub (treeProg v) (treeProg T) := by
  induction h with
  | refl => exact .refl _
  | left _ ih => exact .seqL (.parL ih)
  | right _ ih => exact .seqL (.parR ih)

theorem mergeAtom_mem (c : Nat) (l r : LTree) : LTree.mergeAtom c l r ∈ (treeProg (.node c l r)).atoms := by
  simp [treeProg, Prog.atoms]

theorem serialMerges_c_subset (T : LTree) : ∀ m ∈ T.serialMerges, m.c ∈ T.ids := by
  intro m hm
  rw [← atoms_treeProg] at hm
  exact atoms_treeProg_names T m hm m.c (by simp [MergeAtom.names])

theorem serialMerges_nodup (T : LTree) (hnd : T.ids.Nodup) : T.serialMerges.Nodup := by
  induction T with
  | leaf i => simp [LTree.serialMerges]
  | node c l r ihl ihr =>
    obtain ⟨hl, hr, hdis, hc⟩ := nodup_node hnd
    simp only [LTree.serialMerges]
    refine List.nodup_append.2 ⟨List.nodup_append.2 ⟨ihl hl, ihr hr, ?_⟩, by simp, ?_⟩
    · intro m1 h1 m2 h2 e
      subst e
      exact hdis _ (serialMerges_c_subset l m1 h1) (serialMerges_c_subset r m1 h2)
    · intro m1 h1 m2 h2 e
      simp only [List.mem_singleton] at h2
      subst h2; subst e
      have : (LTree.mergeAtom c l r).c ∈ l.ids ++ r.ids := by
        rcases List.mem_append.1 h1 with h | h
        · exact List.mem_append.2 (Or.inl (serialMerges_c_subset l _ h))
        · exact List.mem_append.2 (Or.inr (serialMerges_c_subset r _ h))
      exact hc _ this rfl

theorem labelFrom_spec (T : Tree) (n : Nat) :
    n ≤ (labelFrom T n).2 ∧ (labelFrom T n).1.leaves = T.leaves ∧ (labelFrom T n).1.erase = T ∧
    (∀ i ∈ (labelFrom T n).1.ids, i ∈ T.leaves ∨ (n ≤ i ∧ i < (labelFrom T n).2)) := by
  induction T generalizing n with
  | leaf i => simp [labelFrom, LTree.leaves, Tree.leaves, LTree.erase, LTree.ids]
  | node l r ihl ihr =>
    obtain ⟨a1, a2, a3, a4⟩ := ihl n
    obtain ⟨b1, b2, b3, b4⟩ := ihr (labelFrom l n).2
    refine ⟨?_, ?_, ?_, ?_⟩
    · simp only [labelFrom]; omega
    · simp only [labelFrom, LTree.leaves, Tree.leaves, a2, b2]
    · simp only [labelFrom, LTree.erase, a3, b3]
    · intro i hi
      simp only [labelFrom, LTree.ids, List.mem_append, List.mem_singleton] at hi
      simp only [labelFrom, Tree.leaves, List.mem_append]
      rcases hi with (hi | hi) | hi
      · rcases a4 i hi with h | h
        · exact Or.inl (Or.inl h)
        · exact Or.inr (by omega)
      · rcases b4 i hi with h | h
        · exact Or.inl (Or.inr h)
        · exact Or.inr (by omega)
      · exact Or.inr (by omega)

end Kalign.Sched

namespace Kalign.Kmeans
open Kalign Kalign.Sched

def LTree.iids : LTree → List Nat
  | .leaf _ => []
  | .node c l r => LTree.iids l ++ LTree.iids r ++ [c]

def Tree.nint : Tree → Nat
  | .leaf _ => 0
  | .node l r => Tree.nint l + Tree.nint r + 1

def LTree.nint : LTree → Nat
  | .leaf _ => 0
  | .node _ l r => LTree.nint l + LTree.nint r + 1

theorem LTree.length_iids (t : LTree) : (LTree.iids t).length = LTree.nint t := by
  induction t with
  | leaf i => rfl
  | node c l r ihl ihr => simp [LTree.iids, LTree.nint, ihl, ihr]; omega

theorem labelFrom_iids (T : Tree) (n : Nat) :
    LTree.iids (labelFrom T n).1 = List.range' n (Tree.nint T) ∧ (labelFrom T n).2 = n + Tree.nint T ∧
      LTree.nint (labelFrom T n).1 = Tree.nint T := by
  induction T generalizing n with
  | leaf i => simp [labelFrom, LTree.iids, Tree.nint, LTree.nint]
  | node l r ihl ihr =>
    obtain ⟨a1, a2, a3⟩ := ihl n
    obtain ⟨b1, b2, b3⟩ := ihr (labelFrom l n).2
    rw [a2] at b1 b2 b3
    refine ⟨?_, ?_, ?_⟩
    · simp only [labelFrom, LTree.iids, a1, a2, b1, b2, Tree.nint]
      rw [List.range'_append_1, List.range'_1_concat, Nat.add_assoc]
    · simp only [labelFrom, a2, b2, Tree.nint]; omega
    · simp only [labelFrom, LTree.nint, a2, a3, b3, Tree.nint]

theorem label_leaves (T : Tree) (n : Nat) : (label T n).leaves = T.leaves := (labelFrom_spec T n).2.1

theorem label_iids (T : Tree) (n : Nat) : LTree.iids (label T n) = List.range' n (Tree.nint T) := (labelFrom_iids T n).1

end Kalign.Kmeans

namespace Kalign.Sched
open Kalign

theorem LTree.ids_perm (t : LTree) : t.ids.Perm (t.leaves ++ Kmeans.LTree.iids t) := by
  induction t with
  | leaf i => simp [LTree.ids, LTree.leaves, Kmeans.LTree.iids]
  | node c l r ihl ihr =>
    rw [List.perm_iff_count]
    intro a
    have h1 := ihl.count_eq a
    have h2 := ihr.count_eq a
    simp only [LTree.ids, LTree.leaves, Kmeans.LTree.iids, List.count_append] at h1 h2 ⊢
    omega

theorem labelFrom_nodup (T : Tree) (n : Nat) (hnd : T.leaves.Nodup) (hlt : ∀ i ∈ T.leaves, i < n) :
    (labelFrom T n).1.ids.Nodup := by
  show (label T n).ids.Nodup
  rw [(LTree.ids_perm _).nodup_iff, Kmeans.label_leaves, Kmeans.label_iids, List.nodup_append]
  refine ⟨hnd, List.nodup_range' 1, fun a ha b hb e => ?_⟩
  have := hlt a ha
  rw [List.mem_range'_1] at hb
  omega

theorem fwd_bwd_disjoint : (hirschFp .fwd).Disjoint (hirschFp .bwd) := by
  intro x
  cases x <;> simp [hirschFp, Footprint.touches, hirschRd, hirschWr]

theorem hirschRec_safe (t : HTree) (path : List Bool) :
    Safe (fun a : List Bool × HAtom => hirschFp a.2) (hirschRecProg t path) := by
  induction t generalizing path with
  | stop => trivial
  | step l r ihl ihr => exact ⟨⟨safe_par_atoms _ fwd_bwd_disjoint, trivial⟩, ihl _, ihr _⟩

theorem split_disjoint (j k : Nat) (h : j ≠ k) : (kmFp (.split j)).Disjoint (kmFp (.split k)) := by
  intro x
  cases x with
  | res i =>
    simp only [kmFp, Footprint.touches, kmRd, kmWr, beq_iff_eq, Bool.or_eq_true, KmLoc.res.injEq, reduceCtorEq, false_or, or_self]
    exact ⟨fun e1 e2 => h (e1.symm.trans e2), fun e1 e2 => h (e2.symm.trans e1)⟩
  | _ => simp [kmFp, Footprint.touches, kmRd, kmWr]

theorem kmeansRound_safe : Safe kmFp kmeansRoundProg :=
  ⟨safe_parAll_atoms kmFp KmAtom.split (is := [0, 1, 2, 3]) (by decide) fun i _ j _ => split_disjoint i j, trivial⟩

theorem cell_disjoint (i j i' j' : Nat) (h : i ≠ i' ∨ j ≠ j') :
    (dFp (.cell i j)).Disjoint (dFp (.cell i' j')) := by
  intro x
  cases x with
  | dm a b =>
    simp only [dFp, Footprint.touches, dRd, dWr, beq_iff_eq, Bool.or_eq_true, DLoc.dm.injEq, reduceCtorEq, false_or, or_self]
    constructor
    · rintro ⟨e1, e2⟩ ⟨e3, e4⟩
      rcases h with h | h
      · exact h (e1.symm.trans e3)
      · exact h (e2.symm.trans e4)
    · rintro ⟨e1, e2⟩ ⟨e3, e4⟩
      rcases h with h | h
      · exact h (e3.symm.trans e1)
      · exact h (e4.symm.trans e2)
  | _ => simp [dFp, Footprint.touches, dRd, dWr]

theorem atoms_row (i m : Nat) (a : DAtom)
    (ha : a ∈ (parAll ((List.range m).map fun j => Prog.atom (DAtom.cell i j))).atoms) :
    ∃ j, j < m ∧ a = .cell i j := by
  obtain ⟨p, hp, hap⟩ := mem_atoms_parAll.1 ha
  obtain ⟨j, hj, rfl⟩ := List.mem_map.1 hp
  simp only [Prog.atoms, List.mem_singleton] at hap
  exact ⟨j, List.mem_range.1 hj, hap⟩

theorem dEstimation_safe (n m : Nat) : Safe dFp (dEstimationProg n m) := by
  refine ⟨trivial, safe_parAll_map dFp _ List.nodup_range ?_ ?_⟩
  · intro i _
    exact safe_parAll_atoms dFp (DAtom.cell i) List.nodup_range fun j _ j' _ hjj => cell_disjoint i j i j' (Or.inr hjj)
  · intro i _ i' _ hii a ha b hb
    obtain ⟨j, _, rfl⟩ := atoms_row i m a ha
    obtain ⟨j', _, rfl⟩ := atoms_row i' m b hb
    exact cell_disjoint i j i' j' (Or.inl hii)

theorem KTree.id_mem_ids (t : KTree) : t.id ∈ t.ids := by
  cases t <;> simp [KTree.id, KTree.ids]

def KRAtom.names : KRAtom → List Nat
  | .upgma i => [i]
  | .rounds i l r => [i, l, r]
  | .join i l r => [i, l, r]

def KRLoc.idx : KRLoc → Option Nat
  | .input => none
  | .mask => none
  | .samples i => some i
  | .node i => some i

theorem atoms_kmeansRec_names (t : KTree) (a : KRAtom) (ha : a ∈ (kmeansRecProg t).atoms) :
    ∀ i ∈ a.names, i ∈ t.ids := by
  induction t with
  | small i =>
    simp only [kmeansRecProg, Prog.atoms, List.mem_singleton] at ha
    subst ha; simp [KRAtom.names, KTree.ids]
  | big i l r ihl ihr =>
    simp only [kmeansRecProg, Prog.atoms, List.mem_append, List.mem_cons, List.not_mem_nil, or_false] at ha
    intro k hk
    simp only [KTree.ids, List.mem_append, List.mem_singleton]
    -- `rounds` and `join` of a big call name the call and its two children
    have hroot : k ∈ [i, l.id, r.id] → (k ∈ l.ids ∨ k ∈ r.ids) ∨ k = i := by
      intro hk
      simp only [List.mem_cons, List.not_mem_nil, or_false] at hk
      rcases hk with e | e | e <;> subst e
      · exact Or.inr rfl
      · exact Or.inl (Or.inl l.id_mem_ids)
      · exact Or.inl (Or.inr r.id_mem_ids)
    rcases ha with ha | (ha | ha) | ha
    · subst ha; exact hroot hk
    · exact Or.inl (Or.inl (ihl ha k hk))
    · exact Or.inl (Or.inr (ihr ha k hk))
    · subst ha; exact hroot hk

theorem kr_touches_idx (a : KRAtom) (x : KRLoc) (h : (krFp0 a).touches x) :
    x.idx = none ∨ ∃ k, x.idx = some k ∧ k ∈ a.names := by
  cases a <;> cases x <;>
    simp [krFp0, Footprint.touches, krRd, krWr0, KRLoc.idx, KRAtom.names] at h ⊢ <;> omega

theorem kr_wr_idx (a : KRAtom) (x : KRLoc) (h : (krFp0 a).wr x) : ∃ k, x.idx = some k ∧ k ∈ a.names := by
  cases a <;> cases x <;> simp [krFp0, krWr0, KRLoc.idx, KRAtom.names] at h ⊢ <;> omega

theorem kr_no_mask (a : KRAtom) : ¬ (krFp0 a).touches .mask := by
  cases a <;> simp [krFp0, Footprint.touches, krRd, krWr0]

end Kalign.Sched

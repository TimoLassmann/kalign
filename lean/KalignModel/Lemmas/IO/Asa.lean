import KalignModel.Lemmas.IO.Msf
/-!
# "letter, blank, letter"

All three Clustal hint strings of `detect_alignment_format` (`multiple sequence alignment`, `CLUSTAL W`, `CLUSTAL O`)
contain a single blank between two letters.  No line of a written MSF file does (every blank there has a blank, a
digit or a punctuation mark as neighbour: `msfMagic_asa`, `msfInfoLine_asa`, `msfNameLine_asa`, `majorLines_asa`), hence
none carries a Clustal hint (`noCluHints`).  `detectFormat` lets the first line with a hint decide, so Props/C06.lean needs this of
the first line only (`msfMagic_asa` in `RowsOK.sniff_msf`); the other lines matter to a rule that counts hints over all lines
(`hints`, `detectFormatOld`).  The pattern is recognised by a 3-state automaton so that the proof composes over the pieces of a line.
-/
namespace Kalign.IO
open List

/-- 0 = nothing, 1 = previous byte is a letter, 2 = letter + one blank -/
def asaNext (st : Nat) (x : UInt8) : Nat := if isAlpha x then 1 else if x == 32 && st == 1 then 2 else 0

def asaFrom : Nat → Bytes → Bool
  | _, [] => false
  | st, x :: t => (st == 2 && isAlpha x) || asaFrom (asaNext st x) t

def asaEnd : Nat → Bytes → Nat
  | st, [] => st
  | st, x :: t => asaEnd (asaNext st x) t

theorem asaFrom_append (st : Nat) (l1 l2 : Bytes) :
    asaFrom st (l1 ++ l2) = (asaFrom st l1 || asaFrom (asaEnd st l1) l2) := by
  induction l1 generalizing st with
  | nil => simp [asaFrom, asaEnd]
  | cons x t ih => simp [asaFrom, asaEnd, ih, Bool.or_assoc]

theorem asaEnd_append (st : Nat) (l1 l2 : Bytes) : asaEnd st (l1 ++ l2) = asaEnd (asaEnd st l1) l2 := by
  induction l1 generalizing st with
  | nil => rfl
  | cons x t ih => simp [asaEnd, ih]

/-- the run from state 0 is behind every other run: same state or still 0 -/
theorem asaFrom_mono (l : Bytes) (q0 q : Nat) (h : q0 = q ∨ q0 = 0) (h0 : asaFrom q0 l = true) : asaFrom q l = true := by
  induction l generalizing q0 q with
  | nil => simp [asaFrom] at h0
  | cons x t ih =>
    simp only [asaFrom, Bool.or_eq_true, Bool.and_eq_true, beq_iff_eq] at h0 ⊢
    rcases h0 with h0 | h0
    · rcases h with rfl | rfl
      · exact Or.inl h0
      · exact absurd h0.1 (by decide)
    · right
      refine ih (asaNext q0 x) (asaNext q x) ?_ h0
      rcases h with rfl | rfl
      · exact Or.inl rfl
      · unfold asaNext
        by_cases ha : isAlpha x = true
        · simp [ha]
        · simp [ha]

theorem asaFrom_of_hasSub (needle hay : Bytes) (hn : asaFrom 0 needle = true) (hs : hasSub needle hay = true) :
    ∀ st, asaFrom st hay = true := by
  intro st
  obtain ⟨s, t, rfl⟩ := (hasSub_iff_infix ..).mp hs
  rw [asaFrom_append, asaFrom_append, asaFrom_mono needle 0 _ (Or.inr rfl) hn]
  simp

theorem cluHints_asa : ∀ h ∈ cluHints, asaFrom 0 h = true := by
  unfold cluHints
  decide_ascii

theorem noCluHints (l : Bytes) (h : asaFrom 0 l = false) : countHints cluHints l = 0 := by
  unfold countHints
  rw [countP_eq_zero]
  intro n hn hs
  have := asaFrom_of_hasSub n l (cluHints_asa n hn) hs 0
  rw [h] at this; exact absurd this (by decide)

theorem asaNext_le (st : Nat) (x : UInt8) : asaNext st x ≤ 2 := by
  unfold asaNext; split
  · omega
  · split <;> omega

theorem asaEnd_le (st : Nat) (l : Bytes) (h : st ≤ 2) : asaEnd st l ≤ 2 := by
  induction l generalizing st with
  | nil => exact h
  | cons x t ih => exact ih _ (asaNext_le st x)

theorem asaNext_two_blanks (st : Nat) : asaNext (asaNext st 32) 32 = 0 := by
  unfold asaNext
  simp only [show isAlpha 32 = false by decide]
  by_cases h : st = 1 <;> simp [h]

theorem asaFrom_two_blanks (st : Nat) (t : Bytes) : asaFrom st (32 :: 32 :: t) = asaFrom 0 t := by
  simp [asaFrom, show isAlpha 32 = false by decide, asaNext_two_blanks]

theorem asaEnd_two_blanks (st : Nat) (t : Bytes) : asaEnd st (32 :: 32 :: t) = asaEnd 0 t := by
  simp [asaEnd, asaNext_two_blanks]

theorem asa_noblank (l : Bytes) (h : (32 : UInt8) ∉ l) (st : Nat) (hst : st ≤ 1) :
    asaFrom st l = false ∧ asaEnd st l ≤ 1 := by
  induction l generalizing st with
  | nil => exact ⟨rfl, hst⟩
  | cons x t ih =>
    have hx : x ≠ 32 := by intro e; exact h (by simp [e])
    have hn : asaNext st x ≤ 1 := by
      unfold asaNext; split
      · omega
      · simp [hx]
    have := ih (fun hm => h (mem_cons_of_mem _ hm)) (asaNext st x) hn
    simp only [asaFrom, asaEnd]
    refine ⟨?_, this.2⟩
    rw [this.1]
    have : (st == 2) = false := by simp; omega
    simp [this]

theorem asa_blanks (k : Nat) (st : Nat) : asaFrom st (replicate k 32) = false := by
  induction k generalizing st with
  | zero => rfl
  | succ k ih => simp [replicate_succ, asaFrom, show isAlpha 32 = false by decide, ih]

theorem asaEnd_blanks (k : Nat) (st : Nat) (hk : 2 ≤ k) : asaEnd st (replicate k 32) = 0 := by
  obtain ⟨j, rfl⟩ : ∃ j, k = j + 2 := ⟨k - 2, by omega⟩
  rw [replicate_succ, replicate_succ, asaEnd_two_blanks]
  clear hk
  induction j with
  | zero => rfl
  | succ j ih =>
    rw [replicate_succ, asaEnd]
    have : asaNext 0 32 = 0 := by decide
    rw [this, ih]

def NoAsa (l : Bytes) : Prop := asaFrom 0 l = false ∧ asaEnd 0 l ≤ 1
def NoAsa0 (l : Bytes) : Prop := asaFrom 0 l = false ∧ asaEnd 0 l = 0

theorem NoAsa0.noAsa {l : Bytes} (h : NoAsa0 l) : NoAsa l := ⟨h.1, by rw [h.2]; omega⟩
theorem noAsa0_nil : NoAsa0 [] := ⟨rfl, rfl⟩

theorem NoAsa.noblank {X Y : Bytes} (h : NoAsa X) (hY : (32 : UInt8) ∉ Y) : NoAsa (X ++ Y) := by
  have := asa_noblank Y hY (asaEnd 0 X) h.2
  exact ⟨by rw [asaFrom_append, h.1, this.1]; rfl, by rw [asaEnd_append]; exact this.2⟩

theorem asa_nonalpha (l : Bytes) (h : ∀ b ∈ l, isAlpha b = false) : asaFrom 0 l = false ∧ asaEnd 0 l = 0 := by
  induction l with
  | nil => exact ⟨rfl, rfl⟩
  | cons x t ih =>
    have hx := h x (by simp)
    have hn : asaNext 0 x = 0 := by simp [asaNext, hx]
    have := ih (fun b hb => h b (by simp [hb]))
    simp [asaFrom, asaEnd, hn, this.1, this.2]

theorem NoAsa0.nonalpha {X Y : Bytes} (h : NoAsa0 X) (hY : ∀ b ∈ Y, isAlpha b = false) : NoAsa0 (X ++ Y) := by
  have := asa_nonalpha Y hY
  exact ⟨by rw [asaFrom_append, h.1, h.2, this.1]; rfl, by rw [asaEnd_append, h.2]; exact this.2⟩

theorem noAsa0_reset {X t : Bytes} (h : asaFrom 0 X = false) (ht : NoAsa0 t) : NoAsa0 (X ++ 32 :: 32 :: t) :=
  ⟨by rw [asaFrom_append, h, asaFrom_two_blanks, ht.1]; rfl, by rw [asaEnd_append, asaEnd_two_blanks]; exact ht.2⟩

theorem asaFrom_blanks_right {X : Bytes} (h : asaFrom 0 X = false) (k : Nat) :
    asaFrom 0 (X ++ replicate k 32) = false := by
  rw [asaFrom_append, h, asa_blanks]; rfl

theorem digits_nonalpha (n : Nat) : ∀ b ∈ decDigits n, isAlpha b = false := by
  intro b hb
  have := imp_of_or (forall_byte (fun b => !isDigit b || !isAlpha b) (by decide +kernel) b) (decDigits_isDigit n b hb)
  simpa using this

theorem pad_nonalpha (w n : Nat) : ∀ b ∈ padLeft w (decDigits n), isAlpha b = false := by
  intro b hb
  rcases mem_append.mp hb with h | h
  · rw [(mem_replicate.mp h).2]; decide
  · exact digits_nonalpha n b h

theorem plain_no_blank {l : Bytes} (h : ∀ b ∈ l, plainChar b = true) : (32 : UInt8) ∉ l := by
  intro hm; have := (plain_ne 32 (h 32 hm)).2.2.2.2.2; exact this rfl

theorem seqLine_asa (mx : Nat) (nm c : Bytes) (h : NmOK mx nm) (hn : (32 : UInt8) ∉ nm) (hc : (32 : UInt8) ∉ c) :
    asaFrom 0 (seqLine mx nm c) = false := by
  rw [seqLine_eq mx nm c h]
  have e : nm ++ 32 :: (replicate (mx + 4 - nm.length) 32 ++ c) =
      (nm ++ replicate (mx + 4 - nm.length + 1) 32) ++ c := by
    simp [replicate_succ]
  rw [e]
  have g1 : NoAsa nm := by simpa using noAsa0_nil.noAsa.noblank hn
  have g2 : NoAsa0 (nm ++ replicate (mx + 4 - nm.length + 1) 32) :=
    ⟨asaFrom_blanks_right g1.1 _, by rw [asaEnd_append, asaEnd_blanks _ _ (by have := h.mx; omega)]⟩
  exact (g2.noAsa.noblank hc).1

theorem msfNameLine_asa (mx alnlen : Nat) (r : Row) (hn : (32 : UInt8) ∉ r.name) :
    asaFrom 0 (msfNameLine mx alnlen r) = false := by
  unfold msfNameLine padRight
  have g1 : NoAsa0 (ascii " Name: ") := by unfold NoAsa0; decide_ascii
  have g2 : NoAsa (ascii " Name: " ++ r.name.take mx) := g1.noAsa.noblank (fun hm => hn (mem_of_mem_take hm))
  have g3 : asaFrom 0 (ascii " Name: " ++ (r.name.take mx ++ replicate (mx - (r.name.take mx).length) 32)) = false := by
    rw [← append_assoc]; exact asaFrom_blanks_right g2.1 _
  have e1 : ascii "  Len:  " = 32 :: 32 :: ascii "Len:  " := by decide_ascii
  have e2 : ascii "  Check: " = 32 :: 32 :: ascii "Check: " := by decide_ascii
  have e3 : ascii "  Weight: 1.00" = 32 :: 32 :: ascii "Weight: 1.00" := by decide_ascii
  rw [e1, e2, e3]
  have g4 := noAsa0_reset g3 (t := ascii "Len:  ") (by unfold NoAsa0; decide_ascii)
  have g5 := g4.nonalpha (pad_nonalpha 5 alnlen)
  have g6 := noAsa0_reset g5.1 (t := ascii "Check: ") (by unfold NoAsa0; decide_ascii)
  have g7 := g6.nonalpha (pad_nonalpha 4 (gcgChecksum r.row alnlen))
  exact (noAsa0_reset g7.1 (t := ascii "Weight: 1.00") (by unfold NoAsa0; decide_ascii)).1

theorem msfInfoLine_asa (date : Bytes) (A : Alignment) (hb : ∀ b ∈ A.basename, nameChar b = true)
    (hd : asaFrom 0 date = false) : asaFrom 0 (msfInfoLine date A) = false := by
  unfold msfInfoLine
  have g0 : NoAsa0 [32] := ⟨by decide, by decide⟩
  have g1 : NoAsa (32 :: A.basename) := by
    have := g0.noAsa.noblank (Y := A.basename) (plain_no_blank (fun b h => nameChar_plain b (hb b h)))
    simpa using this
  have e1 : ascii "  MSF: " = 32 :: 32 :: ascii "MSF: " := by decide_ascii
  have e2 : ascii "  Type: " = 32 :: 32 :: ascii "Type: " := by decide_ascii
  have e3 : ascii "  " = 32 :: 32 :: [] := by decide_ascii
  have e4 : ascii "  Check: " = 32 :: 32 :: ascii "Check: " := by decide_ascii
  have e5 : ascii "  .." = 32 :: 32 :: ascii ".." := by decide_ascii
  rw [e1, e2, e3, e4, e5]
  have g2 := noAsa0_reset g1.1 (t := ascii "MSF: ") (by unfold NoAsa0; decide_ascii)
  have g3 := g2.nonalpha (digits_nonalpha A.alnlen)
  have g4 := noAsa0_reset g3.1 (t := ascii "Type: ") (by unfold NoAsa0; decide_ascii)
  have g5 : NoAsa (32 :: A.basename ++ 32 :: 32 :: ascii "MSF: " ++ decDigits A.alnlen ++ 32 :: 32 :: ascii "Type: " ++
      [msfTypeChar A]) := by
    apply g4.noAsa.noblank
    rcases msfTypeChar_cases A with e | e <;> simp [e]
  have g6 := noAsa0_reset g5.1 (t := []) noAsa0_nil
  have g7 : asaFrom 0 (32 :: A.basename ++ 32 :: 32 :: ascii "MSF: " ++ decDigits A.alnlen ++ 32 :: 32 :: ascii "Type: " ++
      [msfTypeChar A] ++ [32, 32] ++ date) = false := by
    rw [asaFrom_append, g6.1, g6.2, hd]; rfl
  have g8 := noAsa0_reset g7 (t := ascii "Check: ") (by unfold NoAsa0; decide_ascii)
  have g9 := g8.nonalpha (digits_nonalpha (gcgMult A))
  exact (noAsa0_reset g9.1 (t := ascii "..") (by unfold NoAsa0; decide_ascii)).1

theorem msfMagic_asa (A : Alignment) : asaFrom 0 (msfMagic A) = false ∧ countHints msfHints (msfMagic A) ≠ 0 := by
  refine msfMagic_ind (fun l => asaFrom 0 l = false ∧ countHints msfHints l ≠ 0) ?_ ?_ A
  · unfold msfHints; decide_ascii
  · unfold msfHints; decide_ascii

theorem majorLines_asa (mx k : Nat) (rs : List RowC)
    (h : ∀ r ∈ rs, NmOK mx r.1 ∧ (32 : UInt8) ∉ r.1 ∧ ∀ c ∈ r.2, (32 : UInt8) ∉ c) :
    ∀ l ∈ majorLines mx k rs, asaFrom 0 l = false := by
  refine majorLines_forall (fun l => asaFrom 0 l = false) rfl mx k rs ?_
  intro r hr
  obtain ⟨h1, h2, h3⟩ := h r hr
  exact ⟨seqLine_asa mx _ _ h1 h2 (by simp), fun c hc => seqLine_asa mx _ _ h1 h2 (h3 c hc)⟩

end Kalign.IO

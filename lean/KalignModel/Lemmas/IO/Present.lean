import KalignModel.Lemmas.IO.Fasta
import KalignModel.Lemmas.IO.Clu
import KalignModel.Lemmas.IO.Spec
import KalignModel.Lemmas.Weave
/-! What the scanner shared by `read_fasta`, `read_clu` and `read_msf` keeps of a line (`scan_spec`; of the linear row of `make_linear_sequence`, `scan_linRow`), the readers on arbitrary
presentations of the same records (`faFold_pres`; `BlockStep.blocks` for the two block formats, `clu_pres_all`), and the
written block layout as one such presentation (`majorLines_eq_pres`). -/
namespace Kalign.IO
open List

/-- gap vector of a byte string: number of punctuation bytes before each letter, and behind the last one -/
def gapVec : Bytes → List Nat
  | [] => [0]
  | b :: t => if isAlpha b then 0 :: gapVec t else if isPunct b then bump (gapVec t) else gapVec t

theorem gapVec_ne_nil (l : Bytes) : gapVec l ≠ [] := by
  induction l with
  | nil => simp [gapVec]
  | cons b t ih =>
    simp only [gapVec]
    split
    · simp
    · split
      · cases h : gapVec t <;> simp [bump]
      · exact ih

theorem feed_rres (a : SeqAcc) (l : Bytes) : (feed a l).rres = (l.filter isAlpha).reverse ++ a.rres := by
  induction l generalizing a with
  | nil => rfl
  | cons b t ih =>
    rw [feed_cons, ih]
    unfold feedByte
    by_cases h1 : isAlpha b = true
    · simp [h1]
    · by_cases h2 : isPunct b = true <;> simp [h1, h2]

def addHead (c : Nat) : List Nat → List Nat
  | [] => [c]
  | g :: gs => (g + c) :: gs

theorem addHead_bump (c : Nat) (l : List Nat) : addHead c (bump l) = addHead (c + 1) l := by
  cases l with
  | nil => simp [bump, addHead]; omega
  | cons g gs => simp [bump, addHead]; omega

theorem feed_gaps (a : SeqAcc) (l : Bytes) :
    ((feed a l).cur :: (feed a l).rgaps).reverse = a.rgaps.reverse ++ addHead a.cur (gapVec l) := by
  induction l generalizing a with
  | nil => simp [feed, gapVec, addHead]
  | cons b t ih =>
    rw [feed_cons, ih]
    unfold feedByte
    by_cases h1 : isAlpha b = true
    · simp only [h1, if_true, gapVec, reverse_cons, append_assoc, singleton_append]
      congr 1
      cases h : gapVec t with
      | nil => exact absurd h (gapVec_ne_nil t)
      | cons g gs => simp [addHead]
    · by_cases h2 : isPunct b = true
      · simp only [h1, h2, if_true, gapVec, Bool.false_eq_true, if_false, addHead_bump]
      · simp [h1, h2, gapVec]

theorem scan_spec (nm l : Bytes) :
    (feed (SeqAcc.new nm) l).finish = ⟨nm, l.filter isAlpha, gapVec l⟩ := by
  have h1 := feed_rres (SeqAcc.new nm) l
  have h2 := feed_gaps (SeqAcc.new nm) l
  have h3 := feed_name (SeqAcc.new nm) l
  simp only [SeqAcc.new, append_nil, reverse_nil, nil_append] at h1 h2 h3
  simp only [SeqAcc.finish, SeqAcc.new, h1, h2, h3, reverse_reverse]
  congr 1
  cases h : gapVec l with
  | nil => exact absurd h (gapVec_ne_nil l)
  | cons g gs => simp [addHead]

theorem gapVec_sum (l : Bytes) : (gapVec l).sum = (l.filter isPunct).length := by
  have hap : ∀ b, isAlpha b = true → isPunct b = false := by
    intro b h
    have := imp_of_or (forall_byte (fun b => !isAlpha b || !isPunct b) (by decide +kernel) b) h
    simpa using this
  induction l with
  | nil => rfl
  | cons b t ih =>
    simp only [gapVec]
    by_cases h1 : isAlpha b = true
    · simp [h1, hap b h1, ih]
    · by_cases h2 : isPunct b = true
      · simp [h1, h2, sum_bump, ih]
      · simp [h1, h2, ih]

theorem gapVec_length (l : Bytes) : (gapVec l).length = (l.filter isAlpha).length + 1 := by
  induction l with
  | nil => rfl
  | cons b t ih =>
    simp only [gapVec]
    by_cases h1 : isAlpha b = true
    · simp [h1, ih]
    · by_cases h2 : isPunct b = true
      · simp [h1, h2, length_bump _ (gapVec_ne_nil t), ih]
      · simp [h1, h2, ih]

theorem gapVec_dashes (g : Nat) (t : Bytes) : gapVec (replicate g 45 ++ t) = addHead g (gapVec t) := by
  induction g with
  | zero =>
    cases h : gapVec t with
    | nil => exact absurd h (gapVec_ne_nil t)
    | cons a as => simp [addHead, h]
  | succ g ih =>
    rw [replicate_succ, cons_append, gapVec, if_neg (by decide), if_pos (by decide), ih]
    cases h : gapVec t with
    | nil => exact absurd h (gapVec_ne_nil t)
    | cons a as => simp [addHead, bump]; omega

theorem scan_linRow (res : Bytes) (gaps : List Nat) (hres : ∀ b ∈ res, isAlpha b = true)
    (hlen : gaps.length = res.length + 1) :
    (linRow res gaps).filter isAlpha = res ∧ gapVec (linRow res gaps) = gaps := by
  induction res generalizing gaps with
  | nil =>
    match gaps, hlen with
    | [g], _ =>
      have := gapVec_dashes g []
      simp only [append_nil] at this
      refine ⟨?_, by simp [linRow, this, gapVec, addHead]⟩
      simp [linRow, show isAlpha 45 = false by decide]
  | cons x xs ih =>
    match gaps, hlen with
    | g :: g2 :: gs, hlen =>
      have hx : isAlpha x = true := hres x (by simp)
      obtain ⟨h1, h2⟩ := ih (g2 :: gs) (fun b hb => hres b (by simp [hb])) (by simpa using hlen)
      refine ⟨?_, ?_⟩
      · simp [linRow, show isAlpha 45 = false by decide, hx, h1]
      · rw [linRow, gapVec_dashes, gapVec, if_pos hx, h2]; simp [addHead]

theorem feed_linRow_new (nm res : Bytes) (gaps : List Nat) (hres : ∀ b ∈ res, isAlpha b = true)
    (hlen : gaps.length = res.length + 1) :
    (feed (SeqAcc.new nm) (linRow res gaps)).finish = ⟨nm, res, gaps⟩ := by
  rw [scan_spec, (scan_linRow res gaps hres hlen).1, (scan_linRow res gaps hres hlen).2]

/-- a presentation of records: per record the header line and any number of sequence lines -/
def faPres (recs : List (Bytes × List Bytes)) : List Bytes := recs.flatMap fun r => (62 :: r.1) :: r.2

theorem faFold_pres (recs : List (Bytes × List Bytes)) (st : FaState)
    (h62 : ∀ r ∈ recs, ∀ l ∈ r.2, l.head? ≠ some 62) :
    ∃ st', faFold st (faPres recs) = some st' ∧
      st'.seqs = st.seqs ++ recs.map fun r => (feed (SeqAcc.new r.1) r.2.flatten).finish := by
  induction recs generalizing st with
  | nil => exact ⟨st, rfl, by simp⟩
  | cons r rs ih =>
    obtain ⟨st', h1, h2⟩ := ih ⟨st.push, some (feed (SeqAcc.new r.1) r.2.flatten)⟩
      (fun x hx => h62 x (by simp [hx]))
    refine ⟨st', ?_, ?_⟩
    · simp only [faPres, flatMap_cons, cons_append, faFold, faLine_header]
      rw [faFold_chunks _ _ _ _ (h62 r (by simp))]
      exact h1
    · rw [h2]
      simp [FaState.seqs_eq, FaState.push]

theorem faFold_junk (pre rest : List Bytes) (done : List SeqAcc)
    (h : ∀ l ∈ pre, l.head? ≠ some 62 ∧ l.any (fun b => isAlpha b || isPunct b) = false) :
    faFold ⟨done, none⟩ (pre ++ rest) = faFold ⟨done, none⟩ rest := by
  induction pre with
  | nil => rfl
  | cons l ls ih =>
    obtain ⟨h1, h2⟩ := h l (by simp)
    have : faLine ⟨done, none⟩ l = some ⟨done, none⟩ := by
      unfold faLine
      split
      · simp at h1
      · simp [h2]
    simp only [cons_append, faFold, this]
    exact ih (fun x hx => h x (by simp [hx]))

def cluRowLine (r : Bytes × Bytes) : Bytes := r.1 ++ 32 :: r.2

/-- `NmOK` without the bound by `max_name_len`: what `read_clu` needs to find the name in front of a row again -/
structure NmOK' (nm : Bytes) : Prop where
  ne : nm ≠ []
  le : nm.length ≤ 200
  nosp : ∀ b ∈ nm, isSpace b = false

theorem cluLine_row (nm c : Bytes) (h : NmOK' nm) (done rest : List SeqAcc) :
    cluLine ⟨done, rest⟩ (cluRowLine (nm, c)) =
      ⟨feed { (rest.headD (SeqAcc.new [])) with name := nm } c :: done, rest.tail⟩ := by
  obtain ⟨b, nm', rfl⟩ := exists_cons_of_ne_nil h.ne
  have hb : isSpace b = false := h.nosp b (by simp)
  have hj := cluNameLen_seqLine (b :: nm') c h.le h.nosp
  simp only [cluRowLine, cons_append] at hj ⊢
  unfold cluLine
  simp only [hb, Bool.false_eq_true, if_false, hj]
  have e1 : take (b :: nm').length (b :: (nm' ++ 32 :: c)) = b :: nm' := by
    rw [← cons_append, take_left']; rfl
  have e2 : drop (b :: nm').length (b :: (nm' ++ 32 :: c)) = 32 :: c := by
    rw [← cons_append, drop_left']; rfl
  rw [e1, e2]
  have e3 : ∀ a : SeqAcc, feed a (32 :: c) = feed a c := fun a => feed_blanks a 1 c
  rw [e3]
  cases rest <;> rfl

def BlankStart (l : Bytes) : Prop := ∃ b t, l = b :: t ∧ isSpace b = true

/-! Both readers are folds of a line function over the body.  `BlockStep` is what the block phase uses of it, for rows written
by `line` with names satisfying `OK`: a row feeds its payload to the next sequence if that bears the row's name, a line
starting with a blank is skipped, an empty line ends the block. -/

structure BlockStep (step : Blk → Bytes → Option Blk) (line : Bytes × Bytes → Bytes) (OK : Bytes → Prop) : Prop where
  row : ∀ nm c, OK nm → ∀ done s rest, s.name = nm →
    step ⟨done, s :: rest⟩ (line (nm, c)) = some ⟨feed s c :: done, rest⟩
  skip : ∀ st l, BlankStart l → step st l = some st
  empty : ∀ st, step st [] = some st.rewind

/-- the body of a block file: per block the row lines, lines starting with a blank, and at least one empty line; `extra b` =
(lines starting with a blank, number of additional empty lines) of block `b`.  `cluPres` and `msfPres` are this at the
row-line functions of the two readers (`cluPres_eq`, `msfPres_eq`). -/
def blockPres (line : Bytes × Bytes → Bytes) (extra : Nat → List Bytes × Nat) : Nat → Nat → List RowC → List Bytes
  | 0, _, _ => []
  | k + 1, b, rs =>
    (heads rs).map line ++ ((extra b).1 ++ (replicate ((extra b).2 + 1) [] ++ blockPres line extra k (b + 1) (tails rs)))

/-! `Prog` is the bookkeeping of the block phase: every block extends every accumulated sequence by its next chunk. -/

/-- a sequence with the bytes consumed so far and the chunks still to come -/
structure Prog where
  name : Bytes
  fed : Bytes
  chunks : List Bytes

def Prog.acc (p : Prog) : SeqAcc := feed (SeqAcc.new p.name) p.fed
def Prog.row (p : Prog) : RowC := (p.name, p.chunks)
def Prog.next (p : Prog) : Prog := ⟨p.name, p.fed ++ p.chunks.headD [], p.chunks.tail⟩
def Prog.final (p : Prog) : SeqAcc := feed (SeqAcc.new p.name) (p.fed ++ p.chunks.flatten)

theorem Prog.final_of_done {p : Prog} (h : p.chunks.length = 0) : p.acc = p.final := by
  simp [Prog.acc, Prog.final, eq_nil_of_length_eq_zero h]

theorem Prog.final_next {p : Prog} {k : Nat} (h : p.chunks.length = k + 1) : p.next.final = p.final := by
  match hc : p.chunks, h with
  | c :: cs, _ => simp [Prog.final, Prog.next, hc]

theorem Prog.length_next {p : Prog} {k : Nat} (h : p.chunks.length = k + 1) : p.next.chunks.length = k := by
  simp only [Prog.next, length_tail]; omega

def progOf (rs : List RowC) : List Prog := rs.map fun r => ⟨r.1, [], r.2⟩

theorem progOf_acc (rs : List RowC) : (progOf rs).map Prog.acc = rs.map fun r => SeqAcc.new r.1 := by
  simp [progOf, Prog.acc, feed_nil]

theorem progOf_row (rs : List RowC) : (progOf rs).map Prog.row = rs := by
  simp only [progOf, map_map]
  exact map_id _

theorem progOf_final (rs : List RowC) :
    (progOf rs).map Prog.final = rs.map fun r => feed (SeqAcc.new r.1) r.2.flatten := by
  simp [progOf, Prog.final]

theorem tails_prog (ps : List Prog) : tails (ps.map Prog.row) = (ps.map Prog.next).map Prog.row := by
  simp [tails, Prog.row, Prog.next]

theorem Blk.rewind_rewind (st : Blk) : st.rewind.rewind = st.rewind := by simp [Blk.rewind]

namespace BlockStep
variable {step : Blk → Bytes → Option Blk} {line : Bytes × Bytes → Bytes} {OK : Bytes → Prop} (H : BlockStep step line OK)
include H

theorem rows (ps : List Prog) (hn : ∀ p ∈ ps, OK p.name)
    (done rest : List SeqAcc) (ls : List Bytes) :
    ((heads (ps.map Prog.row)).map line ++ ls).foldlM step ⟨done, ps.map Prog.acc ++ rest⟩ =
      ls.foldlM step ⟨((ps.map Prog.next).map Prog.acc).reverse ++ done, rest⟩ := by
  induction ps generalizing done with
  | nil => rfl
  | cons p ps ih =>
    simp only [map_cons, heads, cons_append, foldlM_cons] at ih ⊢
    rw [show (p.row.1, p.row.2.headD []) = (p.name, p.chunks.headD []) from rfl,
      H.row p.name _ (hn p (by simp)) done p.acc _ (feed_name _ _), Option.bind_eq_bind, Option.bind_some,
      ih (fun x hx => hn x (by simp [hx]))]
    simp [Prog.acc, Prog.next, feed_append]

theorem skips (cons ls : List Bytes) (h : ∀ l ∈ cons, BlankStart l)
    (st : Blk) : (cons ++ ls).foldlM step st = ls.foldlM step st := by
  induction cons with
  | nil => rfl
  | cons l cs ih =>
    rw [cons_append, foldlM_cons, H.skip st l (h l (by simp))]
    exact ih (fun x hx => h x (by simp [hx]))

theorem blanks (n : Nat) (ls : List Bytes) (st : Blk) :
    (replicate (n + 1) [] ++ ls).foldlM step st = ls.foldlM step st.rewind := by
  induction n generalizing st with
  | zero => rw [replicate_one, singleton_append, foldlM_cons, H.empty]; rfl
  | succ n ih => rw [replicate_succ, cons_append, foldlM_cons, H.empty, Option.bind_eq_bind, Option.bind_some, ih, Blk.rewind_rewind]

theorem junk (js ls : List Bytes) (h : ∀ l ∈ js, l = [] ∨ BlankStart l)
    (rest : List SeqAcc) : (js ++ ls).foldlM step ⟨[], rest⟩ = ls.foldlM step ⟨[], rest⟩ := by
  induction js with
  | nil => rfl
  | cons l js ih =>
    rw [cons_append, foldlM_cons]
    rcases h l (by simp) with rfl | hl
    · rw [H.empty]; exact ih (fun x hx => h x (by simp [hx]))
    · rw [H.skip _ l hl]; exact ih (fun x hx => h x (by simp [hx]))

variable (extra : Nat → List Bytes × Nat) (hx : ∀ b, ∀ l ∈ (extra b).1, BlankStart l)
include hx

theorem blocks (k b : Nat) (ps : List Prog) (hk : ∀ p ∈ ps, p.chunks.length = k) (hn : ∀ p ∈ ps, OK p.name) :
    (blockPres line extra k b (ps.map Prog.row)).foldlM step ⟨[], ps.map Prog.acc⟩ = some ⟨[], ps.map Prog.final⟩ := by
  induction k generalizing ps b with
  | zero =>
    rw [blockPres, foldlM_nil]
    congr 2
    exact map_congr_left fun p hp => Prog.final_of_done (hk p hp)
  | succ k ih =>
    have := H.rows ps hn [] []
    simp only [append_nil] at this
    rw [blockPres, this, H.skips _ _ (hx b), H.blanks]
    simp only [Blk.rewind, reverse_reverse, append_nil]
    rw [tails_prog, ih (b + 1) (ps.map Prog.next)]
    · congr 2
      rw [map_map]
      exact map_congr_left fun p hp => Prog.final_next (hk p hp)
    · intro q hq
      obtain ⟨p, hp, rfl⟩ := mem_map.mp hq
      exact Prog.length_next (hk p hp)
    · intro q hq
      obtain ⟨p, hp, rfl⟩ := mem_map.mp hq
      exact hn p hp

theorem blocks_new (k b : Nat) (rs : List RowC) (hk : ∀ r ∈ rs, r.2.length = k) (hn : ∀ r ∈ rs, OK r.1) :
    (blockPres line extra k b rs).foldlM step ⟨[], rs.map fun r => SeqAcc.new r.1⟩ =
      some ⟨[], rs.map fun r => feed (SeqAcc.new r.1) r.2.flatten⟩ := by
  have := H.blocks extra hx k b (progOf rs)
    (fun p hp => by obtain ⟨r, hr, rfl⟩ := mem_map.mp hp; exact hk r hr)
    (fun p hp => by obtain ⟨r, hr, rfl⟩ := mem_map.mp hp; exact hn r hr)
  rwa [progOf_acc, progOf_row, progOf_final] at this

end BlockStep

theorem cluStep : BlockStep (fun st l => some (cluLine st l)) cluRowLine NmOK' where
  row nm c h done s rest hs := by rw [cluLine_row nm c h, headD_cons, tail_cons, eta_name s nm hs]
  skip st l h := by obtain ⟨b, t, rfl, hb⟩ := h; simp [cluLine, hb]
  empty _ := rfl

/-- a Clustal body: per block the rows (name, blank, payload), optional lines starting with a blank, and at least one
empty line; `extra b` = (conservation lines, number of additional empty lines) of block `b` -/
def cluPres (extra : Nat → List Bytes × Nat) : Nat → Nat → List RowC → List Bytes
  | 0, _, _ => []
  | k + 1, b, rs =>
    (heads rs).map cluRowLine ++ (extra b).1 ++ replicate ((extra b).2 + 1) [] ++ cluPres extra k (b + 1) (tails rs)

theorem cluPres_eq (extra : Nat → List Bytes × Nat) (k b : Nat) (rs : List RowC) :
    cluPres extra k b rs = blockPres cluRowLine extra k b rs := by
  induction k generalizing b rs with
  | zero => rfl
  | succ k ih => simp [cluPres, blockPres, ih]

/-- the first block creates the sequences: from the empty state its rows do what they do to fresh sequences -/
theorem clu_rows_new (hs : List (Bytes × Bytes)) (hn : ∀ r ∈ hs, NmOK' r.1) (done : List SeqAcc) :
    (hs.map cluRowLine).foldl cluLine ⟨done, []⟩ =
      (hs.map cluRowLine).foldl cluLine ⟨done, hs.map fun r => SeqAcc.new r.1⟩ := by
  induction hs generalizing done with
  | nil => rfl
  | cons r hs ih =>
    simp only [map_cons, foldl_cons]
    rw [show r = (r.1, r.2) from rfl, cluLine_row _ _ (hn r (by simp)), cluLine_row _ _ (hn r (by simp))]
    exact ih (fun x hx => hn x (by simp [hx])) _

theorem clu_pres_all (extra : Nat → List Bytes × Nat) (hx : ∀ b, ∀ l ∈ (extra b).1, BlankStart l)
    (k : Nat) (rs : List RowC) (hk : ∀ r ∈ rs, r.2.length = k + 1) (hn : ∀ r ∈ rs, NmOK' r.1) :
    (cluPres extra (k + 1) 0 rs).foldl cluLine ⟨[], []⟩ =
      ⟨[], rs.map fun r => feed (SeqAcc.new r.1) r.2.flatten⟩ := by
  have h := (foldlM_pure (f := cluLine)).symm.trans (cluStep.blocks_new extra hx (k + 1) 0 rs hk hn)
  rw [cluPres_eq, ← Option.some.inj h]
  simp only [blockPres, foldl_append]
  rw [clu_rows_new _ (fun r hr => by
    obtain ⟨r0, h0, rfl⟩ := mem_map.mp hr
    exact hn r0 h0)]
  simp only [heads, map_map, Function.comp_def]

/-! `seqLine` pads the name with blanks up to the payload; moved in front of the payloads the blanks make the written body a
presentation, for either reader (`line` = `cluRowLine` or `msfRowLine`). -/

def padRows (pad : Bytes → Nat) (rs : List RowC) : List RowC :=
  rs.map fun r => (r.1, r.2.map (replicate (pad r.1) 32 ++ ·))

theorem majorLines_eq_pres (mx : Nat) (pad : Bytes → Nat) (line : Bytes × Bytes → Bytes)
    (hline : ∀ nm c, NmOK mx nm → seqLine mx nm c = line (nm, replicate (pad nm) 32 ++ c))
    (k b : Nat) (rs : List RowC) (hne : rs ≠ []) (hk : ∀ r ∈ rs, r.2.length = k) (hn : ∀ r ∈ rs, NmOK mx r.1) :
    majorLines mx k rs = blockPres line (fun _ => ([], 1)) k b (padRows pad rs) := by
  induction k generalizing b rs with
  | zero => rfl
  | succ k ih =>
    have hh : blockLines mx (heads rs) = (heads (padRows pad rs)).map line := by
      simp only [blockLines, heads, padRows, map_map]
      apply map_congr_left
      intro r hr
      have := hk r hr
      match hc : r.2, this with
      | c :: cs, _ => simp [hc, hline r.1 c (hn r hr)]
    have ht : tails (padRows pad rs) = padRows pad (tails rs) := by simp [tails, padRows, map_tail]
    rw [blockPres, majorLines, if_pos hne, hh, ht, ← ih (b + 1) (tails rs) (by simpa [tails] using hne)]
    · simp
    · exact tails_length rs k hk
    · intro r hr
      simp only [tails, mem_map] at hr
      obtain ⟨r0, h0, rfl⟩ := hr
      exact hn r0 h0

theorem feed_padded (a : SeqAcc) (n : Nat) (cs : List Bytes) :
    feed a (cs.map (replicate n 32 ++ ·)).flatten = feed a cs.flatten := by
  induction cs generalizing a with
  | nil => rfl
  | cons c cs ih => rw [map_cons, flatten_cons, append_assoc, feed_blanks, feed_append, ih, flatten_cons, feed_append]

theorem feed_padRows (pad : Bytes → Nat) (rs : List RowC) :
    ((padRows pad rs).map fun r => feed (SeqAcc.new r.1) r.2.flatten) =
      rs.map fun r => feed (SeqAcc.new r.1) r.2.flatten := by
  simp [padRows, feed_padded]

end Kalign.IO

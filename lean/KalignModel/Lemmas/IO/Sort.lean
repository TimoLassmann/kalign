import KalignModel.Lemmas.Sort
import KalignModel.Model.IO.Write
import KalignModel.Model.Weave
/-!
# Layout of the sorted line buffer

`write_msa_clu` / `write_msa_msf` create the lines sequence by sequence (all blocks of sequence 0 — each followed by a
separator line —, then all blocks of sequence 1, ...) and sort them by `(block, seq_id)`.  The sorted buffer is the
header followed, block by block, by the lines of all sequences in order and the separator (`sortLines_layout`).

All keys are distinct, so the sorted buffer is the one strictly increasing arrangement of the lines (`sortLines_eq`) and
does not depend on the sorting algorithm (`qsort` in C, `mergeSort` in the model).  It therefore suffices to show that
creation order (`gBody`) and block-major order (`gMajor`) hold the same lines and that the latter is strictly increasing.
-/
namespace Kalign.IO
open List

def OutLine.lt (a b : OutLine) : Prop := a.block < b.block ∨ (a.block = b.block ∧ a.seqId < b.seqId)

theorem OutLine.le_iff (a b : OutLine) : OutLine.le a b = true ↔ a.lt b ∨ (a.block = b.block ∧ a.seqId = b.seqId) := by
  simp only [OutLine.le, OutLine.lt, Bool.or_eq_true, decide_eq_true_eq, Bool.and_eq_true, beq_iff_eq]
  omega

theorem OutLine.le_trans (a b c : OutLine) (h1 : OutLine.le a b = true) (h2 : OutLine.le b c = true) :
    OutLine.le a c = true := by
  simp only [OutLine.le, Bool.or_eq_true, decide_eq_true_eq, Bool.and_eq_true, beq_iff_eq] at *
  omega

theorem OutLine.le_total (a b : OutLine) : (OutLine.le a b || OutLine.le b a) = true := by
  simp only [OutLine.le, Bool.or_eq_true, decide_eq_true_eq, Bool.and_eq_true, beq_iff_eq]
  omega

theorem pairwise_lt_inj (t : List OutLine) (hs : t.Pairwise OutLine.lt) (a b : OutLine) (ha : a ∈ t) (hb : b ∈ t)
    (hk : a.block = b.block ∧ a.seqId = b.seqId) : a = b := by
  induction t with
  | nil => simp at ha
  | cons x xs ih =>
    rw [pairwise_cons] at hs
    simp only [mem_cons] at ha hb
    rcases ha with rfl | ha <;> rcases hb with rfl | hb
    · rfl
    · have := hs.1 b hb; simp only [OutLine.lt] at this; omega
    · have := hs.1 a ha; simp only [OutLine.lt] at this; omega
    · exact ih hs.2 ha hb

theorem sortLines_eq (l t : List OutLine) (hp : l ~ t) (hs : t.Pairwise OutLine.lt) : sortLines l = t := by
  refine mergeSort_unique (fun x => x ∈ t) (fun a b c _ _ _ => OutLine.le_trans a b c) ?_ hp (fun a ha => hp.mem_iff.mp ha)
    (pairwise_of_forall OutLine.le_total) (hs.imp fun {a b} h => (OutLine.le_iff a b).mpr (Or.inl h))
  intro a b ha hb hab hba
  apply pairwise_lt_inj t hs a b ha hb
  rw [OutLine.le_iff] at hab hba
  simp only [OutLine.lt] at hab hba
  omega

/-- a row as (name, list of its blocks) -/
abbrev RowC := Bytes × List Bytes

/-- the separator line of block `b`: key `(b, numseq)`, text `"\n"` -/
def sepLine (n b : Nat) : OutLine := ⟨(b : Int), (n : Int), [10]⟩

/-- creation order (the C loops), from block `b` and sequence index `i` on -/
def gBody (n mx b : Nat) : Nat → List RowC → List OutLine
  | _, [] => []
  | i, r :: rs => seqOutLinesFrom n mx i r.1 b r.2 ++ gBody n mx b (i + 1) rs

def gBlock (mx b : Nat) : Nat → List (Bytes × Bytes) → List OutLine
  | _, [] => []
  | i, r :: rs => ⟨(b : Int), (i : Int), seqLine mx r.1 r.2⟩ :: gBlock mx b (i + 1) rs

/-- the separator is created along with the line of sequence 0: it is there when the listing starts at `i = 0` and has a row -/
def sepIf (n b i : Nat) (rs : List RowC) : List OutLine := if i = 0 ∧ rs ≠ [] then [sepLine n b] else []

def heads (rs : List RowC) : List (Bytes × Bytes) := rs.map fun r => (r.1, r.2.headD [])
def tails (rs : List RowC) : List RowC := rs.map fun r => (r.1, r.2.tail)

/-- block-major order: `k` blocks from block `b` on -/
def gMajor (n mx i : Nat) : Nat → Nat → List RowC → List OutLine
  | 0, _, _ => []
  | k + 1, b, rs => gBlock mx b i (heads rs) ++ sepIf n b i rs ++ gMajor n mx i k (b + 1) (tails rs)

theorem bodyFrom_eq_gBody (n mx alnlen i : Nat) (rows : List Row) :
    bodyFrom n mx alnlen i rows = gBody n mx 0 i (rows.map fun r => (r.name, blocks (r.row.take alnlen))) := by
  induction rows generalizing i with
  | nil => rfl
  | cons r rs ih => simp [bodyFrom, gBody, seqOutLines, ih]

theorem gBody_nil_chunks (n mx b i : Nat) (rs : List RowC) (h : ∀ r ∈ rs, r.2 = []) : gBody n mx b i rs = [] := by
  induction rs generalizing i with
  | nil => rfl
  | cons r rs ih =>
    have h0 : r.2 = [] := h r (by simp)
    simp [gBody, h0, seqOutLinesFrom, ih (i + 1) (fun x hx => h x (by simp [hx]))]

theorem gBody_peel (n mx b i : Nat) (rs : List RowC) (h : ∀ r ∈ rs, r.2 ≠ []) :
    gBody n mx b i rs ~ gBlock mx b i (heads rs) ++ sepIf n b i rs ++ gBody n mx (b + 1) i (tails rs) := by
  induction rs generalizing i with
  | nil => simp [gBody, gBlock, heads, tails, sepIf]
  | cons r rs ih =>
    obtain ⟨nm, cs⟩ := r
    cases cs with
    | nil => exact absurd rfl (h (nm, []) (by simp))
    | cons c cs =>
      have ih' := ih (i + 1) (fun x hx => h x (by simp [hx]))
      have hs : sepIf n b (i + 1) rs = [] := by simp [sepIf]
      rw [hs, append_nil] at ih'
      simp only [gBody, seqOutLinesFrom, heads, tails, map_cons, headD_cons, tail_cons, gBlock] at ih' ⊢
      have hsep : sepIf n b i ((nm, c :: cs) :: rs) = (if i = 0 then [sepLine n b] else []) := by
        simp [sepIf]
      rw [hsep]
      simp only [sepLine]
      generalize (if i = 0 then [({ block := (b : Int), seqId := (n : Int), line := [10] } : OutLine)] else []) = S
      simp only [cons_append, append_assoc]
      refine Perm.cons _ ?_
      refine (Perm.append_left _ (Perm.append_left _ ih')).trans ?_
      exact (Perm.append_left S (perm_append_comm_assoc _ _ _)).trans (perm_append_comm_assoc _ _ _)

theorem tails_length (rs : List RowC) (k : Nat) (h : ∀ r ∈ rs, r.2.length = k + 1) :
    ∀ r ∈ tails rs, r.2.length = k := by
  intro r hr
  simp only [tails, mem_map] at hr
  obtain ⟨r0, h0, rfl⟩ := hr
  have := h r0 h0
  simp; omega

theorem gBody_perm_gMajor (n mx i k b : Nat) (rs : List RowC) (h : ∀ r ∈ rs, r.2.length = k) :
    gBody n mx b i rs ~ gMajor n mx i k b rs := by
  induction k generalizing b rs with
  | zero =>
    rw [gBody_nil_chunks n mx b i rs (fun r hr => by have := h r hr; exact List.eq_nil_of_length_eq_zero this)]
    exact Perm.refl _
  | succ k ih =>
    have hne : ∀ r ∈ rs, r.2 ≠ [] := by
      intro r hr h0; have := h r hr; rw [h0] at this; simp at this
    refine (gBody_peel n mx b i rs hne).trans ?_
    simp only [gMajor]
    exact Perm.append_left _ (ih (b + 1) (tails rs) (tails_length rs k h))

theorem gBlock_mem (mx b i : Nat) (hs : List (Bytes × Bytes)) :
    ∀ x ∈ gBlock mx b i hs, x.block = (b : Int) ∧ (i : Int) ≤ x.seqId ∧ x.seqId < (i : Int) + hs.length := by
  induction hs generalizing i with
  | nil => simp [gBlock]
  | cons r rs ih =>
    intro x hx
    simp only [gBlock, mem_cons] at hx
    rcases hx with rfl | hx
    · simp; omega
    · have := ih (i + 1) x hx
      simp only [length_cons]; omega

theorem gBlock_pairwise (mx b i : Nat) (hs : List (Bytes × Bytes)) : (gBlock mx b i hs).Pairwise OutLine.lt := by
  induction hs generalizing i with
  | nil => simp [gBlock]
  | cons r rs ih =>
    simp only [gBlock, pairwise_cons]
    refine ⟨?_, ih (i + 1)⟩
    intro x hx
    have := gBlock_mem mx b (i + 1) rs x hx
    simp only [OutLine.lt]; omega

theorem mem_sepIf {n b i : Nat} {rs : List RowC} {x : OutLine} (h : x ∈ sepIf n b i rs) : x = sepLine n b := by
  unfold sepIf at h
  split at h <;> simp_all

theorem gMajor_mem (n mx i k b : Nat) (rs : List RowC) :
    ∀ x ∈ gMajor n mx i k b rs, (b : Int) ≤ x.block := by
  induction k generalizing b rs with
  | zero => simp [gMajor]
  | succ k ih =>
    intro x hx
    simp only [gMajor, mem_append] at hx
    rcases hx with (hx | hx) | hx
    · have := gBlock_mem mx b i (heads rs) x hx; omega
    · rw [mem_sepIf hx]; simp [sepLine]
    · have := ih (b + 1) (tails rs) x hx; omega

theorem gMajor_pairwise (n mx i k b : Nat) (rs : List RowC) (hn : i + rs.length ≤ n) :
    (gMajor n mx i k b rs).Pairwise OutLine.lt := by
  induction k generalizing b rs with
  | zero => simp [gMajor]
  | succ k ih =>
    simp only [gMajor]
    have hlen : (tails rs).length = rs.length := by simp [tails]
    have hlenh : (heads rs).length = rs.length := by simp [heads]
    rw [pairwise_append, pairwise_append]
    refine ⟨⟨gBlock_pairwise mx b i (heads rs), ?_, ?_⟩, ih (b + 1) (tails rs) (by omega), ?_⟩
    · simp only [sepIf]; split <;> simp
    · intro x hx y hy
      have hx' := gBlock_mem mx b i (heads rs) x hx
      rw [mem_sepIf hy]
      simp only [OutLine.lt, sepLine]; omega
    · intro x hx y hy
      have hy' := gMajor_mem n mx i k (b + 1) (tails rs) y hy
      simp only [mem_append] at hx
      rcases hx with hx | hx
      · have hx' := gBlock_mem mx b i (heads rs) x hx
        simp only [OutLine.lt]; omega
      · rw [mem_sepIf hx]
        simp only [OutLine.lt, sepLine]; omega

theorem sortLines_layout (hdr : List OutLine) (n mx alnlen k : Nat) (rows : List Row)
    (hh : hdr.Pairwise OutLine.lt) (hneg : ∀ x ∈ hdr, x.block < 0) (hn : rows.length ≤ n)
    (hk : ∀ r ∈ rows, (blocks (r.row.take alnlen)).length = k) :
    sortLines (hdr ++ bodyFrom n mx alnlen 0 rows) =
      hdr ++ gMajor n mx 0 k 0 (rows.map fun r => (r.name, blocks (r.row.take alnlen))) := by
  apply sortLines_eq
  · rw [bodyFrom_eq_gBody]
    apply Perm.append_left
    apply gBody_perm_gMajor
    intro r hr
    simp only [mem_map] at hr
    obtain ⟨r0, h0, rfl⟩ := hr
    exact hk r0 h0
  · rw [pairwise_append]
    refine ⟨hh, gMajor_pairwise n mx 0 k 0 _ (by simpa using hn), ?_⟩
    intro x hx y hy
    have h1 := hneg x hx
    have h2 := gMajor_mem n mx 0 k 0 _ y hy
    simp only [OutLine.lt]; omega

end Kalign.IO

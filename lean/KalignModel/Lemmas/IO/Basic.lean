import KalignModel.Model.IO.Read
import KalignModel.Model.IO.Write
import KalignModel.Lemmas.Basic.ListWalk
import KalignModel.Model.Weave
/-! Basic lemmas of the file-I/O model (`msa_io.c`): a file of complete lines is read back as these lines
(`splitLines_emit`); `blocks` cuts a row into chunks of 60 columns; `linRow`, the linear row of `make_linear_sequence` as bytes. -/
namespace Kalign.IO

/-- `ascii` of a string literal without decoding its UTF-8 bytes: rewriting with it unifies the literal with
`String.ofList [c₁, …]`.  Evaluating `String.toList` on the literal instead is very slow, for `decide` and for the kernel. -/
theorem ascii_ofList (l : List Char) : ascii (String.ofList l) = l.map fun c => UInt8.ofNat c.toNat := by
  simp [ascii]

/-- kernel evaluation of a closed fact about `ascii` literals, after `ascii_ofList` on each of them (`-index`: a literal
is an instance of `String.ofList _` only up to unfolding, which the index of `simp` does not see) -/
macro "decide_ascii" : tactic => `(tactic| (simp -index only [ascii_ofList]; decide +kernel))

def emit (ls : List Bytes) : Bytes := ls.flatMap fun l => l ++ [10]

theorem splitLinesAux_line (l rest cur : Bytes) (acc : List Bytes) (h : ∀ b ∈ l, b ≠ 10) :
    splitLinesAux (l ++ 10 :: rest) cur acc = splitLinesAux rest [] ((cur.reverse ++ l) :: acc) := by
  induction l generalizing cur with
  | nil => simp [splitLinesAux]
  | cons b l ih =>
    have hb : (b == 10) = false := by simpa using h b (by simp)
    have := ih (b :: cur) (fun x hx => h x (by simp [hx]))
    simp [splitLinesAux, hb, this]

theorem splitLinesAux_emit (ls : List Bytes) (acc : List Bytes) (h : ∀ l ∈ ls, ∀ b ∈ l, b ≠ 10) :
    splitLinesAux (emit ls) [] acc = acc.reverse ++ ls := by
  induction ls generalizing acc with
  | nil => simp [emit, splitLinesAux]
  | cons l ls ih =>
    have h1 := splitLinesAux_line l (emit ls) [] acc (h l (by simp))
    have h2 := ih (l :: acc) (fun x hx => h x (by simp [hx]))
    simp only [emit, List.flatMap_cons, List.append_assoc, List.singleton_append] at h1 h2 ⊢
    rw [h1]; simp only [List.reverse_nil, List.nil_append]; rw [h2]; simp

theorem cutCntrl_eq_self (l : Bytes) (h : ∀ b ∈ l, isCntrl b = false) : cutCntrl l = l :=
  takeWhile_all _ l fun b hb => by simp [h b hb]

theorem isCntrl_ten : isCntrl 10 = true := by decide

theorem splitLines_emit (ls : List Bytes) (h : ∀ l ∈ ls, ∀ b ∈ l, isCntrl b = false) :
    splitLines (emit ls) = ls := by
  have h10 : ∀ l ∈ ls, ∀ b ∈ l, b ≠ 10 := by
    intro l hl b hb heq
    have := h l hl b hb
    rw [heq, isCntrl_ten] at this
    exact absurd this (by decide)
  unfold splitLines
  rw [splitLinesAux_emit ls [] h10]
  simp only [List.reverse_nil, List.nil_append]
  induction ls with
  | nil => rfl
  | cons l ls ih =>
    simp only [List.map_cons]
    rw [cutCntrl_eq_self l (h l (by simp)), ih (fun x hx => h x (by simp [hx]))]
    intro x hx; exact h10 x (by simp [hx])

theorem emit_append (a b : List Bytes) : emit (a ++ b) = emit a ++ emit b := by
  simp [emit]

theorem blocks_flatten (r : Bytes) : (blocks r).flatten = r := by
  fun_induction blocks r with
  | case1 r h => simp
  | case2 r h ih => simp [ih]

theorem blocks_ne_nil (r : Bytes) : blocks r ≠ [] := by
  fun_induction blocks r <;> simp

theorem blocks_length_le (r : Bytes) : ∀ c ∈ blocks r, c.length ≤ 60 := by
  fun_induction blocks r with
  | case1 r h => intro c hc; simp at hc; subst hc; exact h
  | case2 r h ih =>
    intro c hc
    simp only [List.mem_cons] at hc
    rcases hc with rfl | hc
    · simp; omega
    · exact ih c hc

theorem blocks_pos (r : Bytes) (hr : r ≠ []) : ∀ c ∈ blocks r, 1 ≤ c.length := by
  fun_induction blocks r with
  | case1 r h =>
    intro c hc; simp at hc; subst hc
    cases c with
    | nil => exact absurd rfl hr
    | cons => simp
  | case2 r h ih =>
    intro c hc
    simp only [List.mem_cons] at hc
    rcases hc with rfl | hc
    · simp; omega
    · apply ih _ c hc
      intro h0
      have : (r.drop 60).length = 0 := by rw [h0]; rfl
      simp at this; omega

theorem blocks_dropLast (r : Bytes) : ∀ c ∈ (blocks r).dropLast, c.length = 60 := by
  fun_induction blocks r with
  | case1 r h => simp
  | case2 r h ih =>
    intro c hc
    have hne := blocks_ne_nil (r.drop 60)
    rw [List.dropLast_cons_of_ne_nil hne] at hc
    simp only [List.mem_cons] at hc
    rcases hc with rfl | hc
    · simp; omega
    · exact ih c hc

theorem blocks_length (r : Bytes) : (blocks r).length = max 1 ((r.length + 59) / 60) := by
  fun_induction blocks r with
  | case1 r h => simp; omega
  | case2 r h ih => simp [ih]; omega

theorem feed_append (a : SeqAcc) (l1 l2 : Bytes) : feed a (l1 ++ l2) = feed (feed a l1) l2 := by
  simp [feed, List.foldl_append]

theorem feed_nil (a : SeqAcc) : feed a [] = a := rfl

theorem feed_cons (a : SeqAcc) (b : UInt8) (l : Bytes) : feed a (b :: l) = feed (feedByte a b) l := rfl

theorem feed_flatten (a : SeqAcc) (cs : List Bytes) : cs.foldl feed a = feed a cs.flatten := by
  induction cs generalizing a with
  | nil => rfl
  | cons c cs ih => simp [ih, feed_append]

theorem feed_blanks (a : SeqAcc) (k : Nat) (l : Bytes) : feed a (List.replicate k 32 ++ l) = feed a l := by
  induction k with
  | zero => simp
  | succ k ih =>
    rw [List.replicate_succ, List.cons_append, feed_cons]
    have : feedByte a 32 = a := by simp [feedByte, show isAlpha 32 = false by decide, show isPunct 32 = false by decide]
    rw [this, ih]

theorem feed_name (a : SeqAcc) (l : Bytes) : (feed a l).name = a.name := by
  induction l generalizing a with
  | nil => rfl
  | cons b l ih =>
    rw [feed_cons, ih]
    unfold feedByte; split
    · rfl
    · split <;> rfl

/-- the linear row of `make_linear_sequence` as bytes (`'-'` = 45) -/
def linRow : Bytes → List Nat → Bytes
  | [], g :: _ => List.replicate g 45
  | [], [] => []
  | x :: xs, g :: gs => List.replicate g 45 ++ x :: linRow xs gs
  | x :: xs, [] => x :: xs

theorem linRow_eq_makeLinear (res : Bytes) (gaps : List Nat) :
    linRow res gaps = (makeLinear res gaps).map fun | some c => c | none => 45 := by
  induction res generalizing gaps with
  | nil => cases gaps <;> simp [linRow, makeLinear]
  | cons x xs ih =>
    cases gaps with
    | nil => simp [linRow, makeLinear, Function.comp_def]
    | cons g gs => simp [linRow, makeLinear, ih]

end Kalign.IO

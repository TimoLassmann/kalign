import KalignModel.Lemmas.IO.Clu
/-! What one call of `kalign_read_input` does (`readInput1_eq`).  Several input files: `kalign_read_input` file after file
accumulates the sequences in file order through `merge_msa` (`readInputs_split`, `accum_shape`), provided the classes of the
files agree (`ClassOK`); and what `kalign_run` keeps of the result: `dealign_msa` leaves names and residues only
(`runDealign_finish`, `dealignSeq_congr`). -/
namespace Kalign.IO
open List

/-- `kalign_read_input` gets the sequences `S` out of `file`: the first line is not one byte long (the "was anything
read" test), the format is recognised, its reader succeeds and returns at least one sequence -/
structure FileReads (file : Bytes) (S : List SeqRec) : Prop where
  ex : ∃ l ls t, splitLines file = l :: ls ∧ l.length ≠ 1 ∧ detectFormat (l :: ls) = t ∧ t ≠ -1 ∧
    readAs t (l :: ls) = some S
  ne : S ≠ []

/-- the msa after one more file (`merge_msa` when there is one already) -/
def mergeStep (prev : Option Msa) (S : List SeqRec) : Msa :=
  match prev with
  | none => finishMsa S 2 255
  | some d => finishMsa (d.seqs ++ S) d.biotype d.L

/-- finding C04-split-class (DESIGN.md) as an explicit hypothesis: the file's own detected class equals the class of
what was read before it (or nothing definite was read before it); otherwise `merge_msa` fails with
"Input alignments have different alphabets" -/
def classOK (prev : Option Msa) (S : List SeqRec) : Prop :=
  match prev with
  | none => True
  | some d => d.biotype = 2 ∨ d.biotype = (finishMsa S 2 255).biotype

def ClassOK : Option Msa → List (List SeqRec) → Prop
  | _, [] => True
  | prev, S :: Ss => classOK prev S ∧ ClassOK (some (mergeStep prev S)) Ss

def accum : Option Msa → List (List SeqRec) → Option Msa
  | prev, [] => prev
  | prev, S :: Ss => accum (some (mergeStep prev S)) Ss

theorem finishMsa_seqs (S : List SeqRec) (b l : Nat) : (finishMsa S b l).seqs = S := by
  unfold finishMsa; split; rfl

section
/-- only for stating `readInput1_eq` -/
local instance classOK.dec (prev : Option Msa) (S : List SeqRec) : Decidable (classOK prev S) := by
  cases prev <;> unfold classOK <;> exact inferInstance

/-- `kalign_read_input` without the bookkeeping of the C text -/
theorem readInput1_eq (prev : Option Msa) (f : Bytes) :
    readInput1 prev f =
      match splitLines f with
      | [] => .null
      | l :: ls =>
        if l.length = 1 ∨ detectFormat (l :: ls) = -1 then .null else
        match readAs (detectFormat (l :: ls)) (l :: ls) with
        | none => .fail
        | some S => if S = [] ∨ ¬ classOK prev S then .fail else .ok (mergeStep prev S) := by
  unfold readInput1
  cases hs : splitLines f with
  | nil => rfl
  | cons l ls =>
    have hj : (((l.length : Int) - 1) == 0) = decide (l.length = 1) := by
      rw [Bool.eq_iff_iff]; simp only [beq_iff_eq, decide_eq_true_eq]; omega
    simp only [hj]
    by_cases h1 : l.length = 1
    · simp [h1]
    by_cases ht : detectFormat (l :: ls) = -1
    · simp [h1, ht]
    simp only [h1, ht, decide_false, Bool.false_eq_true, if_false, beq_iff_eq, false_or]
    cases readAs (detectFormat (l :: ls)) (l :: ls) with
    | none => rfl
    | some S =>
      simp only
      by_cases hS : S = []
      · simp [hS]
      cases prev with
      | none => simp [hS, classOK, mergeStep, finishMsa_seqs]
      | some d =>
        by_cases hc : d.biotype = 2 ∨ d.biotype = (finishMsa S 2 255).biotype
        · have : ¬(¬d.biotype = 2 ∧ ¬d.biotype = (finishMsa S 2 255).biotype) := by omega
          simp [hS, classOK, mergeStep, finishMsa_seqs, hc, this]
        · have : (¬d.biotype = 2 ∧ ¬d.biotype = (finishMsa S 2 255).biotype) := by omega
          simp [hS, classOK, this]

theorem readInput1_of_reads (prev : Option Msa) (file : Bytes) (S : List SeqRec) (h : FileReads file S)
    (hc : classOK prev S) : readInput1 prev file = .ok (mergeStep prev S) := by
  obtain ⟨l, ls, t, hlines, hl, hdet, ht, hread⟩ := h.ex
  subst hdet
  rw [readInput1_eq, hlines]
  simp [hl, ht, hread, h.ne, hc]
end

inductive AllReads : List Bytes → List (List SeqRec) → Prop
  | nil : AllReads [] []
  | cons {f S fs Ss} : FileReads f S → AllReads fs Ss → AllReads (f :: fs) (S :: Ss)

theorem readInputs_split (files : List Bytes) (Ss : List (List SeqRec)) (prev : Option Msa)
    (hr : AllReads files Ss) (hc : ClassOK prev Ss) :
    readInputs prev files = (match accum prev Ss with | none => .null | some m => .ok m) := by
  induction hr generalizing prev with
  | nil => cases prev <;> rfl
  | @cons f S fs Ss' h _ ih =>
    simp only [readInputs, readInput1_of_reads prev f S h hc.1, accum]
    exact ih _ hc.2

/-- the two log-likelihoods of `detect_alphabet` -/
def scores (lf : Array Nat) : Float × Float :=
  let dna := probTable Gen.dnaLetters Gen.prob_dna_letter Gen.prob_dna_other
  let prot := probTable Gen.proteinLetters Gen.prob_prot_letter Gen.prob_prot_other
  (List.range 128).foldl (fun (acc : Float × Float) (i : Nat) =>
    if lf[i]! ≠ 0 then
      (acc.1 + dna[i]! * Float.ofNat lf[i]!, acc.2 + prot[i]! * Float.ofNat lf[i]!)
    else acc) (0.0, 0.0)

/-- the decision of `detect_alphabet` -/
def classify (d p : Float) (bio L : Nat) : Nat × Nat :=
  if d == p then (bio, 255) else if d > p then (1, L) else if p > d then (0, L) else (bio, L)

theorem detectAlphabet_eq (lf : Array Nat) (b L : Nat) :
    detectAlphabet lf b L = classify (scores lf).1 (scores lf).2 b L := by
  -- a bare `rfl` works too but is very slow to check
  simp only [detectAlphabet, classify, scores]
  rfl

theorem detectAlphabet_L (lf : Array Nat) (b : Nat) : (detectAlphabet lf b 255).2 = 255 := by
  rw [detectAlphabet_eq]; unfold classify
  split
  · rfl
  · split
    · rfl
    · split <;> rfl

theorem finishMsa_L (S : List SeqRec) (b : Nat) : (finishMsa S b 255).L = 255 := by
  have := detectAlphabet_L (letterFreq S) b
  unfold finishMsa
  split
  rename_i b' l' h
  rw [h] at this
  exact this

theorem finishMsa_aligned (S : List SeqRec) (b L : Nat) : (finishMsa S b L).aligned = detectAligned S := by
  unfold finishMsa; split; rfl

theorem finishMsa_biotype (S : List SeqRec) (b L : Nat) :
    (finishMsa S b L).biotype = (detectAlphabet (letterFreq S) b L).1 := by
  unfold finishMsa; split; rename_i h; rw [h]

theorem detectAlphabet_definite (lf : Array Nat) (L : Nat) (h : (detectAlphabet lf 2 L).1 ≠ 2) (b : Nat) :
    detectAlphabet lf b L = detectAlphabet lf 2 L := by
  rw [detectAlphabet_eq] at h ⊢
  rw [detectAlphabet_eq]
  unfold classify at h ⊢
  by_cases h1 : ((scores lf).1 == (scores lf).2) = true
  · simp [h1] at h
  · by_cases h2 : (scores lf).1 > (scores lf).2
    · simp [h1, h2]
    · by_cases h3 : (scores lf).2 > (scores lf).1
      · simp [h1, h2, h3]
      · simp [h1, h2, h3] at h

theorem accum_shape (Ss : List (List SeqRec)) (S0 : List SeqRec) (b : Nat) :
    ∃ b', accum (some (finishMsa S0 b 255)) Ss = some (finishMsa (S0 ++ Ss.flatten) b' 255) := by
  induction Ss generalizing S0 b with
  | nil => exact ⟨b, by simp [accum]⟩
  | cons S Ss ih =>
    simp only [accum, mergeStep, finishMsa_seqs, finishMsa_L]
    obtain ⟨b', h⟩ := ih (S0 ++ S) (finishMsa S0 b 255).biotype
    exact ⟨b', by rw [h]; simp⟩

/-- `dealign_msa` on one sequence: `gaps[0..len] = 0` -/
def dealignSeq (s : SeqRec) : SeqRec := { s with gaps := replicate (s.res.length + 1) 0 }

/-- `dealign_msa`: all gap vectors zero, status ALN_STATUS_UNALIGNED -/
def dealign (m : Msa) : Msa := { m with seqs := m.seqs.map dealignSeq, aligned := 1 }

/-- the step of `kalign_run` (aln_wrap.c): `if(msa->aligned != ALN_STATUS_UNALIGNED) dealign_msa(msa)`; `PipelineFile.dealignStep` of
the whole-program model is this function (`dealignStep_eq_runDealign`) -/
def runDealign (m : Msa) : Msa := if m.aligned ≠ 1 then dealign m else m

def GapsWF (S : List SeqRec) : Prop := ∀ s ∈ S, s.gaps.length = s.res.length + 1

theorem all_zero_of_sum (l : List Nat) (h : l.sum = 0) : l = replicate l.length 0 := by
  induction l with
  | nil => rfl
  | cons x xs ih =>
    simp only [sum_cons] at h
    have hx : x = 0 := by omega
    have : xs.sum = 0 := by omega
    rw [length_cons, replicate_succ, hx, ← ih this]

theorem sum_zero_mem (l : List Nat) (h : l.sum = 0) : ∀ x ∈ l, x = 0 := by
  intro x hx
  rw [all_zero_of_sum l h] at hx
  exact eq_of_mem_replicate hx

theorem detectAligned_one (S : List SeqRec) (h : detectAligned S = 1) : ∀ s ∈ S, s.gaps.sum = 0 := by
  unfold detectAligned at h
  simp only at h
  intro s hs
  by_cases hg : (S.map fun s => s.gaps.sum).sum = 0
  · exact sum_zero_mem _ hg _ (mem_map.mpr ⟨s, hs, rfl⟩)
  · simp only [hg, ne_eq, not_false_eq_true, if_true] at h
    split at h <;> simp at h

theorem runDealign_finish (S : List SeqRec) (wf : GapsWF S) (b L : Nat) :
    runDealign (finishMsa S b L) =
      ⟨S.map dealignSeq, (finishMsa S b L).biotype, (finishMsa S b L).L, 1⟩ := by
  unfold runDealign
  split
  · simp [dealign, finishMsa_seqs]
  · rename_i h
    have h1 : (finishMsa S b L).aligned = 1 := by simpa using h
    have hs : S.map dealignSeq = S := by
      conv => rhs; rw [← map_id S]
      apply map_congr_left
      intro s hs
      have h0 := detectAligned_one S (by rw [← finishMsa_aligned S b L]; exact h1) s hs
      have := all_zero_of_sum s.gaps h0
      rw [wf s hs] at this
      cases s; simp_all [dealignSeq]
    have e : finishMsa S b L = ⟨(finishMsa S b L).seqs, (finishMsa S b L).biotype, (finishMsa S b L).L,
        (finishMsa S b L).aligned⟩ := rfl
    rw [e, h1, finishMsa_seqs, hs]

/-- what `kalign_run` keeps of the sequences that were read -/
def namesRes (S : List SeqRec) : List (Bytes × Bytes) := S.map fun s => (s.name, s.res)

theorem dealignSeq_congr (S1 S2 : List SeqRec) (h : namesRes S1 = namesRes S2) :
    S1.map dealignSeq = S2.map dealignSeq := by
  have : ∀ S : List SeqRec, S.map dealignSeq =
      (namesRes S).map fun p => ⟨p.1, p.2, replicate (p.2.length + 1) 0⟩ := by
    intro S; simp [namesRes, dealignSeq, Function.comp_def]
  rw [this S1, this S2, h]

end Kalign.IO

import KalignModel.Lemmas.IO.Clu
import KalignModel.Lemmas.IO.Sniff
import KalignModel.Lemmas.IO.Numbers
import KalignModel.Lemmas.IO.Spec
/-! The header lines `write_msa_msf` writes, as `read_msf` sees them.  None holds a control byte or a `/` (`AllOk`), so each
survives line splitting and none ends the header early; the `MSF:` line does not contain `Len:` (`msfInfoLine_noLen`), so it
is not taken for a `Name:` line; `msfNameLine_eq` is the shape of a `Name:` line.  `HdrOK` is what is assumed of the output
base name and of the date text. -/
namespace Kalign.IO
open List

/-- `a` immediately followed by `b` somewhere in the line.  `Len:` contains `n:`, so a line without the pair `n:` does not
contain `Len:` (`hasPair_of_hasSub`), and unlike `hasSub` the pair test splits over `++` (`hasPair_append`). -/
def hasPair (a b : UInt8) : Bytes → Bool
  | x :: y :: t => (x == a && y == b) || hasPair a b (y :: t)
  | _ => false

theorem hasPair_cons_ne (a b x : UInt8) (l : Bytes) (h : x ≠ a) : hasPair a b (x :: l) = hasPair a b l := by
  cases l with
  | nil => simp [hasPair]
  | cons y t => simp [hasPair, h]

/-- the pair test is `strstr` for a needle of two bytes -/
theorem hasPair_iff_infix (a b : UInt8) (l : Bytes) : hasPair a b l = true ↔ [a, b] <:+: l := by
  induction l with
  | nil => simp [hasPair]
  | cons x t ih =>
    cases t with
    | nil => simp [hasPair, List.infix_cons_iff, List.prefix_cons_iff]
    | cons y t' =>
      have hp : [a, b] <+: x :: y :: t' ↔ (x == a && y == b) = true := by
        simp only [List.cons_prefix_cons, List.nil_prefix, and_true, Bool.and_eq_true, beq_iff_eq]
        constructor <;> rintro ⟨rfl, rfl⟩ <;> exact ⟨rfl, rfl⟩
      rw [hasPair, Bool.or_eq_true, ih, List.infix_cons_iff (a := x), hp]

theorem hasPair_not_mem (a b : UInt8) (l : Bytes) (h : b ∉ l) : hasPair a b l = false := by
  cases h' : hasPair a b l with
  | false => rfl
  | true => exact absurd (((hasPair_iff_infix ..).mp h').subset (by simp)) h

theorem hasPair_append (a b : UInt8) (l1 l2 : Bytes) (h : l2.head? ≠ some b) :
    hasPair a b (l1 ++ l2) = (hasPair a b l1 || hasPair a b l2) := by
  induction l1 with
  | nil => simp [hasPair]
  | cons x t ih =>
    cases t with
    | nil =>
      cases l2 with
      | nil => simp [hasPair]
      | cons y t2 =>
        have hy : y ≠ b := by simpa using h
        simp [hasPair, hy]
    | cons y t' =>
      simp only [cons_append, hasPair] at ih ⊢
      rw [ih, Bool.or_assoc]

theorem hasPair_of_hasSub (a b : UInt8) (needle hay : Bytes) (hn : hasPair a b needle = true)
    (hs : hasSub needle hay = true) : hasPair a b hay = true :=
  (hasPair_iff_infix ..).mpr (((hasPair_iff_infix ..).mp hn).trans ((hasSub_iff_infix ..).mp hs))

theorem digit_plain (b : UInt8) (h : isDigit b = true) : plainChar b = true :=
  imp_of_or (forall_byte (fun b => !isDigit b || plainChar b) (by decide +kernel) b) h

theorem digit_ne (b : UInt8) (h : isDigit b = true) : b ≠ 110 := by
  intro e; rw [e] at h; exact absurd h (by decide)

/-- bytes that neither end a line early nor form the `//` separator -/
def okb (b : UInt8) : Bool := !isCntrl b && b != 47

def AllOk (l : Bytes) : Prop := ∀ b ∈ l, okb b = true

theorem AllOk.append {l1 l2 : Bytes} (h1 : AllOk l1) (h2 : AllOk l2) : AllOk (l1 ++ l2) := by
  intro b hb; rcases mem_append.mp hb with h | h
  · exact h1 b h
  · exact h2 b h

theorem AllOk.cons {x : UInt8} {l : Bytes} (hx : okb x = true) (h : AllOk l) : AllOk (x :: l) := by
  intro b hb; rcases mem_cons.mp hb with rfl | h'
  · exact hx
  · exact h b h'

theorem plain_okb (b : UInt8) (h : plainChar b = true) : okb b = true := by
  obtain ⟨hc, _, _, h47, _⟩ := plainChar_parts h
  simp [okb, hc, h47]

theorem AllOk.of_plain {l : Bytes} (h : ∀ b ∈ l, plainChar b = true) : AllOk l := fun b hb => plain_okb b (h b hb)

theorem AllOk.blanks (k : Nat) : AllOk (replicate k 32) := by
  intro b hb; rw [(mem_replicate.mp hb).2]; decide

theorem AllOk.digits (n : Nat) : AllOk (decDigits n) :=
  AllOk.of_plain (fun b hb => digit_plain b (decDigits_isDigit n b hb))

theorem AllOk.padLeft (w : Nat) {l : Bytes} (h : AllOk l) : AllOk (padLeft w l) := (AllOk.blanks _).append h
theorem AllOk.padRight (w : Nat) {l : Bytes} (h : AllOk l) : AllOk (padRight w l) := h.append (AllOk.blanks _)

theorem AllOk.not_cntrl {l : Bytes} (h : AllOk l) : ∀ b ∈ l, isCntrl b = false := by
  intro b hb; have := h b hb; simp only [okb, Bool.and_eq_true, Bool.not_eq_true'] at this; exact this.1

theorem AllOk.no_sep {l : Bytes} (h : AllOk l) : hasSub (ascii "//") l = false := by
  apply hasSub_false _ _ 47 (by decide)
  intro hm; have := h 47 hm; simp [okb] at this

/-- what the theorems need of the output base name and of the `strftime("%B %d, %Y %H:%M")` text: name characters; no control
byte or `/`, no `n:` and no leading `:` (so that no `Len:` arises in or across the date).  The text depends on the locale, hence
a hypothesis. -/
structure HdrOK (base date : Bytes) : Prop where
  base : ∀ b ∈ base, nameChar b = true
  dateOk : AllOk date
  datePair : hasPair 110 58 date = false
  dateHead : date.head? ≠ some 58

instance (base date : Bytes) : Decidable (HdrOK base date) :=
  if h : (∀ b ∈ base, nameChar b = true) ∧ (∀ b ∈ date, okb b = true) ∧ hasPair 110 58 date = false ∧
      date.head? ≠ some 58
  then isTrue ⟨h.1, h.2.1, h.2.2.1, h.2.2.2⟩
  else isFalse fun w => h ⟨w.base, w.dateOk, w.datePair, w.dateHead⟩

theorem msfTypeChar_cases (A : Alignment) : msfTypeChar A = 80 ∨ msfTypeChar A = 78 := by
  unfold msfTypeChar; split <;> simp

theorem msfInfoLine_ok (date : Bytes) (A : Alignment) (h : HdrOK A.basename date) : AllOk (msfInfoLine date A) := by
  unfold msfInfoLine
  have hb : AllOk A.basename := AllOk.of_plain (fun b hb => nameChar_plain b (h.base b hb))
  have htc : AllOk [msfTypeChar A] := by
    intro b hb; simp only [mem_singleton] at hb
    rcases msfTypeChar_cases A with e | e <;> rw [hb, e] <;> decide
  have l1 : AllOk (ascii "  MSF: ") := by unfold AllOk; decide_ascii
  have l2 : AllOk (ascii "  Type: ") := by unfold AllOk; decide_ascii
  have l3 : AllOk (ascii "  ") := by unfold AllOk; decide_ascii
  have l4 : AllOk (ascii "  Check: ") := by unfold AllOk; decide_ascii
  have l5 : AllOk (ascii "  ..") := by unfold AllOk; decide_ascii
  exact ((((((((AllOk.cons (by decide) hb).append l1).append (AllOk.digits _)).append l2).append htc).append l3).append
    h.dateOk).append l4).append (AllOk.digits _) |>.append l5

theorem digits_head (n : Nat) : (decDigits n).head? ≠ some 58 := by
  cases hd : decDigits n with
  | nil => simp
  | cons x t =>
    have := decDigits_isDigit n x (by rw [hd]; simp)
    simp only [head?_cons, ne_eq, Option.some.injEq]
    intro e; rw [e] at this; revert this; decide

theorem digits_noPair (n : Nat) : hasPair 110 58 (decDigits n) = false := by
  apply hasPair_not_mem
  intro hm
  have := decDigits_isDigit n 58 hm
  revert this; decide

theorem msfInfoLine_noLen (date : Bytes) (A : Alignment) (h : HdrOK A.basename date) :
    hasSub (ascii "Len:") (msfInfoLine date A) = false := by
  have hp : hasPair 110 58 (msfInfoLine date A) = false := by
    unfold msfInfoLine
    have hb : hasPair 110 58 (32 :: A.basename) = false := by
      rw [hasPair_cons_ne _ _ _ _ (by decide)]
      apply hasPair_not_mem
      intro hm
      have := nameChar_plain 58 (h.base 58 hm)
      revert this; decide
    have htc : hasPair 110 58 [msfTypeChar A] = false := rfl
    rw [hasPair_append _ _ _ _ (by decide_ascii), hasPair_append _ _ _ _ (digits_head _),
      hasPair_append _ _ _ _ (by decide_ascii), hasPair_append _ _ _ _ h.dateHead, hasPair_append _ _ _ _ (by decide_ascii),
      hasPair_append _ _ _ _ (by rcases msfTypeChar_cases A with e | e <;> simp [e]),
      hasPair_append _ _ _ _ (by decide_ascii), hasPair_append _ _ _ _ (digits_head _), hasPair_append _ _ _ _ (by decide_ascii)]
    simp only [hb, htc, digits_noPair, h.datePair, Bool.or_false]
    decide_ascii
  cases hs : hasSub (ascii "Len:") (msfInfoLine date A) with
  | false => rfl
  | true =>
    have := hasPair_of_hasSub 110 58 _ _ (by decide_ascii) hs
    rw [hp] at this; exact absurd this (by decide)

theorem replicate_append_cons (q : Nat) (x : UInt8) (t : Bytes) :
    replicate q x ++ x :: t = x :: (replicate q x ++ t) := by
  induction q with
  | zero => rfl
  | succ q ih => simp [replicate_succ, ih]

theorem takeWhile_append_stop (p : UInt8 → Bool) (nm t : Bytes) (x : UInt8) (h : ∀ b ∈ nm, p b = true)
    (hx : p x = false) : takeWhile p (nm ++ x :: t) = nm := by
  rw [takeWhile_append_of_pos h, takeWhile_cons_of_neg (by simp [hx]), append_nil]

def nameLineTail (alnlen chk : Nat) : Bytes :=
  ascii "  " ++ padLeft 5 (decDigits alnlen) ++ ascii "  Check: " ++ padLeft 4 (decDigits chk) ++ ascii "  Weight: 1.00"

theorem msfNameLine_eq (mx alnlen : Nat) (r : Row) (h : NmOK mx r.name) :
    msfNameLine mx alnlen r =
      32 :: (ascii "Name:" ++ 32 :: (r.name ++ 32 :: (replicate (mx - r.name.length) 32 ++
        32 :: (ascii "Len:" ++ nameLineTail alnlen (gcgChecksum r.row alnlen))))) := by
  unfold msfNameLine nameLineTail padRight
  rw [take_of_length_le h.mx]
  have e1 : ascii " Name: " = 32 :: (ascii "Name:" ++ [32]) := by decide_ascii
  have e2 : ascii "  Len:  " = 32 :: 32 :: (ascii "Len:" ++ ascii "  ") := by decide_ascii
  rw [e1, e2]
  simp only [cons_append, append_assoc, nil_append, replicate_append_cons]

theorem msfNameLine_ok (mx alnlen : Nat) (r : Row) (hp : ∀ b ∈ r.name, plainChar b = true) :
    AllOk (msfNameLine mx alnlen r) := by
  unfold msfNameLine
  have l1 : AllOk (ascii " Name: ") := by unfold AllOk; decide_ascii
  have l2 : AllOk (ascii "  Len:  ") := by unfold AllOk; decide_ascii
  have l4 : AllOk (ascii "  Check: ") := by unfold AllOk; decide_ascii
  have l5 : AllOk (ascii "  Weight: 1.00") := by unfold AllOk; decide_ascii
  have hn : AllOk (r.name.take mx) := AllOk.of_plain (fun b hb => hp b (mem_of_mem_take hb))
  exact (((((l1.append (hn.padRight _)).append l2).append ((AllOk.digits _).padLeft _)).append l4).append
    ((AllOk.digits _).padLeft _)).append l5

theorem msfHeader_skip (l : Bytes) (ls : List Bytes) (acc : List SeqAcc) (h1 : hasSub (ascii "//") l = false)
    (h2 : msfName l = none) : msfHeader (l :: ls) acc = msfHeader ls acc := by
  simp [msfHeader, h1, h2]

theorem msfHeader_name (l nm : Bytes) (ls : List Bytes) (acc : List SeqAcc) (h1 : hasSub (ascii "//") l = false)
    (h2 : msfName l = some nm) : msfHeader (l :: ls) acc = msfHeader ls (SeqAcc.new nm :: acc) := by
  simp [msfHeader, h1, h2]

theorem msfMagic_ind (P : Bytes → Prop) (hAA : P (ascii "!!AA_MULTIPLE_ALIGNMENT 1.0"))
    (hNA : P (ascii "!!NA_MULTIPLE_ALIGNMENT 1.0")) (A : Alignment) : P (msfMagic A) := by
  unfold msfMagic
  split
  · exact hAA
  · split
    · exact hAA
    · exact hNA

theorem msfMagic_ok (A : Alignment) : AllOk (msfMagic A) := by
  refine msfMagic_ind AllOk ?_ ?_ A
  · unfold AllOk; decide_ascii
  · unfold AllOk; decide_ascii

theorem msfFold_nil (st : Blk) : msfFold st [] = some st := rfl

theorem msfFold_eq_foldlM (st : Blk) (ls : List Bytes) : msfFold st ls = ls.foldlM msfLine st := by
  induction ls generalizing st with
  | nil => rfl
  | cons l ls ih =>
    rw [msfFold, List.foldlM_cons]
    cases msfLine st l with
    | none => rfl
    | some st' => exact ih st'

end Kalign.IO

import KalignModel.Model.IO.Write
import KalignModel.Model.Weave
/-! `%d` and the GCG checksums of the MSF writer against their specifications: `decDigits n` are the characters of
`toString n` (`decDigits_eq_toString`) and have the value `n` (`decValue_decDigits`); `GCGchecksum` is a weighted sum
mod 10000 (`gcgChecksum_eq`, `gcgSum_eq_sum`), `GCGMultchecksum` the sum of the row checksums mod 10000 (`gcgMult_eq`). -/
namespace Kalign.IO
open List

def byteOfChar (c : Char) : UInt8 := UInt8.ofNat c.toNat

theorem digitByte (d : Nat) (h : d < 10) : UInt8.ofNat (48 + d) = byteOfChar (Nat.digitChar d) := by
  have : ∀ i : Fin 10, UInt8.ofNat (48 + i.val) = byteOfChar (Nat.digitChar i.val) := by decide
  exact this ⟨d, h⟩

theorem decDigitsAux_eq (fuel n : Nat) (ds : List Char) :
    decDigitsAux fuel n (ds.map byteOfChar) = (Nat.toDigitsCore 10 fuel n ds).map byteOfChar := by
  induction fuel generalizing n ds with
  | zero => rfl
  | succ fuel ih =>
    simp only [decDigitsAux, Nat.toDigitsCore]
    rw [digitByte (n % 10) (Nat.mod_lt _ (by decide))]
    split
    · simp
    · have := ih (n / 10) (Nat.digitChar (n % 10) :: ds)
      simpa using this

theorem decDigits_eq (n : Nat) : decDigits n = (Nat.toDigits 10 n).map byteOfChar := by
  have := decDigitsAux_eq (n + 1) n []
  simpa [decDigits, Nat.toDigits] using this

theorem decDigits_eq_toString (n : Nat) : decDigits n = (toString n).toList.map byteOfChar := by
  rw [decDigits_eq]
  show _ = (Nat.repr n).toList.map byteOfChar
  rw [Nat.toList_repr]

theorem isDigit_range {c : Char} (h : c.isDigit = true) : 48 ≤ c.toNat ∧ c.toNat ≤ 57 := by
  simp only [Char.isDigit, Bool.and_eq_true, decide_eq_true_eq] at h
  have a := h.1; have b := h.2
  simp only [UInt32.le_iff_toNat_le] at a b
  exact ⟨a, b⟩

theorem isDigit_byteOfChar (c : Char) (h : c.isDigit = true) : isDigit (byteOfChar c) = true := by
  have h1 := isDigit_range h
  simp only [isDigit, byteOfChar, Bool.and_eq_true, decide_eq_true_eq, UInt8.le_iff_toNat_le, UInt8.toNat_ofNat']
  simp
  omega

theorem decDigits_isDigit (n : Nat) : ∀ b ∈ decDigits n, isDigit b = true := by
  intro b hb
  rw [decDigits_eq, mem_map] at hb
  obtain ⟨c, hc, rfl⟩ := hb
  exact isDigit_byteOfChar c (Nat.isDigit_of_mem_toDigits (by decide) (by decide) hc)

theorem decDigits_ne_nil (n : Nat) : decDigits n ≠ [] := by
  rw [decDigits_eq]
  intro h
  exact Nat.toDigits_ne_nil (map_eq_nil_iff.mp h)

def decValue (l : Bytes) : Nat := l.foldl (fun v b => 10 * v + (b.toNat - 48)) 0

theorem decValue_decDigits (n : Nat) : decValue (decDigits n) = n := by
  have h := @Nat.ofDigitChars_ten_toDigits n
  rw [decDigits_eq]
  have key : ∀ (l : List Char) (v : Nat), (∀ c ∈ l, c.isDigit = true) →
      foldl (fun v b => 10 * v + (b.toNat - 48)) v (l.map byteOfChar) = Nat.ofDigitChars 10 l v := by
    intro l
    induction l with
    | nil => intro v _; rfl
    | cons c cs ih =>
      intro v hd
      simp only [map_cons, foldl_cons, Nat.ofDigitChars_cons]
      have h1 := isDigit_range (hd c (by simp))
      have h2 : (byteOfChar c).toNat = c.toNat := by
        simp only [byteOfChar, UInt8.toNat_ofNat']
        omega
      rw [h2]
      exact ih _ (fun x hx => hd x (by simp [hx]))
  unfold decValue
  rw [key _ 0 (fun c hc => Nat.isDigit_of_mem_toDigits (by decide) (by decide) hc)]
  exact h

/-- the sum of `GCGchecksum` (msa_misc.c, taken from the squid library; the one `write_msa_msf` calls) before the reductions modulo 10000 -/
def gcgSum : Nat → Bytes → Nat
  | _, [] => 0
  | i, b :: bs => (i % 57 + 1) * (toUpper b).toNat + gcgSum (i + 1) bs

theorem gcgAux_eq (i chk : Nat) (l : Bytes) (h : chk < 10000) : gcgAux i chk l = (chk + gcgSum i l) % 10000 := by
  induction l generalizing i chk with
  | nil => simp only [gcgAux, gcgSum, Nat.add_zero]; omega
  | cons b bs ih =>
    simp only [gcgAux, gcgSum]
    rw [ih _ _ (Nat.mod_lt _ (by decide))]
    omega

theorem gcgChecksum_eq (seq : Bytes) (len : Nat) : gcgChecksum seq len = gcgSum 0 (seq.take len) % 10000 := by
  simp [gcgChecksum, gcgAux_eq]

theorem gcgSum_eq_sum (i : Nat) (l : Bytes) :
    gcgSum i l = ((List.range l.length).map fun k => ((i + k) % 57 + 1) * (toUpper l[k]!).toNat).sum := by
  induction l generalizing i with
  | nil => rfl
  | cons b bs ih =>
    simp only [gcgSum, length_cons, List.range_succ_eq_map, map_cons, sum_cons, map_map]
    rw [ih (i + 1)]
    simp only [Nat.add_zero, getElem!_cons_zero]
    congr 2
    apply map_congr_left
    intro k _
    simp only [Function.comp]
    rw [show i + 1 + k = i + (k + 1) by omega]
    simp

theorem gcgMult_lt (rows : List Row) (alnlen chk : Nat) (h : chk < 10000) :
    rows.foldl (fun chk r => (chk + gcgChecksum r.row alnlen) % 10000) chk < 10000 := by
  induction rows generalizing chk with
  | nil => exact h
  | cons r rs ih => exact ih _ (Nat.mod_lt _ (by decide))

theorem gcgMult_fold (rows : List Row) (alnlen chk : Nat) :
    rows.foldl (fun chk r => (chk + gcgChecksum r.row alnlen) % 10000) chk % 10000 =
      (chk + (rows.map fun r => gcgChecksum r.row alnlen).sum) % 10000 := by
  induction rows generalizing chk with
  | nil => simp
  | cons r rs ih =>
    simp only [foldl_cons, map_cons, sum_cons]
    rw [ih]
    omega

theorem gcgMult_eq (A : Alignment) :
    gcgMult A = (A.rows.map fun r => gcgChecksum r.row A.alnlen).sum % 10000 := by
  have h1 := gcgMult_fold A.rows A.alnlen 0
  have h2 := gcgMult_lt A.rows A.alnlen 0 (by decide)
  unfold gcgMult
  rw [Nat.mod_eq_of_lt h2] at h1
  simpa using h1

end Kalign.IO

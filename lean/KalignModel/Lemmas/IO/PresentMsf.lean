import KalignModel.Lemmas.IO.Present
import KalignModel.Lemmas.IO.Msf
/-! the block phase of `read_msf` on arbitrary presentations of the body (`msfPres`): `msfLine` is a `BlockStep`, hence `k`
blocks feed every sequence all its payloads (`msf_pres_rows`) -/
namespace Kalign.IO
open List

/-- a sequence line of an MSF block: the name directly followed by anything (the reader skips `strlen(name)` bytes) -/
def msfRowLine (r : Bytes × Bytes) : Bytes := r.1 ++ r.2

/-- all the block phase needs of a name: its row line is not skipped as a line starting with a blank (the name itself is
not compared with the line) -/
def StartsNonBlank (nm : Bytes) : Prop := ∃ b t, nm = b :: t ∧ isSpace b = false

theorem msfLine_row (nm c : Bytes) (h : StartsNonBlank nm) (done rest : List SeqAcc) (s : SeqAcc) (hs : s.name = nm) :
    msfLine ⟨done, s :: rest⟩ (msfRowLine (nm, c)) = some ⟨feed s c :: done, rest⟩ := by
  obtain ⟨b, t, rfl, hb⟩ := h
  simp only [msfRowLine, cons_append]
  unfold msfLine
  simp only [hb, Bool.false_eq_true, if_false, hs]
  have e2 : drop (b :: t).length (b :: (t ++ c)) = c := by
    rw [← cons_append, drop_left']; rfl
  rw [e2]

theorem msfStep : BlockStep msfLine msfRowLine StartsNonBlank where
  row nm c h done s rest hs := msfLine_row nm c h done rest s hs
  skip st l h := by obtain ⟨b, t, rfl, hb⟩ := h; simp [msfLine, hb]
  empty _ := rfl

/-- an MSF body: per block the rows (name immediately followed by the payload), optional lines starting with a blank,
and at least one empty line -/
def msfPres (extra : Nat → List Bytes × Nat) : Nat → Nat → List RowC → List Bytes
  | 0, _, _ => []
  | k + 1, b, rs =>
    (heads rs).map msfRowLine ++ ((extra b).1 ++ (replicate ((extra b).2 + 1) [] ++ msfPres extra k (b + 1) (tails rs)))

theorem msfPres_eq (extra : Nat → List Bytes × Nat) (k b : Nat) (rs : List RowC) :
    msfPres extra k b rs = blockPres msfRowLine extra k b rs := by
  induction k generalizing b rs with
  | zero => rfl
  | succ k ih => simp [msfPres, blockPres, ih]

theorem msf_pres_rows (extra : Nat → List Bytes × Nat) (hx : ∀ b, ∀ l ∈ (extra b).1, BlankStart l)
    (k b : Nat) (rs : List RowC) (hk : ∀ r ∈ rs, r.2.length = k) (hn : ∀ r ∈ rs, StartsNonBlank r.1) :
    msfFold ⟨[], rs.map fun r => SeqAcc.new r.1⟩ (msfPres extra k b rs) =
      some ⟨[], rs.map fun r => feed (SeqAcc.new r.1) r.2.flatten⟩ := by
  rw [msfFold_eq_foldlM, msfPres_eq]
  exact msfStep.blocks_new extra hx k b rs hk hn

end Kalign.IO

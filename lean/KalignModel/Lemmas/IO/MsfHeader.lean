import KalignModel.Lemmas.IO.Present
import KalignModel.Lemmas.IO.Msf
import KalignModel.Lemmas.Basic.ListWalk
/-!
# A grammar of MSF headers and the header phase of `read_msf` on it

A header is a list of lines, each either
* an *other* line: it contains no `//`, and lacks `Name:` or lacks `Len:` (blank lines, `!!NA_MULTIPLE_ALIGNMENT`,
  `PileUp`, free text, the `MSF: … Type: … Check: … ..` line, …), or
* a *name* line `pre ++ "Name:" ++ blanks ++ name ++ post` where `Name:` does not occur earlier (no occurrence starts
  inside `pre`), `blanks` are white space (possibly none), `name` is 1..255 non-blank bytes, `post` is empty or starts
  with a blank, the line contains `Len:` somewhere (before or behind the name, any value) and no `//`.
The header is closed by any line containing `//`.  On such a header the header phase creates exactly the announced names, in
order (`msfHeader_grammar`).  The headers kalign writes are an instance (`writtenHdr_covers`).

NOT covered (and read differently by `read_msf`): a name line containing `//` anywhere (e.g. inside the name: it ends the
header), names longer than 255 bytes (truncated), a name line without `Len:` (skipped), a second `Name:` before the
intended one on the same line (the first one wins), names containing white space (cut at the first blank).
-/
namespace Kalign.IO
open List

theorem isPrefixOf_append_of_le (n l m : Bytes) (h : n.length ≤ l.length) :
    n.isPrefixOf (l ++ m) = n.isPrefixOf l := by
  induction n generalizing l with
  | nil => simp
  | cons a n ih =>
    cases l with
    | nil => simp at h
    | cons b l =>
      simp only [cons_append, isPrefixOf]
      rw [ih l (by simpa using h)]

theorem findSub_self_append (n rest : Bytes) (hne : n ≠ []) : findSub n (n ++ rest) = some (n ++ rest) := by
  obtain ⟨a, n', rfl⟩ := exists_cons_of_ne_nil hne
  simp only [cons_append, findSub]
  rw [if_pos]
  rw [← cons_append]
  exact List.isPrefixOf_iff_prefix.mpr (prefix_append _ _)

/-- the first occurrence of `n` is the one after `pre` when none begins inside `pre` -/
theorem findSub_first (n pre rest : Bytes) (hne : n ≠ []) (h : hasSub n (pre ++ n.dropLast) = false) :
    findSub n (pre ++ n ++ rest) = some (n ++ rest) := by
  induction pre with
  | nil => exact findSub_self_append _ _ hne
  | cons x t ih =>
    rw [cons_append, hasSub_cons, Bool.or_eq_false_iff] at h
    have e : x :: t ++ n ++ rest = (x :: (t ++ n.dropLast)) ++ ([n.getLast hne] ++ rest) := by
      conv => lhs; rw [← dropLast_concat_getLast hne]
      simp
    have hp : n.isPrefixOf (x :: t ++ n ++ rest) = false := by
      rw [e, isPrefixOf_append_of_le _ _ _ (by simp; omega)]
      exact h.1
    simp only [cons_append, append_assoc] at hp ⊢
    rw [findSub, if_neg (by simp [hp])]
    simpa [append_assoc] using ih h.2

theorem dropWhile_blanks (blanks rest : Bytes) (b : UInt8) (hb : ∀ c ∈ blanks, isSpace c = true)
    (hx : isSpace b = false) : dropWhile isSpace (blanks ++ b :: rest) = b :: rest := by
  rw [dropWhile_append_of_pos hb, dropWhile_cons_of_neg (by simp [hx])]

structure IsNameLine (l nm : Bytes) : Prop where
  shape : ∃ pre blanks post, l = pre ++ ascii "Name:" ++ blanks ++ nm ++ post ∧
    hasSub (ascii "Name:") (pre ++ ascii "Name") = false ∧ (∀ b ∈ blanks, isSpace b = true) ∧
    (post = [] ∨ ∃ b t, post = b :: t ∧ isSpace b = true)
  ne : nm ≠ []
  nosp : ∀ b ∈ nm, isSpace b = false
  le : nm.length ≤ 255
  len : hasSub (ascii "Len:") l = true
  nosep : hasSub (ascii "//") l = false

def IsOtherLine (l : Bytes) : Prop :=
  hasSub (ascii "//") l = false ∧ (hasSub (ascii "Name:") l = false ∨ hasSub (ascii "Len:") l = false)

instance (l : Bytes) : Decidable (IsOtherLine l) := by unfold IsOtherLine; exact inferInstance

theorem msfName_of_nameLine (l nm : Bytes) (h : IsNameLine l nm) : msfName l = some nm := by
  obtain ⟨pre, blanks, post, hl, hpre, hbl, hpost⟩ := h.shape
  obtain ⟨b, nm', hnm⟩ := exists_cons_of_ne_nil h.ne
  have hb : isSpace b = false := h.nosp b (by rw [hnm]; simp)
  have hf : findSub (ascii "Name:") l = some (ascii "Name:" ++ (blanks ++ nm ++ post)) := by
    have := findSub_first (ascii "Name:") pre (blanks ++ nm ++ post) (by decide_ascii)
      (by rwa [show (ascii "Name:").dropLast = ascii "Name" by decide_ascii])
    rw [hl]; simpa [append_assoc] using this
  unfold msfName
  rw [hf]
  simp only [h.len, if_true]
  have e5 : drop 5 (ascii "Name:" ++ (blanks ++ nm ++ post)) = blanks ++ nm ++ post := by
    have e : ascii "Name:" = [78, 97, 109, 101, 58] := by decide_ascii
    rw [e]; rfl
  rw [e5]
  have ed : dropWhile isSpace (blanks ++ nm ++ post) = nm ++ post := by
    rw [hnm, append_assoc, cons_append, dropWhile_blanks blanks _ b hbl hb]
  rw [ed]
  have et : takeWhile (fun b => !isSpace b) (nm ++ post) = nm := by
    rcases hpost with rfl | ⟨c, t, rfl, hc⟩
    · rw [append_nil]; exact takeWhile_all _ _ (fun b hb => by simp [h.nosp b hb])
    · exact takeWhile_append_stop _ _ _ _ (fun b hb => by simp [h.nosp b hb]) (by simp [hc])
  rw [et, take_of_length_le h.le]

theorem msfName_of_otherLine (l : Bytes) (h : IsOtherLine l) : msfName l = none := by
  unfold msfName
  rcases h.2 with h1 | h1
  · unfold hasSub at h1
    cases hf : findSub (ascii "Name:") l with
    | none => rfl
    | some p => rw [hf] at h1; simp at h1
  · split
    · simp [h1]
    · rfl

/-- a header line with the name it announces (`none` for other lines) -/
abbrev HdrLine := Bytes × Option Bytes

def HdrLine.Valid (x : HdrLine) : Prop :=
  match x.2 with
  | some nm => IsNameLine x.1 nm
  | none => IsOtherLine x.1

def hdrNames (hdr : List HdrLine) : List Bytes := hdr.filterMap (·.2)

theorem msfHeader_grammar (hdr : List HdrLine) (hv : ∀ x ∈ hdr, x.Valid) (sep : Bytes)
    (hsep : hasSub (ascii "//") sep = true) (body : List Bytes) (acc : List SeqAcc) :
    msfHeader (hdr.map (·.1) ++ sep :: body) acc =
      (acc.reverse ++ (hdrNames hdr).map SeqAcc.new, body) := by
  induction hdr generalizing acc with
  | nil => simp [msfHeader, hsep, hdrNames]
  | cons x xs ih =>
    obtain ⟨l, o⟩ := x
    have hx := hv (l, o) (by simp)
    simp only [map_cons, cons_append]
    cases o with
    | none =>
      have hx' : IsOtherLine l := hx
      rw [msfHeader_skip _ _ _ hx'.1 (msfName_of_otherLine l hx'), ih (fun y hy => hv y (by simp [hy]))]
      simp [hdrNames]
    | some nm =>
      have hx' : IsNameLine l nm := hx
      rw [msfHeader_name _ nm _ _ hx'.nosep (msfName_of_nameLine l nm hx'), ih (fun y hy => hv y (by simp [hy]))]
      simp [hdrNames]

theorem pre_ok_of_no_colon (pre : Bytes) (h : (58 : UInt8) ∉ pre) :
    hasSub (ascii "Name:") (pre ++ ascii "Name") = false := by
  apply hasSub_false _ _ 58 (by decide)
  intro hm
  rcases mem_append.mp hm with h1 | h1
  · exact h h1
  · revert h1; decide

theorem otherLine_of_plain (l : Bytes) (h47 : (47 : UInt8) ∉ l) (h58 : (58 : UInt8) ∉ l) : IsOtherLine l :=
  ⟨hasSub_false _ _ 47 (by decide) h47, Or.inl (hasSub_false _ _ 58 (by decide) h58)⟩

theorem nameLine_written (mx alnlen : Nat) (r : Row) (h : NmOK mx r.name) (hp : ∀ b ∈ r.name, plainChar b = true) :
    IsNameLine (msfNameLine mx alnlen r) r.name where
  shape := by
    refine ⟨[32], [32], 32 :: (replicate (mx - r.name.length) 32 ++
      32 :: (ascii "Len:" ++ nameLineTail alnlen (gcgChecksum r.row alnlen))), ?_, by decide_ascii, by decide,
      Or.inr ⟨32, _, rfl, by decide⟩⟩
    rw [msfNameLine_eq mx alnlen r h]
    simp [append_assoc]
  ne := h.ne
  nosp := h.nosp
  le := by have := h.le; omega
  len := by
    rw [msfNameLine_eq mx alnlen r h]
    have := hasSub_append (ascii "Len:") (32 :: (ascii "Name:" ++ 32 :: (r.name ++ 32 ::
      (replicate (mx - r.name.length) 32 ++ [32])))) (nameLineTail alnlen (gcgChecksum r.row alnlen))
    simpa [append_assoc] using this
  nosep := (msfNameLine_ok mx alnlen r hp).no_sep

def writtenHdr (date : Bytes) (A : Alignment) : List HdrLine :=
  [(msfMagic A, none), ([], none), (msfInfoLine date A, none), ([], none)] ++
    A.rows.map (fun r => (msfNameLine (maxNameLen A) A.alnlen r, some r.name)) ++ [([], none)]

theorem writtenHdr_covers (date : Bytes) (A : Alignment) (h : HdrOK A.basename date)
    (hn : ∀ r ∈ A.rows, NmOK (maxNameLen A) r.name ∧ ∀ b ∈ r.name, plainChar b = true) :
    (∀ x ∈ writtenHdr date A, x.Valid) ∧ hdrNames (writtenHdr date A) = A.rows.map (·.name) ∧
    msfHeaderLines date A = (writtenHdr date A).map (·.1) ++ [ascii "//", []] := by
  refine ⟨?_, ?_, ?_⟩
  · intro x hx
    simp only [writtenHdr, cons_append, nil_append, mem_cons, mem_append, mem_map] at hx
    have he : IsOtherLine [] := by decide
    rcases hx with rfl | rfl | rfl | rfl | ⟨r, hr, rfl⟩ | rfl | hx
    · exact msfMagic_ind IsOtherLine (by decide_ascii) (by decide_ascii) A
    · exact he
    · exact ⟨(msfInfoLine_ok date A h).no_sep, Or.inr (msfInfoLine_noLen date A h)⟩
    · exact he
    · exact nameLine_written _ _ r (hn r hr).1 (hn r hr).2
    · exact he
    · simp at hx
  · simp [writtenHdr, hdrNames, filterMap_append, filterMap_map, Function.comp_def]
  · simp [writtenHdr, msfHeaderLines, Function.comp_def]

end Kalign.IO

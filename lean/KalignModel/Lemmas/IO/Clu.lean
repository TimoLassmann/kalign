import KalignModel.Lemmas.IO.Layout
/-! The block layout shared by `write_msa_clu` and `write_msa_msf`.  For a well-formed name (`NmOK`) a sequence line is
name, at least one blank, chunk (`seqLine_eq`), and the name loop of `read_clu` stops at the end of the name
(`cluNameLen_seqLine`); `majorLines_forall` carries a property of single lines to the whole body. -/
namespace Kalign.IO
open List

/-- what the block readers need of a name printed in front of a row with `max_name_len = mx`.  `le`: the readers cut a name
at `MSA_NAME_LEN - 1 = 255` bytes, so any bound below 255 would do; 200 is the one the round trip property C06 states. -/
structure NmOK (mx : Nat) (nm : Bytes) : Prop where
  ne : nm ≠ []
  le : nm.length ≤ 200
  nosp : ∀ b ∈ nm, isSpace b = false
  mx : nm.length ≤ mx

theorem seqLine_eq (mx : Nat) (nm c : Bytes) (h : NmOK mx nm) :
    seqLine mx nm c = nm ++ 32 :: (replicate (mx + 4 - nm.length) 32 ++ c) := by
  have h1 : nameCut nm = nm := by
    unfold nameCut; exact take_of_length_le (by have := h.le; omega)
  unfold seqLine
  rw [h1]
  have : mx + 5 - nm.length = (mx + 4 - nm.length) + 1 := by have := h.mx; omega
  rw [this, replicate_succ]
  simp

theorem findIdx_append_hit (p : UInt8 → Bool) (nm : Bytes) (x : UInt8) (t : Bytes)
    (h : ∀ b ∈ nm, p b = false) (hx : p x = true) : findIdx p (nm ++ x :: t) = nm.length := by
  induction nm with
  | nil => simp [findIdx_cons, hx]
  | cons b bs ih =>
    have hb := h b (by simp)
    simp [findIdx_cons, hb, ih (fun y hy => h y (by simp [hy]))]

theorem cluNameLen_seqLine (nm t : Bytes) (hle : nm.length ≤ 200) (hns : ∀ b ∈ nm, isSpace b = false) :
    cluNameLen (nm ++ 32 :: t) = nm.length := by
  unfold cluNameLen
  have h1 : take 255 (nm ++ 32 :: t) = nm ++ 32 :: take (254 - nm.length) t := by
    rw [take_append, take_of_length_le (by omega)]
    have : 255 - nm.length = (254 - nm.length) + 1 := by omega
    rw [this, take_succ_cons]
  simp only [h1]
  rw [findIdx_append_hit isSpace nm 32 _ hns (by decide)]
  simp

theorem eta_name (a : SeqAcc) (nm : Bytes) (h : a.name = nm) : (⟨nm, a.rres, a.rgaps, a.cur⟩ : SeqAcc) = a := by
  cases a; simp_all

theorem foldl_max_ge {β : Type} (f : β → Nat) (l : List β) (m0 : Nat) :
    m0 ≤ l.foldl (fun m r => max m (f r)) m0 ∧ ∀ r ∈ l, f r ≤ l.foldl (fun m r => max m (f r)) m0 := by
  induction l generalizing m0 with
  | nil => simp
  | cons x xs ih =>
    simp only [foldl_cons, mem_cons]
    obtain ⟨h1, h2⟩ := ih (max m0 (f x))
    refine ⟨by omega, ?_⟩
    intro r hr
    rcases hr with rfl | hr
    · omega
    · exact h2 r hr

theorem maxNameLen_ge (A : Alignment) : ∀ r ∈ A.rows, (nameCut r.name).length ≤ maxNameLen A :=
  (foldl_max_ge (fun r => (nameCut r.name).length) A.rows 0).2

theorem majorLines_forall (P : Bytes → Prop) (h0 : P []) (mx k : Nat) (rs : List RowC)
    (h : ∀ r ∈ rs, P (seqLine mx r.1 []) ∧ ∀ c ∈ r.2, P (seqLine mx r.1 c)) :
    ∀ l ∈ majorLines mx k rs, P l := by
  induction k generalizing rs with
  | zero => simp [majorLines]
  | succ k ih =>
    intro l hl
    simp only [majorLines, mem_append] at hl
    rcases hl with (hl | hl) | hl
    · simp only [blockLines, heads, map_map, mem_map] at hl
      obtain ⟨r, hr, rfl⟩ := hl
      cases hc : r.2 with
      | nil => simpa [hc] using (h r hr).1
      | cons c cs => simpa [hc] using (h r hr).2 c (by rw [hc]; simp)
    · split at hl
      · simp only [mem_cons] at hl
        rcases hl with rfl | rfl | hl
        · exact h0
        · exact h0
        · simp at hl
      · simp at hl
    · refine ih (tails rs) ?_ l hl
      intro r hr
      simp only [tails, mem_map] at hr
      obtain ⟨r0, hr0, rfl⟩ := hr
      exact ⟨(h r0 hr0).1, fun c hc => (h r0 hr0).2 c (mem_of_mem_tail hc)⟩

theorem majorLines_bytes (P : UInt8 → Prop) (h32 : P 32) (mx k : Nat) (rs : List RowC)
    (h : ∀ r ∈ rs, (∀ b ∈ r.1, P b) ∧ ∀ c ∈ r.2, ∀ b ∈ c, P b) :
    ∀ l ∈ majorLines mx k rs, ∀ b ∈ l, P b := by
  refine majorLines_forall (fun l => ∀ b ∈ l, P b) (by simp) mx k rs ?_
  intro r hr
  have key : ∀ c, (∀ b ∈ c, P b) → ∀ b ∈ seqLine mx r.1 c, P b := by
    intro c hc b hb
    simp only [seqLine, nameCut, mem_append, mem_replicate] at hb
    rcases hb with (hb | hb) | hb
    · exact (h r hr).1 b (mem_of_mem_take hb)
    · rw [hb.2]; exact h32
    · exact hc b hb
  exact ⟨key [] (by simp), fun c hc => key c ((h r hr).2 c hc)⟩

end Kalign.IO

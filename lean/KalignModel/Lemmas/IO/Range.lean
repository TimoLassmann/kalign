import KalignModel.Lemmas.IO.Layout
/-! Index form of the blocks: block `b` of a row is `row[60 b .. 60 b + 60)` (`blocks_eq_range`), so the body of a
Clustal/MSF file is `blockText A 0`, `blockText A 1`, … (`majorLines_eq_blockText`). -/
namespace Kalign.IO
open List

def chunkOf (r : Bytes) (b : Nat) : Bytes := (r.drop (60 * b)).take 60

theorem blocks_eq_range (r : Bytes) :
    blocks r = (List.range (numBlocks r.length)).map (chunkOf r) := by
  fun_induction blocks r with
  | case1 r h =>
    have : numBlocks r.length = 1 := by unfold numBlocks; omega
    rw [this]
    simp [chunkOf, List.range_succ, List.take_of_length_le h]
  | case2 r h ih =>
    have : numBlocks r.length = numBlocks (r.drop 60).length + 1 := by
      simp only [numBlocks, length_drop]; omega
    rw [this, List.range_succ_eq_map, ih]
    simp only [map_cons, map_map, chunkOf, Nat.mul_zero, drop_zero, cons.injEq, true_and]
    apply map_congr_left
    intro b _
    show chunkOf (drop 60 r) b = chunkOf r (b + 1)
    simp only [chunkOf, drop_drop]
    rw [show 60 + 60 * b = 60 * (b + 1) by omega]

theorem majorLines_range (mx : Nat) (rows : List Row) (g : Row → Nat → Bytes) (k b0 : Nat) :
    majorLines mx k (rows.map fun r => (r.name, (List.range k).map fun b => g r (b0 + b))) =
      (List.range k).flatMap fun b =>
        (rows.map fun r => seqLine mx r.name (g r (b0 + b))) ++ (if rows ≠ [] then [[], []] else []) := by
  induction k generalizing b0 with
  | zero => rfl
  | succ k ih =>
    have hh : heads (rows.map fun r => (r.name, (List.range (k + 1)).map fun b => g r (b0 + b))) =
        rows.map fun r => (r.name, g r b0) := by
      simp [heads, List.range_succ_eq_map]
    have ht : tails (rows.map fun r => (r.name, (List.range (k + 1)).map fun b => g r (b0 + b))) =
        rows.map fun r => (r.name, (List.range k).map fun b => g r (b0 + 1 + b)) := by
      simp only [tails, map_map, List.range_succ_eq_map, map_cons]
      apply map_congr_left
      intro r _
      simp only [Function.comp, Prod.mk.injEq, true_and]
      apply map_congr_left
      intro b _
      simp only [Function.comp]
      congr 1; omega
    simp only [majorLines]
    rw [hh, ht, ih (b0 + 1)]
    rw [List.range_succ_eq_map (n := k)]
    simp only [flatMap_cons, flatMap_map, blockLines, map_map, Nat.add_zero, Function.comp_def]
    congr 1
    · simp
    · have : ∀ b : Nat, b0 + 1 + b = b0 + b.succ := by intro b; omega
      simp only [this]

/-- block `b` of the Clustal/MSF body: one line per sequence in order (name, blanks up to column `max_name_len + 5`,
columns `60 b ..`), then two empty lines -/
def blockText (A : Alignment) (b : Nat) : List Bytes :=
  (A.rows.map fun r => seqLine (maxNameLen A) r.name (chunkOf (r.row.take A.alnlen) b)) ++
    (if A.rows ≠ [] then [[], []] else [])

theorem majorLines_eq_blockText (A : Alignment) (hb : A.InBounds) :
    majorLines (maxNameLen A) (numBlocks A.alnlen) (rowsC A) =
      (List.range (numBlocks A.alnlen)).flatMap (blockText A) := by
  have h1 : rowsC A = A.rows.map fun r =>
      (r.name, (List.range (numBlocks A.alnlen)).map fun b => chunkOf (r.row.take A.alnlen) (0 + b)) := by
    unfold rowsC
    apply map_congr_left
    intro r hr
    rw [blocks_eq_range, length_take, Nat.min_eq_left (hb r hr)]
    simp
  rw [h1, majorLines_range]
  unfold blockText
  simp only [Nat.zero_add, ne_eq, ite_not]

theorem chunkOf_length_le (r : Bytes) (b : Nat) : (chunkOf r b).length ≤ 60 := by
  simp [chunkOf]; omega

theorem chunkOf_flatten (r : Bytes) : ((List.range (numBlocks r.length)).map (chunkOf r)).flatten = r := by
  rw [← blocks_eq_range, blocks_flatten]

end Kalign.IO

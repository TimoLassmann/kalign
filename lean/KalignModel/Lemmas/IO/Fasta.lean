import KalignModel.Lemmas.IO.Basic
/-! The output of `write_msa_fasta` as a list of lines (`writeFasta_eq_emit`), and the steps of `read_fasta` on header and residue lines. -/
namespace Kalign.IO

/-- the residue lines of one record: 60 columns each, none for an empty row -/
def faChunks (alnlen : Nat) (r : Row) : List Bytes :=
  if (r.row.take alnlen).isEmpty then [] else blocks (r.row.take alnlen)

def faLines (alnlen : Nat) (rows : List Row) : List Bytes :=
  rows.flatMap fun r => (62 :: r.name) :: faChunks alnlen r

theorem emit_cons (l : Bytes) (ls : List Bytes) : emit (l :: ls) = l ++ 10 :: emit ls := by
  simp [emit]

theorem fastaRecord_eq (alnlen : Nat) (r : Row) :
    fastaRecord alnlen r = emit ((62 :: r.name) :: faChunks alnlen r) := by
  simp only [fastaRecord, faChunks, emit_cons]
  split <;> simp [emit]

theorem writeFasta_eq_emit (A : Alignment) : writeFasta A = emit (faLines A.alnlen A.rows) := by
  unfold writeFasta faLines
  induction A.rows with
  | nil => rfl
  | cons r rs ih =>
    simp only [List.flatMap_cons, ih, fastaRecord_eq, emit_append]

theorem faChunks_flatten (alnlen : Nat) (r : Row) : (faChunks alnlen r).flatten = r.row.take alnlen := by
  unfold faChunks
  split
  · rename_i h; simp at h; simp [h]
  · exact blocks_flatten _

theorem faChunks_mem (alnlen : Nat) (r : Row) : ∀ c ∈ faChunks alnlen r, c ≠ [] ∧ ∀ b ∈ c, b ∈ r.row := by
  intro c hc
  unfold faChunks at hc
  split at hc
  · simp at hc
  · rename_i h
    have hne : r.row.take alnlen ≠ [] := by simpa using h
    have h1 := blocks_pos _ hne c hc
    refine ⟨by intro h0; rw [h0] at h1; simp at h1, ?_⟩
    intro b hb
    have : b ∈ (blocks (r.row.take alnlen)).flatten := List.mem_flatten.mpr ⟨c, hc, hb⟩
    rw [blocks_flatten] at this
    exact List.mem_of_mem_take this

theorem faLine_header (st : FaState) (nm : Bytes) :
    faLine st (62 :: nm) =
      some { done := (match st.cur with | some c => c :: st.done | none => st.done), cur := some (SeqAcc.new nm) } := by
  rfl

theorem faLine_seq (done : List SeqAcc) (a : SeqAcc) (c : Bytes) (hc : c.head? ≠ some 62) :
    faLine ⟨done, some a⟩ c = some ⟨done, some (feed a c)⟩ := by
  unfold faLine
  split
  · rename_i nm; simp at hc
  · rfl

theorem faFold_chunks (done : List SeqAcc) (a : SeqAcc) (cs rest : List Bytes)
    (hcs : ∀ c ∈ cs, c.head? ≠ some 62) :
    faFold ⟨done, some a⟩ (cs ++ rest) = faFold ⟨done, some (feed a cs.flatten)⟩ rest := by
  induction cs generalizing a with
  | nil => rfl
  | cons c cs ih =>
    simp only [List.cons_append, faFold, faLine_seq done a c (hcs c (by simp))]
    rw [ih _ (fun x hx => hcs x (by simp [hx]))]
    simp [feed_append]

/-- the finished records with the open one put in front: what `faLine` stores at a header line and `FaState.seqs` at the end -/
def FaState.push (st : FaState) : List SeqAcc := match st.cur with | some c => c :: st.done | none => st.done

theorem FaState.seqs_eq (st : FaState) : st.seqs = st.push.reverse.map SeqAcc.finish := rfl

theorem faFold_eq_foldlM (st : FaState) (ls : List Bytes) : faFold st ls = ls.foldlM faLine st := by
  induction ls generalizing st with
  | nil => rfl
  | cons l ls ih =>
    rw [faFold, List.foldlM_cons]
    cases faLine st l with
    | none => rfl
    | some st' => exact ih st'

/-- what the scanner makes of a written row -/
def scanRow (alnlen : Nat) (r : Row) : SeqRec := (feed (SeqAcc.new r.name) (r.row.take alnlen)).finish

end Kalign.IO

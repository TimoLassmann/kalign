import KalignModel.Lemmas.IO.Sort
import KalignModel.Lemmas.IO.Basic
/-! Closed form of the files written by `write_msa_clu` and `write_msa_msf`, from `sortLines_layout`: the header lines,
then block after block as plain text lines (`writeClu_eq`, `writeMsf_eq`). -/
namespace Kalign.IO
open List

def blockLines (mx : Nat) (hs : List (Bytes × Bytes)) : List Bytes := hs.map fun r => seqLine mx r.1 r.2

/-- the body as text lines: `k` blocks; behind every block the separator line `"\n"`, which `fprintf("%s\n")` turns
into two empty lines -/
def majorLines (mx : Nat) : Nat → List RowC → List Bytes
  | 0, _ => []
  | k + 1, rs => blockLines mx (heads rs) ++ (if rs ≠ [] then [[], []] else []) ++ majorLines mx k (tails rs)

theorem emitLines_append (a b : List OutLine) : emitLines (a ++ b) = emitLines a ++ emitLines b := by
  simp [emitLines]

theorem emitLines_eq_emit (ls : List OutLine) : emitLines ls = emit (ls.map (·.line)) := by
  simp [emitLines, emit, flatMap_map]

theorem gBlock_lines (mx b i : Nat) (hs : List (Bytes × Bytes)) :
    (gBlock mx b i hs).map (·.line) = blockLines mx hs := by
  induction hs generalizing i with
  | nil => rfl
  | cons r rs ih => simp only [gBlock, map_cons, ih (i + 1)]; rfl

theorem emitLines_gMajor (n mx k b : Nat) (rs : List RowC) :
    emitLines (gMajor n mx 0 k b rs) = emit (majorLines mx k rs) := by
  induction k generalizing b rs with
  | zero => rfl
  | succ k ih =>
    simp only [gMajor, majorLines, emitLines_append, emit_append, emitLines_eq_emit (gBlock ..), gBlock_lines, ih]
    congr 2
    simp only [sepIf, true_and]
    split <;> simp [emitLines, emit, sepLine]

def numBlocks (alnlen : Nat) : Nat := max 1 ((alnlen + 59) / 60)

def rowsC (A : Alignment) : List RowC := A.rows.map fun r => (r.name, blocks (r.row.take A.alnlen))

theorem rowsC_blocks (A : Alignment) (hb : A.InBounds) :
    ∀ r ∈ A.rows, (blocks (r.row.take A.alnlen)).length = numBlocks A.alnlen := by
  intro r hr
  rw [blocks_length, length_take, Nat.min_eq_left (hb r hr)]
  rfl

theorem cluHeader_ok (ver : Bytes) :
    (cluHeader ver).Pairwise OutLine.lt ∧ ∀ x ∈ cluHeader ver, x.block < 0 := by
  simp [cluHeader, OutLine.lt]

/-- both block writers: the header lines, then the body block by block -/
theorem emitLines_sort_body (hdr : List OutLine) (A : Alignment) (hb : A.InBounds)
    (hh : hdr.Pairwise OutLine.lt) (hneg : ∀ x ∈ hdr, x.block < 0) :
    emitLines (sortLines (hdr ++ bodyOutLines A)) =
      emitLines hdr ++ emit (majorLines (maxNameLen A) (numBlocks A.alnlen) (rowsC A)) := by
  unfold bodyOutLines
  rw [sortLines_layout hdr A.rows.length (maxNameLen A) A.alnlen (numBlocks A.alnlen) A.rows hh hneg (Nat.le_refl _)
    (rowsC_blocks A hb), emitLines_append, emitLines_gMajor]
  rfl

theorem writeClu_eq (ver : Bytes) (A : Alignment) (hb : A.InBounds) :
    writeClu ver A =
      emit ([ascii "Kalign (" ++ ver ++ ascii ") multiple sequence alignment", []] ++
        majorLines (maxNameLen A) (numBlocks A.alnlen) (rowsC A)) := by
  rw [emit_append]
  exact emitLines_sort_body _ A hb (cluHeader_ok ver).1 (cluHeader_ok ver).2

theorem headerOutFrom_mem (k : Int) (ls : List Bytes) :
    ∀ x ∈ headerOutFrom k ls, x.block = -1 ∧ k ≤ x.seqId := by
  induction ls generalizing k with
  | nil => simp [headerOutFrom]
  | cons l ls ih =>
    intro x hx
    simp only [headerOutFrom, mem_cons] at hx
    rcases hx with rfl | hx
    · simp
    · have := ih (k + 1) x hx; omega

theorem headerOutFrom_pairwise (k : Int) (ls : List Bytes) : (headerOutFrom k ls).Pairwise OutLine.lt := by
  induction ls generalizing k with
  | nil => simp [headerOutFrom]
  | cons l ls ih =>
    simp only [headerOutFrom, pairwise_cons]
    refine ⟨?_, ih (k + 1)⟩
    intro x hx
    have := headerOutFrom_mem (k + 1) ls x hx
    simp only [OutLine.lt]; omega

theorem headerOutFrom_lines (k : Int) (ls : List Bytes) : (headerOutFrom k ls).map (·.line) = ls := by
  induction ls generalizing k with
  | nil => rfl
  | cons l ls ih => simp [headerOutFrom, ih]

theorem writeMsf_eq (date : Bytes) (A : Alignment) (hb : A.InBounds) :
    writeMsf date A =
      emit (msfHeaderLines date A ++ majorLines (maxNameLen A) (numBlocks A.alnlen) (rowsC A)) := by
  rw [emit_append, ← headerOutFrom_lines (-((A.rows.length : Int) + 10)) (msfHeaderLines date A), ← emitLines_eq_emit]
  exact emitLines_sort_body _ A hb (headerOutFrom_pairwise _ _)
    fun x hx => by have := (headerOutFrom_mem _ _ x hx).1; omega

/-- the three writers, by format id (1 = FASTA, 2 = MSF, 3 = Clustal) -/
def writeAs (ver date : Bytes) (fmt : Nat) (A : Alignment) : Bytes :=
  if fmt = 1 then writeFasta A else if fmt = 2 then writeMsf date A else writeClu ver A

end Kalign.IO

import KalignModel.Model.PipelineFileSoft
import KalignModel.Lemmas.PipelineCB
import KalignModel.Lemmas.IO.Split
import KalignModel.Lemmas.IO.Msf
import KalignModel.Lemmas.IO.Fasta
import KalignModel.Lemmas.Basic.ListWalk
/-!
# Lemmas for the file-to-file pipeline (`kalignFile`, Model/PipelineFile.lean; its frame `kalignFileWith`, Model/PipelineFileSoft.lean)

What the whole-program theorems (Props/PipelineFile.lean, Props/C05WholeProgram.lean) need of each stage of `run_kalign`: the msa
holds the records of the files in file order (`readFiles_seqs`) and its `aligned` flag is `detect_aligned` of its sequences, so the
`PipeErr.fault` guard of `runMsa` is unreachable (`gapsClear_of_read`); what the run stage guarantees about its rows (`RunSpec`);
from the gapped rows of the pipeline to the `SeqRec`/`finalise` vocabulary of the I/O theorems (`alignmentOf_eq_finalise`, `alnWF_rows`).
-/
namespace Kalign.PipelineFile
open Kalign Kalign.IO Kalign.Pipeline List

theorem byteChar_toNat (b : UInt8) : (byteChar b).toNat = b.toNat := by
  unfold byteChar
  apply toNat_ofNat_of_valid
  have := b.toNat_lt
  unfold Nat.isValidChar; omega

theorem charByte_byteChar (b : UInt8) : charByte (byteChar b) = b := by
  unfold charByte
  rw [byteChar_toNat]
  exact UInt8.ofNat_toNat

theorem map_charByte_byteChar (l : Bytes) : (l.map byteChar).map charByte = l := by
  rw [map_map]
  conv => rhs; rw [← map_id l]
  apply map_congr_left
  intro b _
  exact charByte_byteChar b

def AccOK (a : SeqAcc) : Prop := (∀ b ∈ a.rres, isAlpha b = true) ∧ a.rgaps.length = a.rres.length

def RecOK (s : SeqRec) : Prop := (∀ b ∈ s.res, isAlpha b = true) ∧ s.gaps.length = s.res.length + 1

theorem new_ok (nm : Bytes) : AccOK (SeqAcc.new nm) := ⟨by simp [SeqAcc.new], rfl⟩

theorem feedByte_ok (a : SeqAcc) (b : UInt8) (h : AccOK a) : AccOK (feedByte a b) := by
  unfold feedByte
  split
  · rename_i hb
    refine ⟨?_, by simp [h.2]⟩
    intro c hc
    simp only [mem_cons] at hc
    rcases hc with rfl | hc
    · exact hb
    · exact h.1 c hc
  · split
    · exact h
    · exact h

theorem feed_ok (a : SeqAcc) (l : Bytes) (h : AccOK a) : AccOK (feed a l) := by
  induction l generalizing a with
  | nil => exact h
  | cons b l ih => exact ih _ (feedByte_ok a b h)

theorem rename_ok (a : SeqAcc) (nm : Bytes) (h : AccOK a) : AccOK { a with name := nm } := h

theorem finish_ok (a : SeqAcc) (h : AccOK a) : RecOK a.finish := by
  refine ⟨?_, ?_⟩
  · intro b hb
    simp only [SeqAcc.finish, mem_reverse] at hb
    exact h.1 b hb
  · simp [SeqAcc.finish, h.2]

theorem faLine_ok (st st' : FaState) (l : Bytes) (h : faLine st l = some st') (hs : ∀ a ∈ st.push, AccOK a) :
    ∀ a ∈ st'.push, AccOK a := by
  unfold faLine at h
  split at h
  · cases h
    exact forall_mem_cons.2 ⟨new_ok _, hs⟩
  · split at h
    · rename_i c hcur
      cases h
      have hs' : ∀ a ∈ c :: st.done, AccOK a := by simpa only [FaState.push, hcur] using hs
      exact forall_mem_cons.2 ⟨feed_ok _ _ (forall_mem_cons.1 hs').1, (forall_mem_cons.1 hs').2⟩
    · split at h
      · cases h
      · cases h
        exact hs

theorem faFold_ok (ls : List Bytes) (st st' : FaState) (h : faFold st ls = some st') (hs : ∀ a ∈ st.push, AccOK a) :
    ∀ a ∈ st'.push, AccOK a :=
  foldlM_option_inv (fun s => ∀ a ∈ s.push, AccOK a) faLine (fun s l s' e hs => faLine_ok s s' l e hs) ls st st'
    (faFold_eq_foldlM st ls ▸ h) hs

theorem readFasta_ok (lines : List Bytes) (S : List SeqRec) (h : readFasta lines = some S) : ∀ s ∈ S, RecOK s := by
  obtain ⟨st, hf, rfl⟩ := Option.map_eq_some_iff.1 h
  intro s hs
  rw [FaState.seqs_eq, mem_map] at hs
  obtain ⟨a, ha, rfl⟩ := hs
  exact finish_ok a (faFold_ok lines _ st hf (by simp [FaState.push]) a (mem_reverse.1 ha))

def BlkOK (st : Blk) : Prop := (∀ a ∈ st.done, AccOK a) ∧ (∀ a ∈ st.rest, AccOK a)

theorem rewind_ok (st : Blk) (h : BlkOK st) : BlkOK st.rewind := by
  refine ⟨by simp [Blk.rewind], ?_⟩
  intro a ha
  simp only [Blk.rewind, mem_append, mem_reverse] at ha
  rcases ha with ha | ha
  · exact h.1 a ha
  · exact h.2 a ha

theorem seqs_ok (st : Blk) (h : BlkOK st) : ∀ s ∈ st.seqs, RecOK s := by
  intro s hs
  simp only [Blk.seqs, mem_map, mem_append, mem_reverse] at hs
  obtain ⟨a, ha, rfl⟩ := hs
  apply finish_ok
  rcases ha with ha | ha
  · exact h.1 a ha
  · exact h.2 a ha

theorem cluLine_ok (st : Blk) (l : Bytes) (h : BlkOK st) : BlkOK (cluLine st l) := by
  unfold cluLine
  split
  · exact rewind_ok st h
  · split
    · exact h
    · refine ⟨?_, ?_⟩
      · intro a ha
        simp only [mem_cons] at ha
        rcases ha with rfl | ha
        · apply feed_ok
          apply rename_ok
          split
          · rename_i s r hr
            exact h.2 s (by rw [hr]; simp)
          · exact new_ok _
        · exact h.1 a ha
      · intro a ha
        exact h.2 a (mem_of_mem_tail ha)

theorem cluFold_ok (ls : List Bytes) (st : Blk) (h : BlkOK st) : BlkOK (ls.foldl cluLine st) := by
  induction ls generalizing st with
  | nil => exact h
  | cons l ls ih => exact ih _ (cluLine_ok st l h)

theorem readClu_ok (lines : List Bytes) : ∀ s ∈ readClu lines, RecOK s :=
  seqs_ok _ (cluFold_ok _ _ ⟨by simp, by simp⟩)

theorem msfHeader_ok (ls : List Bytes) (acc : List SeqAcc) (h : ∀ a ∈ acc, AccOK a) :
    ∀ a ∈ (msfHeader ls acc).1, AccOK a := by
  induction ls generalizing acc with
  | nil => intro a ha; simp only [msfHeader, mem_reverse] at ha; exact h a ha
  | cons l ls ih =>
    unfold msfHeader
    split
    · intro a ha; simp only [mem_reverse] at ha; exact h a ha
    · split
      · exact ih _ (forall_mem_cons.2 ⟨new_ok _, h⟩)
      · exact ih acc h

theorem msfLine_ok (st st' : Blk) (l : Bytes) (hl : msfLine st l = some st') (h : BlkOK st) : BlkOK st' := by
  unfold msfLine at hl
  split at hl
  · simp only [Option.some.injEq] at hl
    subst hl
    exact rewind_ok st h
  · split at hl
    · simp only [Option.some.injEq] at hl
      subst hl
      exact h
    · split at hl
      · cases hl
      · rename_i s r hr
        simp only [Option.some.injEq] at hl
        subst hl
        exact ⟨forall_mem_cons.2 ⟨feed_ok _ _ (h.2 s (by rw [hr]; simp)), h.1⟩, fun a ha => h.2 a (by rw [hr]; simp [ha])⟩

theorem msfFold_ok (ls : List Bytes) (st st' : Blk) (hl : msfFold st ls = some st') (h : BlkOK st) : BlkOK st' :=
  foldlM_option_inv BlkOK msfLine (fun s l s' e hs => msfLine_ok s s' l e hs) ls st st' (msfFold_eq_foldlM st ls ▸ hl) h

theorem readMsf_ok (lines : List Bytes) (S : List SeqRec) (h : readMsf lines = some S) : ∀ s ∈ S, RecOK s := by
  unfold readMsf at h
  simp only at h
  cases hf : msfFold ⟨[], (msfHeader lines []).1⟩ (msfHeader lines []).2 with
  | none => rw [hf] at h; cases h
  | some st =>
    rw [hf] at h
    simp only [Option.map_some, Option.some.injEq] at h
    subst h
    exact seqs_ok st (msfFold_ok _ _ st hf ⟨by simp, msfHeader_ok lines [] (by simp)⟩)

theorem readAs_ok (t : Int) (lines : List Bytes) (S : List SeqRec) (h : readAs t lines = some S) : ∀ s ∈ S, RecOK s := by
  unfold readAs at h
  split at h
  · exact readFasta_ok lines S h
  · split at h
    · exact readMsf_ok lines S h
    · split at h
      · simp only [Option.some.injEq] at h
        subst h
        exact readClu_ok lines
      · cases h

def prevSeqs : Option Msa → List SeqRec
  | none => []
  | some d => d.seqs

/-- the records `kalign_read_input` gets out of one file (nothing for an empty / unrecognised / unreadable one) -/
def fileRecs (f : Bytes) : List SeqRec :=
  match readInput1 none f with
  | .ok m => m.seqs
  | _ => []

theorem readInput1_cases (prev : Option Msa) (f : Bytes) :
    (readInput1 prev f = .null ∧ readInput1 none f = .null) ∨
    readInput1 prev f = .fail ∨
    ∃ S, S ≠ [] ∧ (∀ s ∈ S, RecOK s) ∧ readInput1 none f = .ok (finishMsa S 2 255) ∧
      readInput1 prev f = .ok (IO.mergeStep prev S) := by
  rw [readInput1_eq prev, readInput1_eq none]
  cases splitLines f with
  | nil => exact .inl ⟨rfl, rfl⟩
  | cons l ls =>
    simp only
    split
    · exact .inl ⟨rfl, rfl⟩
    · cases hr : readAs (detectFormat (l :: ls)) (l :: ls) with
      | none => exact .inr (.inl rfl)
      | some S =>
        simp only
        by_cases hS : S = []
        · exact .inr (.inl (by simp [hS]))
        · by_cases hc : classOK prev S
          · exact .inr (.inr ⟨S, hS, readAs_ok _ _ S hr, by simp [hS, classOK, IO.mergeStep], by simp [hS, hc]⟩)
          · exact .inr (.inl (by simp [hc]))

theorem mergeStep_seqs (prev : Option Msa) (S : List SeqRec) : (IO.mergeStep prev S).seqs = prevSeqs prev ++ S := by
  cases prev <;> simp [IO.mergeStep, prevSeqs, finishMsa_seqs]

theorem mergeStep_aligned (prev : Option Msa) (S : List SeqRec) :
    (IO.mergeStep prev S).aligned = IO.detectAligned (IO.mergeStep prev S).seqs := by
  cases prev <;> simp [IO.mergeStep, finishMsa_aligned, finishMsa_seqs]

theorem readInputs_ok (files : List Bytes) (prev : Option Msa) (m : Msa) (h : readInputs prev files = .ok m)
    (hp : ∀ s ∈ prevSeqs prev, RecOK s) (ha : ∀ d, prev = some d → d.aligned = IO.detectAligned d.seqs) :
    m.seqs = prevSeqs prev ++ (files.map fileRecs).flatten ∧ (∀ s ∈ m.seqs, RecOK s) ∧
      m.aligned = IO.detectAligned m.seqs := by
  induction files generalizing prev with
  | nil =>
    cases prev with
    | none => simp [readInputs] at h
    | some d =>
      simp only [readInputs, ReadResult.ok.injEq] at h
      subst h
      exact ⟨by simp [prevSeqs], hp, ha _ rfl⟩
  | cons f fs ih =>
    rcases readInput1_cases prev f with ⟨h1, h2⟩ | h1 | ⟨S, hne, hok, h2, h1⟩
    · have hf : fileRecs f = [] := by simp [fileRecs, h2]
      simp only [readInputs, h1] at h
      have := ih prev h hp ha
      simpa [hf] using this
    · simp [readInputs, h1] at h
    · have hf : fileRecs f = S := by simp [fileRecs, h2, finishMsa_seqs]
      simp only [readInputs, h1] at h
      have := ih (some (IO.mergeStep prev S)) h (by
        intro s hs
        simp only [prevSeqs, mergeStep_seqs, mem_append] at hs
        rcases hs with hs | hs
        · exact hp s hs
        · exact hok s hs) (by intro d hd; cases hd; exact mergeStep_aligned prev S)
      simpa [hf, prevSeqs, mergeStep_seqs, append_assoc] using this

theorem takeWhile_isSome_of_all (files : List (Option Bytes)) (h : files.all Option.isSome = true) :
    (files.takeWhile Option.isSome).filterMap id = files.filterMap id := by
  rw [takeWhile_all _ files (all_eq_true.mp h)]

theorem readFiles_ok (files : List (Option Bytes)) (m : Msa) (h : readFiles files = .ok m) :
    files.all Option.isSome = true ∧ readInputs none (files.filterMap id) = .ok m := by
  unfold readFiles at h
  split at h
  · cases h
  · cases h
  · rename_i r hr1 hr2
    by_cases ha : files.all Option.isSome = true
    · rw [if_pos ha] at h
      rw [takeWhile_isSome_of_all files ha] at h
      exact ⟨ha, h⟩
    · rw [if_neg ha] at h
      cases h

theorem readFiles_seqs (files : List (Option Bytes)) (m : Msa) (h : readFiles files = .ok m) :
    m.seqs = ((files.filterMap id).map fileRecs).flatten ∧ ∀ s ∈ m.seqs, RecOK s := by
  obtain ⟨_, hr⟩ := readFiles_ok files m h
  obtain ⟨h1, h2, _⟩ := readInputs_ok _ none m hr (by simp [prevSeqs]) (by simp)
  exact ⟨by simpa [prevSeqs] using h1, h2⟩

theorem filterMap_id_map_some {α : Type} (l : List α) : (l.map some).filterMap id = l := by simp

theorem readFiles_map_some (files : List Bytes) : readFiles (files.map some) = readInputs none files := by
  unfold readFiles
  have ha : (files.map some).all Option.isSome = true := by simp
  rw [takeWhile_isSome_of_all _ ha, filterMap_id_map_some]
  cases readInputs none files <;> simp only [ha, if_true]

theorem dealignStep_eq_runDealign (m : Msa) : dealignStep m = runDealign m := rfl

theorem dealignStep_biotype (m : Msa) : (dealignStep m).biotype = m.biotype := by
  unfold dealignStep; split <;> rfl

theorem dealignStep_names_res (m : Msa) : namesRes (dealignStep m).seqs = namesRes m.seqs := by
  unfold dealignStep
  split
  · simp [namesRes, Function.comp_def]
  · rfl

/-- the guard of `runMsa` never fires on an msa whose `aligned` flag is `detect_aligned` of its sequences: `dealign_msa` clears
the gaps unless the flag is 1 (UNALIGNED), and `detect_aligned` answers 1 only when every gap counter is zero -/
theorem gapsClear_of_aligned (m : Msa) (hm : m.aligned = IO.detectAligned m.seqs) :
    gapsClear (dealignStep m) = true := by
  unfold gapsClear dealignStep
  split
  · simp
  · rename_i h1
    have h1 : m.aligned = 1 := by simpa using h1
    rw [all_eq_true]
    intro s hs
    rw [all_eq_true]
    intro g hg
    have := sum_zero_mem _ (detectAligned_one m.seqs (by rw [← hm]; exact h1) s hs) g hg
    simp [this]

theorem gapsClear_of_read (files : List (Option Bytes)) (m : Msa) (h : readFiles files = .ok m) :
    gapsClear (dealignStep m) = true :=
  gapsClear_of_aligned m (readInputs_ok _ none m (readFiles_ok files m h).2 (by simp [prevSeqs]) (by simp)).2.2

theorem runMsaSoft2_of_read (files : List (Option Bytes)) (m : Msa) (h : readFiles files = .ok m) (type : Int)
    (gpo gpe tgpe : SoftF32) :
    runMsaSoft2 m type gpo gpe tgpe =
      kalignRunWithCB (fun _ => bioOfCode (dealignStep m).biotype) (buildTasks2 true)
        (fun bio => paramOfTableS bio.code type gpo gpe tgpe) ((dealignStep m).seqs.map toInSeq) := by
  unfold runMsaSoft2
  simp only [gapsClear_of_read files m h, Bool.not_true, Bool.false_eq_true, if_false]

/-- `run_kalign` sees what the reading loop returns only through `dealignStep` -/
theorem kalignFile_congr {ver base date : Bytes} {f₁ f₂ : List (Option Bytes)} {m₁ m₂ : Msa}
    (h₁ : readFiles f₁ = .ok m₁) (h₂ : readFiles f₂ = .ok m₂) (hd : dealignStep m₁ = dealignStep m₂)
    (type : Int) (gpo gpe tgpe : Float32) (fmt : Option String) :
    kalignFile ver base date f₁ type gpo gpe tgpe fmt = kalignFile ver base date f₂ type gpo gpe tgpe fmt := by
  unfold kalignFile runMsa
  simp only [h₁, h₂, hd]

theorem writeMsa_ok (ver date : Bytes) (fmt : Option Bytes) (A : Alignment) (out : Bytes)
    (h : writeMsa ver date fmt A = .ok out) :
    ∃ t : Nat, (t = 1 ∨ t = 2 ∨ t = 3) ∧ parseFormat fmt = some (t : Int) ∧ A.InBounds ∧ out = writeAs ver date t A := by
  unfold writeMsa at h
  split at h
  · cases h
  · rename_i t ht
    split at h
    · cases h
    · rename_i hb
      have hb : A.InBounds := by simpa using hb
      split at h
      · rename_i h1
        have h1 : t = 1 := by simpa using h1
        cases h
        exact ⟨1, Or.inl rfl, by rw [ht, h1]; rfl, hb, by simp [writeAs]⟩
      · split at h
        · rename_i h2
          have h2 : t = 2 := by simpa using h2
          cases h
          exact ⟨2, Or.inr (Or.inl rfl), by rw [ht, h2]; rfl, hb, by simp [writeAs]⟩
        · split at h
          · rename_i h3
            have h3 : t = 3 := by simpa using h3
            cases h
            exact ⟨3, Or.inr (Or.inr rfl), by rw [ht, h3]; rfl, hb, by simp [writeAs]⟩
          · cases h

theorem kalignFileWith_cases {run : Msa → Except PipeErr (List (Name × GRow))} {ver base date : Bytes}
    {files : List (Option Bytes)} {fmt : Option String} {r : Except FileErr Bytes}
    (h : kalignFileWith run ver base date files fmt = r) :
    match (generalizing := false) r with
    | .error .readFault => readFiles files = .fault
    | .error .read => readFiles files = .fail
    | .error .noInput => readFiles files = .null
    | .error (.run e) => ∃ m, readFiles files = .ok m ∧ run m = .error e
    | .error .format => ∃ m rows, readFiles files = .ok m ∧ run m = .ok rows ∧
        writeMsa ver date (fmtBytes fmt) (alignmentOf rows (dealignStep m).biotype base) = .fail
    | .error .writeFault => ∃ m rows, readFiles files = .ok m ∧ run m = .ok rows ∧
        writeMsa ver date (fmtBytes fmt) (alignmentOf rows (dealignStep m).biotype base) = .fault
    | .ok out => ∃ m rows, readFiles files = .ok m ∧ run m = .ok rows ∧
        writeMsa ver date (fmtBytes fmt) (alignmentOf rows (dealignStep m).biotype base) = .ok out := by
  subst h
  unfold kalignFileWith
  cases readFiles files with
  | ok m =>
    dsimp only
    cases hr : run m with
    | error e => exact ⟨m, rfl, hr⟩
    | ok rows =>
      dsimp only
      cases hw : writeMsa ver date (fmtBytes fmt) (alignmentOf rows (dealignStep m).biotype base) with
      | _ => exact ⟨m, rows, rfl, hr, hw⟩
  | _ => rfl

theorem kalignFileWith_ok {run : Msa → Except PipeErr (List (Name × GRow))} {ver base date : Bytes}
    {files : List (Option Bytes)} {fmt : Option String} {out : Bytes}
    (h : kalignFileWith run ver base date files fmt = .ok out) :
    ∃ m rows, ∃ t : Nat, readFiles files = .ok m ∧ run m = .ok rows ∧
      (t = 1 ∨ t = 2 ∨ t = 3) ∧ parseFormat (fmtBytes fmt) = some (t : Int) ∧
      (alignmentOf rows m.biotype base).InBounds ∧ out = writeAs ver date t (alignmentOf rows m.biotype base) := by
  obtain ⟨m, rows, hm, hr, hw⟩ := kalignFileWith_cases h
  rw [dealignStep_biotype] at hw
  obtain ⟨t, ht, hp, hin, ho⟩ := writeMsa_ok _ _ _ _ _ hw
  exact ⟨m, rows, t, hm, hr, ht, hp, hin, ho⟩

def keptRecs (S : List SeqRec) : List (Bytes × Bytes) := (namesRes S).filter fun p => p.2.length ≠ 0

def RunSpec (m : Msa) (rows : List (Name × GRow)) : Prop :=
  rows.map (fun x => (x.1, (degap x.2).map charByte)) = keptRecs m.seqs ∧
  (∃ L, ∀ x ∈ rows, x.2.length = L) ∧ 2 ≤ rows.length ∧ (m.biotype = 0 ∨ m.biotype = 1)

theorem runSpec_of_CB {α : Type} [Score α] {m : Msa} {build : Array (List Nat) → Except PipeErr (Array (Nat × Nat × Nat))}
    {pm : Bio → Option (AlnParam α)} {rows : List (Name × GRow)}
    (h : kalignRunWithCB (fun _ => bioOfCode (dealignStep m).biotype) build pm ((dealignStep m).seqs.map toInSeq) = .ok rows) :
    RunSpec m rows := by
  obtain ⟨h1, h2, hL⟩ := kalignRunWithCB_integrity _ _ _ _ _ h
  obtain ⟨hb, hk⟩ := kalignRunWithCB_ok_more h
  have hfilter : ((dealignStep m).seqs.map toInSeq).filter (fun x => decide (x.seq.length ≠ 0)) =
      ((dealignStep m).seqs.filter fun s => decide (s.res.length ≠ 0)).map toInSeq := by
    rw [filter_map]
    congr 1
    apply filter_congr
    intro s _
    simp [toInSeq]
  have hkept : keptRecs m.seqs = ((dealignStep m).seqs.filter fun s => decide (s.res.length ≠ 0)).map
      fun s => (s.name, s.res) := by
    unfold keptRecs
    rw [← dealignStep_names_res m]
    unfold namesRes
    rw [filter_map]
    congr 1
  refine ⟨?_, hL, ?_, ?_⟩
  · rw [hkept, ← zip_map', ← zip_map']
    congr 1
    · rw [h1, hfilter, map_map]; rfl
    · have : rows.map (fun x => (degap x.2).map charByte) = (rows.map fun x => degap x.2).map (·.map charByte) := by
        rw [map_map]; rfl
      rw [this, h2, hfilter, map_map, map_map]
      apply map_congr_left
      intro s _
      simp only [Function.comp, toInSeq]
      exact map_charByte_byteChar s.res
  · have : rows.length = (keptView ((dealignStep m).seqs.map toInSeq)).length := by
      have := congrArg length h1
      simpa [keptView] using this
    omega
  · simp only [bioOf, dealignStep_biotype] at hb
    match hm : m.biotype with
    | 0 => exact Or.inl rfl
    | 1 => exact Or.inr rfl
    | n + 2 => rw [hm] at hb; simp [bioOfCode] at hb

theorem runMsa_spec {m : Msa} {type : Int} {gpo gpe tgpe : Float32} {rows : List (Name × GRow)}
    (h : runMsa m type gpo gpe tgpe = .ok rows) : RunSpec m rows := by
  unfold runMsa at h
  simp only at h
  split at h
  · cases h
  · exact runSpec_of_CB (kalignRunWith_eq_CB _ _ _ _ _ _ _ ▸ h)

/-- the gap vector `seq->gaps[0..len]` a gapped row stands for -/
def gapsOfG : GRow → List Nat
  | [] => [0]
  | none :: r => bump (gapsOfG r)
  | some _ :: r => 0 :: gapsOfG r

def recOfRow (x : Name × GRow) : SeqRec := ⟨x.1, (degap x.2).map charByte, gapsOfG x.2⟩

theorem gapsOfG_ne_nil (g : GRow) : gapsOfG g ≠ [] := by
  induction g with
  | nil => simp [gapsOfG]
  | cons x r ih =>
    cases x with
    | none => cases h : gapsOfG r <;> simp [gapsOfG, bump, h]
    | some c => simp [gapsOfG]

theorem gapsOfG_length (g : GRow) : (gapsOfG g).length = (degap g).length + 1 := by
  induction g with
  | nil => rfl
  | cons x r ih =>
    cases x with
    | none =>
      rw [degap_cons_none, ← ih]
      simp only [gapsOfG]
      exact length_bump _ (gapsOfG_ne_nil r)
    | some c => simp [gapsOfG, degap_cons_some, ih]

theorem gapsOfG_sum (g : GRow) : (gapsOfG g).sum + (degap g).length = g.length := by
  induction g with
  | nil => rfl
  | cons x r ih =>
    cases x with
    | none =>
      rw [degap_cons_none]
      simp only [gapsOfG, sum_bump, length_cons]
      omega
    | some c =>
      simp only [gapsOfG, degap_cons_some, sum_cons, length_cons]
      omega

theorem linRow_bump (res : Bytes) (gs : List Nat) (h : gs ≠ []) : linRow res (bump gs) = 45 :: linRow res gs := by
  cases gs with
  | nil => exact absurd rfl h
  | cons g gs =>
    cases res with
    | nil => simp [bump, linRow, replicate_succ]
    | cons x xs => simp [bump, linRow, replicate_succ]

theorem linRow_gapsOfG (g : GRow) : linRow ((degap g).map charByte) (gapsOfG g) = renderB g := by
  induction g with
  | nil => rfl
  | cons x r ih =>
    cases x with
    | none =>
      rw [degap_cons_none]
      simp only [gapsOfG]
      rw [linRow_bump _ _ (gapsOfG_ne_nil r), ih]
      rfl
    | some c =>
      rw [degap_cons_some]
      simp only [gapsOfG, map_cons, linRow, replicate_zero, nil_append, ih]
      rfl

theorem length_renderB (g : GRow) : (renderB g).length = g.length := by simp [renderB]

theorem alignmentOf_eq_finalise (rows : List (Name × GRow)) (bio : Nat) (base : Bytes) :
    alignmentOf rows bio base = finalise (rows.map recOfRow) bio (alnAlphabet (bioOfCode bio)) base := by
  unfold alignmentOf finalise
  congr 1
  · rw [map_map]
    apply map_congr_left
    intro x _
    simp only [Function.comp, recOfRow, linRow_gapsOfG]
  · cases rows with
    | nil => rfl
    | cons x xs =>
      simp only [head?_cons, Option.map_some, Option.getD_some, map_cons, alnlenOf, recOfRow, length_map]
      exact (gapsOfG_sum x.2).symm

theorem mem_keptRecs {S : List SeqRec} {p : Bytes × Bytes} (h : p ∈ keptRecs S) :
    p.2.length ≠ 0 ∧ ∃ s ∈ S, p = (s.name, s.res) := by
  simp only [keptRecs, namesRes, mem_filter, mem_map, decide_eq_true_eq] at h
  obtain ⟨⟨s, hs, rfl⟩, hl⟩ := h
  exact ⟨hl, s, hs, rfl⟩

theorem row_mem_kept {m : Msa} {rows : List (Name × GRow)} (h : RunSpec m rows) {x : Name × GRow} (hx : x ∈ rows) :
    (x.1, (degap x.2).map charByte) ∈ keptRecs m.seqs := by
  rw [← h.1]
  exact mem_map.mpr ⟨x, hx, rfl⟩

theorem alnWF_rows {m : Msa} {rows : List (Name × GRow)} (h : RunSpec m rows) (hok : ∀ s ∈ m.seqs, RecOK s)
    (hn : ∀ p ∈ keptRecs m.seqs, NameOK p.1) : AlnWF (rows.map recOfRow) := by
  have ⟨_, ⟨L, hL⟩, h2, _⟩ := h
  have hwidth : ∀ x ∈ rows, (recOfRow x).gaps.sum + (recOfRow x).res.length = L := by
    intro x hx
    simp only [recOfRow, length_map]
    rw [gapsOfG_sum, hL x hx]
  have haln : alnlenOf (rows.map recOfRow) = L := by
    match rows, h2, hwidth with
    | x :: xs, _, hw => exact hw x (by simp)
  refine ⟨?_, ?_, ?_, ?_, ?_, ?_⟩
  · intro he
    have := congrArg length he
    simp only [length_map, length_nil] at this
    omega
  · intro s hs
    obtain ⟨x, hx, rfl⟩ := mem_map.mp hs
    exact hn _ (row_mem_kept h hx)
  · intro s hs b hb
    obtain ⟨x, hx, rfl⟩ := mem_map.mp hs
    obtain ⟨_, s0, hs0, he⟩ := mem_keptRecs (row_mem_kept h hx)
    simp only [Prod.mk.injEq] at he
    simp only [recOfRow] at hb
    rw [he.2] at hb
    exact (hok s0 hs0).1 b hb
  · intro s hs
    obtain ⟨x, _, rfl⟩ := mem_map.mp hs
    simp only [recOfRow, length_map]
    exact gapsOfG_length x.2
  · intro s hs
    obtain ⟨x, hx, rfl⟩ := mem_map.mp hs
    rw [haln]
    exact hwidth x hx
  · rw [haln]
    match rows, h2, hL with
    | x :: xs, _, hL' =>
      obtain ⟨hl, _⟩ := mem_keptRecs (row_mem_kept h (x := x) (by simp))
      simp only [length_map] at hl
      have := gapsOfG_sum x.2
      have := hL' x (by simp)
      omega

theorem alignmentOf_rows_length {m : Msa} {rows : List (Name × GRow)} (h : RunSpec m rows) (bio : Nat) (base : Bytes) :
    ∀ r ∈ (alignmentOf rows bio base).rows, r.row.length = (alignmentOf rows bio base).alnlen := by
  obtain ⟨_, ⟨L, hL⟩, h2, _⟩ := h
  intro r hr
  simp only [alignmentOf, mem_map] at hr
  obtain ⟨x, hx, rfl⟩ := hr
  simp only [alignmentOf, length_renderB]
  match rows, h2, hL, hx with
  | y :: ys, _, hL', hx' =>
    simp only [head?_cons, Option.map_some, Option.getD_some]
    rw [hL' x hx', hL' y (by simp)]

end Kalign.PipelineFile

import KalignModel.Model.Profile
import KalignModel.Lemmas.Progressive
import KalignModel.Lemmas.ProfBuild
import KalignModel.Lemmas.Basic.ListWalk
import KalignModel.Lemmas.PathCols
/-!
# No fault in the profile update and in the path expansion (any score carrier)

* `updateN_some`: `update_n` reads only inside its two profiles when the column codes are a valid column list for the two
  lengths, and returns a profile of `64*(codes.length+2)` entries.
* `expandPath_codes`: the codes `add_gap_info_to_path_n` writes are among 0, 1, 2, 33, 34 (`CodeOK`), whatever the path.
-/
namespace Kalign
section
variable {β : Type} [Score β]

/-- the codes `add_gap_info_to_path_n` can emit -/
def CodeOK (c : Nat) : Prop := c = 0 ∨ c = 1 ∨ c = 2 ∨ c = 33 ∨ c = 34

/-- aligned, gap in `a` (the column of `b` is consumed), gap in `b` -/
theorem CodeOK.kinds {c : Nat} (h : CodeOK c) : c = 0 ∨ (c = 1 ∨ c = 33) ∨ (c = 2 ∨ c = 34) := by
  unfold CodeOK at h
  omega

theorem updateStep_some (ap : AlnParam β) (pa pb : Array β) (sa sb lenA lenB : Nat)
    (hpa : pa.size = 64 * (lenA + 2)) (hpb : pb.size = 64 * (lenB + 2)) (st : UpdState β) (code : Nat)
    (hc : CodeOK code) (cs : List Col)
    (hA : st.pa + consA (Col.ofCode code :: cs) = lenA + 1) (hB : st.pb + consB (Col.ofCode code :: cs) = lenB + 1) :
    ∃ st', updateStep ap pa pb sa sb st code = some st' ∧ st'.out.size = st.out.size + 64 ∧
      st'.pa + consA cs = lenA + 1 ∧ st'.pb + consB cs = lenB + 1 := by
  obtain rfl | h | h := hc.kinds
  · rw [show Col.ofCode 0 = .both from rfl, consA_both] at hA
    rw [show Col.ofCode 0 = .both from rfl, consB_both] at hB
    exact ⟨⟨st.pa + 1, st.pb + 1, st.out ++ addCols (colAt pa st.pa) (colAt pb st.pb)⟩,
      by rw [updateStep_zero, colOf?_of_le pa st.pa (by omega), colOf?_of_le pb st.pb (by omega)]; rfl,
      by simp [size_addCols], by simp only; omega, by simp only; omega⟩
  · have e : Col.ofCode code = .gapA := by rcases h with rfl | rfl <;> rfl
    rw [e, consA_gapA] at hA
    rw [e, consB_gapA] at hB
    have hr : 64 * st.pb + 64 ≤ pb.size := by omega
    exact ⟨⟨st.pa, st.pb + 1, st.out ++ gapCol ap (colAt pb st.pb) code sa⟩,
      by rw [updateStep_gapA ap pa pb sa sb st h, colOf?_of_le pb st.pb hr]; rfl,
      by simp [size_gapCol, size_colAt _ _ hr], hA, by simp only; omega⟩
  · have e : Col.ofCode code = .gapB := by rcases h with rfl | rfl <;> rfl
    rw [e, consA_gapB] at hA
    rw [e, consB_gapB] at hB
    have hr : 64 * st.pa + 64 ≤ pa.size := by omega
    exact ⟨⟨st.pa + 1, st.pb, st.out ++ gapCol ap (colAt pa st.pa) code sb⟩,
      by rw [updateStep_gapB ap pa pb sa sb st h, colOf?_of_le pa st.pa hr]; rfl,
      by simp [size_gapCol, size_colAt _ _ hr], by simp only; omega, hB⟩

theorem update_fold (ap : AlnParam β) (pa pb : Array β) (sa sb lenA lenB : Nat)
    (hpa : pa.size = 64 * (lenA + 2)) (hpb : pb.size = 64 * (lenB + 2)) (codes : List Nat)
    (hc : ∀ c ∈ codes, CodeOK c) (st : UpdState β)
    (hA : st.pa + consA (codes.map Col.ofCode) = lenA + 1) (hB : st.pb + consB (codes.map Col.ofCode) = lenB + 1) :
    ∃ st', codes.foldlM (updateStep ap pa pb sa sb) st = some st' ∧ st'.out.size = st.out.size + 64 * codes.length ∧
      st'.pa = lenA + 1 ∧ st'.pb = lenB + 1 := by
  induction codes generalizing st with
  | nil => exact ⟨st, rfl, by simp, hA, hB⟩
  | cons c cs ih =>
    obtain ⟨st1, h1, hs1, ha1, hb1⟩ := updateStep_some ap pa pb sa sb lenA lenB hpa hpb st c (hc c List.mem_cons_self)
      (cs.map Col.ofCode) hA hB
    obtain ⟨st2, h2, hs2, ha2, hb2⟩ := ih (fun x hx => hc x (List.mem_cons_of_mem _ hx)) st1 ha1 hb1
    refine ⟨st2, by simp [List.foldlM_cons, h1, h2], ?_, ha2, hb2⟩
    rw [hs2, hs1, List.length_cons]; omega

omit [Score β] in
theorem takeWhile_ne3 (codes : List Nat) (hc : ∀ c ∈ codes, CodeOK c) : codes.takeWhile (· ≠ 3) = codes := by
  apply takeWhile_all
  intro c hcm
  have := hc c hcm
  unfold CodeOK at this
  simp only [ne_eq, decide_not, Bool.not_eq_eq_eq_not, Bool.not_true, decide_eq_false_iff_not]
  omega

theorem updateN_some (ap : AlnParam β) (pa pb : Array β) (sa sb lenA lenB : Nat)
    (hpa : pa.size = 64 * (lenA + 2)) (hpb : pb.size = 64 * (lenB + 2)) (codes : List Nat)
    (hc : ∀ c ∈ codes, CodeOK c) (hV : ValidCols (codes.map Col.ofCode) lenA lenB) :
    ∃ p, updateN ap pa pb codes sa sb = some p ∧ p.size = 64 * (codes.length + 2) := by
  have h0a := colOf?_of_le pa 0 (by omega)
  have h0b := colOf?_of_le pb 0 (by omega)
  obtain ⟨st, hst, hsz, hfa, hfb⟩ := update_fold ap pa pb sa sb lenA lenB hpa hpb codes hc
    { pa := 1, pb := 1, out := addCols (colAt pa 0) (colAt pb 0) } (by simp only; rw [hV.2.1]; omega)
    (by simp only; rw [hV.2.2]; omega)
  have hca := colOf?_of_le pa st.pa (by rw [hfa]; omega)
  have hcb := colOf?_of_le pb st.pb (by rw [hfb]; omega)
  refine ⟨st.out ++ addCols (colAt pa st.pa) (colAt pb st.pb), ?_, ?_⟩
  · unfold updateN
    rw [takeWhile_ne3 codes hc]
    simp [h0a, h0b, hst, hca, hcb]
  · rw [Array.size_append, hsz, size_addCols, size_addCols]; omega

end

theorem markPrefix_codeOK (l : List Nat) (h : ∀ c ∈ l, CodeOK c) : ∀ c ∈ markPrefix l, CodeOK c := by
  induction l with
  | nil => intro c hc; simp [markPrefix] at hc
  | cons x xs ih =>
    intro c hc
    unfold markPrefix at hc
    split at hc
    · exact h c hc
    · rcases List.mem_cons.1 hc with e | e
      · subst e
        have hx := h x List.mem_cons_self
        rename_i h0
        unfold CodeOK at hx ⊢
        rcases hx with e | e | e | e | e <;> subst e <;> first | exact absurd rfl h0 | decide
      · exact ih (fun y hy => h y (List.mem_cons_of_mem _ hy)) c e

theorem markSuffix_codeOK (l : List Nat) (h : ∀ c ∈ l, CodeOK c) : ∀ c ∈ markSuffix l, CodeOK c := by
  intro c hc
  unfold markSuffix at hc
  rw [List.mem_reverse] at hc
  exact markPrefix_codeOK _ (fun y hy => h y (List.mem_reverse.1 hy)) c hc

theorem expandCore_codeOK (lenB : Nat) (path : List Int) : ∀ c ∈ expandCore lenB path, CodeOK c := by
  intro c hc
  have := expandCore_le lenB path c hc
  unfold CodeOK
  omega

theorem expandPath_codes (lenB : Nat) (path : List Int) (codes : List Nat) (h : expandPath lenB path = some codes) :
    ∀ c ∈ codes, CodeOK c := by
  unfold expandPath at h
  simp only at h
  split at h
  · cases h
  · simp only [Option.some.injEq] at h
    subst h
    exact markSuffix_codeOK _ (markPrefix_codeOK _ (expandCore_codeOK lenB path))

end Kalign

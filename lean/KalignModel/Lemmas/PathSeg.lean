import KalignModel.Lemmas.Controller
/-!
# The path automaton over a range of rows

The path written for a rectangle is read by the automaton `segStep` (Model/Hirschberg.lean) run over an index range of a path
function (`segRun`, `segOKf`: `pathOK` with boundary kinds on both sides), so that the segments written by the two recursive calls
of `aln_continue` can be glued at the cut: `caseJoin` glues a left segment, the one or two entries at the cut and a right
segment, by the kinds `u`, `v` of the columns in front of and behind the cut.
-/
namespace Kalign

/-- run the automaton `segStep` over the entries `p (i+1) .. p (i+n)` -/
def segRun (p : Int → Int) (eb : Int) : Nat → Int → Int → Kind → Option (Int × Kind)
  | 0, _, last, k => some (last, k)
  | n + 1, i, last, k =>
    match segStep eb last k (p (i + 1)) with
    | none => none
    | some (l', k') => segRun p eb n (i + 1) l' k'

/-- entries `i+1 .. i+n` form a consistent segment from state `(last, k)` up to `eb`, followed by a `bk` column -/
def segOKf (p : Int → Int) (eb : Int) (bk : Kind) (n : Nat) (i last : Int) (k : Kind) : Bool :=
  match segRun p eb n i last k with
  | some (l', k') => segEnd eb bk l' k'
  | none => false

theorem segRun_congr (p q : Int → Int) (eb : Int) (n : Nat) (i last : Int) (k : Kind)
    (h : ∀ j, i < j → j ≤ i + n → p j = q j) : segRun p eb n i last k = segRun q eb n i last k := by
  induction n generalizing i last k with
  | zero => rfl
  | succ n ih =>
    simp only [segRun]
    rw [h (i + 1) (by omega) (by omega)]
    split
    · rfl
    · exact ih _ _ _ (fun j h1 h2 => h j (by omega) (by omega))

theorem segOKf_congr (p q : Int → Int) (eb : Int) (bk : Kind) (n : Nat) (i last : Int) (k : Kind)
    (h : ∀ j, i < j → j ≤ i + n → p j = q j) : segOKf p eb bk n i last k = segOKf q eb bk n i last k := by
  unfold segOKf; rw [segRun_congr p q eb n i last k h]

theorem segRun_append (p : Int → Int) (eb : Int) (n1 n2 : Nat) (i last : Int) (k : Kind) :
    segRun p eb (n1 + n2) i last k =
      (segRun p eb n1 i last k).bind fun x => segRun p eb n2 (i + n1) x.1 x.2 := by
  induction n1 generalizing i last k with
  | zero => simp [segRun]
  | succ n ih =>
    have : n + 1 + n2 = (n + n2) + 1 := by omega
    rw [this]
    simp only [segRun]
    split
    · rfl
    · rw [ih]
      have : i + 1 + (n : Int) = i + ((n + 1 : Nat) : Int) := by omega
      rw [this]

theorem segStep_some (eb last : Int) (k : Kind) (p : Int) (x : Int × Kind) :
    segStep eb last k p = some x ↔
      (p = -1 ∧ k ≠ .GA ∧ x = (last, .GB)) ∨
      (p ≠ -1 ∧ p = last + 1 ∧ p ≤ eb ∧ x = (p, .A)) ∨
      (p ≠ -1 ∧ last + 1 < p ∧ k ≠ .GB ∧ p ≤ eb ∧ x = (p, .A)) := by
  unfold segStep
  by_cases h1 : p = -1
  · by_cases hk : k = .GA
    · simp [h1, hk]
    · simp [h1, hk, eq_comm]
  · by_cases h2 : p = last + 1
    · by_cases h3 : p ≤ eb
      · simp only [h2, if_true]
        rw [← h2]; simp [h1, h3, eq_comm]
      · simp only [h2, if_true]
        rw [← h2]; simp [h1, h3]
    · by_cases h3 : last + 1 < p ∧ k ≠ .GB ∧ p ≤ eb
      · simp [h1, h2, h3, eq_comm]
      · simp only [h1, h2, h3, if_false]
        simp [h1]
        intro a b c
        exact absurd ⟨a, b, c⟩ h3

theorem segStep_mono (eb eb' last : Int) (k : Kind) (p : Int) (x : Int × Kind) (h : eb ≤ eb')
    (hs : segStep eb last k p = some x) : segStep eb' last k p = some x := by
  rw [segStep_some] at hs ⊢
  rcases hs with h1 | ⟨h1, h2, h3, h4⟩ | ⟨h1, h2, h3, h4, h5⟩
  · exact Or.inl h1
  · exact Or.inr (Or.inl ⟨h1, h2, by omega, h4⟩)
  · exact Or.inr (Or.inr ⟨h1, h2, h3, by omega, h5⟩)

theorem segRun_mono (p : Int → Int) (eb eb' : Int) (h : eb ≤ eb') (n : Nat) (i last : Int) (k : Kind)
    (x : Int × Kind) (hs : segRun p eb n i last k = some x) : segRun p eb' n i last k = some x := by
  induction n generalizing i last k with
  | zero => exact hs
  | succ n ih =>
    simp only [segRun] at hs ⊢
    cases hst : segStep eb last k (p (i + 1)) with
    | none => simp [hst] at hs
    | some y =>
      rw [segStep_mono eb eb' last k _ y h hst]
      simp only [hst] at hs
      exact ih _ _ _ hs

theorem segRun_allGap (p : Int → Int) (eb : Int) (n : Nat) (i last : Int) (k : Kind)
    (hp : ∀ j, i < j → j ≤ i + n → p j = -1) (hk : k ≠ .GA) (hn : 0 < n) :
    segRun p eb n i last k = some (last, .GB) := by
  induction n generalizing i k with
  | zero => omega
  | succ n ih =>
    simp only [segRun]
    rw [hp (i + 1) (by omega) (by omega)]
    simp only [segStep, if_true, hk, if_false]
    cases n with
    | zero => rfl
    | succ n => exact ih (i + 1) .GB (fun j h1 h2 => hp j (by omega) (by omega)) (by decide) (by omega)

theorem childOK_seg (p : Int → Int) (fk bk : Kind) (sa ea sb eb : Int)
    (hc : childOK fk bk sa ea sb eb = true) (hdeg : ¬ (sa < ea ∧ sb < eb))
    (hp : ∀ j, sa < j → j ≤ ea → p j = -1) :
    sa ≤ ea ∧ sb ≤ eb ∧ segOKf p eb bk (ea - sa).toNat sa sb fk = true := by
  unfold childOK at hc
  simp only [hdeg, if_false] at hc
  by_cases hneg : ea < sa ∨ eb < sb
  · simp [hneg] at hc
  · simp only [hneg, if_false] at hc
    refine ⟨by omega, by omega, ?_⟩
    by_cases he : ea = sa
    · simp only [he, if_true] at hc
      subst he
      simp [segOKf, segRun, hc]
    · simp only [he, if_false, Bool.and_eq_true, bne_iff_ne, ne_eq] at hc
      have hn : 0 < (ea - sa).toNat := by omega
      unfold segOKf
      rw [segRun_allGap p eb _ sa sb fk (fun j h1 h2 => hp j h1 (by omega)) hc.1 hn]
      exact hc.2

theorem segEnd_true (eb : Int) (bk : Kind) (l : Int) (k : Kind) :
    segEnd eb bk l k = true ↔ (l = eb ∧ k.compat bk = true) ∨ (l < eb ∧ k ≠ .GB ∧ bk ≠ .GB) := by
  unfold segEnd
  by_cases h : l = eb
  · simp [h]
  · simp [h, and_assoc]

theorem glueA (eb c l' : Int) (k' : Kind) (h : segEnd (c - 1) .A l' k' = true) (hc : c ≤ eb) (h0 : 0 ≤ c) :
    segStep eb l' k' c = some (c, .A) := by
  rw [segEnd_true] at h
  rw [segStep_some]
  rcases h with ⟨h1, _⟩ | ⟨h1, h2, _⟩
  · exact Or.inr (Or.inl ⟨by omega, by omega, hc, rfl⟩)
  · exact Or.inr (Or.inr ⟨by omega, by omega, h2, hc, rfl⟩)

theorem glueGA (eb c l' : Int) (k' : Kind) (h : segEnd (c - 1) .GA l' k' = true) (hc : c + 1 ≤ eb) (h0 : 0 ≤ c) :
    segStep eb l' k' (c + 1) = some (c + 1, .A) := by
  rw [segEnd_true] at h
  rw [segStep_some]
  rcases h with ⟨h1, h2⟩ | ⟨h1, h2, _⟩
  · have : k' ≠ .GB := by cases k' <;> simp_all [Kind.compat]
    exact Or.inr (Or.inr ⟨by omega, by omega, this, hc, rfl⟩)
  · exact Or.inr (Or.inr ⟨by omega, by omega, h2, hc, rfl⟩)

theorem glueGB (eb c l' : Int) (k' : Kind) (h : segEnd c .GB l' k' = true) :
    segStep eb l' k' (-1) = some (c, .GB) := by
  rw [segEnd_true] at h
  rw [segStep_some]
  rcases h with ⟨h1, h2⟩ | ⟨_, _, h3⟩
  · have : k' ≠ .GA := by cases k' <;> simp_all [Kind.compat]
    exact Or.inl ⟨rfl, this, by rw [h1]⟩
  · exact absurd rfl h3

theorem segOKf_shiftGA (p : Int → Int) (eb : Int) (bk : Kind) (n : Nat) (i c : Int) (k : Kind)
    (h : segOKf p eb bk n i (c + 1) .GA = true) (hk : k ≠ .GB) :
    segOKf p eb bk n i c k = true := by
  cases n with
  | zero =>
    simp only [segOKf, segRun] at h ⊢
    rw [segEnd_true] at h ⊢
    rcases h with ⟨h1, h2⟩ | ⟨h1, _, h3⟩
    · have : bk ≠ .GB := by cases bk <;> simp_all [Kind.compat]
      exact Or.inr ⟨by omega, hk, this⟩
    · exact Or.inr ⟨by omega, hk, h3⟩
  | succ n =>
    simp only [segOKf, segRun] at h ⊢
    have hstep : ∀ x, segStep eb (c + 1) .GA (p (i + 1)) = some x → segStep eb c k (p (i + 1)) = some x := by
      intro x hx
      rw [segStep_some] at hx ⊢
      rcases hx with ⟨_, h2, _⟩ | ⟨h1, h2, h3, h4⟩ | ⟨h1, h2, _, h4, h5⟩
      · exact absurd rfl h2
      · exact Or.inr (Or.inr ⟨h1, by omega, hk, h3, h4⟩)
      · exact Or.inr (Or.inr ⟨h1, by omega, hk, h4, h5⟩)
    cases hs : segStep eb (c + 1) .GA (p (i + 1)) with
    | none => simp [hs] at h
    | some x =>
      rw [hstep x hs]
      simpa [hs] using h

theorem segOKf_run (p : Int → Int) (eb : Int) (bk : Kind) (n : Nat) (i l : Int) (k : Kind)
    (h : segOKf p eb bk n i l k = true) :
    ∃ l' k', segRun p eb n i l k = some (l', k') ∧ segEnd eb bk l' k' = true := by
  unfold segOKf at h
  cases hs : segRun p eb n i l k with
  | none => simp [hs] at h
  | some x => exact ⟨x.1, x.2, rfl, by simpa [hs] using h⟩

theorem segOKf_prefix (p : Int → Int) (eb' eb : Int) (bk : Kind) (n1 n2 : Nat) (i l l' : Int) (k k' : Kind)
    (h1 : segRun p eb' n1 i l k = some (l', k')) (hle : eb' ≤ eb)
    (h2 : segOKf p eb bk n2 (i + n1) l' k' = true) : segOKf p eb bk (n1 + n2) i l k = true := by
  unfold segOKf at h2 ⊢
  rw [segRun_append, segRun_mono p eb' eb hle n1 i l k _ h1]
  exact h2

theorem segOKf_step (p : Int → Int) (eb : Int) (bk : Kind) (n : Nat) (i l l' : Int) (k k' : Kind)
    (h1 : segStep eb l k (p (i + 1)) = some (l', k'))
    (h2 : segOKf p eb bk n (i + 1) l' k' = true) : segOKf p eb bk (n + 1) i l k = true := by
  unfold segOKf at h2 ⊢
  simp only [segRun, h1]
  exact h2

/-- the forward part ends in row `mid` with a column of kind `u` (not a gap-in-a column) whose entry is `p`: the child on the
rows above, checked up to `eb'`, then one step that the automaton accepts after every end state of the child (`hglue`) -/
theorem leftStep (P : Int → Int) (eb eb' sa sb mid c p : Int) (fk u : Kind) (hmid : sa ≤ mid) (hle : eb' ≤ eb)
    (hz : mid = sa → c = sb ∧ fk = u)
    (hn : mid ≠ sa → segOKf P eb' u (mid - 1 - sa).toNat sa sb fk = true ∧ P mid = p)
    (hglue : ∀ l' k', segEnd eb' u l' k' = true → segStep eb l' k' p = some (c, u)) :
    segRun P eb (mid - sa).toNat sa sb fk = some (c, u) := by
  by_cases h : mid = sa
  · obtain ⟨h1, h2⟩ := hz h
    subst h; subst h1; subst h2
    simp [segRun]
  · obtain ⟨hs, hp⟩ := hn h
    obtain ⟨l', k', hrun, hend⟩ := segOKf_run _ _ _ _ _ _ _ hs
    have hnn : (mid - sa).toNat = (mid - 1 - sa).toNat + 1 := by omega
    have hidx : sa + ((mid - 1 - sa).toNat : Int) + 1 = mid := by omega
    rw [hnn, segRun_append, segRun_mono P eb' eb hle _ _ _ _ _ hrun]
    simp only [Option.bind, segRun]
    rw [hidx, hp, hglue l' k' hend]

theorem leftStepGA (P : Int → Int) (eb sa sb mid c : Int) (fk : Kind) (hmid : sa ≤ mid) (hc : c + 1 ≤ eb) (h0 : 0 ≤ c)
    (hz : mid = sa ∧ c = sb → fk = .GA)
    (hn : ¬ (mid = sa ∧ c = sb) → segOKf P (c - 1) .GA (mid - sa).toNat sa sb fk = true) :
    ∃ l' k', segRun P eb (mid - sa).toNat sa sb fk = some (l', k') ∧ segStep eb l' k' (c + 1) = some (c + 1, .A) := by
  by_cases h : mid = sa ∧ c = sb
  · have hk := hz h
    obtain ⟨h1, h2⟩ := h
    subst h1; subst h2; subst hk
    refine ⟨c, .GA, by simp [segRun], ?_⟩
    rw [segStep_some]
    exact Or.inr (Or.inl ⟨by omega, rfl, hc, rfl⟩)
  · obtain ⟨l', k', hrun, hend⟩ := segOKf_run _ _ _ _ _ _ _ (hn h)
    exact ⟨l', k', segRun_mono P (c - 1) eb (by omega) _ _ _ _ _ hrun, glueGA eb c l' k' hend hc h0⟩

theorem tailStep (P : Int → Int) (eb : Int) (bk : Kind) (n1 n2 : Nat) (sa sb mid l l2 : Int) (fk k k2 : Kind)
    (h1 : segRun P eb n1 sa sb fk = some (l, k)) (hi : sa + n1 = mid)
    (h2 : segStep eb l k (P (mid + 1)) = some (l2, k2))
    (h3 : segOKf P eb bk n2 (mid + 1) l2 k2 = true) : segOKf P eb bk (n1 + (n2 + 1)) sa sb fk = true := by
  refine segOKf_prefix P eb eb bk n1 (n2 + 1) sa sb l fk k h1 (Int.le_refl _) ?_
  rw [hi]
  exact segOKf_step P eb bk n2 mid l l2 k k2 h2 h3

theorem segStep_succ (eb c : Int) (k : Kind) (h0 : 0 ≤ c) (hc : c + 1 ≤ eb) :
    segStep eb c k (c + 1) = some (c + 1, .A) := by
  rw [segStep_some]; exact Or.inr (Or.inl ⟨by omega, rfl, hc, rfl⟩)

theorem segStep_gap (eb c : Int) (k : Kind) (hk : k ≠ .GA) : segStep eb c k (-1) = some (c, .GB) := by
  rw [segStep_some]; exact Or.inl ⟨rfl, hk, rfl⟩

/-- the backward part glued to a forward part that leaves the automaton in state `(l, k)` after row `mid` -/
theorem rightJoin (P : Int → Int) (bk v : Kind) (sa ea sb eb mid c l : Int) (fk k : Kind) (hm1 : sa ≤ mid) (hm2 : mid < ea)
    (hleft : segRun P eb (mid - sa).toNat sa sb fk = some (l, k))
    (hA : v = .A → segStep eb l k (c + 1) = some (c + 1, .A))
    (hGB : v = .GB → segStep eb l k (-1) = some (c, .GB))
    (hGA : v = .GA → l = c ∧ k ≠ .GB)
    (hsegR : segOKf P eb bk (ea - (mid + da v)).toNat (mid + da v) (c + db v) v = true)
    (hP : v ≠ .GA → P (mid + 1) = if v = .A then c + 1 else -1) :
    segOKf P eb bk (ea - sa).toNat sa sb fk = true := by
  have hn : (ea - sa).toNat = (mid - sa).toNat + ((ea - (mid + 1)).toNat + 1) := by omega
  cases v with
  | A =>
    rw [hn]
    refine tailStep P eb bk _ _ sa sb mid l (c + 1) fk k .A hleft (by omega) ?_ hsegR
    rw [hP (by decide), if_pos rfl]
    exact hA rfl
  | GB =>
    have hsegR' : segOKf P eb bk (ea - (mid + 1)).toNat (mid + 1) c .GB = true := by simpa [da, db] using hsegR
    rw [hn]
    refine tailStep P eb bk _ _ sa sb mid l c fk k .GB hleft (by omega) ?_ hsegR'
    rw [hP (by decide), if_neg (by decide)]
    exact hGB rfl
  | GA =>
    have hsegR' : segOKf P eb bk (ea - mid).toNat mid (c + 1) .GA = true := by simpa [da, db] using hsegR
    obtain ⟨e, hk⟩ := hGA rfl
    subst e
    have hn' : (ea - sa).toNat = (mid - sa).toNat + (ea - mid).toNat := by omega
    have hidx : sa + ((mid - sa).toNat : Int) = mid := by omega
    rw [hn']
    refine segOKf_prefix P eb eb bk _ _ sa sb l fk k hleft (Int.le_refl _) ?_
    rw [hidx]
    exact segOKf_shiftGA P eb bk _ mid l k hsegR' hk

theorem caseJoin (P : Int → Int) (fk bk u v : Kind) (sa ea sb eb mid c : Int)
    (h0b : 0 ≤ sb) (hm1 : sa ≤ mid) (hm2 : mid < ea) (hcb : sb ≤ c) (hce : c + db v ≤ eb)
    (huv : u = .GA → v = .A) (hvu : v = .GA → u = .A) (hL : LeftOf u fk sa sb mid c)
    (hsegL : childOK fk u sa (mid - da u) sb (c - db u) = true →
      segOKf P (c - db u) u (mid - da u - sa).toNat sa sb fk = true)
    (hsegR : segOKf P eb bk (ea - (mid + da v)).toNat (mid + da v) (c + db v) v = true)
    (hPmid : mid ≠ sa → u ≠ .GA → P mid = if u = .A then c else -1)
    (hPmid1 : v ≠ .GA → P (mid + 1) = if v = .A then c + 1 else -1) :
    segOKf P eb bk (ea - sa).toNat sa sb fk = true := by
  have hdb := db_nonneg v
  have hceA : v = .A → c + 1 ≤ eb := fun e => by subst e; exact hce
  cases u with
  | A =>
    have hleft := leftStep P eb (c - 1) sa sb mid c c fk .A hm1 (by omega) hL.1
      (fun h => ⟨hsegL (hL.2 h), by rw [hPmid h (by decide), if_pos rfl]⟩)
      (fun l' k' h => glueA eb c l' k' h (by omega) (by omega))
    exact rightJoin P bk v sa ea sb eb mid c c fk .A hm1 hm2 hleft (fun e => segStep_succ eb c .A (by omega) (hceA e))
      (fun _ => segStep_gap eb c .A (by decide)) (fun _ => ⟨rfl, by decide⟩) hsegR hPmid1
  | GB =>
    have hsegL' : childOK fk .GB sa (mid - 1) sb c = true → segOKf P c .GB (mid - 1 - sa).toNat sa sb fk = true := by
      simpa [da, db] using hsegL
    have hleft := leftStep P eb c sa sb mid c (-1) fk .GB hm1 (by omega) hL.1
      (fun h => ⟨hsegL' (hL.2 h), by rw [hPmid h (by decide), if_neg (by decide)]⟩)
      (fun l' k' h => glueGB eb c l' k' h)
    exact rightJoin P bk v sa ea sb eb mid c c fk .GB hm1 hm2 hleft (fun e => segStep_succ eb c .GB (by omega) (hceA e))
      (fun _ => segStep_gap eb c .GB (by decide)) (fun e => absurd (hvu e) (by decide)) hsegR hPmid1
  | GA =>
    have hsegL' : childOK fk .GA sa mid sb (c - 1) = true → segOKf P (c - 1) .GA (mid - sa).toNat sa sb fk = true := by
      simpa [da, db] using hsegL
    have hv := huv rfl
    subst hv
    obtain ⟨l', k', hleft, hstep⟩ := leftStepGA P eb sa sb mid c fk hm1 hce (by omega) hL.1 (fun h => hsegL' (hL.2 h))
    exact rightJoin P bk .A sa ea sb eb mid c l' fk k' hm1 hm2 hleft (fun _ => hstep) (fun e => absurd e (by decide))
      (fun e => absurd e (by decide)) hsegR hPmid1

end Kalign

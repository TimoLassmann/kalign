import KalignModel.Lemmas.KernelTab
/-!
# The three kernel families are one kernel over an operand view

`aln_seqseq.c`, `aln_seqprofile.c`, `aln_profileprofile.c` are the same dynamic programme; they differ only in how a cell reads its
operands: what it applies for opening / extending / terminally extending a gap beside row-side column `i` (`rO i`, `rE i`, `rT i`) or
column-side column `j` (`cO j`, `cE j`, `cT j`), and how it adds the score of aligning `i` with `j` (`sc i j`).  `View` names these seven
families of functions, `Operands.view` reads them off the model's operands, and `kForward_view`, `kBackward_view`, `kMeetup_view` say that
the model's dispatch on the operand kind is the one generic kernel on that view; `View.forward_eq_genTab`, `View.backward_eq_genTab` give
it as a table.
-/
namespace Kalign
section
variable {α : Type} [Score α]

/-- what the kernels read from a pair of operands, as the functions they apply to an accumulated value; `i`, `j` are profile columns
(residue `i - 1` of a sequence) -/
structure View (α : Type) where
  (rO rE rT cO cE cT : Nat → α → α)
  sc : Nat → Nat → α → α

/-- the `gb` cell beside row-side column `i`: `ssGb` / `profGb` -/
def View.gb (V : View α) (i : Nat) (term : Bool) : α → α → α := fun gb ca =>
  if term then V.rT i (smax gb ca) else smax (V.rE i gb) (V.rO i ca)

/-- the `ga` cell beside column-side column `j`: the first-row chain (`ssGaInit`, `spGaInit`, the `gaInit` of `ppForward` / `ppBackward`)
and, with `term = false`, every later `ga` cell -/
def View.ga (V : View α) (j : Nat) (term : Bool) : α → α → α := fun pga pa =>
  if term then V.cT j (smax pga pa) else smax (V.cE j pga) (V.cO j pa)

def View.rowF (V : View α) (r : Rect) (i : Nat) : RowOps α :=
  { gbFirst := V.gb (i + 1) (r.startb == 0)
    aCell := fun k pa pga pgb =>
      V.sc (i + 1) (r.startb + k) (smax3 pa (V.cO (r.startb + k - 1) pga) (V.rO i pgb))
    gaCell := fun k => V.ga (r.startb + k) false
    gbMid := V.gb (i + 1) false
    gbLast := V.gb (i + 1) (r.endb == r.lenB) }

def View.rowB (V : View α) (r : Rect) (i : Nat) : RowOps α :=
  { gbFirst := V.gb (i + 1) (r.endb == r.lenB)
    aCell := fun k pa pga pgb =>
      V.sc (i + 1) (r.endb - k + 1) (smax3 pa (V.cO (r.endb - k + 2) pga) (V.rO (i + 2) pgb))
    gaCell := fun k => V.ga (r.endb - k + 1) false
    gbMid := V.gb (i + 1) false
    gbLast := V.gb (i + 1) (r.startb == 0) }

def View.forward (V : View α) (r : Rect) (start : States α) : List (States α) :=
  runKernel (fun k => V.ga (r.startb + k) (r.startb == 0)) (r.endb - r.startb) start
    ((List.range' r.starta (r.enda - r.starta)).map (V.rowF r))

def View.backward (V : View α) (r : Rect) (start : States α) : List (States α) :=
  (runKernel (fun k => V.ga (r.endb - k + 1) (r.endb == r.lenB)) (r.endb - r.startb) start
    ((List.range' r.starta (r.enda - r.starta)).reverse.map (V.rowB r))).reverse

def View.meetOps (V : View α) (r : Rect) (mid : Nat) : MeetOps α :=
  { g2 := fun i => V.cO (i + 1)
    g3 := V.rO (mid + 1)
    g5 := fun i => V.cO i
    g6 := fun x => if r.startb == 0 then V.rT (mid + 1) x else V.rE (mid + 1) x
    g7 := V.rO mid
    g6e := fun x => if r.endb == r.lenB then V.rT (mid + 1) x else V.rE (mid + 1) x }

def ssView (ap : AlnParam α) (s1 s2 : Array Nat) : View α :=
  { rO := fun _ x => Score.sub x ap.gpo, rE := fun _ x => Score.sub x ap.gpe, rT := fun _ x => Score.sub x ap.tgpe
    cO := fun _ x => Score.sub x ap.gpo, cE := fun _ x => Score.sub x ap.gpe, cT := fun _ x => Score.sub x ap.tgpe
    sc := fun i j x => Score.add x (ap.sub (s1.getD (i - 1) 0) (s2.getD (j - 1) 0)) }

def spView (ap : AlnParam α) (p : Array α) (s2 : Array Nat) (sip : Nat) : View α :=
  { rO := fun i x => Score.add x (pget p i 27), rE := fun i x => Score.add x (pget p i 28)
    rT := fun i x => Score.add x (pget p i 29)
    cO := fun _ x => Score.sub x (Score.mul ap.gpo (Score.ofNat sip))
    cE := fun _ x => Score.sub x (Score.mul ap.gpe (Score.ofNat sip))
    cT := fun _ x => Score.sub x (Score.mul ap.tgpe (Score.ofNat sip))
    sc := fun i j x => Score.add x (pget p i (32 + s2.getD (j - 1) 0)) }

def ppView (p1 p2 : Array α) : View α :=
  { rO := fun i x => Score.add x (pget p1 i 27), rE := fun i x => Score.add x (pget p1 i 28)
    rT := fun i x => Score.add x (pget p1 i 29)
    cO := fun j x => Score.add x (pget p2 j 27), cE := fun j x => Score.add x (pget p2 j 28)
    cT := fun j x => Score.add x (pget p2 j 29)
    sc := fun i j => dotAdd p1 i p2 j (freqOf p1 i).reverse }

def Operands.view (ap : AlnParam α) : Operands α → View α
  | .seqseq s1 s2 => ssView ap s1 s2
  | .seqprof p s2 sip => spView ap p s2 sip
  | .profprof p1 p2 => ppView p1 p2

/-- each of the three kernels unfolds to the generic one: views are indexed by profile column, and `i + 1 - 1` reduces to `i` -/
theorem kForward_view (ap : AlnParam α) (ops : Operands α) (r : Rect) (start : States α) :
    kForward ap ops r start = (ops.view ap).forward r start := by
  cases ops <;> rfl

theorem kBackward_view (ap : AlnParam α) (ops : Operands α) (r : Rect) (start : States α) :
    kBackward ap ops r start = (ops.view ap).backward r start := by
  cases ops <;> rfl

theorem kMeetup_view (ap : AlnParam α) (ops : Operands α) (r : Rect) (mid : Nat) (fs bs : List (States α)) :
    kMeetup ap ops r mid fs bs = meetupRun ((ops.view ap).meetOps r mid) r.startb r.endb fs bs := by
  cases ops <;> rfl

theorem View.forward_eq_genTab (V : View α) (r : Rect) (hb : r.startb < r.endb) (start : States α) :
    V.forward r start =
      (List.range (r.endb - r.startb + 1)).map
        (genTab (fun k => V.ga (r.startb + k) (r.startb == 0)) (r.endb - r.startb) start
          (fun p => V.rowF r (r.starta + p)) (r.enda - r.starta)) :=
  runKernel_range' _ _ (by omega) start _ r.starta (r.enda - r.starta)

theorem View.backward_eq_genTab (V : View α) (r : Rect) (hb : r.startb < r.endb) (start : States α) :
    V.backward r start =
      ((List.range (r.endb - r.startb + 1)).map
        (genTab (fun k => V.ga (r.endb - k + 1) (r.endb == r.lenB)) (r.endb - r.startb) start
          (fun p => V.rowB r (r.starta + (r.enda - r.starta) - 1 - p)) (r.enda - r.starta))).reverse :=
  congrArg List.reverse (runKernel_range'_reverse _ _ (by omega) start _ r.starta (r.enda - r.starta))

end
end Kalign

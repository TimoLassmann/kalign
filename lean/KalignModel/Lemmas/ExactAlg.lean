import KalignModel.Model.Kernel
/-!
# Arithmetic of the exact score carrier `ExactScore = Option Int` (`none` = −∞)

The carrier stands for kalign's `float` scores (an integer counts 1/2000 of a score unit, `none` is `-FLT_MAX`).  The
order `ole` and the operations `omax`, `osub`, `oaddi`, `oplus` are what the kernel specifications are written in; the `ex_*`
lemmas rewrite the operations of the `Score ExactScore` instance (`Model/Kernel.lean`) into them.
-/
namespace Kalign

def ole : Option Int → Option Int → Prop
  | none, _ => True
  | some _, none => False
  | some x, some y => x ≤ y

def omax : Option Int → Option Int → Option Int
  | some x, some y => some (max x y)
  | some x, none => some x
  | none, b => b

def osub (a : Option Int) (g : Int) : Option Int := a.map (· - g)
def oaddi (a : Option Int) (g : Int) : Option Int := a.map (· + g)

@[simp] theorem ole_none (b : Option Int) : ole none b := by simp [ole]
@[simp] theorem ole_some_none (x : Int) : ole (some x) none ↔ False := by simp [ole]
@[simp] theorem ole_some_some (x y : Int) : ole (some x) (some y) ↔ x ≤ y := by simp [ole]
@[simp] theorem osub_none (g : Int) : osub none g = none := rfl
@[simp] theorem osub_some (x g : Int) : osub (some x) g = some (x - g) := rfl
@[simp] theorem oaddi_none (g : Int) : oaddi none g = none := rfl
@[simp] theorem oaddi_some (x g : Int) : oaddi (some x) g = some (x + g) := rfl
@[simp] theorem omax_none_left (b : Option Int) : omax none b = b := by cases b <;> rfl
@[simp] theorem omax_none_right (a : Option Int) : omax a none = a := by cases a <;> rfl
@[simp] theorem omax_some_some (x y : Int) : omax (some x) (some y) = some (max x y) := rfl

theorem ole_refl (a : Option Int) : ole a a := by cases a <;> simp
theorem ole_trans {a b c : Option Int} (h1 : ole a b) (h2 : ole b c) : ole a c := by
  cases a <;> cases b <;> cases c <;> simp_all <;> omega
theorem ole_antisymm {a b : Option Int} (h1 : ole a b) (h2 : ole b a) : a = b := by
  cases a <;> cases b <;> simp_all <;> omega
theorem ole_omax_left (a b : Option Int) : ole a (omax a b) := by
  cases a <;> cases b <;> simp <;> omega
theorem ole_omax_right (a b : Option Int) : ole b (omax a b) := by
  cases a <;> cases b <;> simp <;> omega
theorem omax_cases (a b : Option Int) : omax a b = a ∨ omax a b = b := by
  cases a <;> cases b <;> simp <;> omega
theorem omax_le {a b c : Option Int} (h1 : ole a c) (h2 : ole b c) : ole (omax a b) c := by
  rcases omax_cases a b with h | h <;> rw [h] <;> assumption
theorem osub_mono {a b : Option Int} (g : Int) (h : ole a b) : ole (osub a g) (osub b g) := by
  cases a <;> cases b <;> simp_all
theorem oaddi_mono {a b : Option Int} (g : Int) (h : ole a b) : ole (oaddi a g) (oaddi b g) := by
  cases a <;> cases b <;> simp_all
theorem osub_zero (a : Option Int) : osub a 0 = a := by cases a <;> simp
theorem ole_none_right {a : Option Int} (h : ole a none) : a = none := by cases a <;> simp_all

theorem ex_sub_some (a : ExactScore) (g : Int) : Score.sub a (some g : ExactScore) = osub a g := by
  cases a <;> rfl
theorem ex_add_some (a : ExactScore) (g : Int) : Score.add a (some g : ExactScore) = oaddi a g := by
  cases a <;> rfl
theorem ex_add (a b : ExactScore) : Score.add a b = (match a, b with | some x, some y => some (x + y) | _, _ => none) := rfl
theorem ex_negInf : (Score.negInf : ExactScore) = none := rfl
theorem ex_zero : (Score.zero : ExactScore) = some 0 := rfl
theorem ex_gt (a b : ExactScore) : Score.gt a b = true ↔ ¬ ole a b := by
  cases a <;> cases b <;> simp [Score.gt]
theorem ex_smax (a b : ExactScore) : smax a b = omax a b := by
  cases a with
  | none => cases b <;> simp [smax, Score.gt]
  | some x =>
    cases b with
    | none => simp [smax, Score.gt]
    | some y =>
      simp only [smax, Score.gt, omax_some_some, decide_eq_true_eq]
      split
      · congr 1; omega
      · congr 1; omega
theorem ex_smax3 (a b c : ExactScore) : smax3 a b c = omax (omax a b) c := by
  simp [smax3, ex_smax]

theorem ole_total (a b : Option Int) : ole a b ∨ ole b a := by
  cases a <;> cases b <;> simp <;> omega

/-- what `Score.add` is on the exact carrier (`ex_add_eq`) -/
def oplus : Option Int → Option Int → Option Int
  | some x, some y => some (x + y)
  | _, _ => none

@[simp] theorem oplus_some (x y : Int) : oplus (some x) (some y) = some (x + y) := rfl
@[simp] theorem oplus_none_left (b : Option Int) : oplus none b = none := rfl
@[simp] theorem oplus_none_right (a : Option Int) : oplus a none = none := by cases a <;> rfl
theorem ex_add_eq (a b : ExactScore) : Score.add a b = oplus a b := by cases a <;> cases b <;> rfl
theorem oplus_mono {a a' b b' : Option Int} (h1 : ole a a') (h2 : ole b b') : ole (oplus a b) (oplus a' b') := by
  cases a <;> cases a' <;> cases b <;> cases b' <;> simp_all <;> omega

theorem ole_some_left {x : Int} {y : Option Int} (h : ole (some x) y) : ∃ y', y = some y' ∧ x ≤ y' := by
  cases y with
  | none => simp at h
  | some y' => exact ⟨y', rfl, by simpa using h⟩

theorem osub_oplus_some {x y : Option Int} {j v : Int} (h : osub (oplus x y) j = some v) :
    ∃ a b, x = some a ∧ y = some b ∧ v = a + b - j := by
  cases x with
  | none => simp at h
  | some a =>
    cases y with
    | none => simp at h
    | some b =>
      simp only [oplus_some, osub_some, Option.some.injEq] at h
      exact ⟨a, b, rfl, rfl, h.symm⟩

end Kalign

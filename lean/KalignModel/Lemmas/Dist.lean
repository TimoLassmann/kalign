import KalignModel.Lemmas.BpmBlock
import KalignModel.Model.Dist
import KalignModel.Lemmas.Basic.ListWalk
/-!
# What `calc_distance` (sequence_distance.c) returns, and when it is 0

`bpm_block` (bpm.c) cuts the pattern to its first 1024 symbols and returns its smallest edit distance to a substring of the
text (`levSub`); `calc_distance` takes the longer sequence as text (`calcDistanceRaw_eq`).  Hence the distance is 0 iff the
first 1024 symbols of the shorter sequence occur in the longer one (`dist_zero_iff`, property C12).
-/
namespace Kalign

theorem lev_self {α : Type} [DecidableEq α] (a : List α) : lev a a = 0 := by
  induction a with
  | nil => simp [lev_nil_left]
  | cons x a ih => rw [lev_cons_cons, ih]; simp [cost]

theorem lev_eq_zero {α : Type} [DecidableEq α] (a b : List α) (h : lev a b = 0) : a = b := by
  induction a generalizing b with
  | nil =>
    rw [lev_nil_left] at h
    exact (List.eq_nil_of_length_eq_zero h).symm
  | cons x a ih =>
    cases b with
    | nil => rw [lev_nil_right] at h; simp at h
    | cons y b =>
      rw [lev_cons_cons] at h
      have h3 : lev a b + cost x y = 0 := by omega
      have hc : cost x y = 0 := by omega
      have hxy : x = y := by
        unfold cost at hc
        split at hc
        · assumption
        · omega
      rw [hxy, ih b (by omega)]

theorem levSub_eq_zero_iff {α : Type} [DecidableEq α] (p t : List α) : levSub p t = 0 ↔ p <:+: t := by
  have h := levSub_isMin p t
  constructor
  · intro h0
    obtain ⟨s, hs, he⟩ := h.2
    rw [h0] at he
    rw [lev_eq_zero p s he.symm]
    exact hs
  · intro hp
    have := h.1 p hp
    rw [lev_self] at this
    omega

theorem levSub_le_length {α : Type} [DecidableEq α] (p t : List α) : levSub p t ≤ p.length :=
  foldl_min_le_init _ _

/-- a distance of at most 1024 survives the conversion to `uint32_t` -/
theorem toNat_mod_u32 {k : Nat} (h : k ≤ 1024) : ((k : Int) % 4294967296).toNat = k := by omega

theorem bpmBlock_raw (t p : List Nat) (ht : ∀ c ∈ t, c < 13) :
    (bpmBlock t p).map (fun k => (k % 4294967296).toNat) = some (levSub (p.take 1024) t) := by
  rw [bpmBlock_eq_sellers t p ht, sellers_spec, Option.map_some,
    toNat_mod_u32 (Nat.le_trans (levSub_le_length _ _) (by rw [List.length_take]; exact Nat.min_le_left _ _))]

theorem calcDistanceRaw_eq (a b : List Nat) (ha : ∀ c ∈ a, c < 13) (hb : ∀ c ∈ b, c < 13) :
    calcDistanceRaw a b =
      some (if a.length > b.length then levSub (b.take 1024) a else levSub (a.take 1024) b) := by
  unfold calcDistanceRaw
  split
  · exact bpmBlock_raw a b ha
  · exact bpmBlock_raw b a hb

theorem dist_zero_iff (a b : List Nat) (ha : ∀ c ∈ a, c < 13) (hb : ∀ c ∈ b, c < 13) :
    calcDistanceRaw a b = some 0 ↔
      (if a.length > b.length then b.take 1024 <:+: a else a.take 1024 <:+: b) := by
  rw [calcDistanceRaw_eq a b ha hb]
  split <;> simp [levSub_eq_zero_iff]

theorem dist_zero_of_equal (s : List Nat) (hs : ∀ c ∈ s, c < 13) : calcDistanceRaw s s = some 0 := by
  rw [dist_zero_iff s s hs hs, if_neg (Nat.lt_irrefl _)]
  exact (List.take_prefix 1024 s).isInfix

theorem dist_pos_of_not_substring (a b : List Nat) (ha : ∀ c ∈ a, c < 13) (hb : ∀ c ∈ b, c < 13)
    (h1 : ¬ (b.take 1024 <:+: a)) (h2 : ¬ (a.take 1024 <:+: b)) :
    ∃ d, calcDistanceRaw a b = some d ∧ 1 ≤ d := by
  refine ⟨_, calcDistanceRaw_eq a b ha hb, Nat.pos_of_ne_zero fun h0 => ?_⟩
  have h := (dist_zero_iff a b ha hb).1 (by rw [calcDistanceRaw_eq a b ha hb, h0])
  split at h
  · exact h1 h
  · exact h2 h

theorem getD_of_getElem? {seqs : List (List Nat)} {i : Nat} {S : List Nat} (h : seqs[i]? = some S) : seqs.getD i [] = S := by
  rw [List.getD_eq_getElem?_getD, h]; rfl

theorem getD_ne_of_getElem? {seqs : List (List Nat)} {i : Nat} {S : List Nat} (hi : i < seqs.length) (h : seqs[i]? ≠ some S) :
    seqs.getD i [] ≠ S := by
  intro e
  apply h
  rw [List.getD_eq_getElem?_getD, List.getElem?_eq_getElem hi] at e
  rw [List.getElem?_eq_getElem hi]
  simpa using e

theorem getD_max_min_same {seqs : List (List Nat)} {S : List Nat} {x y : Nat} (ex : seqs.getD x [] = S)
    (ey : seqs.getD y [] = S) : seqs.getD (max x y) [] = S ∧ seqs.getD (min x y) [] = S := by
  rcases Nat.le_total x y with h | h
  · rw [Nat.max_eq_right h, Nat.min_eq_left h]; exact ⟨ey, ex⟩
  · rw [Nat.max_eq_left h, Nat.min_eq_right h]; exact ⟨ex, ey⟩

theorem getD_max_min_cross {seqs : List (List Nat)} {S : List Nat} (hsym : ∀ s ∈ seqs, ∀ c ∈ s, c < 13) (hS : S ∈ seqs)
    (hno : ∀ T ∈ seqs, T ≠ S → ¬ (T.take 1024 <:+: S) ∧ ¬ (S.take 1024 <:+: T)) {x z : Nat} (hz : z < seqs.length)
    (ex : seqs.getD x [] = S) (ez : seqs.getD z [] ≠ S) :
    (seqs.getD (max x z) [] = S ∧ seqs.getD (min x z) [] = seqs.getD z [] ∨
      seqs.getD (max x z) [] = seqs.getD z [] ∧ seqs.getD (min x z) [] = S) ∧
    ∃ d, calcDistanceRaw (seqs.getD (max x z) []) (seqs.getD (min x z) []) = some d ∧ 1 ≤ d := by
  have hTm : seqs.getD z [] ∈ seqs := by
    rw [List.getD_eq_getElem?_getD, List.getElem?_eq_getElem hz]
    exact List.getElem_mem _
  obtain ⟨n1, n2⟩ := hno _ hTm ez
  rcases Nat.le_total x z with h | h
  · rw [Nat.max_eq_right h, Nat.min_eq_left h, ex]
    exact ⟨Or.inr ⟨rfl, rfl⟩, dist_pos_of_not_substring _ _ (hsym _ hTm) (hsym S hS) n2 n1⟩
  · rw [Nat.max_eq_left h, Nat.min_eq_right h, ex]
    exact ⟨Or.inl ⟨rfl, rfl⟩, dist_pos_of_not_substring _ _ (hsym S hS) (hsym _ hTm) n1 n2⟩

end Kalign

import KalignModel.Model.Pipeline
import KalignModel.Lemmas.NoFaultUpgma
import KalignModel.Lemmas.NoFaultTasks
import KalignModel.Lemmas.Dist
import KalignModel.Lemmas.Basic.OptionMapM
/-!
# Building the guide tree (`build_tree_kmeans`) does not fault, given `UpgmaHyp`

* `convertN_lt`: every residue byte is mapped to a code inside its alphabet (tree alphabets 5 / 13, alignment alphabets 5 / 23),
  so `Peq[13]` of `bpm_block` and the 23×23 matrix are indexed in range.
* `buildTasks_cases`: `buildTasks` never returns `.fuel`, `.fault`, `.monitor`; if it returns a table, it is the sorted task table of
  a tree whose leaves are exactly `0 … n-1`; under `UpgmaHyp` it returns a table.
* `buildTasksWith`: `buildTasks` and `buildTasks2` (Model/TreeSoft.lean) as one function of the `< 100` builder, so that the matches on
  anchors, anchor matrix and `bisectO` are opened once for both (`buildTasksWith_eq`, `buildTasksWith_ok`).
-/
namespace Kalign.Pipeline
open Kalign Kalign.Kmeans Kalign.Sched

theorem alphaRow_codes : ∀ id ∈ [5, 13, 23],
    (∀ r ∈ alphaRow id, ∀ t ∈ r.toInternal, t = -1 ∨ 0 ≤ t ∧ t < (id : Int)) ∧
      (toInternal id 88 ≠ -1 ∨ toInternal id 78 ≠ -1) := by
  decide +kernel

theorem toInternal_cases (id c : Nat) (hid : id ∈ [5, 13, 23]) :
    toInternal id c = -1 ∨ 0 ≤ toInternal id c ∧ toInternal id c < (id : Int) := by
  unfold toInternal
  cases hr : alphaRow id with
  | none => exact Or.inl rfl
  | some r =>
    simp only [List.getD_eq_getElem?_getD]
    cases hc : r.toInternal[c]? with
    | none => exact Or.inl rfl
    | some t => exact (alphaRow_codes id hid).1 r hr t (List.mem_of_getElem? hc)

theorem alphaRow_len : ∀ id ∈ [5, 13, 23], (alphaRow id).map (·.toInternal.length) = some 128 := by
  decide +kernel

theorem toInternal_big (id c : Nat) (hid : id = 5 ∨ id = 13 ∨ id = 23) (hc : 128 ≤ c) : toInternal id c = -1 := by
  have hl := alphaRow_len id (by simp; omega)
  unfold toInternal
  cases hr : alphaRow id with
  | none => rfl
  | some r =>
    rw [hr] at hl
    simp only [Option.map_some, Option.some.injEq] at hl
    simp only
    rw [List.getD_eq_getElem?_getD, List.getElem?_eq_none (by omega)]
    rfl

theorem codeOf_range (id c : Nat) (hid : id = 5 ∨ id = 13 ∨ id = 23) : 0 ≤ codeOf id c ∧ codeOf id c < (id : Int) := by
  have hmem : id ∈ [5, 13, 23] := by simp; omega
  have hX := toInternal_cases id 88 hmem
  have hN := toInternal_cases id 78 hmem
  have hfb := (alphaRow_codes id hmem).2
  unfold codeOf
  simp only
  rcases toInternal_cases id c hmem with h | h
  · rw [if_pos h]
    split <;> omega
  · rw [if_neg (by omega)]
    exact h

theorem convertN_lt (id : Nat) (hid : id = 5 ∨ id = 13 ∨ id = 23) (s : List Nat) : ∀ c ∈ convertN id s, c < id := by
  intro c hc
  simp only [convertN, convert, List.map_map, List.mem_map, Function.comp_apply] at hc
  obtain ⟨b, _, rfl⟩ := hc
  obtain ⟨h0, h1⟩ := codeOf_range id b hid
  unfold toU8
  rcases hid with h | h | h <;> subst h <;> omega

theorem treeAlphabet_cases (b : Bio) : treeAlphabet b = 5 ∨ treeAlphabet b = 13 := by cases b <;> simp [treeAlphabet]
theorem alnAlphabet_cases (b : Bio) : alnAlphabet b = 5 ∨ alnAlphabet b = 23 := by cases b <;> simp [alnAlphabet]

theorem calcDistanceRaw_some (a b : List Nat) (ha : ∀ c ∈ a, c < 13) (hb : ∀ c ∈ b, c < 13) :
    ∃ k, calcDistanceRaw a b = some k :=
  ⟨_, calcDistanceRaw_eq a b ha hb⟩

theorem distEntry_some (a b : List Nat) (ha : ∀ c ∈ a, c < 13) (hb : ∀ c ∈ b, c < 13) : ∃ d, distEntry a b = some d := by
  obtain ⟨k, hk⟩ := calcDistanceRaw_some a b ha hb
  exact ⟨_, by rw [distEntry, calcDistance, hk]; rfl⟩

theorem getD_lt13 (seqs : List (List Nat)) (h : ∀ s ∈ seqs, ∀ c ∈ s, c < 13) (i : Nat) : ∀ c ∈ seqs.getD i [], c < 13 := by
  intro c hc
  rw [List.getD_eq_getElem?_getD] at hc
  cases hi : seqs[i]? with
  | none => rw [hi] at hc; cases hc
  | some s =>
    rw [hi] at hc
    exact h s (List.mem_of_getElem? hi) c hc

theorem _root_.Kalign.distMatrix_shape (seqs : List (List Nat)) (dm : List (List Float32)) (h : distMatrix seqs = some dm) :
    dm.length = seqs.length ∧ ∀ row ∈ dm, row.length = seqs.length := by
  unfold distMatrix at h
  obtain ⟨h1, h2⟩ := mapM_some_get h
  refine ⟨by simpa using h1, ?_⟩
  intro row hr
  obtain ⟨i, hi, rfl⟩ := List.getElem_of_mem hr
  simpa using (mapM_some_get (h2 i (by omega) hi)).1

theorem distMatrix_some (seqs : List (List Nat)) (h : ∀ s ∈ seqs, ∀ c ∈ s, c < 13) : ∃ dm, distMatrix seqs = some dm := by
  unfold distMatrix
  simp only
  obtain ⟨a, ha, _⟩ := mapM_option_spec
    (fun x => (List.range seqs.length).mapM fun y => distEntry (seqs.getD (max x y) []) (seqs.getD (min x y) []))
    (fun _ => True) (List.range seqs.length) (by
      intro x _
      obtain ⟨r, hr, _⟩ := mapM_option_spec
        (fun y => distEntry (seqs.getD (max x y) []) (seqs.getD (min x y) [])) (fun _ => True) (List.range seqs.length) (by
          intro y _
          obtain ⟨d, hd⟩ := distEntry_some _ _ (getD_lt13 seqs h (max x y)) (getD_lt13 seqs h (min x y))
          exact ⟨d, hd, trivial⟩)
      exact ⟨r, hr, trivial⟩)
  exact ⟨a, ha⟩

theorem arr_getD_lt13 (codes : Array (List Nat)) (h : ∀ s ∈ codes.toList, ∀ c ∈ s, c < 13) (i : Nat) :
    ∀ c ∈ codes.getD i [], c < 13 := by
  intro c hc
  have := getD_lt13 codes.toList h i c
  apply this
  simpa [Array.getD_eq_getD_getElem?, List.getD_eq_getElem?_getD] using hc

theorem anchorMatrix_some (codes : Array (List Nat)) (anchors : List Nat) (h : ∀ s ∈ codes.toList, ∀ c ∈ s, c < 13) :
    ∃ dm, anchorMatrix codes anchors = some dm ∧ RowsValid dm anchors.length (List.range codes.size) := by
  unfold anchorMatrix
  simp only
  obtain ⟨a, ha, hl, hP⟩ := mapM_option_spec
    (fun s => ((anchors.mapM fun a => distEntry s (codes.getD a [])).map fun r =>
      (r ++ List.replicate (numVarOf anchors.length - r.length) (0 : Float32)).toArray))
    (fun row => numVarOf anchors.length ≤ row.size) codes.toList (by
      intro s hs
      obtain ⟨r, hr, hrl, _⟩ := mapM_option_spec (fun a => distEntry s (codes.getD a [])) (fun _ => True) anchors (by
        intro x _
        obtain ⟨d, hd⟩ := distEntry_some s (codes.getD x []) (h s hs) (arr_getD_lt13 codes h x)
        exact ⟨d, hd, trivial⟩)
      refine ⟨_, by rw [hr]; rfl, ?_⟩
      simp; omega)
  refine ⟨a.toArray, by rw [ha]; rfl, ?_⟩
  intro s hs
  have hs' : s < a.length := by rw [hl]; simpa using hs
  exact ⟨a[s], by simp [hs'], hP _ (List.getElem_mem hs')⟩

theorem GTree.leaves_toTree (t : GTree) : (GTree.toTree t).leaves = t.leaves := by
  induction t with
  | leaf i => rfl
  | node l r ihl ihr => simp [GTree.toTree, Tree.leaves, GTree.leaves, ihl, ihr]

/-- **hypothesis about binary32 values in `upgma`**: in every matrix the joining rounds reach (starting from the
bit-parallel distances of the samples), the entries of the active pairs are below `FLT_MAX` -/
def UpgmaHyp (codes : Array (List Nat)) : Prop :=
  ∀ (samples : List Nat) (dm0 : List (List Float32)),
    distMatrix (samples.map fun s => codes.getD s []) = some dm0 →
    ∀ j s, j + 1 < samples.length → iterOpt (upgmaRound samples.length) j (upgmaInit dm0 samples) = some s →
      AllBelow samples.length s

theorem smallTree_eq_some {codes : Array (List Nat)} {samples : List Nat} {t : Tree} (h : smallTree codes samples = some t) :
    ∃ dm g, distMatrix (samples.map fun s => codes.getD s []) = some dm ∧ upgma dm samples = some g ∧ t = GTree.toTree g := by
  unfold smallTree at h
  cases hd : distMatrix (samples.map fun s => codes.getD s []) with
  | none => rw [hd] at h; cases h
  | some dm =>
    rw [hd, Option.bind_some] at h
    cases hu : upgma dm samples with
    | none => rw [hu] at h; cases h
    | some g =>
      rw [hu] at h
      cases h
      exact ⟨dm, g, rfl, hu, rfl⟩

theorem smallTree_leaves_perm (codes : Array (List Nat)) (samples : List Nat) (t : Tree)
    (h : smallTree codes samples = some t) : t.leaves.Perm samples := by
  obtain ⟨dm, g, _, hu, rfl⟩ := smallTree_eq_some h
  rw [GTree.leaves_toTree]
  exact upgma_leaves_perm hu

theorem smallTree_leaves (codes : Array (List Nat)) (samples : List Nat) (t : Tree)
    (h : smallTree codes samples = some t) : ∀ x, x ∈ t.leaves ↔ x ∈ samples :=
  fun _ => (smallTree_leaves_perm codes samples t h).mem_iff

theorem smallTree_some (codes : Array (List Nat)) (h13 : ∀ s ∈ codes.toList, ∀ c ∈ s, c < 13) (hU : UpgmaHyp codes)
    (samples : List Nat) (hne : samples ≠ []) : ∃ t, smallTree codes samples = some t := by
  have hn : samples.length ≠ 0 := fun h => hne (List.length_eq_zero_iff.1 h)
  obtain ⟨dm, hdm⟩ := distMatrix_some (samples.map fun s => codes.getD s []) (by
    intro s hs
    simp only [List.mem_map] at hs
    obtain ⟨i, _, rfl⟩ := hs
    exact arr_getD_lt13 codes h13 i)
  obtain ⟨g, hg, _⟩ := upgma_some dm samples hn (hU samples dm hdm)
  exact ⟨GTree.toTree g, by unfold smallTree; rw [hdm]; simp [hg]⟩

theorem bisectO_spec (avx : Bool) (dm : Array (Array Float32)) (na : Nat) (small : List Nat → Option Tree)
    (hsmall : ∀ l t, small l = some t → ∀ x, x ∈ t.leaves ↔ x ∈ l) (fuel : Nat) (samples : List Nat)
    (hne : samples ≠ []) (hf : samples.length ≤ fuel) :
    bisectO avx dm na small fuel samples ≠ .error .fuel ∧
    (∀ t, bisectO avx dm na small fuel samples = .ok t → ∀ x, x ∈ t.leaves ↔ x ∈ samples) ∧
    (RowsValid dm na samples → (∀ l, l ≠ [] → l.Sublist samples → ∃ t, small l = some t) →
      ∃ t, bisectO avx dm na small fuel samples = .ok t) := by
  fun_induction bisectO avx dm na small fuel samples with
  | case1 fuel samples hs t hsm =>
    exact ⟨nofun, fun t' ht' => by cases ht'; exact hsmall samples t hsm, fun _ _ => ⟨t, rfl⟩⟩
  | case2 fuel samples hs hsm =>
    refine ⟨nofun, nofun, fun _ hall => ?_⟩
    obtain ⟨t, ht⟩ := hall samples hne (List.Sublist.refl _)
    rw [hsm] at ht; cases ht
  | case3 samples hs => exact absurd (List.length_eq_zero_iff.1 (Nat.le_zero.1 hf)) hne
  | case4 samples hs fuel hb =>
    refine ⟨nofun, nofun, fun hv _ => ?_⟩
    obtain ⟨b, hb'⟩ := bestSplit_isSome (avx := avx) hv (Nat.le_of_not_lt hs)
    rw [hb] at hb'; cases hb'
  | case5 samples hs fuel b hb l r hR hL ihl ihr =>
    obtain ⟨hlne, hrne, hl, hr⟩ := bestSplit_parts hb hs
    refine ⟨nofun, fun t ht x => ?_, fun _ _ => ⟨_, rfl⟩⟩
    cases ht
    simp only [Tree.leaves, List.mem_append]
    rw [(ihl hlne (by omega)).2.1 l hL x, (ihr hrne (by omega)).2.1 r hR x, ← List.mem_append,
      (bestSplit_good hb).perm.mem_iff]
  | case6 samples hs fuel b hb e hL ihl ihr =>
    obtain ⟨hlne, -, hl, -⟩ := bestSplit_parts hb hs
    obtain ⟨i1, -, i3⟩ := ihl hlne (by omega)
    rw [hL] at i1 i3
    have hg := bestSplit_good hb
    refine ⟨i1, nofun, fun hv hall => ?_⟩
    obtain ⟨t, ht⟩ := i3 (hv.of_sublist hg.subl) (fun l h1 h2 => hall l h1 (h2.trans hg.subl))
    cases ht
  | case7 samples hs fuel b hb e hR _ ihl ihr =>
    obtain ⟨-, hrne, -, hr⟩ := bestSplit_parts hb hs
    obtain ⟨i1, -, i3⟩ := ihr hrne (by omega)
    rw [hR] at i1 i3
    have hg := bestSplit_good hb
    refine ⟨i1, nofun, fun hv hall => ?_⟩
    obtain ⟨t, ht⟩ := i3 (hv.of_sublist hg.subr) (fun l h1 h2 => hall l h1 (h2.trans hg.subr))
    cases ht

/-- `buildTasks` / `buildTasks2` with the `< 100` builder as a parameter -/
def buildTasksWith (small : List Nat → Option Tree) (avx : Bool) (codes : Array (List Nat)) :
    Except PipeErr (Array (Nat × Nat × Nat)) :=
  match pickAnchors (codes.toList.map List.length) with
  | none => .error .tree
  | some anchors =>
    match anchorMatrix codes anchors with
    | none => .error .tree
    | some dm =>
      match bisectO avx dm anchors.length small codes.size (List.range codes.size) with
      | .error .fault => .error .tree
      | .error .fuel => .error .fuel
      | .ok t => .ok (Kmeans.sortTasks (treeTasks t codes.size)).toArray

theorem buildTasks_eq_with (avx : Bool) (codes : Array (List Nat)) :
    buildTasks avx codes = buildTasksWith (smallTree codes) avx codes := rfl

/-- on code lists below 13 the anchors and the anchor matrix exist: what is left of `buildTasksWith` is the match on `bisectO` -/
theorem buildTasksWith_eq (small : List Nat → Option Tree) (avx : Bool) (codes : Array (List Nat)) (hn : codes.size ≠ 0)
    (h13 : ∀ s ∈ codes.toList, ∀ c ∈ s, c < 13) :
    ∃ (anchors : List Nat) (dm : Array (Array Float32)), RowsValid dm anchors.length (List.range codes.size) ∧
      buildTasksWith small avx codes =
        match bisectO avx dm anchors.length small codes.size (List.range codes.size) with
        | .error .fault => .error .tree
        | .error .fuel => .error .fuel
        | .ok t => .ok (Kmeans.sortTasks (treeTasks t codes.size)).toArray := by
  have hlne : codes.toList.map List.length ≠ [] := by simpa using hn
  obtain ⟨anchors, ha, _, _⟩ := pickAnchors_spec (codes.toList.map List.length) hlne
  obtain ⟨dm, hdm, hrows⟩ := anchorMatrix_some codes anchors h13
  exact ⟨anchors, dm, hrows, by simp only [buildTasksWith, ha, hdm]⟩

theorem buildTasksWith_ok {small : List Nat → Option Tree} {avx : Bool} {codes : Array (List Nat)}
    {tasks : Array (Nat × Nat × Nat)} (h : buildTasksWith small avx codes = .ok tasks) :
    ∃ anchors dm t, pickAnchors (codes.toList.map List.length) = some anchors ∧ anchorMatrix codes anchors = some dm ∧
      bisectO avx dm anchors.length small codes.size (List.range codes.size) = .ok t ∧
      tasks = (Kmeans.sortTasks (treeTasks t codes.size)).toArray := by
  unfold buildTasksWith at h
  split at h
  · cases h
  · rename_i anchors ha
    split at h
    · cases h
    · rename_i dm hd
      split at h
      · cases h
      · cases h
      · rename_i t ht
        cases h
        exact ⟨anchors, dm, t, ha, hd, ht, rfl⟩

theorem buildTasks_cases (avx : Bool) (codes : Array (List Nat)) (hn : codes.size ≠ 0)
    (h13 : ∀ s ∈ codes.toList, ∀ c ∈ s, c < 13) :
    (∃ T : Tree, buildTasks avx codes = .ok (Kmeans.sortTasks (treeTasks T codes.size)).toArray ∧
      ∀ x, x ∈ T.leaves ↔ x < codes.size) ∨
    (buildTasks avx codes = .error .tree ∧ ¬ UpgmaHyp codes) := by
  obtain ⟨anchors, dm, hrows, e⟩ := buildTasksWith_eq (smallTree codes) avx codes hn h13
  rw [buildTasks_eq_with, e]
  have hrne : List.range codes.size ≠ [] := by rwa [Ne, List.range_eq_nil]
  obtain ⟨s1, s2, s3⟩ := bisectO_spec avx dm anchors.length (smallTree codes) (smallTree_leaves codes) codes.size
    (List.range codes.size) hrne (by simp)
  cases hb : bisectO avx dm anchors.length (smallTree codes) codes.size (List.range codes.size) with
  | ok t =>
    left
    refine ⟨t, rfl, ?_⟩
    intro x
    rw [s2 t hb x, List.mem_range]
  | error e =>
    right
    cases e with
    | fuel => exact absurd hb s1
    | fault =>
      refine ⟨rfl, ?_⟩
      intro hU
      obtain ⟨t, ht⟩ := s3 hrows (fun l hl _ => smallTree_some codes h13 hU l hl)
      rw [hb] at ht; cases ht

end Kalign.Pipeline

import KalignModel.Lemmas.SoftLenTerm
import KalignModel.Lemmas.C12SoftUpgma
import KalignModel.Lemmas.Dist
import KalignModel.Lemmas.Basic.OptionMapM
/-!
# Entries of the binary32 distance matrix: copies against copies, copies against the rest (C12)

An entry of `distMatrixS` is `(float)rawdist + lenterm`, computed in `SoftF32`.

* `entry_cross`: raw distance ≥ 1 ⟹ the entry is at least `(2²⁰ + lenLo m)·2⁻²⁰` with `m = min 10000 ((la + lb) / 2)`
  (`(float)d ≥ 1.0` by monotonicity of `roundNatU`; the sum of two lower bounds on the grid is a lower bound of the rounded sum).
* `upgmaS_dist_clade` has no length restriction: in units of 2⁻²⁰ the copies are at mutual distance `≤ ⌊m·2²⁰/10000⌋ + 2`
  (`m = min 10000 |S|`), everything else is at distance `≥ 2²⁰ + ⌊m'·2²⁰/10000⌋ − 1` with `m' = min 10000 (|S|/2)`, and the difference is at least `524 000 > 99·1049`.
-/
set_option exponentiation.threshold 512
namespace Kalign
open SoftF32

theorem ofNat_zero_AbsV : AbsV (SoftF32.ofNat 0) 0 := by unfold AbsV; decide

theorem pow149 : (1048576 : Nat) * 2 ^ 129 = 2 ^ 149 := by decide

theorem one_le_ofNat {d : Nat} (h1 : 1 ≤ d) (h : d < 4294967296) :
    (SoftF32.ofNat d).isFinite = true ∧ ((2 ^ 149 : Nat) : Int) ≤ toInt (SoftF32.ofNat d) := by
  refine ⟨(ofNat_absLe_u32 h).finite, ?_⟩
  obtain ⟨g, hg⟩ := roundNatU_spec d 149
  have := lower_of_rne Nat.one_pos (rneAtD_one.2 hg) (c := 1) (t := 149) (by decide) (by decide)
    (by rw [Nat.one_mul, Nat.mul_one]; exact Nat.le_mul_of_pos_left _ h1)
  rw [toInt_of_pos (sign_ofNat d)]
  unfold SoftF32.ofNat
  rw [mag_pack _ _ (roundNat_lt _ _)]
  rw [Nat.one_mul] at this
  exact Int.ofNat_le.2 this

theorem entry_same {S : List Nat} {d : SoftF32} (h0 : calcDistanceRaw S S = some 0) (h : distEntryS S S = some d) :
    AbsV d (lenHi (min 10000 S.length) * 2 ^ 129) := by
  cases (distEntryS_of_raw h0).symm.trans h
  rw [lenTermS_eq, show (S.length + S.length) / 2 = S.length by omega]
  obtain ⟨_, h2, _, h4⟩ := lenQ_spec (j := min 10000 S.length) (by omega)
  have hq : AbsV (lenQ (min 10000 S.length)) (lenHi (min 10000 S.length) * 2 ^ 129) := ⟨h2, h4⟩
  exact add_AbsV ofNat_zero_AbsV hq (by omega) (by unfold lenHi; omega) (by decide)

theorem entry_cross {a b : List Nat} {d0 : Nat} {d : SoftF32} (h0 : calcDistanceRaw a b = some d0) (h1 : 1 ≤ d0)
    (h : distEntryS a b = some d) :
    (((1048576 + lenLo (min 10000 ((a.length + b.length) / 2))) * 2 ^ 129 : Nat) : Int) ≤ toInt d := by
  have hlt := calcDistanceRaw_lt h0
  cases (distEntryS_of_raw h0).symm.trans h
  rw [lenTermS_eq]
  have hm : min 10000 ((a.length + b.length) / 2) ≤ 10000 := by omega
  generalize min 10000 ((a.length + b.length) / 2) = m at *
  obtain ⟨q1, q2, q3, _⟩ := lenQ_spec hm
  obtain ⟨f1, f2⟩ := one_le_ofNat h1 hlt
  apply add_ge f1 ((isFinite_iff _).2 q2) (by unfold lenLo; omega) (by decide)
  rw [toInt_of_pos q1, Nat.add_mul, pow149]
  omega

theorem distMatrixS_get (seqs : List (List Nat)) (dm : List (List SoftF32)) (h : distMatrixS seqs = some dm) (i j : Nat)
    (hi : i < seqs.length) (hj : j < seqs.length) :
    ∃ d, distEntryS (seqs.getD (max i j) []) (seqs.getD (min i j) []) = some d ∧
      FMatS.get ((dm.map List.toArray).toArray) i j = d := by
  unfold distMatrixS at h
  simp only at h
  obtain ⟨hl, hg⟩ := mapM_some_get h
  rw [List.length_range] at hl
  have hrow := hg i (by simpa using hi) (by omega)
  rw [List.getElem_range] at hrow
  obtain ⟨hl', hg'⟩ := mapM_some_get hrow
  rw [List.length_range] at hl'
  have hent := hg' j (by simpa using hj) (by omega)
  rw [List.getElem_range] at hent
  refine ⟨_, hent, ?_⟩
  unfold FMatS.get
  simp [Array.getD_eq_getD_getElem?, hl, hl', hi, hj]

theorem lenLo_mono {j j' : Nat} (h : j ≤ j') : lenLo j ≤ lenLo j' := by unfold lenLo; omega

theorem distMatrixS_same (seqs : List (List Nat)) (S : List Nat) (dm : List (List SoftF32)) (hdm : distMatrixS seqs = some dm)
    (i j : Nat) (hi : i < seqs.length) (hj : j < seqs.length) (ei : seqs.getD i [] = S) (ej : seqs.getD j [] = S) :
    ∃ d, distEntryS S S = some d ∧ FMatS.get ((dm.map List.toArray).toArray) i j = d := by
  obtain ⟨d, hd, hg⟩ := distMatrixS_get seqs dm hdm i j hi hj
  obtain ⟨e1, e2⟩ := getD_max_min_same ei ej
  rw [e1, e2] at hd
  exact ⟨d, hd, hg⟩

theorem distMatrixS_cross (seqs : List (List Nat)) (S : List Nat) (hsym : ∀ s ∈ seqs, ∀ c ∈ s, c < 13) (hS : S ∈ seqs)
    (hno : ∀ T ∈ seqs, T ≠ S → ¬ (T.take 1024 <:+: S) ∧ ¬ (S.take 1024 <:+: T))
    (dm : List (List SoftF32)) (hdm : distMatrixS seqs = some dm)
    (i z : Nat) (hi : i < seqs.length) (hz : z < seqs.length) (ei : seqs.getD i [] = S) (ez : seqs.getD z [] ≠ S) :
    ∃ a b d0 d, (a = S ∧ b = seqs.getD z [] ∨ a = seqs.getD z [] ∧ b = S) ∧ calcDistanceRaw a b = some d0 ∧ 1 ≤ d0 ∧
      distEntryS a b = some d ∧ FMatS.get ((dm.map List.toArray).toArray) i z = d ∧
      FMatS.get ((dm.map List.toArray).toArray) z i = d := by
  obtain ⟨d, hd, hg⟩ := distMatrixS_get seqs dm hdm i z hi hz
  obtain ⟨d', hd', hg'⟩ := distMatrixS_get seqs dm hdm z i hz hi
  rw [Nat.max_comm z i, Nat.min_comm z i, hd] at hd'
  cases hd'
  obtain ⟨hor, d0, h0, h1⟩ := getD_max_min_cross hsym hS hno hz ei ez
  exact ⟨_, _, d0, d, hor, h0, h1, hd, hg, hg'⟩

theorem distMatrixS_same_grid (seqs : List (List Nat)) (S : List Nat) (hsym : ∀ s ∈ seqs, ∀ c ∈ s, c < 13) (hS : S ∈ seqs)
    (dm : List (List SoftF32)) (hdm : distMatrixS seqs = some dm)
    (i j : Nat) (hi : i < seqs.length) (hj : j < seqs.length) (ei : seqs.getD i [] = S) (ej : seqs.getD j [] = S) :
    AbsV (FMatS.get ((dm.map List.toArray).toArray) i j) (lenHi (min 10000 S.length) * 2 ^ 129) := by
  obtain ⟨d, hd, hg⟩ := distMatrixS_same seqs S dm hdm i j hi hj ei ej
  rw [hg]
  exact entry_same (dist_zero_of_equal S (hsym S hS)) hd

theorem distMatrixS_cross_grid (seqs : List (List Nat)) (S : List Nat) (hsym : ∀ s ∈ seqs, ∀ c ∈ s, c < 13) (hS : S ∈ seqs)
    (hno : ∀ T ∈ seqs, T ≠ S → ¬ (T.take 1024 <:+: S) ∧ ¬ (S.take 1024 <:+: T))
    (dm : List (List SoftF32)) (hdm : distMatrixS seqs = some dm)
    (i z : Nat) (hi : i < seqs.length) (hz : z < seqs.length) (ei : seqs.getD i [] = S) (ez : seqs.getD z [] ≠ S) :
    (((1048576 + lenLo (min 10000 (S.length / 2))) * 2 ^ 129 : Nat) : Int) ≤ toInt (FMatS.get ((dm.map List.toArray).toArray) i z) ∧
    (((1048576 + lenLo (min 10000 (S.length / 2))) * 2 ^ 129 : Nat) : Int) ≤ toInt (FMatS.get ((dm.map List.toArray).toArray) z i) := by
  obtain ⟨a, b, d0, d, hab, h0, h1, hd, hg, hg'⟩ := distMatrixS_cross seqs S hsym hS hno dm hdm i z hi hz ei ez
  rw [hg, hg']
  have h2 := entry_cross h0 h1 hd
  have hmono : lenLo (min 10000 (S.length / 2)) ≤ lenLo (min 10000 ((a.length + b.length) / 2)) := by
    apply lenLo_mono
    rcases hab with ⟨rfl, rfl⟩ | ⟨rfl, rfl⟩ <;> omega
  have : (1048576 + lenLo (min 10000 (S.length / 2))) * 2 ^ 129 ≤
      (1048576 + lenLo (min 10000 ((a.length + b.length) / 2))) * 2 ^ 129 := Nat.mul_le_mul_right _ (by omega)
  have := Int.le_trans (Int.ofNat_le.2 this) h2
  exact ⟨this, this⟩

/-- **copies of `S` form a clade of the binary32 UPGMA tree over the binary32 distance matrix.**  `samples` are the labels of the
positions, `c` marks the labels whose sequence is `S`. -/
theorem upgmaS_dist_clade (seqs : List (List Nat)) (samples : List Nat) (hlen : samples.length = seqs.length)
    (S : List Nat) (hn : seqs.length < 100) (hsym : ∀ s ∈ seqs, ∀ c ∈ s, c < 13) (c : Nat → Bool)
    (hc : ∀ i (hi : i < samples.length), c samples[i] = true ↔ seqs.getD i [] = S)
    (hS : S ∈ seqs)
    (hno : ∀ T ∈ seqs, T ≠ S → ¬ (T.take 1024 <:+: S) ∧ ¬ (S.take 1024 <:+: T)) :
    ∃ dm T, distMatrixS seqs = some dm ∧ upgmaS dm samples = some T ∧
      ∃ u ∈ T.subtrees, ∀ x, x ∈ u.leaves ↔ (x ∈ samples ∧ c x = true) := by
  obtain ⟨dm, hdm, hb⟩ := distMatrixS_some seqs hsym
  have hbnd : MatBnd (upgBnd 0) (upgmaInitS dm samples).dm := matBnd_of_rows _ dm hb
  have key := upgmaS_clade dm samples c (lenHi (min 10000 S.length)) (1048576 + lenLo (min 10000 (S.length / 2)))
    (by unfold lenLo; omega) (by have := len_gap S.length; omega)
    (by
      obtain ⟨i, hi, he⟩ := List.getElem_of_mem hS
      have hi' : i < samples.length := by omega
      refine ⟨samples[i], List.getElem_mem hi', (hc i hi').2 ?_⟩
      rw [List.getD_eq_getElem?_getD, List.getElem?_eq_getElem hi]; exact he)
    hbnd
    (by
      intro i j hi hj _ hci hcj
      exact distMatrixS_same_grid seqs S hsym hS dm hdm i j (by omega) (by omega) ((hc i hi).1 hci) ((hc j hj).1 hcj))
    (by
      intro i z hi hz hci hcz
      have ez : seqs.getD z [] ≠ S := by
        intro h
        have := (hc z hz).2 h
        rw [hcz] at this; cases this
      exact distMatrixS_cross_grid seqs S hsym hS hno dm hdm i z (by omega) (by omega) ((hc i hi).1 hci) ez)
  obtain ⟨T, hT, u, hu, hlu⟩ := key
  exact ⟨dm, T, hdm, hT, u, hu, hlu⟩

end Kalign

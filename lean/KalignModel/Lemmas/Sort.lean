/-!
# Sorting lemmas: `List.mergeSort` with a comparator that is only total *between the
elements of the list* (the C comparators never return 0, so `le a a = false` for all of them but
`sort_by_rank`).  Main result: `mergeSort_unique`.
-/
namespace Kalign
open List

variable {α : Type}

/-- `pairwise_merge` of core with transitivity and totality restricted to a set `S` of elements -/
theorem pairwise_merge_on {le : α → α → Bool} (S : α → Prop)
    (trans : ∀ a b c, S a → S b → S c → le a b → le b c → le a c)
    (l₁ l₂ : List α) (hS₁ : ∀ a ∈ l₁, S a) (hS₂ : ∀ a ∈ l₂, S a)
    (tot : ∀ a ∈ l₁, ∀ b ∈ l₂, le a b || le b a)
    (h₁ : l₁.Pairwise (le · ·)) (h₂ : l₂.Pairwise (le · ·)) : (merge l₁ l₂ le).Pairwise (le · ·) := by
  induction l₁ generalizing l₂ with
  | nil => simpa only [merge]
  | cons x l₁ ih₁ =>
    induction l₂ with
    | nil => simpa only [merge]
    | cons y l₂ ih₂ =>
      simp only [merge]
      split <;> rename_i h
      · apply Pairwise.cons
        · intro z m
          rw [mem_merge, mem_cons] at m
          rcases m with (m|rfl|m)
          · exact rel_of_pairwise_cons h₁ m
          · exact h
          · exact trans _ _ _ (hS₁ _ mem_cons_self) (hS₂ _ mem_cons_self) (hS₂ _ (mem_cons_of_mem _ m)) h
              (rel_of_pairwise_cons h₂ m)
        · exact ih₁ _ (fun a ha => hS₁ a (mem_cons_of_mem _ ha)) hS₂
            (fun a ha b hb => tot a (mem_cons_of_mem _ ha) b hb) h₁.tail h₂
      · apply Pairwise.cons
        · intro z m
          rw [mem_merge, mem_cons] at m
          simp only [Bool.not_eq_true] at h
          have hyx : le y x = true := by simpa [h] using tot x mem_cons_self y mem_cons_self
          rcases m with (⟨rfl|m⟩|m)
          · exact hyx
          · exact trans _ _ _ (hS₂ _ mem_cons_self) (hS₁ _ mem_cons_self) (hS₁ _ (mem_cons_of_mem _ m)) hyx
              (rel_of_pairwise_cons h₁ m)
          · exact rel_of_pairwise_cons h₂ m
        · exact ih₂ (fun a ha => hS₂ a (mem_cons_of_mem _ ha))
            (fun a ha b hb => tot a ha b (mem_cons_of_mem _ hb)) h₂.tail

theorem pairwise_mergeSort_on {le : α → α → Bool} (S : α → Prop)
    (trans : ∀ a b c, S a → S b → S c → le a b → le b c → le a c) (l : List α)
    (hS : ∀ a ∈ l, S a) (tot : l.Pairwise (fun a b => le a b || le b a)) :
    (mergeSort l le).Pairwise (le · ·) := by
  obtain ⟨k, hk⟩ : ∃ k, l.length ≤ k := ⟨_, Nat.le_refl _⟩
  induction k generalizing l with
  | zero => rw [length_eq_zero_iff.1 (Nat.le_zero.1 hk)]; simp
  | succ k ih =>
    match l, hS, tot, hk with
    | [], _, _, _ => simp
    | [a], _, _, _ => simp
    | a :: b :: xs, hS, tot, hk =>
      simp only [mergeSort, MergeSort.Internal.splitInTwo_fst, MergeSort.Internal.splitInTwo_snd]
      generalize hn : ((a :: b :: xs).length + 1) / 2 = n
      have hmem₁ : ∀ x ∈ (a :: b :: xs).take n, x ∈ a :: b :: xs := fun x hx => mem_of_mem_take hx
      have hmem₂ : ∀ x ∈ (a :: b :: xs).drop n, x ∈ a :: b :: xs := fun x hx => mem_of_mem_drop hx
      rw [← take_append_drop n (a :: b :: xs), pairwise_append] at tot
      obtain ⟨t₁, t₂, t₁₂⟩ := tot
      have h1 : ((a :: b :: xs).take n).length ≤ k := by
        simp only [length_take, length_cons] at hn hk ⊢; omega
      have h2 : ((a :: b :: xs).drop n).length ≤ k := by
        simp only [length_drop, length_cons] at hn hk ⊢; omega
      apply pairwise_merge_on S trans
      · intro x hx; exact hS x (hmem₁ x (mem_mergeSort.mp hx))
      · intro x hx; exact hS x (hmem₂ x (mem_mergeSort.mp hx))
      · intro x hx y hy; exact t₁₂ x (mem_mergeSort.mp hx) y (mem_mergeSort.mp hy)
      · exact ih _ (fun x hx => hS x (hmem₁ x hx)) t₁ h1
      · exact ih _ (fun x hx => hS x (hmem₂ x hx)) t₂ h2

/-- Every `le`-sorted permutation of `l` is `mergeSort l le`.  This is what lets the model's `mergeSort` stand for glibc's
`qsort` on pairwise distinct keys: whatever a correct sorting routine does, it returns a sorted permutation. -/
theorem mergeSort_unique {le : α → α → Bool} (S : α → Prop)
    (trans : ∀ a b c, S a → S b → S c → le a b → le b c → le a c)
    (antisymm : ∀ a b, S a → S b → le a b → le b a → a = b)
    {l t : List α} (hp : l.Perm t) (hS : ∀ a ∈ l, S a)
    (tot : l.Pairwise (fun a b => le a b || le b a)) (ht : t.Pairwise (le · ·)) : mergeSort l le = t :=
  Perm.eq_of_pairwise
    (fun a b ha hb hab hba => antisymm a b (hS a (mem_mergeSort.mp ha)) (hS b (hp.mem_iff.mpr hb)) hab hba)
    (pairwise_mergeSort_on S trans l hS tot) ht ((mergeSort_perm l le).trans hp)

theorem mergeSort_eq_of_perm {le : α → α → Bool} (S : α → Prop)
    (trans : ∀ a b c, S a → S b → S c → le a b → le b c → le a c)
    (antisymm : ∀ a b, S a → S b → le a b → le b a → a = b)
    {l₁ l₂ : List α} (hp : l₁.Perm l₂) (hS : ∀ a ∈ l₁, S a)
    (tot : l₁.Pairwise (fun a b => le a b || le b a)) :
    mergeSort l₁ le = mergeSort l₂ le :=
  mergeSort_unique S trans antisymm (hp.trans (mergeSort_perm l₂ le).symm) hS tot
    (pairwise_mergeSort_on S trans l₂ (fun a ha => hS a (hp.mem_iff.mpr ha))
      (tot.perm hp (by intro x y h; simpa [Bool.or_comm] using h)))

theorem mergeSort_pair {α : Type} (le : α → α → Bool) (a b : α) :
    mergeSort [a, b] le = if le a b then [a, b] else [b, a] := by
  by_cases h : le a b <;> simp [mergeSort, MergeSort.Internal.splitInTwo, h]

end Kalign

import KalignModel.Model.Canon
import KalignModel.Lemmas.Sort
import KalignModel.Lemmas.Basic.ListWalk
import KalignModel.Lemmas.Strncmp
/-! # Lemmas on the canonical order (`msa_sort_len_name`, `kalign_essential_input_check`, `msa_sort_rank`) and on the frame
of `kalign_run` around it: what `canon` returns, and that sorting back by rank is invisible to a look-up of rows by name -/
namespace Kalign
open List

theorem cmpLenName_le_iff (la : Nat) (na : Name) (lb : Nat) (nb : Name) :
    cmpLenName la na lb nb ≤ 0 ↔ la > lb ∨ (la = lb ∧ strcmp na nb < 0) := by
  unfold cmpLenName
  by_cases h1 : la > lb
  · simp [h1]
  · by_cases h2 : la = lb
    · by_cases h3 : strcmp na nb < 0
      · simp [h2, h3]
      · simp [h2, h3]
    · simp [h1, h2]

/-- the sort key of `msa_sort_len_name` -/
def lenNameKey (len : Nat) (name : Name) : Nat × Name := (len, name)

variable {α : Type}

theorem sortLenNameBy_perm (len : α → Nat) (name : α → Name) {l₁ l₂ : List α} (hp : l₁.Perm l₂)
    (hnul : ∀ x ∈ l₁, NulFree (name x))
    (hkeys : l₁.Pairwise fun a b => (len a, name a) ≠ (len b, name b)) :
    sortLenNameBy len name l₁ = sortLenNameBy len name l₂ := by
  unfold sortLenNameBy
  apply mergeSort_eq_of_perm (fun x => NulFree (name x)) _ _ hp hnul
  · refine Pairwise.imp_of_mem ?_ hkeys
    intro a b ha hb hk
    simp only [Bool.or_eq_true, decide_eq_true_eq, cmpLenName_le_iff]
    by_cases hl : len a = len b
    · have hne : name a ≠ name b := fun h => hk (by rw [hl, h])
      rcases strcmp_total _ _ (hnul a ha) (hnul b hb) hne with h | h
      · exact Or.inl (Or.inr ⟨hl, h⟩)
      · exact Or.inr (Or.inr ⟨hl.symm, h⟩)
    · rcases Nat.lt_or_gt_of_ne hl with h | h
      · exact Or.inr (Or.inl h)
      · exact Or.inl (Or.inl h)
  · intro a b c _ hb hc h1 h2
    simp only [decide_eq_true_eq, cmpLenName_le_iff] at h1 h2 ⊢
    rcases h1 with h1 | ⟨e1, s1⟩ <;> rcases h2 with h2 | ⟨e2, s2⟩
    · exact Or.inl (by omega)
    · exact Or.inl (by omega)
    · exact Or.inl (by omega)
    · exact Or.inr ⟨by omega, strcmp_lt_trans _ _ _ hb hc s1 s2⟩
  · -- the comparator is strict: both directions never hold
    intro a b _ _ h1 h2
    simp only [decide_eq_true_eq, cmpLenName_le_iff] at h1 h2
    exfalso
    rcases h1 with h1 | ⟨e1, s1⟩ <;> rcases h2 with h2 | ⟨e2, s2⟩
    · omega
    · omega
    · omega
    · have := strcmp_swap (name a) (name b); omega

def keptView (inp : List InSeq) : List (Name × List Char) :=
  (inp.filter fun x => x.seq.length ≠ 0).map fun x => (x.name, x.seq)

theorem mem_keptView {inp : List InSeq} {x : Name × List Char} :
    x ∈ keptView inp ↔ ∃ y ∈ inp, y.seq.length ≠ 0 ∧ (y.name, y.seq) = x := by
  simp [keptView, and_assoc]

theorem map_fst_keptView (inp : List InSeq) :
    (keptView inp).map (·.1) = (inp.filter fun x => x.seq.length ≠ 0).map (·.name) := by
  simp [keptView, map_map, Function.comp_def]

theorem filter_zipIdx_map_fst (p : α → Bool) (l : List α) (k : Nat) :
    ((l.zipIdx k).filter fun x => p x.1).map (·.1) = l.filter p := by
  induction l generalizing k with
  | nil => simp
  | cons a l ih =>
    simp only [zipIdx_cons, filter_cons]
    by_cases h : p a
    · simp [h, ih]
    · simp [h, ih]

/-- the `if(problem_len0)` shortcut of the C code is not a separate behaviour -/
theorem essentialCheck_eq (len : α → Nat) (l : List α) :
    essentialCheck len l = if l.length ≤ 1 then none else
      some { ok := decide (1 < (l.zipIdx.filter fun x => decide (len x.1 ≠ 0)).length),
             kept := l.zipIdx.filter fun x => decide (len x.1 ≠ 0),
             tail := (l.zipIdx.filter fun x => decide (len x.1 = 0)).reverse } := by
  unfold essentialCheck
  by_cases h1 : l.length ≤ 1
  · simp [h1]
  · simp only [h1, if_false]
    by_cases h2 : (l.zipIdx.all fun x => decide (len x.1 ≠ 0))
    · simp only [h2, if_true]
      have hk := filter_eq_self.mpr (all_eq_true.mp h2)
      have ht : (l.zipIdx.filter fun x => decide (len x.1 = 0)) = [] := by
        rw [filter_eq_nil_iff]
        intro x hx
        have := (all_eq_true.mp h2) x hx
        simpa using this
      rw [hk, ht]
      simp; omega
    · rw [if_neg h2]

theorem essentialInputCheck_eq (inp : List InSeq) :
    essentialInputCheck inp =
      if 1 < inp.length ∧ 1 < (inp.zipIdx.filter fun x => decide (x.1.seq.length ≠ 0)).length then
        some ((inp.zipIdx.filter fun x => decide (x.1.seq.length ≠ 0)).map
          fun (x, i) => { name := x.name, seq := x.seq, rank := i })
      else none := by
  unfold essentialInputCheck
  rw [essentialCheck_eq]
  by_cases h1 : inp.length ≤ 1
  · have : ¬ 1 < inp.length := by omega
    simp [h1, this]
  · have h1' : 1 < inp.length := by omega
    simp only [h1, if_false, h1', true_and, decide_eq_true_eq]

theorem essentialInputCheck_eq_some {inp : List InSeq} {l : List RSeq} (h : essentialInputCheck inp = some l) :
    l = (inp.zipIdx.filter fun x => decide (x.1.seq.length ≠ 0)).map
      fun (x, i) => { name := x.name, seq := x.seq, rank := i } := by
  rw [essentialInputCheck_eq] at h
  split at h
  · exact (Option.some.inj h).symm
  · cases h

theorem keptView_eq_zipIdx (inp : List InSeq) :
    keptView inp = (inp.zipIdx.filter fun x => decide (x.1.seq.length ≠ 0)).map fun x => (x.1.name, x.1.seq) := by
  unfold keptView
  rw [← filter_zipIdx_map_fst (fun x : InSeq => decide (x.seq.length ≠ 0)) inp 0, map_map]
  rfl

theorem essentialInputCheck_view (inp : List InSeq) (l : List RSeq)
    (h : essentialInputCheck inp = some l) : view l = keptView inp := by
  rw [essentialInputCheck_eq_some h, keptView_eq_zipIdx, view, map_map]
  rfl

theorem essentialInputCheck_isSome (inp : List InSeq) :
    (essentialInputCheck inp).isSome = (decide (1 < inp.length) && decide (1 < (keptView inp).length)) := by
  rw [essentialInputCheck_eq, keptView_eq_zipIdx, length_map]
  generalize (inp.zipIdx.filter fun x => decide (x.1.seq.length ≠ 0)) = F
  split <;> rename_i h
  · simp [h.1, h.2]
  · simpa using h

theorem keptView_perm {inp inp' : List InSeq} (hp : inp'.Perm inp) : (keptView inp').Perm (keptView inp) :=
  (hp.filter _).map _

theorem find?_perm_of_nodup_fst {β γ : Type} [DecidableEq β] {l l' : List (β × γ)} (hp : l.Perm l')
    (hnd : (l.map (·.1)).Nodup) (n : β) :
    l.find? (fun x => x.1 = n) = l'.find? (fun x => x.1 = n) := by
  induction hp with
  | nil => rfl
  | cons x _ ih =>
    simp only [map_cons, nodup_cons] at hnd
    simp only [find?_cons]
    split
    · rfl
    · exact ih hnd.2
  | swap x y l =>
    simp only [map_cons, nodup_cons, mem_cons, not_or] at hnd
    simp only [find?_cons]
    by_cases hx : x.1 = n <;> by_cases hy : y.1 = n
    · exact absurd (hy.trans hx.symm) hnd.1.1
    · simp [hx, hy]
    · simp [hx, hy]
    · simp [hx, hy]
  | trans h₁ _ ih₁ ih₂ =>
    rw [ih₁ hnd]
    exact ih₂ ((h₁.map _).nodup_iff.mp hnd)

theorem pairwise_zipIdx_snd {β : Type} (l : List β) (k : Nat) :
    (l.zipIdx k).Pairwise fun a b => a.2 < b.2 := by
  induction l generalizing k with
  | nil => simp
  | cons a l ih =>
    rw [zipIdx_cons, pairwise_cons]
    refine ⟨?_, ih (k + 1)⟩
    intro b hb
    have := le_snd_of_mem_zipIdx hb
    simp only at this ⊢
    omega

theorem essentialInputCheck_ranks (inp : List InSeq) (l : List RSeq)
    (h : essentialInputCheck inp = some l) : l.Pairwise fun a b => a.rank < b.rank := by
  rw [essentialInputCheck_eq_some h, pairwise_map]
  exact (pairwise_zipIdx_snd inp 0).sublist filter_sublist

theorem view_sortLenName (l : List RSeq) :
    view (sortLenName l) = sortLenNameBy (fun p : Name × List Char => p.2.length) (fun p => p.1) (view l) := by
  unfold view sortLenName sortLenNameBy
  exact map_mergeSort (fun a _ b _ => rfl)

theorem canon_some {inp : List InSeq} {c : List RSeq} (h : canon inp = some c) :
    ∃ E, essentialInputCheck inp = some E ∧ c = sortLenName E ∧ c.Perm E ∧ view E = keptView inp ∧
      E.Pairwise (fun a b => a.rank < b.rank) := by
  obtain ⟨E, hE, rfl⟩ := Option.map_eq_some_iff.mp h
  exact ⟨E, hE, rfl, mergeSort_perm E leLenName, essentialInputCheck_view inp E hE, essentialInputCheck_ranks inp E hE⟩

theorem canon_view_perm (inp : List InSeq) (c : List RSeq) (h : canon inp = some c) : (view c).Perm (keptView inp) := by
  obtain ⟨E, -, rfl, hp, hv, -⟩ := canon_some h
  exact hv ▸ hp.map _

theorem canon_nonempty (inp : List InSeq) (c : List RSeq) (h : canon inp = some c) : ∀ x ∈ view c, x.2 ≠ [] := by
  intro x hx
  obtain ⟨y, _, hy, rfl⟩ := mem_keptView.1 ((canon_view_perm inp c h).mem_iff.1 hx)
  simpa using hy

theorem canon_mem (inp : List InSeq) (c : List RSeq) (h : canon inp = some c) :
    ∀ x ∈ view c, ∃ y ∈ inp, y.seq = x.2 := by
  intro x hx
  obtain ⟨y, hy, _, rfl⟩ := mem_keptView.1 ((canon_view_perm inp c h).mem_iff.1 hx)
  exact ⟨y, hy, rfl⟩

theorem canon_length_le (inp : List InSeq) (c : List RSeq) (h : canon inp = some c) : (view c).length ≤ inp.length := by
  rw [(canon_view_perm inp c h).length_eq, keptView, List.length_map]
  exact List.length_filter_le _ _

/-- the canonical view in closed form: a function of `inp.length` and `keptView inp` -/
theorem canon_view (inp : List InSeq) :
    (canon inp).map view =
      if 1 < inp.length ∧ 1 < (keptView inp).length then
        some (sortLenNameBy (fun p : Name × List Char => p.2.length) (fun p => p.1) (keptView inp))
      else none := by
  have hs := essentialInputCheck_isSome inp
  cases h : canon inp with
  | none =>
    have : essentialInputCheck inp = none := by simpa [canon] using h
    rw [this] at hs
    rw [if_neg (by simpa using hs.symm)]; rfl
  | some c =>
    obtain ⟨E, hE, rfl, -, hv, -⟩ := canon_some h
    rw [hE] at hs
    rw [if_pos (by simpa using hs.symm), Option.map_some, view_sortLenName, hv]

theorem sortRankBy_eq_of_perm {l E : List RSeq} (hp : l.Perm E)
    (hE : E.Pairwise fun a b => a.rank < b.rank) : sortRankBy (·.rank) l = E := by
  refine mergeSort_unique (fun x => x ∈ E) ?_ ?_ hp (fun a ha => hp.mem_iff.mp ha)
    (pairwise_of_forall fun a b => by simp only [Bool.or_eq_true, decide_eq_true_eq]; omega)
    (hE.imp fun h => by simp only [decide_eq_true_eq]; omega)
  · intro a b c _ _ _ h1 h2
    simp only [decide_eq_true_eq] at h1 h2 ⊢
    omega
  · intro a b ha hb h1 h2
    simp only [decide_eq_true_eq] at h1 h2
    have hnd : (E.map (·.rank)).Nodup := by
      rw [Nodup, pairwise_map]
      exact hE.imp (fun h => by omega)
    exact eq_of_nodup_map hnd ha hb (by omega)

/-- rows attached by position to the canonical list travel with their sequences -/
theorem sortRank_zip_fst {β : Type} (E : List RSeq) (hE : E.Pairwise fun a b => a.rank < b.rank) (rows : List β)
    (hl : rows.length = E.length) :
    (sortRankBy (fun x : RSeq × β => x.1.rank) ((sortLenName E).zip rows)).map (·.1) = E := by
  have hperm : (sortLenName E).Perm E := mergeSort_perm E leLenName
  have hz : ((sortLenName E).zip rows).map (·.1) = sortLenName E :=
    map_fst_zip (by rw [hl, hperm.length_eq]; exact Nat.le_refl _)
  have hmap : (sortRankBy (fun x : RSeq × β => x.1.rank) ((sortLenName E).zip rows)).map (·.1)
      = sortRankBy (·.rank) (sortLenName E) := by
    unfold sortRankBy
    rw [map_mergeSort (s := fun a b : RSeq => decide (a.rank ≤ b.rank)) (fun a _ b _ => rfl), hz]
  rw [hmap]
  exact sortRankBy_eq_of_perm hperm hE

def nameRows (l : List (RSeq × Row)) : List (Name × Row) := l.map fun x => (x.1.name, x.2)

theorem rowsByName_some (l : List (RSeq × Row)) (n : Name) :
    rowsByName (some l) n = ((nameRows l).find? fun x => x.1 = n).map (·.2) := by
  unfold rowsByName nameRows
  rw [find?_map]
  simp [Function.comp_def, Option.map_map]

theorem nameRows_zip (c : List RSeq) (rows : List Row) :
    nameRows (c.zip rows) = ((view c).map (·.1)).zip rows := by
  unfold nameRows view
  rw [map_map, zip_map_left]
  rfl

theorem map_fst_zip_sublist {β γ : Type} (l₁ : List β) (l₂ : List γ) :
    ((l₁.zip l₂).map (·.1)).Sublist l₁ := by
  induction l₁ generalizing l₂ with
  | nil => simp
  | cons a l₁ ih =>
    cases l₂ with
    | nil => simp
    | cons b l₂ => simpa using ih l₂

theorem find?_nameRows_sortRank (d : List RSeq) (rows : List Row) (hd : ((view d).map (·.1)).Nodup) (n : Name) :
    (nameRows (sortRankBy (fun x : RSeq × Row => x.1.rank) (d.zip rows))).find? (fun x => x.1 = n)
      = (((view d).map (·.1)).zip rows).find? (fun x => x.1 = n) := by
  rw [← nameRows_zip]
  have hperm : (nameRows (sortRankBy (fun x : RSeq × Row => x.1.rank) (d.zip rows))).Perm (nameRows (d.zip rows)) :=
    (mergeSort_perm _ _).map _
  refine find?_perm_of_nodup_fst hperm ?_ n
  refine ((hperm.map (·.1)).nodup_iff).mpr ?_
  rw [nameRows_zip]
  exact hd.sublist (map_fst_zip_sublist _ _)

theorem canon_names_nodup {inp : List InSeq} {c : List RSeq} (h : canon inp = some c)
    (hnames : (inp.map (·.name)).Nodup) : ((view c).map (·.1)).Nodup := by
  obtain ⟨E, -, -, hp, hv, -⟩ := canon_some h
  refine (((hv ▸ hp.map _ : (view c).Perm (keptView inp)).map (·.1)).nodup_iff).mpr ?_
  rw [map_fst_keptView]
  exact hnames.sublist (filter_sublist.map _)

theorem canon_pair (a b : InSeq) (ha : a.seq ≠ []) (hb : b.seq ≠ []) :
    (canon [a, b]).map view = some (if leLenName ⟨a.name, a.seq, 0⟩ ⟨b.name, b.seq, 1⟩
      then [(a.name, a.seq), (b.name, b.seq)] else [(b.name, b.seq), (a.name, a.seq)]) := by
  have e : essentialInputCheck [a, b] = some [⟨a.name, a.seq, 0⟩, ⟨b.name, b.seq, 1⟩] := by
    simp [essentialInputCheck, essentialCheck, ha, hb]
  simp only [canon, e, Option.map_some, sortLenName, mergeSort_pair]
  split <;> rfl

end Kalign

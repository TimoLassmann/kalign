import KalignModel.Model.Profile
import KalignModel.Lemmas.Basic.ArrayGetD
/-!
Sizes and entries (`pget`) of the profiles that `makeProfile` and `setGapPenalties` build, on any carrier (`makeProfile_spec`,
`setGapPenalties_spec`); `colOf?` returns `colAt` whenever the column exists (`colOf?_of_le`); one iteration of `update_n` by the kind of
its path code (`updateStep_zero`, `updateStep_gapA`, `updateStep_gapB`).
-/
namespace Kalign

theorem getD_oob {α : Type} (p : Array α) (i : Nat) {d : α} (h : p.size ≤ i) : p.getD i d = d := by
  simp [Array.getD, Nat.not_lt.2 h]

theorem getD_append {α : Type} (p c : Array α) (i : Nat) {d : α} :
    (p ++ c).getD i d = if i < p.size then p.getD i d else c.getD (i - p.size) d := by
  simp only [Array.getD_eq_getD_getElem?, Array.getElem?_append]
  split <;> rfl

theorem foldl_set_spec {α : Type} (f : Nat → α) (l : List Nat) (col : Array α) :
    (l.foldl (fun col j => col.set! (32 + j) (f j)) col).size = col.size ∧
    ∀ e d, (l.foldl (fun col j => col.set! (32 + j) (f j)) col).getD e d =
      if 32 ≤ e ∧ e - 32 ∈ l ∧ e < col.size then f (e - 32) else col.getD e d := by
  induction l generalizing col with
  | nil => simp
  | cons j l ih =>
    obtain ⟨h1, h2⟩ := ih (col.set! (32 + j) (f j))
    refine ⟨by rw [List.foldl_cons, h1]; simp, fun e d => ?_⟩
    rw [List.foldl_cons, h2, getD_set!]
    simp only [Array.set!_eq_setIfInBounds, Array.size_setIfInBounds, List.mem_cons]
    by_cases he : 32 ≤ e ∧ e - 32 ∈ l ∧ e < col.size
    · rw [if_pos he, if_pos ⟨he.1, Or.inr he.2.1, he.2.2⟩]
    · rw [if_neg he]
      by_cases hj : 32 + j = e ∧ 32 + j < col.size
      · rw [if_pos hj, if_pos ⟨by omega, Or.inl (by omega), by omega⟩]
        congr 1; omega
      · rw [if_neg hj, if_neg]
        rintro ⟨a, b | b, c⟩
        · exact hj ⟨by omega, by omega⟩
        · exact he ⟨a, b, c⟩

variable {α : Type} [Score α]

theorem pget_def (p : Array α) (col e : Nat) : pget p col e = (p[64 * col + e]?).getD Score.zero := by
  simp [pget, Array.getD_eq_getD_getElem?]

theorem pget_append_left (p c : Array α) (col e : Nat) (h : 64 * col + e < p.size) :
    pget (p ++ c) col e = pget p col e := by
  rw [pget_def, pget_def, Array.getElem?_append, if_pos h]

theorem pget_append_right (p c : Array α) (n e : Nat) (hp : p.size = 64 * n) :
    pget (p ++ c) n e = c.getD e Score.zero := by
  rw [pget_def, Array.getElem?_append, if_neg (by omega), Array.getD_eq_getD_getElem?]
  congr 2; omega

theorem size_sentinelCol (ap : AlnParam α) : (sentinelCol ap).size = 64 := by simp [sentinelCol]

omit [Score α] in
theorem size_foldl_add {γ : Type} (f : Array α → γ → Array α) (k : Nat) (hf : ∀ p x, (f p x).size = p.size + k)
    (l : List γ) (p : Array α) : (l.foldl f p).size = p.size + k * l.length := by
  induction l generalizing p with
  | nil => simp
  | cons x xs ih => rw [List.foldl_cons, ih, hf, List.length_cons, Nat.mul_succ]; omega

theorem size_residueCol (ap : AlnParam α) (c : Nat) : (residueCol ap c).size = 64 := by
  unfold residueCol
  simp only [Array.set!_eq_setIfInBounds, Array.size_setIfInBounds]
  rw [size_foldl_add _ 0 (fun p j => by simp)]
  simp

theorem size_setGapPenalties (p : Array α) (n : Nat) : (setGapPenalties p n).size = p.size := by
  unfold setGapPenalties
  rw [size_foldl_add _ 0 (fun q col => by simp)]
  simp

theorem size_addCols (x y : Array α) : (addCols x y).size = 64 := by simp [addCols]

theorem size_subRange (col : Array α) (gp : α) : (subRange col gp).size = col.size := by
  unfold subRange
  rw [size_foldl_add _ 0 (fun col j => by simp)]
  simp

theorem size_bumpAt (col : Array α) (k : Nat) (s : α) : (bumpAt col k s).size = col.size := by simp [bumpAt]

theorem size_gapCol (ap : AlnParam α) (col : Array α) (code sip : Nat) : (gapCol ap col code sip).size = col.size := by
  unfold gapCol
  simp only [apply_ite Array.size, size_subRange, size_bumpAt, ite_self]

theorem sentinelCol_getD (ap : AlnParam α) (e : Nat) :
    (sentinelCol ap).getD e Score.zero =
      if e = 57 then Score.neg ap.tgpe else if e = 56 then Score.neg ap.gpe else if e = 55 then Score.neg ap.gpo
      else Score.zero := by
  unfold sentinelCol
  rw [getD_set!, getD_set!, getD_set!]
  simp only [Array.set!_eq_setIfInBounds, Array.size_setIfInBounds, Array.size_replicate]
  by_cases h57 : e = 57
  · simp [h57]
  · by_cases h56 : e = 56
    · simp [h56]
    · by_cases h55 : e = 55
      · simp [h55]
      · have a : ¬ (57 = e ∧ 57 < 64) := fun h => h57 h.1.symm
        have b : ¬ (56 = e ∧ 56 < 64) := fun h => h56 h.1.symm
        have c : ¬ (55 = e ∧ 55 < 64) := fun h => h55 h.1.symm
        rw [if_neg a, if_neg b, if_neg c, if_neg h57, if_neg h56, if_neg h55]
        simp [Array.getD_eq_getD_getElem?, Array.getElem?_replicate]
        split <;> rfl

theorem residueCol_getD (ap : AlnParam α) (c : Nat) (e : Nat) (he : e < 64) :
    (residueCol ap c).getD e Score.zero =
      if e = 57 then Score.neg ap.tgpe else if e = 56 then Score.neg ap.gpe else if e = 55 then Score.neg ap.gpo
      else if 32 ≤ e ∧ e < 55 then ap.sub c (e - 32)
      else if e = c then Score.add (Score.zero : α) Score.one else Score.zero := by
  unfold residueCol
  simp only []
  have hsz := (foldl_set_spec (fun j => ap.sub c j) (List.range 23)
    ((Array.replicate 64 (Score.zero : α)).set! c (Score.add Score.zero Score.one))).1
  have hget := (foldl_set_spec (fun j => ap.sub c j) (List.range 23)
    ((Array.replicate 64 (Score.zero : α)).set! c (Score.add Score.zero Score.one))).2 e Score.zero
  have hs0 : ((Array.replicate 64 (Score.zero : α)).set! c (Score.add Score.zero Score.one)).size = 64 := by
    rw [Array.size_set!]; simp
  rw [hs0] at hsz hget
  rw [getD_set!, getD_set!, getD_set!]
  simp only [Array.size_set!]
  rw [hsz]
  by_cases h57 : e = 57
  · rw [if_pos ⟨h57.symm, by omega⟩, if_pos h57]
  · by_cases h56 : e = 56
    · rw [if_neg (fun h => h57 h.1.symm), if_pos ⟨h56.symm, by omega⟩, if_neg h57, if_pos h56]
    · by_cases h55 : e = 55
      · rw [if_neg (fun h => h57 h.1.symm), if_neg (fun h => h56 h.1.symm), if_pos ⟨h55.symm, by omega⟩, if_neg h57,
          if_neg h56, if_pos h55]
      · rw [if_neg (fun h => h57 h.1.symm), if_neg (fun h => h56 h.1.symm), if_neg (fun h => h55 h.1.symm), if_neg h57,
          if_neg h56, if_neg h55, hget]
        by_cases hr : 32 ≤ e ∧ e < 55
        · rw [if_pos hr, if_pos ⟨hr.1, List.mem_range.mpr (by omega), he⟩]
        · rw [if_neg hr, if_neg]
          · rw [getD_set!]
            by_cases hec : e = c
            · rw [if_pos ⟨hec.symm, by simp; omega⟩, if_pos hec]
            · rw [if_neg (fun h => hec h.1.symm), if_neg hec]
              simp [Array.getD_eq_getD_getElem?, he]
          · rintro ⟨h1, h2, _⟩
            have := List.mem_range.mp h2
            exact hr ⟨h1, by omega⟩

theorem addCols_getD (x y : Array α) (e : Nat) (he : e < 64) :
    (addCols x y).getD e Score.zero = Score.add (x.getD e Score.zero) (y.getD e Score.zero) := by
  unfold addCols
  simp [Array.getD_eq_getD_getElem?, he]

theorem subRange_fold_spec (gp : α) : ∀ (n s : Nat) (col : Array α),
    ((List.range' s n).foldl (fun col j => col.set! j (Score.sub (col.getD j Score.zero) gp)) col).size = col.size ∧
    ∀ e, ((List.range' s n).foldl (fun col j => col.set! j (Score.sub (col.getD j Score.zero) gp)) col).getD e Score.zero =
      if s ≤ e ∧ e < s + n ∧ e < col.size then Score.sub (col.getD e Score.zero) gp else col.getD e Score.zero := by
  intro n
  induction n with
  | zero =>
    intro s col
    refine ⟨rfl, fun e => ?_⟩
    rw [if_neg (by omega)]; rfl
  | succ n ih =>
    intro s col
    rw [List.range'_succ, List.foldl_cons]
    obtain ⟨h1, h2⟩ := ih (s + 1) (col.set! s (Score.sub (col.getD s Score.zero) gp))
    refine ⟨by rw [h1]; simp, fun e => ?_⟩
    rw [h2, getD_set!]
    simp only [Array.size_set!]
    by_cases hes : s = e
    · subst hes
      rw [if_neg (by omega)]
      by_cases hs : s < col.size
      · rw [if_pos ⟨rfl, hs⟩, if_pos ⟨by omega, by omega, hs⟩]
      · rw [if_neg (fun h => hs h.2), if_neg (fun h => hs h.2.2)]
    · have hin : ¬ (s = e ∧ s < col.size) := fun h => hes h.1
      by_cases hc : s + 1 ≤ e ∧ e < s + 1 + n ∧ e < col.size
      · rw [if_pos hc, if_neg hin, if_pos ⟨by omega, by omega, hc.2.2⟩]
      · rw [if_neg hc, if_neg hin, if_neg (by omega)]

theorem subRange_getD (col : Array α) (gp : α) (e : Nat) : (subRange col gp).getD e Score.zero =
    if 32 ≤ e ∧ e < 55 ∧ e < col.size then Score.sub (col.getD e Score.zero) gp else col.getD e Score.zero :=
  (subRange_fold_spec gp 23 32 col).2 e

theorem bumpAt_getD (col : Array α) (k : Nat) (s : α) (e : Nat) : (bumpAt col k s).getD e Score.zero =
    if k = e ∧ k < col.size then Score.add (col.getD k Score.zero) s else col.getD e Score.zero := by
  unfold bumpAt
  rw [getD_set!]

theorem freqOf_lt (p : Array α) (col : Nat) : ∀ c ∈ (freqOf p col).reverse, c < 23 := by
  intro c hc
  rw [List.mem_reverse] at hc
  unfold freqOf at hc
  exact List.mem_range.1 (List.mem_filter.1 hc).1

theorem freqOf_length (p : Array α) (col : Nat) : (freqOf p col).reverse.length ≤ 23 := by
  rw [List.length_reverse]
  unfold freqOf
  have := List.length_filter_le (fun j => Score.isNonzero (pget p col j)) (List.range 23)
  simpa using this

def colAt (p : Array α) (col : Nat) : Array α := p.extract (64 * col) (64 * col + 64)

omit [Score α] in
theorem colOf?_eq (p : Array α) (col : Nat) :
    colOf? p col = if 64 * col + 64 ≤ p.size then some (colAt p col) else none := rfl

omit [Score α] in
theorem colOf?_of_le (p : Array α) (col : Nat) (h : 64 * col + 64 ≤ p.size) : colOf? p col = some (colAt p col) :=
  if_pos h

omit [Score α] in
theorem size_colAt (p : Array α) (col : Nat) (h : 64 * col + 64 ≤ p.size) : (colAt p col).size = 64 := by
  simp [colAt]; omega

theorem getD_colAt (p : Array α) (col e : Nat) (h : 64 * col + 64 ≤ p.size) (he : e < 64) :
    (colAt p col).getD e Score.zero = pget p col e := by
  rw [pget_def, Array.getD_eq_getD_getElem?, colAt, Array.getElem?_extract, if_pos (by omega)]

omit [Score α] in
theorem colOf?_size (p c : Array α) (col : Nat) (h : colOf? p col = some c) : c.size = 64 := by
  rw [colOf?_eq] at h
  split at h
  · cases h
    exact size_colAt p col ‹_›
  · cases h

/-! one iteration of `update_n`, by the kind of the path code; the gap bookkeeping of a column at which no gap opens or closes -/

theorem updateStep_zero (ap : AlnParam α) (pa pb : Array α) (sa sb : Nat) (st : UpdState α) :
    updateStep ap pa pb sa sb st 0 = (colOf? pa st.pa).bind fun ca => (colOf? pb st.pb).bind fun cb =>
      some { pa := st.pa + 1, pb := st.pb + 1, out := st.out ++ addCols ca cb } := by
  unfold updateStep
  simp [bit]

theorem updateStep_gapA (ap : AlnParam α) (pa pb : Array α) (sa sb : Nat) (st : UpdState α) {code : Nat}
    (h : code = 1 ∨ code = 33) :
    updateStep ap pa pb sa sb st code =
      (colOf? pb st.pb).map fun cb => { pa := st.pa, pb := st.pb + 1, out := st.out ++ gapCol ap cb code sa } := by
  rcases h with rfl | rfl <;> cases hc : colOf? pb st.pb <;> simp [updateStep, bit, hc]

theorem updateStep_gapB (ap : AlnParam α) (pa pb : Array α) (sa sb : Nat) (st : UpdState α) {code : Nat}
    (h : code = 2 ∨ code = 34) :
    updateStep ap pa pb sa sb st code =
      (colOf? pa st.pa).map fun ca => { pa := st.pa + 1, pb := st.pb, out := st.out ++ gapCol ap ca code sb } := by
  rcases h with rfl | rfl <;> cases hc : colOf? pa st.pa <;> simp [updateStep, bit, hc]

theorem gapCol_ext (ap : AlnParam α) (col : Array α) (sip : Nat) {code : Nat} (h : code = 1 ∨ code = 2) :
    gapCol ap col code sip = subRange (bumpAt col 24 (Score.ofNat sip)) (Score.mul ap.gpe (Score.ofNat sip)) := by
  rcases h with rfl | rfl <;> rfl

theorem gapCol_term (ap : AlnParam α) (col : Array α) (sip : Nat) {code : Nat} (h : code = 33 ∨ code = 34) :
    gapCol ap col code sip = subRange (bumpAt col 25 (Score.ofNat sip)) (Score.mul ap.tgpe (Score.ofNat sip)) := by
  rcases h with rfl | rfl <;> rfl

theorem mp_fold (ap : AlnParam α) (l : List Nat) (init : Array α) (n : Nat) (hi : init.size = 64 * n) :
    (l.foldl (fun p c => p ++ residueCol ap c) init).size = 64 * (n + l.length) ∧
    (∀ col e, col < n → e < 64 → pget (l.foldl (fun p c => p ++ residueCol ap c) init) col e = pget init col e) ∧
    (∀ i (hi' : i < l.length) e, e < 64 →
      pget (l.foldl (fun p c => p ++ residueCol ap c) init) (n + i) e = (residueCol ap l[i]).getD e Score.zero) := by
  induction l generalizing init n with
  | nil => exact ⟨by simpa using hi, fun _ _ _ _ => rfl, fun i h => absurd h (by simp)⟩
  | cons c l ih =>
    have hs : (init ++ residueCol ap c).size = 64 * (n + 1) := by
      rw [Array.size_append, hi, size_residueCol]; omega
    obtain ⟨h1, h2, h3⟩ := ih (init ++ residueCol ap c) (n + 1) hs
    refine ⟨by rw [List.foldl_cons, h1, List.length_cons]; omega, ?_, ?_⟩
    · intro col e hc he
      rw [List.foldl_cons, h2 col e (by omega) he, pget_append_left _ _ _ _ (by omega)]
    · intro i hi' e he
      rw [List.foldl_cons]
      cases i with
      | zero =>
        rw [Nat.add_zero, h2 n e (by omega) he, pget_append_right _ _ n e hi]
        rfl
      | succ i =>
        have := h3 i (by simpa using hi') e he
        rw [show n + (i + 1) = n + 1 + i by omega, this]
        rfl

theorem makeProfile_spec (ap : AlnParam α) (seq : Array Nat) :
    (makeProfile ap seq).size = 64 * (seq.size + 2) ∧
    (∀ e, e < 64 → pget (makeProfile ap seq) 0 e = (sentinelCol ap).getD e Score.zero) ∧
    (∀ e, e < 64 → pget (makeProfile ap seq) (seq.size + 1) e = (sentinelCol ap).getD e Score.zero) ∧
    (∀ i, i < seq.size → ∀ e, e < 64 →
      pget (makeProfile ap seq) (i + 1) e = (residueCol ap (seq.getD i 0)).getD e Score.zero) := by
  unfold makeProfile
  rw [← Array.foldl_toList]
  obtain ⟨h1, h2, h3⟩ := mp_fold ap seq.toList (sentinelCol ap) 1 (by rw [size_sentinelCol])
  simp only [Array.length_toList] at h1 h3
  refine ⟨by rw [Array.size_append, h1, size_sentinelCol]; omega, ?_, ?_, ?_⟩
  · intro e he
    rw [pget_append_left _ _ _ _ (by omega), h2 0 e (by omega) he]
    rw [pget_def, Array.getD_eq_getD_getElem?, Nat.mul_zero, Nat.zero_add]
  · intro e he
    rw [pget_append_right _ _ (seq.size + 1) e (by rw [h1]; omega)]
  · intro i hi e he
    rw [pget_append_left _ _ _ _ (by omega), show i + 1 = 1 + i by omega, h3 i hi e he]
    congr 2
    simp [Array.getD_eq_getD_getElem?, hi]

theorem size_makeProfile (ap : AlnParam α) (seq : Array Nat) : (makeProfile ap seq).size = 64 * (seq.size + 2) :=
  (makeProfile_spec ap seq).1

def sgpStep (n : Nat) (p : Array α) (col : Nat) : Array α :=
  ((p.set! (64 * col + 27) (Score.mul (p.getD (64 * col + 55) Score.zero) (Score.ofNat n))).set! (64 * col + 28)
    (Score.mul (p.getD (64 * col + 56) Score.zero) (Score.ofNat n))).set! (64 * col + 29)
    (Score.mul (p.getD (64 * col + 57) Score.zero) (Score.ofNat n))

theorem sgpStep_spec (n : Nat) (p : Array α) (col : Nat) (hc : 64 * col + 64 ≤ p.size) :
    (sgpStep n p col).size = p.size ∧
    ∀ col' e, e < 64 → pget (sgpStep n p col) col' e =
      if col' = col ∧ (e = 27 ∨ e = 28 ∨ e = 29) then Score.mul (pget p col (e + 28)) (Score.ofNat n)
      else pget p col' e := by
  refine ⟨by simp [sgpStep], fun col' e he => ?_⟩
  unfold sgpStep pget
  rw [getD_set!, getD_set!, getD_set!]
  simp only [Array.size_set!]
  by_cases h29 : col' = col ∧ e = 29
  · obtain ⟨rfl, rfl⟩ := h29
    rw [if_pos ⟨rfl, by omega⟩, if_pos ⟨rfl, by simp⟩]
  · rw [if_neg (fun h => h29 ⟨by omega, by omega⟩)]
    by_cases h28 : col' = col ∧ e = 28
    · obtain ⟨rfl, rfl⟩ := h28
      rw [if_pos ⟨rfl, by omega⟩, if_pos ⟨rfl, by simp⟩]
    · rw [if_neg (fun h => h28 ⟨by omega, by omega⟩)]
      by_cases h27 : col' = col ∧ e = 27
      · obtain ⟨rfl, rfl⟩ := h27
        rw [if_pos ⟨rfl, by omega⟩, if_pos ⟨rfl, by simp⟩]
      · rw [if_neg (fun h => h27 ⟨by omega, by omega⟩), if_neg]
        rintro ⟨rfl, h | h | h⟩
        · exact h27 ⟨rfl, h⟩
        · exact h28 ⟨rfl, h⟩
        · exact h29 ⟨rfl, h⟩

theorem sgp_fold (n : Nat) (L : List Nat) (p : Array α) (hL : ∀ c ∈ L, 64 * c + 64 ≤ p.size) :
    ∀ col e, e < 64 → pget (L.foldl (sgpStep n) p) col e =
      if col ∈ L ∧ (e = 27 ∨ e = 28 ∨ e = 29) then Score.mul (pget p col (e + 28)) (Score.ofNat n)
      else pget p col e := by
  induction L generalizing p with
  | nil => simp
  | cons c L ih =>
    obtain ⟨hs, hg⟩ := sgpStep_spec n p c (hL c List.mem_cons_self)
    have h2 := ih (sgpStep n p c) (fun c' hc' => by rw [hs]; exact hL c' (List.mem_cons_of_mem _ hc'))
    intro col e he
    rw [List.foldl_cons, h2 col e he]
    by_cases hin : col ∈ L ∧ (e = 27 ∨ e = 28 ∨ e = 29)
    · rw [if_pos hin, if_pos ⟨List.mem_cons_of_mem _ hin.1, hin.2⟩, hg col (e + 28) (by omega), if_neg]
      rintro ⟨_, h | h | h⟩ <;> omega
    · rw [if_neg hin, hg col e he]
      by_cases hc : col = c ∧ (e = 27 ∨ e = 28 ∨ e = 29)
      · rw [if_pos hc, if_pos ⟨by rw [hc.1]; exact List.mem_cons_self, hc.2⟩, hc.1]
      · rw [if_neg hc, if_neg]
        rintro ⟨hm, he'⟩
        rcases List.mem_cons.mp hm with h | h
        · exact hc ⟨h, he'⟩
        · exact hin ⟨h, he'⟩

theorem setGapPenalties_spec (p : Array α) (n ncol : Nat) (hp : p.size = 64 * ncol) :
    (setGapPenalties p n).size = p.size ∧
    ∀ col e, col < ncol → e < 64 → pget (setGapPenalties p n) col e =
      if e = 27 ∨ e = 28 ∨ e = 29 then Score.mul (pget p col (e + 28)) (Score.ofNat n) else pget p col e := by
  have hfold : setGapPenalties p n = (List.range ncol).foldl (sgpStep n) p := by
    unfold setGapPenalties
    simp only
    rw [hp, Nat.mul_div_cancel_left _ (by decide : 0 < 64)]
    rfl
  have h2 := sgp_fold n (List.range ncol) p (fun c hc => by have := List.mem_range.mp hc; omega)
  refine ⟨size_setGapPenalties p n, ?_⟩
  rw [hfold]
  intro col e hc he
  rw [h2 col e he]
  by_cases h : e = 27 ∨ e = 28 ∨ e = 29
  · rw [if_pos ⟨List.mem_range.mpr hc, h⟩, if_pos h]
  · rw [if_neg (fun hh => h hh.2), if_neg h]

end Kalign

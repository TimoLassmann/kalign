import KalignModel.Lemmas.BpmBlock
import KalignModel.Lemmas.Basic.ListWalk
/-!
# the single-word loop of `bpm` (64 bits) and `bpm_256`

`bpmCore` (the `D0`-form of Myers' step) produces the same encoding as the block step with carry-in 0 (`core_step`);
`word_step` is one text character at any width.  `wordLoop_eq_sellers` is the loop for any state that holds
`(VP, VN, diff, k)` behind four views and advances them by `bpmCore`: `bpm` is the instance whose views are the record
fields (`bpm64_eq_sellers`), `bpm_256` the one whose views read the four lanes as a 256-bit word (Lemmas/Bpm256Lanes.lean).
-/
namespace Kalign

section core
variable {w : Nat} (VP VN Bc : BitVec w) (v : Nat → Int) (e : Nat → Bool)

theorem tri_zero : Tri 0 := Or.inr (Or.inl rfl)

theorem core_step (hEnc : Enc VP VN v) (hE : ∀ i, i < w → Bc.getLsbD i = e i) :
    Enc (bpmCore Bc VP VN).1 (bpmCore Bc VP VN).2.1 (refV v e 0) ∧
    (∀ i, i < w → (bpmCore Bc VP VN).2.2.1.getLsbD i = decide (refH v e 0 (i + 1) = 1)) ∧
    (∀ i, i < w → (bpmCore Bc VP VN).2.2.2.getLsbD i = decide (refH v e 0 (i + 1) = -1)) := by
  have key := xh_ph_mh VP VN (Bc ||| VN) 0 v e true hEnc
    (fun i hi => by rw [BitVec.getLsbD_or, hE i hi, (hEnc i hi).2.2, Bool.true_and]) tri_zero
  have hD0 : ((VP + ((Bc ||| VN) &&& VP)) ^^^ VP) ||| (Bc ||| VN) = xhWord VP (Bc ||| VN) 0 := by
    simp only [xhWord, eqIn, Int.lt_irrefl, if_false]
    rw [BitVec.add_comm]
  have htri := refH_tri v e 0 w (fun i hi => (hEnc i hi).1) tri_zero
  have hHP : ∀ i, i < w → (VN ||| ~~~(VP ||| xhWord VP (Bc ||| VN) 0)).getLsbD i = decide (refH v e 0 (i + 1) = 1) := by
    intro i hi; rw [BitVec.or_comm VP, (key i hi).2.2]
  have hHPs : ∀ i, i < w → ((VN ||| ~~~(VP ||| xhWord VP (Bc ||| VN) 0)) <<< 1).getLsbD i = decide (refH v e 0 i = 1) := by
    intro i hi
    cases i with
    | zero => rw [getLsbD_shl1_zero]; simp [refH]
    | succ i => rw [getLsbD_shl1_succ _ _ hi, hHP i (by omega)]
  have hHNs : ∀ i, i < w → ((VP &&& xhWord VP (Bc ||| VN) 0) <<< 1).getLsbD i = decide (refH v e 0 i = -1) := by
    intro i hi
    cases i with
    | zero => rw [getLsbD_shl1_zero]; simp [refH]
    | succ i => rw [getLsbD_shl1_succ _ _ hi, (key i (by omega)).2.1]
  unfold bpmCore
  simp only [hD0]
  refine ⟨?_, hHP, fun i hi => (key i hi).2.1⟩
  intro i hi
  obtain ⟨hv, _, _⟩ := hEnc i hi
  have hb := cellV_bits (e i) hv (htri i (by omega))
  refine ⟨cellV_tri _ hv (htri i (by omega)), ?_, ?_⟩
  · rw [BitVec.getLsbD_or, BitVec.getLsbD_not, BitVec.getLsbD_or, hHNs i hi, hHPs i hi, (key i hi).1, refV, hb.2]
    rcases htri i (by omega) with h | h | h <;> simp [h, hi]
  · rw [BitVec.getLsbD_and, hHPs i hi, (key i hi).1, refV, hb.1]
    rcases htri i (by omega) with h | h | h <;> simp [h]

end core

theorem vp0_bit (m i : Nat) (hm : m < 64) (hi : i < 64) : (((1#64) <<< m) - 1#64).getLsbD i = decide (i < m) := by
  have h : ((1#64) <<< m) - 1#64 = BitVec.ofNat 64 (2 ^ m - 1) := by
    apply BitVec.eq_of_toNat_eq
    have h2 : 2 ^ m < 2 ^ 64 := Nat.pow_lt_pow_right (by omega) hm
    have h3 : 0 < 2 ^ m := Nat.pow_pos (by omega)
    simp only [BitVec.toNat_sub, BitVec.toNat_shiftLeft, BitVec.toNat_ofNat, Nat.shiftLeft_eq]
    rw [show 1 % 2 ^ 64 = 1 by decide, Nat.one_mul, Nat.mod_eq_of_lt h2]
    generalize 2 ^ m = P at h2 h3
    omega
  rw [h, BitVec.getLsbD_ofNat, Nat.testBit_two_pow_sub_one]
  simp [hi]

theorem and_mask_ne_zero {w : Nat} (x : BitVec w) (k : Nat) (hk : k < w) :
    (x &&& ((1#w) <<< k) ≠ 0#w) ↔ x.getLsbD k = true := by
  constructor
  · intro h
    cases hx : x.getLsbD k with
    | true => rfl
    | false =>
      exfalso; apply h
      apply BitVec.eq_of_getLsbD_eq
      intro i hi
      rw [BitVec.getLsbD_and, getLsbD_one_shl w k i hi]
      by_cases hik : i = k
      · subst hik; simp [hx]
      · simp [hik]
  · intro h h0
    have := congrArg (fun y => y.getLsbD k) h0
    simp only [BitVec.getLsbD_and, h, getLsbD_one_shl w k k hk] at this
    simp at this

theorem bpmB_bit (w : Nat) (p : List Nat) (m c i : Nat) (hm : m ≤ w) (hi : i < w) :
    (bpmB w p m c).getLsbD i = (decide (i < m) && (p.getD i 0 == c)) := by
  rw [bpmB, bitsToBV_bit w _ m i hm hi]

theorem toInt8_small (x : Int) (h0 : 0 ≤ x) (h1 : x ≤ 127) : toInt8 x = x := by
  unfold toInt8; omega

theorem toUInt8_small (x : Nat) (h1 : x ≤ 255) : toUInt8 (x : Int) = x := by
  unfold toUInt8; omega

/-- the DP that the single word follows: rows past the pattern never match -/
def eqW (p t : List Nat) (m : Nat) (i j : Nat) : Bool := decide (i < m) && (p.getD i 0 == t.getD j 0)

theorem min_tri (m i : Nat) : Tri (((min (i + 1) m : Nat) : Int) - (min i m : Nat)) := by
  unfold Tri; omega

theorem refH_eq_dp0 (init : Nat → Nat) (eq : Nat → Nat → Bool) (j i : Nat) :
    refH (fun i => dV init eq j i) (fun i => eq i j) 0 i = dH init eq j i := by
  simpa [dH_zero] using refH_eq_dp eq init j 0 i

theorem refV_eq_dp0 (init : Nat → Nat) (eq : Nat → Nat → Bool) (j i : Nat) :
    refV (fun i => dV init eq j i) (fun i => eq i j) 0 i = dV init eq (j + 1) i := by
  simpa [dH_zero] using refV_eq_dp eq init j 0 i

structure WInv {w : Nat} (init : Nat → Nat) (eq : Nat → Nat → Bool) (m j : Nat) (VP VN : BitVec w) (diff k : Int) :
    Prop where
  enc : Enc VP VN (fun i => dV init eq j i)
  diff : diff = (gD init eq j m : Int)
  k : k = (kmin init eq m m j : Int)

/-- the word that selects row `m` of `HP`/`HN` -/
def rowMask (w m : Nat) : BitVec w := if m = 0 then 0#w else (1#w) <<< (m - 1)

/-- `m = 0`: row 0 is constant and the mask selects nothing -/
theorem word_step {w : Nat} (init : Nat → Nat) (eq : Nat → Nat → Bool) (hinit : ∀ i, Tri ((init (i + 1) : Int) - init i))
    (m j : Nat) (hm : m ≤ w) (Bc VP VN : BitVec w) (diff : Int)
    (hB : ∀ i, i < w → Bc.getLsbD i = eq i j) (hEnc : Enc VP VN (fun i => dV init eq j i))
    (hdiff : diff = (gD init eq j m : Int)) :
    Enc (bpmCore Bc VP VN).1 (bpmCore Bc VP VN).2.1 (fun i => dV init eq (j + 1) i) ∧
    diff + (if (bpmCore Bc VP VN).2.2.1 &&& rowMask w m ≠ 0#w then 1 else 0)
      - (if (bpmCore Bc VP VN).2.2.2 &&& rowMask w m ≠ 0#w then 1 else 0) = (gD init eq (j + 1) m : Int) := by
  obtain ⟨h1, h2, h3⟩ := core_step VP VN Bc (fun i => dV init eq j i) (fun i => eq i j) hEnc hB
  refine ⟨h1.congr (fun i _ => refV_eq_dp0 init eq j i), ?_⟩
  rw [hdiff, rowMask]
  by_cases hm0 : m = 0
  · simp [hm0, gD_row_zero]
  have hHP : ((bpmCore Bc VP VN).2.2.1 &&& ((1#w) <<< (m - 1)) ≠ 0#w) ↔ dH init eq j m = 1 := by
    rw [and_mask_ne_zero _ _ (by omega), h2 (m - 1) (by omega), show m - 1 + 1 = m by omega, refH_eq_dp0]
    simp
  have hHN : ((bpmCore Bc VP VN).2.2.2 &&& ((1#w) <<< (m - 1)) ≠ 0#w) ↔ dH init eq j m = -1 := by
    rw [and_mask_ne_zero _ _ (by omega), h3 (m - 1) (by omega), show m - 1 + 1 = m by omega, refH_eq_dp0]
    simp
  have hd : dH init eq j m = (gD init eq (j + 1) m : Int) - gD init eq j m := rfl
  rw [if_neg hm0]
  rcases (deltas_tri init eq hinit j m).2 with h | h | h
  · rw [if_neg (fun x => by have := hHP.1 x; omega), if_pos (hHN.2 h)]; omega
  · rw [if_neg (fun x => by have := hHP.1 x; omega), if_neg (fun x => by have := hHN.1 x; omega)]; omega
  · rw [if_pos (hHP.2 h), if_neg (fun x => by have := hHN.1 x; omega)]; omega

/-- `σ` is any state with views `VP VN diff k` whose `step` is `bpmCore` on the views; the running minimum is stored
through `clamp` (`int8_t k` in `bpm`) and returned as a `uint8_t` (`m ≤ 255`) -/
theorem wordLoop_eq_sellers {w : Nat} {σ : Type} (VP VN : σ → BitVec w) (diff k : σ → Int) (clamp : Int → Int)
    (step : σ → Nat → σ) (B : Nat → BitVec w) (p t : List Nat) (m : Nat) (hmw : m ≤ w) (hmp : m ≤ p.length) (hm8 : m ≤ 255)
    (hclamp : ∀ x : Int, 0 ≤ x → x ≤ m → clamp x = x)
    (hB : ∀ c ∈ t, ∀ i, i < w → (B c).getLsbD i = (decide (i < m) && (p.getD i 0 == c)))
    (hstep : ∀ s c,
      VP (step s c) = (bpmCore (B c) (VP s) (VN s)).1 ∧ VN (step s c) = (bpmCore (B c) (VP s) (VN s)).2.1 ∧
      diff (step s c) = diff s + (if (bpmCore (B c) (VP s) (VN s)).2.2.1 &&& rowMask w m ≠ 0#w then 1 else 0)
        - (if (bpmCore (B c) (VP s) (VN s)).2.2.2 &&& rowMask w m ≠ 0#w then 1 else 0) ∧
      k (step s c) = if diff (step s c) < k s then clamp (diff (step s c)) else k s)
    (init : Nat → Nat) (hinit : ∀ i, Tri ((init (i + 1) : Int) - init i)) (hid : ∀ i, i ≤ m → init i = i)
    (s0 : σ) (h0 : Enc (VP s0) (VN s0) (fun i => (init (i + 1) : Int) - init i)) (hd0 : diff s0 = m) (hk0 : k s0 = m) :
    toUInt8 (k (t.foldl step s0)) = sellers (p.take m) t := by
  have hst := foldl_inv_idx (fun j s => WInv init (eqW p t m) m j (VP s) (VN s) (diff s) (k s)) step t s0
    ⟨h0.congr (fun i _ => by rw [dV, gD, gD]), by rw [hd0, gD, hid m (Nat.le_refl m)], hk0⟩
    (by
      intro j hj s hI
      obtain ⟨e1, e2, e3, e4⟩ := hstep s t[j]
      obtain ⟨henc, hdiff⟩ := word_step init (eqW p t m) hinit m j hmw (B t[j]) (VP s) (VN s) (diff s)
        (fun i hi => by rw [hB _ (List.getElem_mem hj) i hi, eqW, getD_of_lt _ _ _ hj]) hI.enc hI.diff
      have hd := e3.trans hdiff
      have := gD_le_row init (eqW p t m) (hid 0 (Nat.zero_le m)) hinit (j + 1) m
      refine ⟨e1 ▸ e2 ▸ henc, hd, ?_⟩
      rw [e4, hd, hI.k, kmin, hclamp _ (by omega) (by omega)]
      split <;> omega)
  rw [hst.k, kmin_eq_sellers p t m hmp init hid (eqW p t m) (fun i j hi _ => by simp [eqW, hi]),
    toUInt8_small _ (by have := sellers_le (p.take m) t; rw [List.length_take] at this; omega)]

theorem bpm64_eq_sellers (t p : List Nat) (hp0 : p ≠ []) (ht : ∀ c ∈ t, c < 13) (hp : ∀ c ∈ p, c < 13) :
    bpm64 t p = some (sellers (p.take 63) t) := by
  rw [show List.take 63 p = List.take (min p.length 63) p by rw [List.take_eq_take_min, Nat.min_comm]]
  generalize hm : min p.length 63 = m
  have hm1 : 1 ≤ m := by
    have : 0 < p.length := List.length_pos_iff.2 hp0
    omega
  unfold bpm64
  simp only [hm]
  rw [if_neg (by omega), any_sigma_false _ (fun c hc => hp c (List.mem_of_mem_take hc)), any_sigma_false t ht]
  simp only [Bool.or_self, Bool.false_eq_true, if_false]
  -- `VP` starts as `m` ones: rows past the pattern repeat row `m`
  have h := wordLoop_eq_sellers (w := 64) (·.VP) (·.VN) (·.diff) (·.k) toInt8
    (bpm64Step (fun c => (((List.range SIGMA).map fun c => bpmB 64 p m c).toArray).getD c 0#64) ((1#64) <<< (m - 1)))
    (fun c => (((List.range SIGMA).map fun c => bpmB 64 p m c).toArray).getD c 0#64)
    p t m (by omega) (by omega) (by omega) (fun x h0 h1 => toInt8_small x h0 (by omega))
    (fun c hc i hi => by rw [tab_getD _ SIGMA _ _ (ht c hc), bpmB_bit 64 p m _ i (by omega) hi])
    (fun s c => by rw [rowMask, if_neg (show ¬ m = 0 by omega)]; exact ⟨rfl, rfl, rfl, rfl⟩)
    (fun i => min i m) (fun i => min_tri m i) (fun i hi => Nat.min_eq_left hi)
    { VP := ((1#64) <<< m) - 1#64, VN := 0#64, diff := (m : Int), k := (m : Int) }
    (Enc.of_pos _ _ (fun i => decide (i < m)) (fun i hi => vp0_bit m i (by omega) hi)
      (fun i _ => by simp only [decide_eq_true_eq]; split <;> omega)) rfl rfl
  rw [h]

end Kalign

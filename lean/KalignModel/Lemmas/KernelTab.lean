import KalignModel.Model.Kernel
/-!
# The loop skeleton of the DP kernels as a table (any score carrier)

`runKernel gaInit n start rows` is a left fold of `rowStep` over the first row `initRow`.  Here the cells are a function
`genTab … p k` (row `p`, cell `k`) given by the recurrences, and the list the kernel returns is `[genTab m 0, …, genTab m n]`
(`runKernel_eq_genTab`).  Nothing depends on the cell formulas, so it serves the forward and the backward kernel of all three
operand kinds (the loops of `aln_seqseq.c`, `aln_seqprofile.c`, `aln_profileprofile.c`; the meetups have no table).
-/
namespace Kalign
section
variable {α : Type} [Score α]

def genRow0 (gaInit : Nat → α → α → α) (n : Nat) (start : States α) : Nat → States α
  | 0 => start
  | k + 1 =>
    if k + 1 < n then
      ⟨Score.negInf, gaInit (k + 1) (genRow0 gaInit n start k).ga (genRow0 gaInit n start k).a, Score.negInf⟩
    else States.negInf

def genRow (ops : RowOps α) (n : Nat) (prev : Nat → States α) : Nat → States α
  | 0 => ⟨Score.negInf, Score.negInf, ops.gbFirst (prev 0).gb (prev 0).a⟩
  | k + 1 =>
    ⟨ops.aCell (k + 1) (prev k).a (prev k).ga (prev k).gb,
     if k + 1 < n then ops.gaCell (k + 1) (genRow ops n prev k).ga (genRow ops n prev k).a else Score.negInf,
     if k + 1 < n then ops.gbMid (prev (k + 1)).gb (prev (k + 1)).a
     else ops.gbLast (prev (k + 1)).gb (prev (k + 1)).a⟩

/-- row `p`, cell `k` of the kernel whose `i`-th row uses the cell formulas `opsAt i` -/
def genTab (gaInit : Nat → α → α → α) (n : Nat) (start : States α) (opsAt : Nat → RowOps α) :
    Nat → Nat → States α
  | 0 => genRow0 gaInit n start
  | p + 1 => genRow (opsAt p) n (genTab gaInit n start opsAt p)

theorem initRowGo_spec (gaInit : Nat → α → α → α) (n : Nat) (start : States α) :
    ∀ d j, 1 ≤ j → j + d = n →
      initRowGo gaInit (d + 1) j (genRow0 gaInit n start (j - 1)) =
        (List.range' j (d + 1)).map (genRow0 gaInit n start) := by
  intro d
  induction d with
  | zero =>
    intro j hj hn
    obtain ⟨k, rfl⟩ : ∃ k, j = k + 1 := ⟨j - 1, by omega⟩
    simp only [Nat.zero_add, initRowGo, List.range'_one, List.map_cons, List.map_nil, genRow0]
    rw [if_neg (by omega)]
  | succ d ih =>
    intro j hj hn
    obtain ⟨k, rfl⟩ : ∃ k, j = k + 1 := ⟨j - 1, by omega⟩
    have h1 : genRow0 gaInit n start (k + 1) =
        ⟨Score.negInf, gaInit (k + 1) (genRow0 gaInit n start k).ga (genRow0 gaInit n start k).a, Score.negInf⟩ := by
      simp only [genRow0]; rw [if_pos (by omega)]
    rw [List.range'_succ, List.map_cons]
    simp only [initRowGo, Nat.add_sub_cancel]
    rw [← h1]
    have := ih (k + 1 + 1) (by omega) (by omega)
    simp only [Nat.add_sub_cancel] at this
    rw [this]

theorem initRow_spec (gaInit : Nat → α → α → α) (n : Nat) (hn : 1 ≤ n) (start : States α) :
    initRow gaInit n start = (List.range (n + 1)).map (genRow0 gaInit n start) := by
  obtain ⟨d, rfl⟩ : ∃ d, n = d + 1 := ⟨n - 1, by omega⟩
  have := initRowGo_spec gaInit (d + 1) start d 1 (by omega) (by omega)
  simp only [Nat.sub_self] at this
  rw [initRow, List.range_eq_range', List.range'_succ, List.map_cons]
  congr 1

theorem rowGo_cons2 (ops : RowOps α) (k : Nat) (pa pga pgb xa xga : α) (c c' : States α) (rest : List (States α)) :
    rowGo ops k pa pga pgb xa xga (c :: c' :: rest) =
      ⟨ops.aCell k pa pga pgb, ops.gaCell k xga xa, ops.gbMid c.gb c.a⟩ ::
        rowGo ops (k + 1) c.a c.ga c.gb (ops.aCell k pa pga pgb) (ops.gaCell k xga xa) (c' :: rest) := by
  simp [rowGo]

theorem rowGo_spec (ops : RowOps α) (n : Nat) (prev : Nat → States α) :
    ∀ d j, 1 ≤ j → j + d = n →
      rowGo ops j (prev (j - 1)).a (prev (j - 1)).ga (prev (j - 1)).gb
          (genRow ops n prev (j - 1)).a (genRow ops n prev (j - 1)).ga ((List.range' j (d + 1)).map prev) =
        (List.range' j (d + 1)).map (genRow ops n prev) := by
  intro d
  induction d with
  | zero =>
    intro j hj hn
    obtain ⟨k, rfl⟩ : ∃ k, j = k + 1 := ⟨j - 1, by omega⟩
    simp only [Nat.zero_add, List.range'_one, List.map_cons, List.map_nil, rowGo, Nat.add_sub_cancel, genRow]
    rw [if_neg (by omega), if_neg (by omega)]
  | succ d ih =>
    intro j hj hn
    obtain ⟨k, rfl⟩ : ∃ k, j = k + 1 := ⟨j - 1, by omega⟩
    rw [List.range'_succ, List.map_cons, List.range'_succ, List.map_cons, rowGo_cons2]
    simp only [Nat.add_sub_cancel]
    have h1 : genRow ops n prev (k + 1) =
        ⟨ops.aCell (k + 1) (prev k).a (prev k).ga (prev k).gb,
         ops.gaCell (k + 1) (genRow ops n prev k).ga (genRow ops n prev k).a,
         ops.gbMid (prev (k + 1)).gb (prev (k + 1)).a⟩ := by
      simp only [genRow]; rw [if_pos (by omega), if_pos (by omega)]
    have := ih (k + 1 + 1) (by omega) (by omega)
    simp only [Nat.add_sub_cancel] at this
    rw [List.range'_succ, List.map_cons, h1] at this
    rw [List.map_cons, h1]
    congr 1

theorem rowStep_spec (ops : RowOps α) (n : Nat) (hn : 1 ≤ n) (prev : Nat → States α) :
    rowStep ops ((List.range (n + 1)).map prev) = (List.range (n + 1)).map (genRow ops n prev) := by
  obtain ⟨d, rfl⟩ : ∃ d, n = d + 1 := ⟨n - 1, by omega⟩
  rw [List.range_eq_range', List.range'_succ, List.map_cons, List.map_cons, rowStep]
  have := rowGo_spec ops (d + 1) prev d 1 (by omega) (by omega)
  simp only [Nat.sub_self] at this
  congr 1

theorem runKernel_eq_genTab (gaInit : Nat → α → α → α) (n : Nat) (hn : 1 ≤ n) (start : States α)
    (opsAt : Nat → RowOps α) (m : Nat) :
    runKernel gaInit n start ((List.range m).map opsAt) =
      (List.range (n + 1)).map (genTab gaInit n start opsAt m) := by
  unfold runKernel
  induction m with
  | zero => simpa [genTab] using initRow_spec gaInit n hn start
  | succ m ih =>
    rw [List.range_succ, List.map_append, List.foldl_append, ih]
    simp only [List.map_cons, List.map_nil, List.foldl_cons, List.foldl_nil]
    rw [rowStep_spec _ n hn]
    rfl

/-- the kernels list their rows as `range' s m`, the backward ones reversed -/
theorem runKernel_range' (gaInit : Nat → α → α → α) (n : Nat) (hn : 1 ≤ n) (start : States α) (rowAt : Nat → RowOps α)
    (s m : Nat) :
    runKernel gaInit n start ((List.range' s m).map rowAt) =
      (List.range (n + 1)).map (genTab gaInit n start (fun p => rowAt (s + p)) m) := by
  rw [List.range'_eq_map_range, List.map_map]
  exact runKernel_eq_genTab gaInit n hn start _ m

theorem runKernel_range'_reverse (gaInit : Nat → α → α → α) (n : Nat) (hn : 1 ≤ n) (start : States α)
    (rowAt : Nat → RowOps α) (s m : Nat) :
    runKernel gaInit n start ((List.range' s m).reverse.map rowAt) =
      (List.range (n + 1)).map (genTab gaInit n start (fun p => rowAt (s + m - 1 - p)) m) := by
  rw [List.reverse_range', List.map_map]
  exact runKernel_eq_genTab gaInit n hn start _ m

/-- two sets of cell formulas agree on the cells of a row of `n + 1` cells (`aCell` for `k = 1..n`, `gaCell` for `k = 1..n-1`) -/
structure RowOps.AgreeN (n : Nat) (o o' : RowOps α) : Prop where
  gbFirst : o.gbFirst = o'.gbFirst
  aCell : ∀ k, k + 1 ≤ n → o.aCell (k + 1) = o'.aCell (k + 1)
  gaCell : ∀ k, k + 1 < n → o.gaCell (k + 1) = o'.gaCell (k + 1)
  gbMid : o.gbMid = o'.gbMid
  gbLast : o.gbLast = o'.gbLast

theorem genRow_congrN (o o' : RowOps α) (n : Nat) (h : o.AgreeN n o') (prev prev' : Nat → States α)
    (hp : ∀ k, k ≤ n → prev k = prev' k) : ∀ k, k ≤ n → genRow o n prev k = genRow o' n prev' k := by
  intro k
  induction k with
  | zero => intro _; simp [genRow, h.gbFirst, hp 0 (Nat.zero_le _)]
  | succ k ih =>
    intro hk
    have ih' := ih (by omega)
    simp only [genRow]
    rw [hp k (by omega), hp (k + 1) hk, h.aCell k hk, ih', h.gbMid, h.gbLast]
    by_cases hlt : k + 1 < n
    · simp only [if_pos hlt, h.gaCell k hlt]
    · simp only [if_neg hlt]

theorem genRow0_congrN (ga ga' : Nat → α → α → α) (n : Nat) (start : States α)
    (h : ∀ k, k + 1 < n → ga (k + 1) = ga' (k + 1)) : ∀ k, genRow0 ga n start k = genRow0 ga' n start k := by
  intro k
  induction k with
  | zero => rfl
  | succ k ih =>
    simp only [genRow0]
    by_cases hlt : k + 1 < n
    · rw [if_pos hlt, if_pos hlt, ih, h k hlt]
    · rw [if_neg hlt, if_neg hlt]

theorem genTab_congrN (ga ga' : Nat → α → α → α) (n : Nat) (start : States α) (opsAt opsAt' : Nat → RowOps α)
    (m : Nat) (hga : ∀ k, k + 1 < n → ga (k + 1) = ga' (k + 1))
    (h : ∀ p, p < m → (opsAt p).AgreeN n (opsAt' p)) :
    ∀ p, p ≤ m → ∀ k, k ≤ n → genTab ga n start opsAt p k = genTab ga' n start opsAt' p k := by
  intro p
  induction p with
  | zero => intro _ k _; exact genRow0_congrN ga ga' n start hga k
  | succ p ih =>
    intro hp k hk
    simp only [genTab]
    exact genRow_congrN _ _ n (h p (by omega)) _ _ (ih (by omega)) k hk

end

/-! ## Two carriers: a relation on the values, graded by a level, carries over to the tables

`R d x y`: the value `x` of one carrier corresponds to the value `y` of the other at level `d`.  The level counts the cell formulas
applied so far (a carrier with a finite exact range pays for each of them with a part of that range), and cell `(p, k)` sits at level
`p + k`: every cell formula takes its arguments from one level to the next, the aligned cell from level `p + k` to `p + k + 2`. -/
section
variable {α β : Type} [Score α] [Score β]

def StRel (R : α → β → Prop) (s : States α) (e : States β) : Prop := R s.a e.a ∧ R s.ga e.ga ∧ R s.gb e.gb

def GaLift (R : Nat → α → β → Prop) (L : Nat) (gS : Nat → α → α → α) (gE : Nat → β → β → β) : Prop :=
  ∀ (k d d' : Nat) (x y : α) (ex ey : β), d' = d + 1 → d' ≤ L → R d x ex → R d y ey → R d' (gS k x y) (gE k ex ey)

/-- `aCell` is only evaluated at `k ≥ 1` -/
structure OpsLift (R : Nat → α → β → Prop) (L : Nat) (oS : RowOps α) (oE : RowOps β) : Prop where
  gbFirst : GaLift R L (fun _ => oS.gbFirst) (fun _ => oE.gbFirst)
  aCell : ∀ (k d d' : Nat) (x y z : α) (ex ey ez : β), d' = d + 2 → d' ≤ L → R d x ex → R d y ey → R d z ez →
    R d' (oS.aCell (k + 1) x y z) (oE.aCell (k + 1) ex ey ez)
  gaCell : GaLift R L oS.gaCell oE.gaCell
  gbMid : GaLift R L (fun _ => oS.gbMid) (fun _ => oE.gbMid)
  gbLast : GaLift R L (fun _ => oS.gbLast) (fun _ => oE.gbLast)

theorem genTab_rel (R : Nat → α → β → Prop) (L : Nat) (hneg : ∀ d, R d Score.negInf Score.negInf)
    {gS : Nat → α → α → α} {gE : Nat → β → β → β} (hg : GaLift R L gS gE) (n : Nat) {sS : States α} {sE : States β}
    {oS : Nat → RowOps α} {oE : Nat → RowOps β} (ho : ∀ p, OpsLift R L (oS p) (oE p)) (hs : StRel (R 0) sS sE) :
    ∀ p k, p + k ≤ L → StRel (R (p + k)) (genTab gS n sS oS p k) (genTab gE n sE oE p k) := by
  intro p
  induction p with
  | zero =>
    intro k
    induction k with
    | zero => intro _; simpa [genTab, genRow0] using hs
    | succ k ih =>
      intro hk
      have ih' := ih (by omega)
      simp only [genTab, genRow0] at ih' ⊢
      split
      · exact ⟨hneg _, hg _ _ _ _ _ _ _ (by omega) hk ih'.2.1 ih'.1, hneg _⟩
      · exact ⟨hneg _, hneg _, hneg _⟩
  | succ p ih =>
    intro k
    induction k with
    | zero =>
      intro hk
      have h0 := ih 0 (by omega)
      simp only [genTab, genRow] at h0 ⊢
      exact ⟨hneg _, hneg _, (ho p).gbFirst 0 _ _ _ _ _ _ (by omega) hk h0.2.2 h0.1⟩
    | succ k ihk =>
      intro hk
      have hc := ihk (by omega)
      have hk0 := ih k (by omega)
      have hk1 := ih (k + 1) (by omega)
      simp only [genTab, genRow] at hc hk0 hk1 ⊢
      refine ⟨(ho p).aCell _ _ _ _ _ _ _ _ _ (by omega) hk hk0.1 hk0.2.1 hk0.2.2, ?_, ?_⟩
      · split
        · exact (ho p).gaCell _ _ _ _ _ _ _ (by omega) hk hc.2.1 hc.1
        · exact hneg _
      · split
        · exact (ho p).gbMid 0 _ _ _ _ _ _ (by omega) hk hk1.2.2 hk1.1
        · exact (ho p).gbLast 0 _ _ _ _ _ _ (by omega) hk hk1.2.2 hk1.1

end
end Kalign

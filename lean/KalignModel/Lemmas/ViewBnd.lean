import KalignModel.Lemmas.View
import KalignModel.Lemmas.SoftMeet
/-!
# The value classes of the binary32 kernels, for any operand view

`View.Bnd u C V`: each of the six gap functions of the view is a penalty map (`PenU`: one more unit, same finiteness flag) and `sc` costs
`2·C − 1` units.  Then the row tables, the first rows and the meetup terms of the generic kernel on `V` satisfy the relations of
`SoftKernelU.lean` / `SoftMeet.lean` (`View.Bnd.rowF`, `.rowB`, `.gaRel`, `.meetOps`), whatever the operand kind.  The three kinds:
`ApBnd.view` (`SoftKernel.lean`), `SpBnd.view`, `PpBnd.view` (`SoftProfMon.lean`).
-/
namespace Kalign
open SoftF32

structure View.Bnd (u C : Nat) (V : View SoftF32) : Prop where
  hu : u ≤ 79
  hC : 1 ≤ C
  rO : ∀ i, PenU u (V.rO i)
  rE : ∀ i, PenU u (V.rE i)
  rT : ∀ i, PenU u (V.rT i)
  cO : ∀ j, PenU u (V.cO j)
  cE : ∀ j, PenU u (V.cE j)
  cT : ∀ j, PenU u (V.cT j)
  sc : ∀ (i j B : Nat) (x : SoftF32) (p : Bool), B + 2 * C < 16777216 → ClsU u (B + 1) x p → ClsU u (B + 2 * C) (V.sc i j x) p

variable {u C : Nat} {V : View SoftF32} (H : V.Bnd u C)
include H

theorem View.Bnd.gb (i : Nat) (t : Bool) (B : Nat) (x y : SoftF32) (a b : Bool) (hB : B + 1 < 16777216)
    (hx : ClsU u B x a) (hy : ClsU u B y b) : ClsU u (B + 1) (V.gb i t x y) (a || b) := by
  unfold View.gb
  cases t
  · simp only [Bool.false_eq_true, if_false]
    exact clsU_smax H.hu (H.rE i B x a hB hx) (H.rO i B y b hB hy) (by omega)
  · simp only [if_true]
    exact H.rT i B _ _ hB (clsU_smax H.hu hx hy (by omega))

theorem View.Bnd.ga (j : Nat) (t : Bool) (B : Nat) (x y : SoftF32) (a b : Bool) (hB : B + 1 < 16777216)
    (hx : ClsU u B x a) (hy : ClsU u B y b) : ClsU u (B + 1) (V.ga j t x y) (a || b) := by
  unfold View.ga
  cases t
  · simp only [Bool.false_eq_true, if_false]
    exact clsU_smax H.hu (H.cE j B x a hB hx) (H.cO j B y b hB hy) (by omega)
  · simp only [if_true]
    exact H.cT j B _ _ hB (clsU_smax H.hu hx hy (by omega))

theorem View.Bnd.cell (i i' j j' B : Nat) (x y z : SoftF32) (a b d : Bool) (hB : B + 2 * C < 16777216)
    (hx : ClsU u B x a) (hy : ClsU u B y b) (hz : ClsU u B z d) :
    ClsU u (B + 2 * C) (V.sc i j (smax3 x (V.cO j' y) (V.rO i' z))) (a || b || d) := by
  have hC := H.hC
  exact H.sc i j B _ _ hB (clsU_smax3 H.hu (hx.mono (Nat.le_succ _)) (H.cO j' B y b (by omega) hy) (H.rO i' B z d (by omega) hz) (by omega))

/-- a row of cell formulas read through the view, whatever columns and terminal flags it uses -/
theorem View.Bnd.row (i i' : Nat) (t1 t2 : Bool) (jc jo jg : Nat → Nat) (c : KCfg) (p : Nat) :
    OpsRelU u C
      { gbFirst := V.gb i t1
        aCell := fun k pa pga pgb => V.sc i (jc k) (smax3 pa (V.cO (jo k) pga) (V.rO i' pgb))
        gaCell := fun k => V.ga (jg k) false
        gbMid := V.gb i false
        gbLast := V.gb i t2 } (absOps c p) := by
  have hC := H.hC
  exact opsRelU_absOps c p (fun B x y a b hB hx hy => (H.gb _ _ B x y a b (by omega) hx hy).mono (by omega))
    (fun k B x y z a b d hB hx hy hz => H.cell _ _ _ _ B x y z a b d hB hx hy hz)
    (fun k B x y a b hB hx hy => (H.ga _ false B x y a b (by omega) hx hy).mono (by omega))
    (fun B x y a b hB hx hy => (H.gb _ _ B x y a b (by omega) hx hy).mono (by omega))
    (fun B x y a b hB hx hy => (H.gb _ _ B x y a b (by omega) hx hy).mono (by omega))

theorem View.Bnd.rowF (r : Rect) (i : Nat) (c : KCfg) (p : Nat) : OpsRelU u C (V.rowF r i) (absOps c p) :=
  H.row _ _ _ _ _ _ _ c p

theorem View.Bnd.rowB (r : Rect) (i : Nat) (c : KCfg) (p : Nat) : OpsRelU u C (V.rowB r i) (absOps c p) :=
  H.row _ _ _ _ _ _ _ c p

theorem View.Bnd.gaRel (jOf : Nat → Nat) (t : Bool) (c : KCfg) : GaRelU u C (fun k => V.ga (jOf k) t) (absGaInit c) := by
  have hC := H.hC
  exact gaRelU_absGaInit c fun k B x y a b hB hx hy => (H.ga _ t B x y a b (by omega) hx hy).mono (by omega)

theorem View.Bnd.meetOps (r : Rect) (mid : Nat) : MeetOpsBndU u (V.meetOps r mid) :=
  ⟨fun _ => H.cO _, H.rO _, fun _ => H.cO _, penU_ite (r.startb == 0) (H.rT _) (H.rE _), H.rO _,
    penU_ite (r.endb == r.lenB) (H.rT _) (H.rE _)⟩

end Kalign

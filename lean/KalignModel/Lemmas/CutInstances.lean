import KalignModel.Lemmas.CutRun
import KalignModel.Lemmas.OptCut
import KalignModel.Lemmas.PathCols
import KalignModel.Lemmas.Walk
/-!
# Proofs of the cut hypothesis for two sequences

`CutHypM`: the cut hypothesis at the level of the meetup of the real sequence–sequence kernels on any carrier (`CutHypM.cutHyp`);
`CutHypE`: the same for the abstract meetup `absMeet` on the exact carrier (`ssMeet_eq`); like `CutHyp`, each is a condition on
every level of `P` (`OnEveryLevel`, Lemmas/SubLevel.lean).  The robustly optimal alignment of two sequences on the exact carrier (`OptHyp`) is such a `P` (`OptHyp.cutHyp`, from `opt_cut`).
-/
namespace Kalign

/-- the standing assumptions: finite non-negative parameters, `P` a valid column list for `(lenA, lenB)` without a
gap-in-a run next to a gap-in-b run, which beats every other such list by the safe margin -/
structure OptHyp (ap : AlnParam ExactScore) (gpo gpe tgpe : Int) (s : Nat → Nat → Int) (seq1 seq2 : Array Nat)
    (lenA lenB : Nat) (P : List Col) : Prop where
  hap : ApOK ap gpo gpe tgpe s
  hgpo : 0 ≤ gpo
  hgpe : 0 ≤ gpe
  htgpe : 0 ≤ tgpe
  hadj : adjOK .A P = true
  hA : consA P = lenA
  hB : consB P = lenB
  margin : ∀ Q, adjOK .A Q = true → consA Q = lenA → consB Q = lenB → Q ≠ P →
    (ssW gpo gpe tgpe s seq1 seq2 lenA lenB).walk 0 0 .A Q + (lenB : Int) <
      (ssW gpo gpe tgpe s seq1 seq2 lenA lenB).walk 0 0 .A P - gpo * (nterm P : Int) -
        (ssW gpo gpe tgpe s seq1 seq2 lenA lenB).slackLo - (ssW gpo gpe tgpe s seq1 seq2 lenA lenB).slackHi

/-- transition 2 (aligned / gap-in-a) is never taken in cell 0: the backward kernel cannot walk a gap-in-a column
into its last cell -/
theorem cut_t2_pos (cB : KCfg) (bk : Kind) (X2 : List Col) (k : Nat) (hs : Col.skip ∉ X2) (hne : X2 ≠ [])
    (hw2 : walkOK cB 0 0 bk X2.reverse = true) (hl2 : lastKind bk X2.reverse = .GA) (hB : k + consB X2 = cB.n) :
    1 ≤ k := by
  have hv : firstKind .A X2 = .GA := by
    rw [firstKind_indep .A bk X2 hne hs, ← lastKind_reverse _ _ hs]; exact hl2
  cases X2 with
  | nil => simp [firstKind] at hv
  | cons c cs =>
    have hc : c = .gapA := by
      cases c with
      | skip => exact absurd (by simp) hs
      | both => simp [firstKind, colKind] at hv
      | gapB => simp [firstKind, colKind] at hv
      | gapA => rfl
    subst hc
    rw [List.reverse_cons, walkOK_append, Bool.and_eq_true] at hw2
    have hstep := hw2.2
    simp only [walkOK, Bool.and_true, stepOK, Bool.and_eq_true, decide_eq_true_eq, Nat.zero_add, consB_reverse]
      at hstep
    simp only [consB_gapA] at hB
    omega

section
variable {α : Type} [Score α] {ap : AlnParam α} {ops : Operands α} {lenA lenB : Nat} {P : List Col}

theorem realStep_ss (ap : AlnParam α) (seq1 seq2 : Array Nat) (lenA lenB : Nat) (f b : Array (States α))
    (sa mid ea sb eb : Nat) (h1 : sa ≤ mid) (h2 : mid ≤ ea) (h3 : ea ≤ lenA) (h4 : sb < eb) (h5 : eb ≤ lenB)
    (hf : lenB + 1 ≤ f.size) (hb : lenB + 1 ≤ b.size) (res : MeetResult α)
    (hres : res = meetupRun (ssMeetOps ap ⟨sa, mid, sb, eb, lenB⟩) sb eb
      (ssForward ap seq1 seq2 ⟨sa, mid, sb, eb, lenB⟩ (f.getD 0 States.negInf))
      (ssBackward ap seq1 seq2 ⟨mid, ea, sb, eb, lenB⟩ (b.getD 0 States.negInf))) :
    ∃ f' b', realStep ap (.seqseq seq1 seq2) lenA lenB f b sa mid ea sb eb =
        some ⟨f', b', res.meet, res.transition, res.score⟩ ∧ f'.size = f.size ∧ b'.size = b.size := by
  subst hres
  obtain ⟨f', b', r, hfs, hbs, hr, hstep⟩ := realStep_inside ap (.seqseq seq1 seq2) lenA lenB f b sa mid ea sb eb
    (by omega) (by omega) (by omega) (by omega) (by omega) (by omega) (by omega) hf hb
  refine ⟨f', b', ?_, hfs, hbs⟩
  simp only [Int.toNat_natCast, kForward, kBackward] at hr
  rw [hstep, hr]
  rfl

/-- on every level of `P`, the meetup of the real kernels on one-hot start states of the boundary kinds returns an admissible cut of
`P` that both exact kernels (`cfgF`, `cfgB`: the scores of the problem in units of 1/2000) can walk -/
def CutHypM (ap : AlnParam α) (gpo gpe tgpe : Int) (s : Nat → Nat → Int) (seq1 seq2 : Array Nat)
    (lenA lenB : Nat) (P : List Col) : Prop :=
  OnEveryLevel lenA lenB P fun L X => ∀ res,
    res = meetupRun (ssMeetOps ap L.rF) L.sb L.eb
      (ssForward ap seq1 seq2 L.rF ((realKernels ap (.seqseq seq1 seq2) lenA lenB).st L.fk))
      (ssBackward ap seq1 seq2 L.rB ((realKernels ap (.seqseq seq1 seq2) lenA lenB).st L.bk)) →
    (L.meet (ssW gpo gpe tgpe s seq1 seq2 lenA lenB)).CutOf X L.sb res.meet res.transition

theorem CutHypM.cutHyp {gpo gpe tgpe : Int} {s : Nat → Nat → Int} {seq1 seq2 : Array Nat}
    (H : CutHypM ap gpo gpe tgpe s seq1 seq2 lenA lenB P) :
    CutHyp (realKernels ap (.seqseq seq1 seq2) lenA lenB) Array.size lenA lenB P where
  sz_set0 := realKernels_set0_size ap _ lenA lenB
  get0_set0 := realKernels_get0_set0 ap _ lenA lenB
  toOnEveryLevel := H.mono fun L X hP hc f b hf hb hf0 hb0 => by
    obtain ⟨f', b', hstep, hf's, hb's⟩ := realStep_ss ap seq1 seq2 lenA lenB f b L.sa L.mid L.ea L.sb L.eb L.sa_le_mid
      (Nat.le_of_lt L.mid_lt_ea) L.ea_le L.sb_lt_eb L.eb_le hf hb _ rfl
    have hf0' : f.getD 0 States.negInf = _ := hf0
    have hb0' : b.getD 0 States.negInf = _ := hb0
    rw [hf0', hb0'] at hstep
    obtain ⟨X1, X2r, k, t, hX, hmeet, htrans, hadm, hw⟩ := hc _ rfl
    rw [hmeet, htrans] at hstep
    exact ⟨X1, X2r.reverse, k, t, f', b', _, hstep, hf's, hb's, hX, hadm, hw.a1, hw.b1, hw.a2', hw.bb hadm.le, hw.l1, hw.l2',
      fun ht => cut_t2_pos _ _ X2r.reverse k (fun h => adjOK_noskip _ _ H.hadj (by rw [hP, hX]; simp [h]))
        (consA_pos_ne_nil (by rw [hw.a2']; exact L.m2_pos)) hw.w2' (by rw [hw.l2', ht]; rfl)
        (by rw [← hw.b1]; exact hw.bb hadm.le)⟩

end

section
variable {ap : AlnParam ExactScore} {gpo gpe tgpe : Int} {s : Nat → Nat → Int} {seq1 seq2 : Array Nat} {lenA lenB : Nat}
  {P : List Col}

/-- on every level of `P`, the abstract meetup (`absMeet`) on one-hot start states of the boundary kinds returns an admissible cut
of `P` that both kernels can walk -/
structure CutHypE (ap : AlnParam ExactScore) (gpo gpe tgpe : Int) (s : Nat → Nat → Int) (seq1 seq2 : Array Nat)
    (lenA lenB : Nat) (P : List Col) : Prop extends
    OnEveryLevel lenA lenB P fun L X => ∀ res,
      res = (L.meet (ssW gpo gpe tgpe s seq1 seq2 lenA lenB)).exact L.sb L.eb →
      (L.meet (ssW gpo gpe tgpe s seq1 seq2 lenA lenB)).CutOf X L.sb res.meet res.transition where
  hap : ApOK ap gpo gpe tgpe s

/-- on the exact carrier the meetup of the real kernels is `absMeet` (`ssMeet_eq`) -/
theorem CutHypE.cutHypM (H : CutHypE ap gpo gpe tgpe s seq1 seq2 lenA lenB P) :
    CutHypM ap gpo gpe tgpe s seq1 seq2 lenA lenB P :=
  H.toOnEveryLevel.mono fun L _ _ hc res hres => hc res (by
    rw [hres, hot_eq_st, hot_eq_st]
    exact ssMeet_eq H.hap seq1 seq2 L.sa L.mid L.ea L.sb L.eb lenB L.sb_lt_eb (Nat.le_of_lt L.mid_lt_ea) (hot L.fk)
      (hot L.bk))

theorem CutHypE.cutHyp (H : CutHypE ap gpo gpe tgpe s seq1 seq2 lenA lenB P) :
    CutHyp (realKernels ap (.seqseq seq1 seq2) lenA lenB) Array.size lenA lenB P :=
  H.cutHypM.cutHyp

theorem OptHyp.cutHyp (H : OptHyp ap gpo gpe tgpe s seq1 seq2 lenA lenB P) :
    CutHyp (realKernels ap (.seqseq seq1 seq2) lenA lenB) Array.size lenA lenB P :=
  CutHypE.cutHyp ⟨⟨H.hadj, H.hA, H.hB, fun L _ hP _ res hres =>
    opt_cut (ssW gpo gpe tgpe s seq1 seq2 lenA lenB) L H.hgpo H.hgpe hP H.hadj H.hA H.hB H.margin res hres⟩, H.hap⟩

end
end Kalign

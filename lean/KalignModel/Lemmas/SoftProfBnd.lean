import KalignModel.Lemmas.SoftProfMon
import KalignModel.Lemmas.NoFaultRecC
import KalignModel.Lemmas.Basic.ArrayGetD
/-!
# Profile entries stay bounded (software binary32)

Every entry of `make_profile_n`'s result is finite and at most `2²⁰` (given `ApBnd`); `update_n` of profiles bounded by `4·ka·2²⁰`,
`4·kb·2²⁰` along `CodeOK` codes is bounded by `4·(ka+kb)·2²⁰`, outside the gap-penalty slots 27..29, which `set_gap_penalties_n`
overwrites before the profile is used.
-/
set_option exponentiation.threshold 512
namespace Kalign
open SoftF32

/-- a stored profile: every entry outside the gap-penalty slots 27..29 (of every column) is finite and at most `N`
(the slots 27..29 hold leftovers that `set_gap_penalties_n` overwrites before the profile is used) -/
def StoredBnd (N : Nat) (p : Array SoftF32) : Prop :=
  ∀ i, (i % 64 = 27 ∨ i % 64 = 28 ∨ i % 64 = 29) ∨ absLe (p.getD i Score.zero) N

theorem EntBnd.stored {Nc Ng : Nat} {q : Array SoftF32} (h : EntBnd Nc Ng q) : StoredBnd Nc q := fun i => by
  have := h i
  split at this
  · exact Or.inl ‹_›
  · exact Or.inr this

namespace ProfBnd

theorem absLe_one : absLe (SoftF32.add SoftF32.zero SoftF32.one) 1048576 := by
  have h := ofNat_absLe (n := 1) (by decide)
  have e : ofNat 1 = SoftF32.add SoftF32.zero SoftF32.one := by decide
  rw [e] at h
  exact h.mono (by decide)

def AllBnd (K : Nat) (p : Array SoftF32) : Prop := ∀ i, absLe (p.getD i Score.zero) K

theorem allBnd_replicate (K n : Nat) : AllBnd K (Array.replicate n (Score.zero : SoftF32)) := by
  intro i
  have : (Array.replicate n (Score.zero : SoftF32)).getD i Score.zero = Score.zero := by
    simp only [Array.getD_eq_getD_getElem?, Array.getElem?_replicate]
    split <;> rfl
  rw [this]; exact absLe_zero K

theorem allBnd_set {K : Nat} {p : Array SoftF32} (h : AllBnd K p) (j : Nat) {v : SoftF32} (hv : absLe v K) :
    AllBnd K (p.set! j v) := by
  intro i
  rw [getD_set!]
  by_cases hi : j = i ∧ j < p.size
  · rw [if_pos hi]; exact hv
  · rw [if_neg hi]; exact h i

theorem allBnd_append {K : Nat} {p c : Array SoftF32} (hp : AllBnd K p) (hc : AllBnd K c) : AllBnd K (p ++ c) := by
  intro i
  rw [getD_append]
  by_cases hi : i < p.size
  · rw [if_pos hi]; exact hp i
  · rw [if_neg hi]; exact hc _

theorem allBnd_sentinel (ap : AlnParam SoftF32) (hap : ApBnd ap) : AllBnd 1048576 (sentinelCol ap) := by
  unfold sentinelCol
  exact allBnd_set (allBnd_set (allBnd_set (allBnd_replicate _ _) _ (neg_absLe hap.gpo)) _ (neg_absLe hap.gpe)) _
    (neg_absLe hap.tgpe)

theorem allBnd_foldl_set {K : Nat} (f : Nat → SoftF32) (hf : ∀ j, absLe (f j) K) (l : List Nat) (col : Array SoftF32)
    (h : AllBnd K col) : AllBnd K (l.foldl (fun col j => col.set! (32 + j) (f j)) col) := by
  induction l generalizing col with
  | nil => exact h
  | cons x xs ih => rw [List.foldl_cons]; exact ih _ (allBnd_set h _ (hf x))

theorem allBnd_residue (ap : AlnParam SoftF32) (hap : ApBnd ap) (c : Nat) : AllBnd 1048576 (residueCol ap c) := by
  unfold residueCol
  exact allBnd_set (allBnd_set (allBnd_set
    (allBnd_foldl_set (fun j => ap.sub c j) (fun j => hap.sub c j) _ _ (allBnd_set (allBnd_replicate _ _) _ absLe_one))
    _ (neg_absLe hap.gpo)) _ (neg_absLe hap.gpe)) _ (neg_absLe hap.tgpe)

theorem allBnd_mp_fold (ap : AlnParam SoftF32) (hap : ApBnd ap) (l : List Nat) (init : Array SoftF32)
    (h : AllBnd 1048576 init) : AllBnd 1048576 (l.foldl (fun p c => p ++ residueCol ap c) init) := by
  induction l generalizing init with
  | nil => exact h
  | cons x xs ih => rw [List.foldl_cons]; exact ih _ (allBnd_append h (allBnd_residue ap hap x))

end ProfBnd
open ProfBnd

/-- **`make_profile_n`**: every entry is `0`, `0 + 1`, a substitution score or a negated penalty -/
theorem makeProfile_entBnd (ap : AlnParam SoftF32) (hap : ApBnd ap) (seq : Array Nat) :
    EntBnd 1048576 1048576 (makeProfile ap seq) := by
  have h : AllBnd 1048576 (makeProfile ap seq) := by
    unfold makeProfile
    rw [← Array.foldl_toList]
    exact allBnd_append (allBnd_mp_fold ap hap _ _ (allBnd_sentinel ap hap)) (allBnd_sentinel ap hap)
  intro i
  rw [ite_self]
  exact h i

/-- without `hsz` a trailing partial column would keep its slots 27..29 -/
theorem setGapPenalties_getD {p : Array SoftF32} (hsz : p.size % 64 = 0) (n i : Nat) :
    (setGapPenalties p n).getD i Score.zero =
      if i < p.size ∧ (i % 64 = 27 ∨ i % 64 = 28 ∨ i % 64 = 29) then
        Score.mul (p.getD (i + 28) Score.zero) (Score.ofNat n)
      else p.getD i Score.zero := by
  obtain ⟨h1, h2⟩ := setGapPenalties_spec p n (p.size / 64) (by omega)
  have hpg : ∀ (q : Array SoftF32) j, q.getD j Score.zero = pget q (j / 64) (j % 64) := fun q j => by
    unfold pget; rw [Nat.div_add_mod]
  by_cases hi : i < p.size
  · rw [hpg, h2 _ _ (by omega) (Nat.mod_lt _ (by decide))]
    by_cases hg : i % 64 = 27 ∨ i % 64 = 28 ∨ i % 64 = 29
    · rw [if_pos hg, if_pos ⟨hi, hg⟩]
      unfold pget
      congr 2
      omega
    · rw [if_neg hg, if_neg (fun h => hg h.2), ← hpg]
  · rw [if_neg (fun h => hi h.1), getD_oob _ _ (by omega), getD_oob _ _ (by omega)]

theorem setGapPenalties_entBnd {N n c t : Nat} {p : Array SoftF32} (hp : StoredBnd N p) (hsz : p.size % 64 = 0)
    (hn : n < 16777216) (hNn : N * n ≤ c * 2 ^ t) (hc : c < 16777216) (ht : t ≤ 104) :
    EntBnd N (c * 2 ^ t) (setGapPenalties p n) := by
  intro i
  rw [setGapPenalties_getD hsz]
  by_cases hg : i % 64 = 27 ∨ i % 64 = 28 ∨ i % 64 = 29
  · rw [if_pos hg]
    by_cases hi : i < p.size
    · rw [if_pos ⟨hi, hg⟩]
      exact mul_absLe ((hp (i + 28)).resolve_left (by omega)) (ofNat_absLe hn) hNn hc ht
    · rw [if_neg (fun h => hi h.1), getD_oob _ _ (by omega)]
      exact absLe_zero _
  · rw [if_neg hg, if_neg (fun h => hg h.2)]
    exact (hp i).resolve_left hg

theorem setGapPenalties_stored {N : Nat} {p : Array SoftF32} (hp : StoredBnd N p) (hsz : p.size % 64 = 0) (n : Nat) :
    StoredBnd N (setGapPenalties p n) := by
  intro i
  by_cases hg : i % 64 = 27 ∨ i % 64 = 28 ∨ i % 64 = 29
  · exact Or.inl hg
  · right
    rw [setGapPenalties_getD hsz, if_neg (fun h => hg h.2)]
    exact (hp i).resolve_left hg

namespace ProfBnd

def ColBnd (K : Nat) (col : Array SoftF32) : Prop :=
  col.size = 64 ∧ ∀ e, e < 64 → (e = 27 ∨ e = 28 ∨ e = 29) ∨ absLe (col.getD e Score.zero) K

def Blk (K : Nat) (out : Array SoftF32) : Prop := out.size % 64 = 0 ∧ StoredBnd K out

theorem ColBnd.mono {K K' : Nat} {col : Array SoftF32} (h : ColBnd K col) (hK : K ≤ K') : ColBnd K' col :=
  ⟨h.1, fun e he => (h.2 e he).imp id (fun x => x.mono hK)⟩

theorem colBnd_blk {K : Nat} {col : Array SoftF32} (h : ColBnd K col) : Blk K col := by
  refine ⟨by rw [h.1], fun i => ?_⟩
  by_cases hi : i < 64
  · have := h.2 i hi
    rw [Nat.mod_eq_of_lt hi]
    exact this
  · right
    rw [getD_oob _ _ (by rw [h.1]; omega)]
    exact absLe_zero _

theorem blk_append {K : Nat} {out col : Array SoftF32} (ho : Blk K out) (hc : ColBnd K col) : Blk K (out ++ col) := by
  refine ⟨by rw [Array.size_append, hc.1]; have := ho.1; omega, fun i => ?_⟩
  rw [getD_append]
  by_cases hi : i < out.size
  · rw [if_pos hi]; exact ho.2 i
  · rw [if_neg hi]
    have h1 := ho.1
    have e : i % 64 = (i - out.size) % 64 := by omega
    rw [e]
    exact (colBnd_blk hc).2 _

theorem colOf?_bnd {N : Nat} {p col : Array SoftF32} (hp : StoredBnd N p) (c : Nat) (h : colOf? p c = some col) :
    ColBnd N col := by
  rw [colOf?_eq] at h
  split at h
  · rename_i hsz
    cases h
    refine ⟨size_colAt p c hsz, fun e he => ?_⟩
    rw [getD_colAt p c e hsz he]
    have := hp (64 * c + e)
    rwa [show (64 * c + e) % 64 = e by omega] at this
  · cases h

theorem addCols_bnd {A B c t : Nat} {x y : Array SoftF32} (hx : ColBnd A x) (hy : ColBnd B y)
    (hAB : A + B = c * 2 ^ t) (hc : c < 16777216) (ht : t ≤ 104) : ColBnd (A + B) (addCols x y) := by
  refine ⟨size_addCols x y, fun e he => ?_⟩
  rcases hx.2 e he with h1 | h1
  · exact Or.inl h1
  rcases hy.2 e he with h2 | h2
  · exact Or.inl h2
  right
  rw [addCols_getD x y e he]
  exact add_absLe h1 h2 hAB hc ht

theorem gap_bnd {B S c t : Nat} {col : Array SoftF32} {s gp : SoftF32} (hcol : ColBnd B col) (hs : absLe s S)
    (hgp : absLe gp S) (hBS : B + S = c * 2 ^ t) (hc : c < 16777216) (ht : t ≤ 104) (k : Nat) (hk : k < 32) :
    ColBnd (B + S) (subRange (bumpAt col k s) gp) := by
  refine ⟨by rw [size_subRange, size_bumpAt, hcol.1], fun e he => ?_⟩
  by_cases hg : e = 27 ∨ e = 28 ∨ e = 29
  · exact Or.inl hg
  right
  have hce : absLe (col.getD e Score.zero) B := (hcol.2 e he).resolve_left hg
  rw [subRange_getD, bumpAt_getD, size_bumpAt]
  by_cases hr : 32 ≤ e ∧ e < 55 ∧ e < col.size
  · rw [if_pos hr, if_neg (by omega)]
    exact sub_absLe hce hgp hBS hc ht
  · rw [if_neg hr]
    by_cases hke : k = e ∧ k < col.size
    · rw [if_pos hke]
      obtain ⟨rfl, _⟩ := hke
      exact add_absLe hce hs hBS hc ht
    · rw [if_neg hke]
      exact hce.mono (by omega)

theorem two_pow_20 : (2 : Nat) ^ 20 = 1048576 := by decide

theorem gapCol_bnd (ap : AlnParam SoftF32) (hap : ApBnd ap) {k sip : Nat} {col : Array SoftF32}
    (hcol : ColBnd (4 * k * 1048576) col) (hks : 4 * k + sip < 16777216) (code : Nat)
    (hcode : (code = 1 ∨ code = 2) ∨ (code = 33 ∨ code = 34)) :
    ColBnd (4 * k * 1048576 + sip * 1048576) (gapCol ap col code sip) := by
  have hs : absLe (SoftF32.ofNat sip) (sip * 1048576) := (ofNat_absLe (by omega)).mono (by omega)
  have hm : ∀ {pen : SoftF32}, absLe pen 1048576 → absLe (SoftF32.mul pen (SoftF32.ofNat sip)) (sip * 1048576) := by
    intro pen hpen
    have := mul_absLe (c := sip) (t := 20) hpen (ofNat_absLe (n := sip) (by omega))
      (by rw [two_pow_20, Nat.mul_comm]; exact Nat.le_refl _) (by omega) (by decide)
    rwa [two_pow_20] at this
  have hBS : 4 * k * 1048576 + sip * 1048576 = (4 * k + sip) * 2 ^ 20 := by rw [two_pow_20]; omega
  rcases hcode with h | h
  · rw [gapCol_ext ap col sip h]; exact gap_bnd hcol hs (hm hap.gpe) hBS hks (by decide) 24 (by decide)
  · rw [gapCol_term ap col sip h]; exact gap_bnd hcol hs (hm hap.tgpe) hBS hks (by decide) 25 (by decide)

theorem addCols_bnd4 {ka kb : Nat} {x y : Array SoftF32} (hk : 4 * (ka + kb) < 16777216)
    (hx : ColBnd (4 * ka * 1048576) x) (hy : ColBnd (4 * kb * 1048576) y) :
    ColBnd (4 * (ka + kb) * 1048576) (addCols x y) := by
  have := addCols_bnd (c := 4 * (ka + kb)) (t := 20) hx hy (by rw [two_pow_20]; omega) hk (by decide)
  exact this.mono (by omega)

theorem updateStep_blk (ap : AlnParam SoftF32) (hap : ApBnd ap) (pa pb : Array SoftF32) (ka kb : Nat)
    (hk : 4 * (ka + kb) < 16777216) (hpa : StoredBnd (4 * ka * 1048576) pa) (hpb : StoredBnd (4 * kb * 1048576) pb)
    (st st' : UpdState SoftF32) (code : Nat) (hc : CodeOK code) (hst : Blk (4 * (ka + kb) * 1048576) st.out)
    (h : updateStep ap pa pb ka kb st code = some st') : Blk (4 * (ka + kb) * 1048576) st'.out := by
  obtain rfl | hc | hc := hc.kinds
  · rw [updateStep_zero] at h
    simp only [Option.bind_eq_some_iff, Option.some.injEq] at h
    obtain ⟨ca, hca, cb, hcb, rfl⟩ := h
    exact blk_append hst (addCols_bnd4 hk (colOf?_bnd hpa _ hca) (colOf?_bnd hpb _ hcb))
  · rw [updateStep_gapA ap pa pb ka kb st hc, Option.map_eq_some_iff] at h
    obtain ⟨cb, hcb, rfl⟩ := h
    exact blk_append hst ((gapCol_bnd ap hap (colOf?_bnd hpb _ hcb) (by omega) code (by omega)).mono (by omega))
  · rw [updateStep_gapB ap pa pb ka kb st hc, Option.map_eq_some_iff] at h
    obtain ⟨ca, hca, rfl⟩ := h
    exact blk_append hst ((gapCol_bnd ap hap (colOf?_bnd hpa _ hca) (by omega) code (by omega)).mono (by omega))

theorem update_fold_blk (ap : AlnParam SoftF32) (hap : ApBnd ap) (pa pb : Array SoftF32) (ka kb : Nat)
    (hk : 4 * (ka + kb) < 16777216) (hpa : StoredBnd (4 * ka * 1048576) pa) (hpb : StoredBnd (4 * kb * 1048576) pb)
    (codes : List Nat) (hcodes : ∀ c ∈ codes, CodeOK c) (st st' : UpdState SoftF32)
    (hst : Blk (4 * (ka + kb) * 1048576) st.out)
    (h : codes.foldlM (updateStep ap pa pb ka kb) st = some st') : Blk (4 * (ka + kb) * 1048576) st'.out := by
  induction codes generalizing st with
  | nil =>
    simp only [List.foldlM_nil] at h
    cases h
    exact hst
  | cons c cs ih =>
    rw [List.foldlM_cons] at h
    cases h1 : updateStep ap pa pb ka kb st c with
    | none => rw [h1] at h; cases h
    | some st1 =>
      rw [h1] at h
      exact ih (fun x hx => hcodes x (List.mem_cons_of_mem _ hx)) st1
        (updateStep_blk ap hap pa pb ka kb hk hpa hpb st st1 c (hcodes c List.mem_cons_self) hst h1) h

theorem updateN_blk (ap : AlnParam SoftF32) (hap : ApBnd ap) (pa pb : Array SoftF32) (codes : List Nat)
    (hcodes : ∀ c ∈ codes, CodeOK c) (ka kb : Nat) (hk : 4 * (ka + kb) < 16777216)
    (hpa : StoredBnd (4 * ka * 1048576) pa) (hpb : StoredBnd (4 * kb * 1048576) pb) (newp : Array SoftF32)
    (h : updateN ap pa pb codes ka kb = some newp) : Blk (4 * (ka + kb) * 1048576) newp := by
  unfold updateN at h
  rw [takeWhile_ne3 codes hcodes] at h
  simp only [Option.bind_eq_bind, Option.bind_eq_some_iff, Option.pure_def, Option.some.injEq] at h
  obtain ⟨c0a, h0a, c0b, h0b, st, hst, ca, hca, cb, hcb, rfl⟩ := h
  have h0 : Blk (4 * (ka + kb) * 1048576) (addCols c0a c0b) :=
    colBnd_blk (addCols_bnd4 hk (colOf?_bnd hpa _ h0a) (colOf?_bnd hpb _ h0b))
  have h1 := update_fold_blk ap hap pa pb ka kb hk hpa hpb codes hcodes _ st h0 hst
  exact blk_append h1 (addCols_bnd4 hk (colOf?_bnd hpa _ hca) (colOf?_bnd hpb _ hcb))

end ProfBnd
open ProfBnd

set_option linter.unusedVariables false in
theorem updateN_stored (ap : AlnParam SoftF32) (hap : ApBnd ap) (pa pb : Array SoftF32) (codes : List Nat)
    (hcodes : ∀ c ∈ codes, CodeOK c) (ka kb : Nat) (hk : 4 * (ka + kb) < 16777216) (hka : 1 ≤ ka) (hkb : 1 ≤ kb)
    (hpa : StoredBnd (4 * ka * 1048576) pa) (hpb : StoredBnd (4 * kb * 1048576) pb) (newp : Array SoftF32)
    (h : updateN ap pa pb codes ka kb = some newp) : StoredBnd (4 * (ka + kb) * 1048576) newp :=
  (updateN_blk ap hap pa pb codes hcodes ka kb hk hpa hpb newp h).2

theorem StoredBnd.mono {N N' : Nat} {p : Array SoftF32} (h : StoredBnd N p) (hN : N ≤ N') : StoredBnd N' p :=
  fun i => (h i).imp id (fun x => x.mono hN)

namespace Pipeline
open Kalign.ProfBnd

def ProfInvC (N : NodeC SoftF32) : Prop := N.nsip ≠ 1 → ∃ p, N.prof = some p ∧ StoredBnd (4 * N.nsip * 1048576) p

def ProfInvS (N : NodeC SoftF32) : Prop := N.nsip ≠ 1 → ∃ p, N.prof = some p ∧ Blk (4 * N.nsip * 1048576) p

theorem nodeProfC_stored (ap : AlnParam SoftF32) (hap : ApBnd ap) (N : NodeC SoftF32) (hN : ProfInvS N)
    (other : Nat) : StoredBnd (4 * N.nsip * 1048576) (nodeProfC ap N other) := by
  unfold nodeProfC
  by_cases h1 : N.nsip = 1
  · rw [if_pos h1]
    exact (makeProfile_entBnd ap hap N.seq).stored.mono (by omega)
  · rw [if_neg h1]
    obtain ⟨p, hp, hb⟩ := hN h1
    rw [hp]
    exact setGapPenalties_stored hb.2 hb.1 other

theorem reachC_profInvS (ap : AlnParam SoftF32) (hap : ApBnd ap) (codes : Array (List Nat)) (N : NodeC SoftF32)
    (h : ReachC ap codes N) : 4 * N.nsip < 16777216 → ProfInvS N := by
  induction h with
  | leaf i hi => intro _ hne; exact absurd rfl hne
  | merge A B N rA rB hm ihA ihB =>
    intro hn hne
    obtain ⟨hns, cs, p, hck, hup, hp⟩ := mergeNodesC_prof ap A B N hm
    rw [hns] at hn ⊢
    refine ⟨p, hp, ?_⟩
    exact updateN_blk ap hap _ _ cs hck A.nsip B.nsip hn
      (nodeProfC_stored ap hap A (ihA (by omega)) B.nsip) (nodeProfC_stored ap hap B (ihB (by omega)) A.nsip) p hup

theorem reachC_profInv (ap : AlnParam SoftF32) (hap : ApBnd ap) (codes : Array (List Nat)) (N : NodeC SoftF32)
    (h : ReachC ap codes N) (hn : 4 * N.nsip < 16777216) : ProfInvC N := by
  intro hne
  obtain ⟨p, hp, hb⟩ := reachC_profInvS ap hap codes N h hn hne
  exact ⟨p, hp, hb.2⟩

theorem nodeProfC_entBnd (ap : AlnParam SoftF32) (hap : ApBnd ap) (codes : Array (List Nat)) (N : NodeC SoftF32)
    (h : ReachC ap codes N) (hN : N.nsip ≠ 1) (other : Nat) (hn : 4 * N.nsip < 16777216) (ho : other < 16777216)
    (c t : Nat) (hc : c < 16777216) (ht : t ≤ 104) (hb : 4 * N.nsip * 1048576 * other ≤ c * 2 ^ t) :
    EntBnd (4 * N.nsip * 1048576) (c * 2 ^ t) (nodeProfC ap N other) := by
  obtain ⟨p, hp, hblk⟩ := reachC_profInvS ap hap codes N h hn hN
  unfold nodeProfC
  rw [if_neg hN, hp]
  exact setGapPenalties_entBnd hblk.2 hblk.1 ho hb hc ht

end Pipeline

example : ApBnd ⟨#[], SoftF32.ofNat 5, SoftF32.ofNat 2, SoftF32.ofNat 1⟩ :=
  ⟨(ofNat_absLe (by decide)).mono (by decide), (ofNat_absLe (by decide)).mono (by decide),
    (ofNat_absLe (by decide)).mono (by decide), fun i j => by
      have : (⟨#[], SoftF32.ofNat 5, SoftF32.ofNat 2, SoftF32.ofNat 1⟩ : AlnParam SoftF32).sub i j = Score.zero := by
        simp [AlnParam.sub]
      rw [this]; exact absLe_zero _⟩

/-- the hypotheses of `setGapPenalties_entBnd` on a concrete stored profile: a leaf profile (3 columns, `N = 4·1·2²⁰`), partner
with `n = 3` sequences, `c·2^t = 12·2²⁰` -/
example (ap : AlnParam SoftF32) (hap : ApBnd ap) :
    EntBnd (4 * 1 * 1048576) (12 * 2 ^ 20) (setGapPenalties (makeProfile ap #[7]) 3) :=
  setGapPenalties_entBnd (N := 4 * 1 * 1048576) (n := 3) (c := 12) (t := 20)
    ((makeProfile_entBnd ap hap #[7]).stored.mono (by decide))
    (by rw [size_makeProfile]; decide) (by decide) (by decide) (by decide) (by decide)

/-- the numeric hypotheses of `updateN_stored` / `Pipeline.nodeProfC_entBnd` for 1000 + 2000 sequences -/
example : 4 * (1000 + 2000) < 16777216 ∧ 4 * 1000 * 1048576 * 2000 ≤ 8000000 * 2 ^ 20 ∧ 8000000 < 16777216 := by decide

end Kalign

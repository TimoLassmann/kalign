import KalignModel.Lemmas.ProfKernel
import KalignModel.Lemmas.Basic.ListWalk
/-!
The profile–profile kernels on two profiles of identical copies:
`prof1` = `k` copies of `seqA` prepared against `m`, `prof2` = `m` copies of `seqB` prepared against `k`.  The kernels
read the substitution score of cell `(i, j)` as `count₁[c] · prof2[j][32 + c]` for the residue `c = seqA[i]`, i.e.
`k · m · s(seqB[j], seqA[i])` — the *transposed* matrix entry; with a symmetric matrix this is `K · s(seqA[i], seqB[j])`,
`K = k·m`.  The gap entries are read from column-dependent slots, so the view of the pair agrees with the sequence–sequence view on
`scaleParam ap K` inside the problem only (`View.AgreeOn`); that is enough for equal kernels (`pp_realKernels_eq`).
-/
namespace Kalign

/-- a column whose count slots hold `one` at the residue `a` and `zero` elsewhere has `a` as its only frequency entry -/
theorem freqOf_single {α : Type} [Score α] {prof : Array α} {col a : Nat} {one zero : α} (ha : a < 23)
    (h1 : Score.isNonzero one = true) (h0 : Score.isNonzero zero = false)
    (hcnt : ∀ c, c < 23 → pget prof col c = if c = a then one else zero) : freqOf prof col = [a] := by
  unfold freqOf
  apply filter_range_eq 23 _ ha
  intro c hc
  rw [hcnt c hc]
  by_cases hca : c = a
  · simp [hca, h1]
  · simp [hca, h0]

section pp
variable (gpo gpe tgpe : Int) (s : Nat → Nat → Int) (hsym : ∀ x y, s x y = s y x)
  (prof1 prof2 : Array ExactScore) (seqA seqB : Array Nat) (k m : Nat) (hk : 1 ≤ k)
  (hP1 : ProfOK prof1 seqA k m gpo gpe tgpe s) (hP2 : ProfOK prof2 seqB m k gpo gpe tgpe s)
  (hA23 : ∀ i, seqA.getD i 0 < 23)

include hk hP1 hA23 in
theorem freqOf_copies (i : Nat) (hi : i < seqA.size) : freqOf prof1 (i + 1) = [seqA.getD i 0] :=
  freqOf_single (one := some (2000 * (k : Int))) (zero := some 0) (hA23 i) (by simp [Score.isNonzero]; omega) (by simp [Score.isNonzero])
    (fun c hc => (hP1.cnt i hi c hc).trans (apply_ite some _ _ _))

include hsym hk hP1 hP2 hA23 in
theorem dotAdd_copies (i j : Nat) (hi : i < seqA.size) (hj : j < seqB.size) (acc : ExactScore) :
    dotAdd prof1 (i + 1) prof2 (j + 1) (freqOf prof1 (i + 1)).reverse acc =
      oaddi acc (((k * m : Nat) : Int) * s (seqA.getD i 0) (seqB.getD j 0)) := by
  rw [freqOf_copies gpo gpe tgpe s prof1 seqA k m hk hP1 hA23 i hi]
  simp only [List.reverse_cons, List.reverse_nil, List.nil_append, dotAdd, List.foldl_cons, List.foldl_nil]
  rw [hP1.cnt i hi _ (hA23 i), if_pos rfl, hP2.subE j hj _ (hA23 i), hsym (seqB.getD j 0)]
  show Score.add acc (some (2000 * (k : Int) * ((m : Int) * s (seqA.getD i 0) (seqB.getD j 0)) / ExactScore.scale)) = _
  rw [ex_add_some]
  congr 1
  unfold ExactScore.scale
  rw [show 2000 * (k : Int) * ((m : Int) * s (seqA.getD i 0) (seqB.getD j 0)) =
    2000 * ((k : Int) * ((m : Int) * s (seqA.getD i 0) (seqB.getD j 0))) by rw [Int.mul_assoc]]
  rw [Int.mul_ediv_cancel_left _ (by decide : (2000 : Int) ≠ 0)]
  push_cast
  rw [Int.mul_assoc]

end pp

section
variable {α : Type} [Score α] {apK : AlnParam α} {prof1 prof2 : Array α} {seqA seqB : Array Nat}
  (G1 : GapSlots apK prof1 seqA.size) (G2 : GapSlots apK prof2 seqB.size)
include G1 G2

theorem pp_gapsAgree : (ppView prof1 prof2).GapsAgree (ssView apK seqA seqB) seqA.size seqB.size :=
  ⟨fun i hi => funext (G1.o i hi), fun i hi => funext (G1.e i hi), fun i hi => funext (G1.t i hi),
    fun j hj => funext (G2.o j hj), fun j hj => funext (G2.e j hj), fun j hj => funext (G2.t j hj)⟩

theorem pp_agree (hdot : ∀ i j, i < seqA.size → j < seqB.size → ∀ acc,
      dotAdd prof1 (i + 1) prof2 (j + 1) (freqOf prof1 (i + 1)).reverse acc =
        Score.add acc (apK.sub (seqA.getD i 0) (seqB.getD j 0))) :
    (ppView prof1 prof2).AgreeOn (ssView apK seqA seqB) seqA.size seqB.size := by
  refine ⟨pp_gapsAgree G1 G2, fun i j hi1 hi hj1 hj => ?_⟩
  obtain ⟨i, rfl⟩ : ∃ i', i = i' + 1 := ⟨i - 1, by omega⟩
  obtain ⟨j, rfl⟩ : ∃ j', j = j' + 1 := ⟨j - 1, by omega⟩
  exact funext (hdot i j (by omega) (by omega))

end

section pp2
variable (ap : AlnParam ExactScore) (gpo gpe tgpe : Int) (s : Nat → Nat → Int) (hap : ApOK ap gpo gpe tgpe s)
  (hsym : ∀ x y, s x y = s y x)
  (prof1 prof2 : Array ExactScore) (seqA seqB : Array Nat) (k m : Nat) (hk : 1 ≤ k)
  (hP1 : ProfOK prof1 seqA k m gpo gpe tgpe s) (hP2 : ProfOK prof2 seqB m k gpo gpe tgpe s)
  (hA23 : ∀ i, seqA.getD i 0 < 23)

include hap hsym hk hP1 hP2 hA23 in
theorem pp_realKernels_eq :
    realKernels ap (.profprof prof1 prof2) seqA.size seqB.size =
      realKernels (scaleParam ap (k * m)) (.seqseq seqA seqB) seqA.size seqB.size :=
  realKernels_of_view (pp_agree (hP1.gapSlots ap gpo gpe tgpe s hap)
    (by simpa only [Nat.mul_comm m k] using hP2.gapSlots ap gpo gpe tgpe s hap)
    (fun i j hi hj acc => by
      rw [dotAdd_copies gpo gpe tgpe s hsym prof1 prof2 seqA seqB k m hk hP1 hP2 hA23 i j hi hj,
        (scaleParam_ok ap gpo gpe tgpe s hap (k * m)).sub, ex_add_some]))

end pp2
end Kalign

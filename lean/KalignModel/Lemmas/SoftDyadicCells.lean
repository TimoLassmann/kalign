import KalignModel.Lemmas.SoftDyadic
import KalignModel.Lemmas.SoftMeet
/-!
# Cell transfer: on dyadic parameters the `SoftF32` kernels compute the exact tables

`DyadicParam U ap apE`: the `SoftF32` parameter set `ap` is the exact image of the exact one `apE`, and every penalty and every
matrix entry is a multiple of 1/2 score unit of magnitude at most `U` half units.
`genTab_emb`: two kernel tables whose cell formulas correspond (`OpsEmb`: embedded in ⟹ embedded out, one more `U` per charged
parameter) are related cell by cell: cell `(p,k)` of the `SoftF32` table is `half h` where the exact cell is `some (1000·h)`
(with `|h| ≤ U·(p+k)`), and sentinel-like where the exact cell is `−∞` — provided `U·L < 2²⁴` for the largest `p + k = L` used.
The cell formulas of `aln_seqseq_foward` / `aln_seqseq_backward` (lib/src/aln_seqseq.c) correspond under `DyadicParam`
(`ssOpsF_emb`, `ssOpsB_emb`, `ssGaInit_emb`).
-/
namespace Kalign
open SoftF32

structure DyadicParam (U : Nat) (ap : AlnParam SoftF32) (apE : AlnParam ExactScore) : Prop where
  gpo : DyVal U ap.gpo apE.gpo
  gpe : DyVal U ap.gpe apE.gpe
  tgpe : DyVal U ap.tgpe apE.tgpe
  sub : ∀ i j, DyVal U (ap.sub i j) (apE.sub i j)

def StEmb (N : Nat) (s : States SoftF32) (e : States ExactScore) : Prop :=
  Emb N s.a e.a ∧ Emb N s.ga e.ga ∧ Emb N s.gb e.gb

theorem StEmb.mono {N N' : Nat} {s : States SoftF32} {e : States ExactScore} (h : StEmb N s e) (hN : N ≤ N') :
    StEmb N' s e := ⟨h.1.mono hN, h.2.1.mono hN, h.2.2.mono hN⟩

theorem stEmb_negInf (N : Nat) : StEmb N (States.negInf : States SoftF32) (States.negInf : States ExactScore) :=
  ⟨emb_negInf N, emb_negInf N, emb_negInf N⟩

/-- a cell formula with two inputs: embedded in ⟹ embedded out; the level (in multiples of `U`) grows by one per charged parameter -/
def GaEmb (U : Nat) (gS : Nat → SoftF32 → SoftF32 → SoftF32) (gE : Nat → ExactScore → ExactScore → ExactScore) : Prop :=
  ∀ (k c : Nat) (x y : SoftF32) (ex ey : ExactScore), U * (c + 1) < 16777216 → Emb (U * c) x ex → Emb (U * c) y ey →
    Emb (U * (c + 1)) (gS k x y) (gE k ex ey)

/-- the same for the five cell formulas of a row (`aCell` charges two parameters) -/
structure OpsEmb (U : Nat) (oS : RowOps SoftF32) (oE : RowOps ExactScore) : Prop where
  gbFirst : GaEmb U (fun _ => oS.gbFirst) (fun _ => oE.gbFirst)
  aCell : ∀ (k c : Nat) (x y z : SoftF32) (ex ey ez : ExactScore), U * (c + 2) < 16777216 → Emb (U * c) x ex →
    Emb (U * c) y ey → Emb (U * c) z ez → Emb (U * (c + 2)) (oS.aCell k x y z) (oE.aCell k ex ey ez)
  gaCell : GaEmb U oS.gaCell oE.gaCell
  gbMid : GaEmb U (fun _ => oS.gbMid) (fun _ => oE.gbMid)
  gbLast : GaEmb U (fun _ => oS.gbLast) (fun _ => oE.gbLast)

theorem GaEmb.lift {U : Nat} {gS : Nat → SoftF32 → SoftF32 → SoftF32} {gE : Nat → ExactScore → ExactScore → ExactScore}
    (h : GaEmb U gS gE) (L : Nat) (hL : U * L < 16777216) : GaLift (fun d => Emb (U * d)) L gS gE := by
  intro k d d' x y ex ey e hd
  subst e
  exact h k d x y ex ey (Nat.lt_of_le_of_lt (Nat.mul_le_mul_left U hd) hL)

theorem OpsEmb.lift {U : Nat} {oS : RowOps SoftF32} {oE : RowOps ExactScore} (h : OpsEmb U oS oE) (L : Nat)
    (hL : U * L < 16777216) : OpsLift (fun d => Emb (U * d)) L oS oE := by
  refine ⟨h.gbFirst.lift L hL, ?_, h.gaCell.lift L hL, h.gbMid.lift L hL, h.gbLast.lift L hL⟩
  intro k d d' x y z ex ey ez e hd
  subst e
  exact h.aCell (k + 1) d x y z ex ey ez (Nat.lt_of_le_of_lt (Nat.mul_le_mul_left U hd) hL)

theorem genTab_emb (U : Nat) (gS : Nat → SoftF32 → SoftF32 → SoftF32) (gE : Nat → ExactScore → ExactScore → ExactScore)
    (hg : GaEmb U gS gE) (n : Nat) (sS : States SoftF32) (sE : States ExactScore)
    (oS : Nat → RowOps SoftF32) (oE : Nat → RowOps ExactScore) (ho : ∀ p, OpsEmb U (oS p) (oE p))
    (L : Nat) (hL : U * L < 16777216) (hs : StEmb (U * 0) sS sE) :
    ∀ p k, p + k ≤ L → StEmb (U * (p + k)) (genTab gS n sS oS p k) (genTab gE n sE oE p k) :=
  genTab_rel (fun d => Emb (U * d)) L (fun _ => emb_negInf _) (hg.lift L hL) n (fun p => (ho p).lift L hL) hs

section
variable {U : Nat} {ap : AlnParam SoftF32} {apE : AlnParam ExactScore}

theorem ssGb_emb (hd : DyadicParam U ap apE) (term : Bool) (c : Nat) (x y : SoftF32) (ex ey : ExactScore)
    (hc : U * (c + 1) < 16777216) (hx : Emb (U * c) x ex) (hy : Emb (U * c) y ey) :
    Emb (U * (c + 1)) (ssGb ap term x y) (ssGb apE term ex ey) := by
  rw [Nat.mul_succ] at hc ⊢
  unfold ssGb
  cases term
  · simp only [Bool.false_eq_true, if_false]
    exact emb_smax (emb_sub hx hd.gpe hc) (emb_sub hy hd.gpo hc) hc
  · simp only [if_true]
    exact emb_sub (emb_smax hx hy (by omega)) hd.tgpe hc

theorem ssAl_emb (hd : DyadicParam U ap apE) (i j c : Nat) (x y z : SoftF32) (ex ey ez : ExactScore)
    (hc : U * (c + 2) < 16777216) (hx : Emb (U * c) x ex) (hy : Emb (U * c) y ey) (hz : Emb (U * c) z ez) :
    Emb (U * (c + 2)) (Score.add (smax3 x (Score.sub y ap.gpo) (Score.sub z ap.gpo)) (ap.sub i j))
      (Score.add (smax3 ex (Score.sub ey apE.gpo) (Score.sub ez apE.gpo)) (apE.sub i j)) := by
  have e : U * (c + 2) = U * c + U + U := by rw [Nat.mul_add, Nat.mul_two, Nat.add_assoc]
  rw [e] at hc ⊢
  have hy' := emb_sub hy hd.gpo (by omega)
  have hz' := emb_sub hz hd.gpo (by omega)
  have hx' : Emb (U * c + U) x ex := hx.mono (by omega)
  exact emb_add (emb_smax3 hx' hy' hz' (by omega)) (hd.sub i j) hc

theorem ssGa_emb (hd : DyadicParam U ap apE) (c : Nat) (x y : SoftF32) (ex ey : ExactScore)
    (hc : U * (c + 1) < 16777216) (hx : Emb (U * c) x ex) (hy : Emb (U * c) y ey) :
    Emb (U * (c + 1)) (smax (Score.sub x ap.gpe) (Score.sub y ap.gpo))
      (smax (Score.sub ex apE.gpe) (Score.sub ey apE.gpo)) := by
  rw [Nat.mul_succ] at hc ⊢
  exact emb_smax (emb_sub hx hd.gpe hc) (emb_sub hy hd.gpo hc) hc

theorem ssOpsF_emb (hd : DyadicParam U ap apE) (seq1 seq2 : Array Nat) (r : Rect) (p : Nat) :
    OpsEmb U (ssOpsF ap seq1 seq2 r p) (ssOpsF apE seq1 seq2 r p) :=
  ⟨fun _ => ssGb_emb hd _, fun _ => ssAl_emb hd _ _, fun _ => ssGa_emb hd, fun _ => ssGb_emb hd false, fun _ => ssGb_emb hd _⟩

theorem ssOpsB_emb (hd : DyadicParam U ap apE) (seq1 seq2 : Array Nat) (r : Rect) (p : Nat) :
    OpsEmb U (ssOpsB ap seq1 seq2 r p) (ssOpsB apE seq1 seq2 r p) :=
  ⟨fun _ => ssGb_emb hd _, fun _ => ssAl_emb hd _ _, fun _ => ssGa_emb hd, fun _ => ssGb_emb hd false, fun _ => ssGb_emb hd _⟩

theorem ssGaInit_emb (hd : DyadicParam U ap apE) (term : Bool) : GaEmb U (ssGaInit ap term) (ssGaInit apE term) :=
  fun _ => ssGb_emb hd term

end

theorem stEmb_hot (N : Nat) (k : Kind) :
    StEmb N ((realKernels (α := SoftF32) ap ops lenA lenB).st k)
      ((realKernels (α := ExactScore) apE opsE lenA' lenB').st k) := by
  cases k
  · exact ⟨emb_zero N, emb_negInf N, emb_negInf N⟩
  · exact ⟨emb_negInf N, emb_zero N, emb_negInf N⟩
  · exact ⟨emb_negInf N, emb_negInf N, emb_zero N⟩

theorem DyadicParam.of_subm {U : Nat} {ap ap' : AlnParam SoftF32} {apE apE' : AlnParam ExactScore} (h : DyadicParam U ap apE)
    (hs : ap'.subm = ap.subm) (hsE : apE'.subm = apE.subm) (h1 : DyVal U ap'.gpo apE'.gpo) (h2 : DyVal U ap'.gpe apE'.gpe)
    (h3 : DyVal U ap'.tgpe apE'.tgpe) : DyadicParam U ap' apE' :=
  ⟨h1, h2, h3, fun i j => by
    have := h.sub i j
    unfold AlnParam.sub at this ⊢
    rw [hs, hsE]
    exact this⟩

def dyValCheck (U : Nat) (x : SoftF32) (e : ExactScore) : Bool :=
  match e with
  | none => false
  | some v => decide (v % 1000 = 0) && decide ((v / 1000).natAbs ≤ U) && decide (x = half (v / 1000))

theorem dyVal_of_check {U : Nat} {x : SoftF32} {e : ExactScore} (h : dyValCheck U x e = true) : DyVal U x e := by
  cases e with
  | none => simp [dyValCheck] at h
  | some v =>
    simp only [dyValCheck, Bool.and_eq_true, decide_eq_true_eq] at h
    obtain ⟨⟨h1, h2⟩, h3⟩ := h
    exact ⟨v / 1000, h2, h3, by congr 1; omega⟩

/-- the matrix has at most 23 rows of at most 23 entries (indices outside read the default `0`) -/
def subShapeOK {α : Type} (ap : AlnParam α) : Bool :=
  decide (ap.subm.size ≤ 23) && ap.subm.all fun r => decide (r.size ≤ 23)

theorem sub_oob {α : Type} [Score α] (ap : AlnParam α) (h : subShapeOK ap = true) (i j : Nat) (hij : ¬ (i < 23 ∧ j < 23)) :
    ap.sub i j = Score.zero := by
  simp only [subShapeOK, Bool.and_eq_true, decide_eq_true_eq, Array.all_eq_true] at h
  obtain ⟨h1, h2⟩ := h
  unfold AlnParam.sub
  by_cases hi : i < ap.subm.size
  · have hr := h2 i hi
    have e : ap.subm.getD i #[] = ap.subm[i] := by simp [Array.getD, hi]
    rw [e]
    have : ¬ j < ap.subm[i].size := by omega
    simp [Array.getD, this]
  · have e : ap.subm.getD i #[] = #[] := by simp [Array.getD, hi]
    rw [e]
    simp [Array.getD]

/-- a computable sufficient condition for `DyadicParam`: both matrices within 23 × 23, every index pair below 23 read through
`AlnParam.sub` -/
def dyadicCheck (U : Nat) (ap : AlnParam SoftF32) (apE : AlnParam ExactScore) : Bool :=
  dyValCheck U ap.gpo apE.gpo && dyValCheck U ap.gpe apE.gpe && dyValCheck U ap.tgpe apE.tgpe &&
  subShapeOK ap && subShapeOK apE &&
  (List.range 23).all fun i => (List.range 23).all fun j => dyValCheck U (ap.sub i j) (apE.sub i j)

theorem dyadicParam_of_check {U : Nat} {ap : AlnParam SoftF32} {apE : AlnParam ExactScore}
    (h : dyadicCheck U ap apE = true) : DyadicParam U ap apE := by
  simp only [dyadicCheck, Bool.and_eq_true, List.all_eq_true, List.mem_range] at h
  obtain ⟨⟨⟨⟨⟨h1, h2⟩, h3⟩, h4⟩, h5⟩, h6⟩ := h
  refine ⟨dyVal_of_check h1, dyVal_of_check h2, dyVal_of_check h3, ?_⟩
  intro i j
  by_cases hij : i < 23 ∧ j < 23
  · exact dyVal_of_check (h6 i hij.1 j hij.2)
  · rw [sub_oob ap h4 i j hij, sub_oob apE h5 i j hij]
    exact ⟨0, by simp, half_zero.symm, rfl⟩

def all2 {α β : Type} (p : α → β → Bool) : List α → List β → Bool
  | [], [] => true
  | a :: as, b :: bs => p a b && all2 p as bs
  | _, _ => false

theorem all2_getD {α β : Type} {p : α → β → Bool} {d : α} {e : β} (hd : p d e = true) :
    ∀ {l : List α} {m : List β}, all2 p l m = true → ∀ i, p (l.getD i d) (m.getD i e) = true
  | [], [], _, i => by simpa using hd
  | a :: as, b :: bs, h, 0 => by
    simp only [all2, Bool.and_eq_true] at h
    simpa using h.1
  | a :: as, b :: bs, h, i + 1 => by
    simp only [all2, Bool.and_eq_true] at h
    simpa using all2_getD hd h.2 i
  | [], _ :: _, h, _ => by simp [all2] at h
  | _ :: _, [], h, _ => by simp [all2] at h

/-- Another sufficient condition, for two matrices of the same shape (of any size), which are walked side by side: reading them
through `AlnParam.sub i j`, as `dyadicCheck` does, makes the kernel rebuild both for every index pair. -/
def dyadicWalk (U : Nat) (ap : AlnParam SoftF32) (apE : AlnParam ExactScore) : Bool :=
  dyValCheck U ap.gpo apE.gpo && dyValCheck U ap.gpe apE.gpe && dyValCheck U ap.tgpe apE.tgpe &&
  all2 (fun r rE => all2 (dyValCheck U) r.toList rE.toList) ap.subm.toList apE.subm.toList

theorem dyadicParam_of_walk {U : Nat} {ap : AlnParam SoftF32} {apE : AlnParam ExactScore}
    (h : dyadicWalk U ap apE = true) : DyadicParam U ap apE := by
  simp only [dyadicWalk, Bool.and_eq_true] at h
  obtain ⟨⟨⟨h1, h2⟩, h3⟩, h4⟩ := h
  refine ⟨dyVal_of_check h1, dyVal_of_check h2, dyVal_of_check h3, fun i j => dyVal_of_check ?_⟩
  -- indices outside either matrix read the defaults `#[]` and `0` on both sides
  have hz : dyValCheck U (Score.zero : SoftF32) (Score.zero : ExactScore) = true := by
    show dyValCheck U SoftF32.zero (some 0) = true
    simp [dyValCheck, half_zero]
  have := all2_getD hz (all2_getD (d := #[]) (e := #[]) rfl h4 i) j
  simpa [AlnParam.sub, Array.getD_eq_getD_getElem?, List.getD_eq_getElem?_getD] using this

/-- a dyadic value below 2²³ has no bits below 2⁻¹ -/
theorem half_toInt_mod {x : SoftF32} (h : ∃ g : Int, g.natAbs < 16777216 ∧ x = half g) :
    toInt x % ((2 ^ 148 : Nat) : Int) = 0 := by
  obtain ⟨g, g1, rfl⟩ := h
  rw [(half_fin g1).2.1]
  exact Int.mul_emod_left _ _

end Kalign

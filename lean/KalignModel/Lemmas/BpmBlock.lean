import KalignModel.Lemmas.Myers
import KalignModel.Lemmas.Basic.ListWalk
/-!
# `bpm_block` computes Sellers' DP (composition over blocks, wildcard padding, inactive band)

Main result `bpmBlock_eq_sellers`.  The running minimum `kmin` with `kmin_eq_sellers` and `refH_eq_dp`/`refV_eq_dp` are stated
for any initial column and any row offset and serve the single-word variants as well (Lemmas/BpmWord.lean,
Lemmas/Bpm256Lanes.lean).
-/
namespace Kalign

theorem getLsbD_one_shl (w k i : Nat) (hi : i < w) : ((1#w) <<< k).getLsbD i = decide (i = k) := by
  rw [BitVec.getLsbD_shiftLeft]
  by_cases h : i < k
  · simp [h]; omega
  · simp only [hi, decide_true, h, decide_false, Bool.not_false, Bool.and_self, Bool.true_and]
    rw [getLsbD_one' _ (by omega)]
    by_cases h2 : i = k
    · simp [h2]
    · have : i - k ≠ 0 := by omega
      simp [h2, this]

theorem bitsToBV_bit (w : Nat) (f : Nat → Bool) (n i : Nat) (hn : n ≤ w) (hi : i < w) :
    (bitsToBV w f n).getLsbD i = (decide (i < n) && f i) := by
  induction n with
  | zero => simp [bitsToBV]
  | succ n ih =>
    have hbit : (if f n then (1#w <<< n) else 0#w).getLsbD i = (decide (i = n) && f n) := by
      split
      · rename_i h; rw [getLsbD_one_shl w n i hi, h, Bool.and_true]
      · rename_i h; simp [h]
    rw [bitsToBV, BitVec.getLsbD_or, ih (by omega), hbit]
    by_cases h : i = n
    · subst h; simp
    · have h1 : (i < n + 1) = (i < n) := by apply propext; constructor <;> intro <;> omega
      simp [h, h1]

theorem peqWord_bit (p : List Nat) (m c b i : Nat) (hi : i < 64) :
    (peqWord p m c b).getLsbD i = (decide (m ≤ b * 64 + i) || (p.getD (b * 64 + i) 0 == c)) := by
  rw [peqWord, bitsToBV_bit 64 _ 64 i (Nat.le_refl _) hi]
  simp [hi]

theorem id_tri (i : Nat) : Tri (((id (i + 1) : Nat) : Int) - (id i : Nat)) := by
  right; right; simp only [id]; omega

theorem gD_row_zero (init : Nat → Nat) (eq : Nat → Nat → Bool) (j : Nat) : gD init eq j 0 = init 0 := by
  induction j with
  | zero => rw [gD]
  | succ j ih => rw [gD, ih]

theorem gD_col_zero (eq : Nat → Nat → Bool) (i : Nat) : gD id eq 0 i = i := by
  rw [gD]; rfl

theorem gD_le_row (init : Nat → Nat) (eq : Nat → Nat → Bool) (h0 : init 0 = 0)
    (hinit : ∀ i, Tri ((init (i + 1) : Int) - init i)) (j i : Nat) : gD init eq j i ≤ i := by
  induction i with
  | zero => rw [gD_row_zero, h0]; exact Nat.le_refl _
  | succ i ih =>
    have h := (deltas_tri init eq hinit j i).1
    simp only [dV, Tri] at h
    omega

theorem gD_diag (eq : Nat → Nat → Bool) (j i : Nat) (he : eq i j = true) : gD id eq (j + 1) (i + 1) = gD id eq j i := by
  have h1 := (deltas_tri id eq id_tri j i).1
  have h2 := (deltas_tri id eq id_tri j i).2
  simp only [dV, dH, Tri] at h1 h2
  rw [gD, he]
  simp only [min3, if_true]
  omega

theorem gD_diag_k (eq : Nat → Nat → Bool) (m : Nat) (hw : ∀ i j, m ≤ i → eq i j = true) (k j i : Nat) (hi : m ≤ i) :
    gD id eq (j + k) (i + k) = gD id eq j i := by
  induction k with
  | zero => rfl
  | succ k ih =>
    rw [show j + (k + 1) = (j + k) + 1 by omega, show i + (k + 1) = (i + k) + 1 by omega,
      gD_diag eq (j + k) (i + k) (hw _ _ (by omega)), ih]

theorem gD_congr (init1 init2 : Nat → Nat) (eq1 eq2 : Nat → Nat → Bool) (I J : Nat)
    (hinit : ∀ i, i ≤ I → init1 i = init2 i)
    (h : ∀ i j, i < I → j < J → eq1 i j = eq2 i j) (j i : Nat) (hj : j ≤ J) (hi : i ≤ I) :
    gD init1 eq1 j i = gD init2 eq2 j i := by
  induction j generalizing i with
  | zero => rw [gD.eq_1, gD.eq_1, hinit i hi]
  | succ j ihj =>
    induction i with
    | zero => rw [gD.eq_2, gD.eq_2, ihj 0 (by omega) (by omega)]
    | succ i ihi =>
      rw [gD.eq_3, gD.eq_3 init2 eq2, ihi (by omega), ihj (i + 1) (by omega) hi, ihj i (by omega) (by omega),
        h i j (by omega) (by omega)]

theorem Enc.congr {w : Nat} {P M : BitVec w} {v v' : Nat → Int} (h : Enc P M v) (hv : ∀ i, i < w → v i = v' i) :
    Enc P M v' := by
  intro i hi
  rw [← hv i hi]
  exact h i hi

theorem length_colBlocks (peq : Nat → BitVec 64) (b cnt : Nat) (carry : Int) (bs : List BlockSt) :
    (colBlocks peq b cnt carry bs).1.length = bs.length := by
  induction cnt generalizing b carry bs with
  | zero => cases bs <;> rfl
  | succ cnt ih =>
    cases bs with
    | nil => rfl
    | cons s rest => rw [colBlocks]; simp [ih]

section blocks
variable (eq : Nat → Nat → Bool)

/-- `a` is a block boundary in `bpm_block`, `0` in the single-word routines -/
theorem refH_eq_dp (init : Nat → Nat) (j a i : Nat) :
    refH (fun i => dV init eq j (a + i)) (fun i => eq (a + i) j) (dH init eq j a) i = dH init eq j (a + i) := by
  induction i with
  | zero => rfl
  | succ i ih => rw [refH, ih, ← Nat.add_assoc, (cell_rule init eq j (a + i)).2]

theorem refV_eq_dp (init : Nat → Nat) (j a i : Nat) :
    refV (fun i => dV init eq j (a + i)) (fun i => eq (a + i) j) (dH init eq j a) i = dV init eq (j + 1) (a + i) := by
  rw [refV, refH_eq_dp, (cell_rule init eq j (a + i)).1]

def BlocksOK (j : Nat) : Nat → List BlockSt → Prop
  | _, [] => True
  | b, s :: bs =>
    Enc s.P s.M (fun i => dV id eq j (b * 64 + i)) ∧ s.score = (gD id eq j ((b + 1) * 64) : Int) ∧ BlocksOK j (b + 1) bs

theorem colBlocks_spec (peqc : Nat → BitVec 64) (j B : Nat)
    (hpeq : ∀ b i, b < B → i < 64 → (peqc b).getLsbD i = eq (b * 64 + i) j)
    (b : Nat) (bs : List BlockSt) (hB : b + bs.length ≤ B) (hOK : BlocksOK eq j b bs) :
    BlocksOK eq (j + 1) b (colBlocks peqc b bs.length (dH id eq j (b * 64)) bs).1 ∧
    (colBlocks peqc b bs.length (dH id eq j (b * 64)) bs).2 = dH id eq j ((b + bs.length) * 64) := by
  induction bs generalizing b with
  | nil => simp [colBlocks, BlocksOK]
  | cons s bs ih =>
    obtain ⟨hEnc, hsc, hrest⟩ := hOK
    simp only [List.length_cons] at hB ⊢
    have hstep := block_step s.P s.M (peqc b) (dH id eq j (b * 64)) (fun i => dV id eq j (b * 64 + i))
      (fun i => eq (b * 64 + i) j) (by omega) hEnc (fun i hi => hpeq b i (by omega) hi)
      (deltas_tri id eq id_tri j (b * 64)).2
    have hout : (advanceBlock s.P s.M (peqc b) (dH id eq j (b * 64))).2.2 = dH id eq j ((b + 1) * 64) := by
      rw [hstep.2, refH_eq_dp, show b * 64 + 64 = (b + 1) * 64 by omega]
    have ih' := ih (b + 1) (by omega) hrest
    simp only [colBlocks]
    rw [hout]
    refine ⟨⟨?_, ?_, ih'.1⟩, ?_⟩
    · exact hstep.1.congr (fun i _ => refV_eq_dp eq id j (b * 64) i)
    · show s.score + dH id eq j ((b + 1) * 64) = _
      rw [hsc]; simp only [dH]; omega
    · rw [ih'.2, show b + 1 + bs.length = b + (bs.length + 1) by omega]

theorem blkScore_of_ok (j b : Nat) (bs : List BlockSt) (hOK : BlocksOK eq j b bs) (r : Nat) (hr : r < bs.length) :
    blkScore bs r = (gD id eq j ((b + r + 1) * 64) : Int) := by
  induction bs generalizing b r with
  | nil => simp at hr
  | cons s bs ih =>
    obtain ⟨_, hsc, hrest⟩ := hOK
    cases r with
    | zero => simpa [blkScore] using hsc
    | succ r =>
      have := ih (b + 1) hrest r (by simpa using hr)
      simp only [blkScore, List.getD_cons_succ] at this ⊢
      rw [this, show b + 1 + r + 1 = b + (r + 1) + 1 by omega]

theorem bandShrink_id (bs : List BlockSt) (lim : Int) (y : Nat) (h : y = 0 ∨ blkScore bs y < lim) :
    bandShrink bs lim y = y := by
  cases y with
  | zero => rfl
  | succ y =>
    rcases h with h | h
    · omega
    · rw [bandShrink, if_neg (by omega)]

def kmin (init : Nat → Nat) (eq : Nat → Nat → Bool) (m R : Nat) : Nat → Nat
  | 0 => m
  | j + 1 => min (kmin init eq m R j) (gD init eq (j + 1) R)

theorem kmin_eq_foldl (init : Nat → Nat) (eq : Nat → Nat → Bool) (m R J : Nat) :
    kmin init eq m R J = ((List.range' 1 J).map fun j => gD init eq j R).foldl min m := by
  induction J with
  | zero => rfl
  | succ J ih =>
    rw [kmin, ih, List.range'_1_concat, List.map_append, List.foldl_append, Nat.add_comm 1 J]
    rfl

theorem kmin_le (init : Nat → Nat) (eq : Nat → Nat → Bool) (m R J : Nat) : kmin init eq m R J ≤ m := by
  rw [kmin_eq_foldl]
  exact foldl_min_le_init _ _

structure BInv (bmax m j : Nat) (st : BpmSt) : Prop where
  len : st.blocks.length = bmax
  y : st.y + 1 = bmax
  ok : BlocksOK eq j 0 st.blocks
  k : st.k = (kmin id eq m (bmax * 64) j : Int)

/-- all blocks are advanced, the band neither grows nor shrinks -/
theorem bpmBlockCol_spec (peq : Nat → Nat → BitVec 64) (bmax m j c : Nat)
    (hpeq : ∀ b i, b < bmax → i < 64 → (peq c b).getLsbD i = eq (b * 64 + i) j)
    (hband : bmax = 1 ∨ bmax * 64 < m + 64) (st : BpmSt) (hI : BInv eq bmax m j st) :
    BInv eq bmax m (j + 1) (bpmBlockCol peq bmax m st c) := by
  obtain ⟨hlen, hy, hok, hk⟩ := hI
  have hspec := colBlocks_spec eq (peq c) j bmax hpeq 0 st.blocks (by omega) hok
  rw [Nat.zero_mul, dH_zero, hlen, ← hy] at hspec
  obtain ⟨hok', hcarry⟩ := hspec
  have hlen' := length_colBlocks (peq c) 0 (st.y + 1) 0 st.blocks
  have hsc : blkScore (colBlocks (peq c) 0 (st.y + 1) 0 st.blocks).1 st.y = (gD id eq (j + 1) (bmax * 64) : Int) := by
    rw [blkScore_of_ok eq (j + 1) 0 _ hok' st.y (by omega), show 0 + st.y + 1 = bmax by omega]
  have hshr : bandShrink (colBlocks (peq c) 0 (st.y + 1) 0 st.blocks).1 ((m : Int) + 64) st.y = st.y := by
    apply bandShrink_id
    rcases hband with h | h
    · left; omega
    · right
      rw [hsc]
      have := gD_le_row id eq rfl id_tri (j + 1) (bmax * 64)
      omega
  unfold bpmBlockCol
  simp only
  rw [if_neg (by omega), hshr, hsc]
  refine ⟨by simpa using hlen'.trans (by omega), hy, hok', ?_⟩
  simp only [kmin, hk]
  split <;> omega

end blocks

theorem gD_eq_sellers_row (p t : List Nat) (m : Nat) (hm : m ≤ p.length) (init : Nat → Nat)
    (hinit : ∀ i, i ≤ m → init i = i) (eq : Nat → Nat → Bool)
    (heq : ∀ i j, i < m → j < t.length → eq i j = (p.getD i 0 == t.getD j 0)) (j : Nat) (hj : j ≤ t.length) :
    gD init eq j m = gD id (eqPT (p.take m) t) j m := by
  apply gD_congr init id eq (eqPT (p.take m) t) m t.length hinit _ j m hj (Nat.le_refl _)
  intro i j' hi hj'
  have hip : i < (p.take m).length := by rw [List.length_take]; omega
  rw [heq i j' hi hj']
  simp only [eqPT, List.getElem?_eq_getElem hip, List.getElem?_eq_getElem hj', getD_of_lt _ _ _ (show i < p.length by omega),
    getD_of_lt _ _ _ hj', List.getElem_take, Option.some.injEq]
  rw [Bool.eq_iff_iff]; simp

theorem kmin_eq_sellers (p t : List Nat) (m : Nat) (hm : m ≤ p.length) (init : Nat → Nat)
    (hinit : ∀ i, i ≤ m → init i = i) (eq : Nat → Nat → Bool)
    (heq : ∀ i j, i < m → j < t.length → eq i j = (p.getD i 0 == t.getD j 0)) :
    kmin init eq m m t.length = sellers (p.take m) t := by
  have hlen : (p.take m).length = m := by rw [List.length_take]; omega
  rw [kmin_eq_foldl, sellers_eq, hlen, range_succ_eq_cons, List.map_cons, List.foldl_cons, gD_col_zero, Nat.min_self]
  congr 1
  apply List.map_congr_left
  intro j hj
  exact gD_eq_sellers_row p t m hm init hinit eq heq j (by have := List.mem_range'_1.1 hj; omega)

theorem foldl_min_mono (l l' : List Nat) (d d' : Nat) (hd : l.foldl min d ≤ d') (h : ∀ y ∈ l', l.foldl min d ≤ y) :
    l.foldl min d ≤ l'.foldl min d' := by
  rcases foldl_min_attained l' d' with e | e
  · rw [e]; exact hd
  · exact h _ e

/-- `W` wildcard rows below the pattern and `W` extra columns: row `m + W` in column `j + W` repeats row `m` in
column `j`, and in the columns before `W` it still holds values `≥ m` -/
theorem kmin_pad (eq : Nat → Nat → Bool) (m W n : Nat) (hw : ∀ i j, m ≤ i → eq i j = true) :
    kmin id eq m (m + W) (n + W) = kmin id eq m m n := by
  rw [kmin_eq_foldl, kmin_eq_foldl]
  apply Nat.le_antisymm
  · apply foldl_min_mono _ _ _ _ (foldl_min_le_init _ _)
    intro y hy
    obtain ⟨j, hj, rfl⟩ := List.mem_map.1 hy
    have hj := List.mem_range'_1.1 hj
    rw [← gD_diag_k eq m hw W j m (Nat.le_refl _)]
    exact foldl_min_le_mem _ _ _ (List.mem_map.2 ⟨j + W, List.mem_range'_1.2 (by omega), rfl⟩)
  · apply foldl_min_mono _ _ _ _ (foldl_min_le_init _ _)
    intro y hy
    obtain ⟨j, hj, rfl⟩ := List.mem_map.1 hy
    have hj := List.mem_range'_1.1 hj
    by_cases h : W < j
    · have e := gD_diag_k eq m hw W (j - W) m (Nat.le_refl _)
      rw [show j - W + W = j by omega] at e
      rw [e]
      exact foldl_min_le_mem _ _ _ (List.mem_map.2 ⟨j - W, List.mem_range'_1.2 (by omega), rfl⟩)
    · have e := gD_diag_k eq m hw j 0 (m + W - j) (by omega)
      rw [Nat.zero_add, show m + W - j + j = m + W by omega, gD_col_zero] at e
      rw [e]
      exact Nat.le_trans (foldl_min_le_init _ _) (by omega)

theorem divCeil_facts (m : Nat) :
    1 ≤ divCeil m 64 ∧ m ≤ 64 * divCeil m 64 ∧ (divCeil m 64 = 1 ∨ divCeil m 64 * 64 < m + 64) := by
  unfold divCeil
  by_cases h : m = 0
  · simp [h]
  · simp only [h, if_false]
    by_cases h2 : m % 64 = 0
    · simp only [h2, if_true]; omega
    · simp only [h2, if_false]; omega

theorem any_sigma_false (l : List Nat) (h : ∀ c ∈ l, c < 13) : (l.any fun c => decide (SIGMA ≤ c)) = false := by
  rw [List.any_eq_false]
  intro c hc hs
  have h13 := h c hc
  have hs' : SIGMA ≤ c := of_decide_eq_true hs
  simp only [SIGMA] at hs'
  omega

theorem blocksOK_init (eq : Nat → Nat → Bool) (f : Nat → BlockSt) (k b : Nat)
    (h : ∀ b', b ≤ b' → b' < b + k → f b' = { P := BitVec.allOnes 64, M := 0#64, score := (((b' + 1) * 64 : Nat) : Int) }) :
    BlocksOK eq 0 b ((List.range' b k).map f) := by
  induction k generalizing b with
  | zero => simp [BlocksOK]
  | succ k ih =>
    rw [List.range'_succ, List.map_cons]
    refine ⟨?_, ?_, ih (b + 1) (fun b' h1 h2 => h b' (by omega) (by omega))⟩
    · rw [h b (Nat.le_refl _) (by omega)]
      exact Enc.ones _ (fun i _ => by simp only [dV, gD_col_zero]; omega)
    · rw [h b (Nat.le_refl _) (by omega), gD_col_zero]

/-- `bpm_block` returns the value of Sellers' DP for the first 1024 symbols of the pattern: the text is padded by
`W` columns and the pattern, to a whole number of blocks, by `W` wildcard rows -/
theorem bpmBlock_eq_sellers (t p : List Nat) (ht : ∀ c ∈ t, c < 13) :
    bpmBlock t p = some ((sellers (p.take 1024) t : Nat) : Int) := by
  unfold bpmBlock
  rw [any_sigma_false t ht, show List.take 1024 p = List.take (min p.length 1024) p by
    rw [List.take_eq_take_min, Nat.min_comm]]
  simp only [Bool.false_eq_true, if_false]
  generalize hm : min p.length 1024 = m
  obtain ⟨hb1, hbm, hband⟩ := divCeil_facts m
  generalize hbmax : divCeil m 64 = bmax at hb1 hbm hband
  generalize hW : 64 * bmax - m = W
  let T := t ++ List.replicate W 0
  let eq : Nat → Nat → Bool := fun i j => decide (m ≤ i) || (p.getD i 0 == T.getD j 0)
  have hT13 : ∀ c ∈ T, c < 13 := by
    intro c hc
    rcases List.mem_append.1 hc with h | h
    · exact ht c h
    · rw [(List.mem_replicate.1 h).2]; omega
  have hst := foldl_inv_idx (BInv eq bmax m)
    (bpmBlockCol (fun c b => ((((List.range SIGMA).map fun c => ((List.range bmax).map fun b => peqWord p m c b).toArray).toArray).getD c
      #[]).getD b 0#64) bmax m) T
    { blocks := (List.range bmax).map fun b =>
        if b ≤ bmax - 1 then { P := BitVec.allOnes 64, M := 0#64, score := (((b + 1) * 64 : Nat) : Int) }
        else ⟨0#64, 0#64, 0⟩,
      y := bmax - 1, k := (m : Int) }
    ⟨by simp, by show bmax - 1 + 1 = bmax; omega, by
        rw [List.range_eq_range']
        apply blocksOK_init
        intro b' _ h2
        rw [if_pos (by omega)], rfl⟩
    (by
      intro j hj st hI
      apply bpmBlockCol_spec eq _ bmax m j T[j] _ hband st hI
      intro b i hb hi
      rw [tab_getD _ SIGMA _ _ (hT13 _ (List.getElem_mem hj)), tab_getD _ bmax b _ hb, peqWord_bit p m _ b i hi,
        ← getD_of_lt T j 0 hj])
  have hTlen : T.length = t.length + W := by simp [T]
  rw [hst.k, hTlen, show bmax * 64 = m + W by omega, kmin_pad eq m W t.length (fun i j h => by simp [eq, h]),
    kmin_eq_sellers p t m (by omega) id (fun _ _ => rfl) eq]
  intro i j hi hj
  have hTj : T.getD j 0 = t.getD j 0 := by
    rw [getD_of_lt _ _ _ hj, getD_of_lt _ _ _ (by omega), List.getElem_append_left hj]
  show (decide (m ≤ i) || (p.getD i 0 == T.getD j 0)) = _
  rw [hTj, decide_eq_false (by omega : ¬ m ≤ i), Bool.false_or]

end Kalign

import KalignModel.Lemmas.DiagCut
import KalignModel.Lemmas.ProfKernelPP
/-!
# The controller on identical operands writes the diagonal's path (`RunOK`), also for groups of identical copies

`aln_runner` / `aln_runner_serial` (`lib/src/aln_controller.c`) under the per-residue condition `DiagRes`.
`diag_runOK`: sequence – sequence.  `diag_runOK_sp`, `diag_runOK_pp`: a profile of `k` copies against the sequence / against a
profile of `m` copies — on such profiles the kernels are the sequence–sequence kernels with all scores multiplied by `K`
(`sp_realKernels_eq`, `pp_realKernels_eq`), and the per-residue condition is invariant under scaling by `K ≥ 1`.
-/
namespace Kalign

theorem diag_runOK (entry : Entry) (ap : AlnParam ExactScore) (gpo gpe tgpe : Int) (s : Nat → Nat → Int)
    (hap : ApOK ap gpo gpe tgpe s) (seq : Array Nat) (H : DiagRes gpo gpe tgpe s seq) :
    RunOK entry ap (.seqseq seq seq) seq.size seq.size (diagCols seq.size) :=
  alnRun_path (diag_cutHyp ap gpo gpe tgpe s hap seq H).cutHyp entry

theorem DiagRes.scale {gpo gpe tgpe : Int} {s : Nat → Nat → Int} {seq : Array Nat} (H : DiagRes gpo gpe tgpe s seq)
    (K : Nat) (hK : 1 ≤ K) :
    DiagRes ((K : Int) * gpo) ((K : Int) * gpe) ((K : Int) * tgpe) (fun x y => (K : Int) * s x y) seq := by
  have hK0 : (0 : Int) ≤ (K : Int) := Int.natCast_nonneg K
  have hK1 : (1 : Int) ≤ (K : Int) := by omega
  refine ⟨Int.mul_nonneg hK0 H.hgpo, Int.mul_nonneg hK0 H.hgpe, Int.mul_nonneg hK0 H.htgpe, ?_, ?_⟩
  · intro x hx
    have h := H.hself x hx
    obtain ⟨g, hg⟩ : ∃ g, g = min gpo (min gpe tgpe) := ⟨_, rfl⟩
    rw [← hg] at h
    have h1 : (K : Int) * g ≤ (K : Int) * gpo := Int.mul_le_mul_of_nonneg_left (by omega) hK0
    have h2 : (K : Int) * g ≤ (K : Int) * gpe := Int.mul_le_mul_of_nonneg_left (by omega) hK0
    have h3 : (K : Int) * g ≤ (K : Int) * tgpe := Int.mul_le_mul_of_nonneg_left (by omega) hK0
    have h4 : (1 : Int) * (s x x + 2 * g) ≤ (K : Int) * (s x x + 2 * g) := Int.mul_le_mul_of_nonneg_right hK1 (by omega)
    have h5 : (K : Int) * (s x x + 2 * g) = (K : Int) * s x x + 2 * ((K : Int) * g) := by
      rw [Int.mul_add, Int.mul_left_comm]
    show 0 < (K : Int) * s x x + 2 * min ((K : Int) * gpo) (min ((K : Int) * gpe) ((K : Int) * tgpe))
    omega
  · intro x hx y hy
    have h := H.hdom x hx y hy
    have h1 : (K : Int) * (2 * s x y) ≤ (K : Int) * (s x x + s y y) := Int.mul_le_mul_of_nonneg_left h hK0
    rw [Int.mul_add, Int.mul_left_comm] at h1
    exact h1

theorem diag_runOK_sp (entry : Entry) (ap : AlnParam ExactScore) (gpo gpe tgpe : Int) (s : Nat → Nat → Int)
    (hap : ApOK ap gpo gpe tgpe s) (seq : Array Nat) (h23 : ∀ i, seq.getD i 0 < 23) (H : DiagRes gpo gpe tgpe s seq)
    (prof : Array ExactScore) (k : Nat) (hk : 1 ≤ k) (hP : ProfOK prof seq k 1 gpo gpe tgpe s) :
    RunOK entry ap (.seqprof prof seq k) seq.size seq.size (diagCols seq.size) :=
  (diag_runOK entry (scaleParam ap k) _ _ _ _ (scaleParam_ok ap gpo gpe tgpe s hap k) seq (H.scale k hk)).of_kernels
    (sp_realKernels_eq ap gpo gpe tgpe s hap prof seq seq k hP h23 seq.size)

theorem diag_runOK_pp (entry : Entry) (ap : AlnParam ExactScore) (gpo gpe tgpe : Int) (s : Nat → Nat → Int)
    (hap : ApOK ap gpo gpe tgpe s) (hsym : ∀ x y, s x y = s y x) (seq : Array Nat) (h23 : ∀ i, seq.getD i 0 < 23)
    (H : DiagRes gpo gpe tgpe s seq) (prof1 prof2 : Array ExactScore) (k m : Nat) (hk : 1 ≤ k) (hm : 1 ≤ m)
    (hP1 : ProfOK prof1 seq k m gpo gpe tgpe s) (hP2 : ProfOK prof2 seq m k gpo gpe tgpe s) :
    RunOK entry ap (.profprof prof1 prof2) seq.size seq.size (diagCols seq.size) :=
  (diag_runOK entry (scaleParam ap (k * m)) _ _ _ _ (scaleParam_ok ap gpo gpe tgpe s hap (k * m)) seq
    (H.scale (k * m) (Nat.mul_pos hk hm))).of_kernels
    (pp_realKernels_eq ap gpo gpe tgpe s hap hsym prof1 prof2 seq seq k m hk hP1 hP2 h23)

end Kalign

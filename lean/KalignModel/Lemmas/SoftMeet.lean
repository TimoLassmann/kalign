import KalignModel.Lemmas.SoftKernelU
import KalignModel.Lemmas.Controller
import KalignModel.Lemmas.MeetSpec
/-!
# The meetup on the software binary32: value classes of its answer, unit `2^u` as a parameter

A binary32 value that is sentinel-like or bounded is not NaN, and which of the two it is can be read off its key against the key of
`-FLT_MAX` (`clsU_key`); `>` on such values is the order of the keys (`softGtOrder`).
`meetupRun_clsU`: with forward and backward cells classified against exact tables, every candidate is classified by the finiteness of
its two exact cells (`candOf`, `cand_penU`), so the meetup (`meetupRun_from_sentinel`) returns an admissible cut whose two parts are
finite in the exact tables whenever there is one, and its sentinel otherwise.

`meetupRun_cls` is the instance at the unit 2²⁰.
-/
namespace Kalign
open SoftF32

theorem softGtOrder : GtOrder (fun x y : SoftF32 => x.key ≤ y.key) (fun x => x.isNaN = false) where
  gt_iff x y hx hy := by
    show lt y x = true ↔ _
    simp only [lt, hx, hy, Bool.not_false, Bool.true_and, decide_eq_true_eq]
    omega
  trans := Int.le_trans
  total _ _ := Int.le_total _ _

theorem clsU_key {u B : Nat} (hu : u ≤ 79) (hB : B < 16777216) {x : SoftF32} {p : Bool} (h : ClsU u B x p) :
    x.isNaN = false ∧ (p = true ↔ ¬ x.key ≤ (Score.negInf : SoftF32).key) := by
  show _ ∧ (_ ↔ ¬ _ ≤ negMax.key)
  rw [key_negMax]
  cases p
  · have hs : Sent x := by simpa using h
    have := key_of_sent hs
    exact ⟨sent_not_nan hs, by simp; omega⟩
  · have hf : absLe x (B * 2 ^ u) := by simpa using h
    have := key_of_fin hf (unitU_lt127 hu hB)
    exact ⟨isNaN_of_finite hf.finite, by simp; omega⟩

def finAt (EF EB : Nat → States ExactScore) (sb : Nat) (t : Int) (i : Nat) : Bool :=
  ((EF (i - sb)).get (fkOf t)).isSome && ((EB (i - sb)).get (bkOf t)).isSome

/-- `g` keeps the class of its argument at the cost of one unit, as the penalty terms of the meetup do -/
def PenU (u : Nat) (g : SoftF32 → SoftF32) : Prop :=
  ∀ (B : Nat) (x : SoftF32) (p : Bool), B + 1 < 16777216 → ClsU u B x p → ClsU u (B + 1) (g x) p

theorem penU_id (u : Nat) : PenU u (fun x => x) := fun _ _ _ _ hx => hx.mono (Nat.le_succ _)

theorem penU_sub {u : Nat} (hu : u ≤ 79) {t : SoftF32} (ht : absLe t (1 * 2 ^ u)) : PenU u (fun x => Score.sub x t) :=
  fun _ _ _ hB hx => clsU_sub_pen hu (B' := 1) hx ht hB

theorem penU_add {u : Nat} (hu : u ≤ 79) {t : SoftF32} (ht : absLe t (1 * 2 ^ u)) : PenU u (fun x => Score.add x t) := by
  intro B x p hB hx
  have := clsU_add hu hx ((clsU_true u 1 t).2 ht) hB
  rwa [Bool.and_true] at this

theorem penU_ite {u : Nat} (c : Bool) {g g' : SoftF32 → SoftF32} (hg : PenU u g) (hg' : PenU u g') :
    PenU u (fun x => if c then g x else g' x) := by
  cases c
  · exact hg'
  · exact hg

/-- the penalty terms of the meetup keep the class, one more unit (every field says `PenU`) -/
structure MeetOpsBndU (u : Nat) (ops : MeetOps SoftF32) : Prop where
  g2 : ∀ (i B : Nat) (x : SoftF32) (p : Bool), B + 1 < 16777216 → ClsU u B x p → ClsU u (B + 1) (ops.g2 i x) p
  g3 : ∀ (B : Nat) (x : SoftF32) (p : Bool), B + 1 < 16777216 → ClsU u B x p → ClsU u (B + 1) (ops.g3 x) p
  g5 : ∀ (i B : Nat) (x : SoftF32) (p : Bool), B + 1 < 16777216 → ClsU u B x p → ClsU u (B + 1) (ops.g5 i x) p
  g6 : ∀ (B : Nat) (x : SoftF32) (p : Bool), B + 1 < 16777216 → ClsU u B x p → ClsU u (B + 1) (ops.g6 x) p
  g7 : ∀ (B : Nat) (x : SoftF32) (p : Bool), B + 1 < 16777216 → ClsU u B x p → ClsU u (B + 1) (ops.g7 x) p
  g6e : ∀ (B : Nat) (x : SoftF32) (p : Bool), B + 1 < 16777216 → ClsU u B x p → ClsU u (B + 1) (ops.g6e x) p

theorem cand_penU {u : Nat} (hu : u ≤ 79) {Bf Bb : Nat} {x y t : SoftF32} {p q : Bool} (g : SoftF32 → SoftF32) (hg : PenU u g)
    (hx : ClsU u Bf x p) (hy : ClsU u Bb y q) (ht : absLe t (1 * 2 ^ u)) (hB : Bf + Bb + 2 < 16777216) :
    ClsU u (Bf + Bb + 2) (Score.sub (g (Score.add x y)) t) (p && q) := by
  have h1 := clsU_add hu hx hy (Nat.lt_of_le_of_lt (Nat.le_add_right _ 2) hB)
  exact penU_sub hu ht _ _ _ hB (hg _ _ _ (Nat.lt_of_succ_lt hB) h1)

theorem StClsU.get {u B : Nat} {s : States SoftF32} {e : States ExactScore} (h : StClsU u B s e) (k : Kind) :
    ClsU u B (s.get k) (e.get k).isSome := by
  cases k
  · exact h.1
  · exact h.2.1
  · exact h.2.2

theorem MeetOpsBndU.join {u : Nat} {ops : MeetOps SoftF32} (h : MeetOpsBndU u ops) (last : Bool) (i : Nat) {t : Int}
    (ht : t = 1 ∨ t = 2 ∨ t = 3 ∨ t = 5 ∨ t = 6 ∨ t = 7) : PenU u (ops.join last i t) := by
  rcases ht with rfl | rfl | rfl | rfl | rfl | rfl
  · exact penU_id u
  · exact h.g2 i
  · exact h.g3
  · exact h.g5 i
  · cases last
    · exact h.g6
    · exact h.g6e
  · exact h.g7

theorem meetupRun_clsU (u : Nat) (hu : u ≤ 79) (ops : MeetOps SoftF32) (hops : MeetOpsBndU u ops) (sb eb n Bf Bb : Nat)
    (F Bk : Nat → States SoftF32) (EF EB : Nat → States ExactScore) (hB : Bf + Bb + 2 < 16777216)
    (h : ∀ k, k ≤ n → StClsU u Bf (F k) (EF k) ∧ StClsU u Bb (Bk k) (EB k) ∧
      absLe (Score.tie sb eb (sb + k) : SoftF32) (1 * 2 ^ u)) :
    let r := meetupRun ops sb eb ((List.range (n + 1)).map F) ((List.range (n + 1)).map Bk)
    (r.transition = -1 ∧ ∀ k t, Adm n k t → finAt EF EB sb t (sb + k) = false) ∨
    (∃ k t, Adm n k t ∧ finAt EF EB sb t (sb + k) = true ∧ r.meet = ((sb + k : Nat) : Int) ∧ r.transition = t) := by
  intro r
  rcases meetupRun_from_sentinel softGtOrder (by decide) ops sb eb n F Bk (fun k t => finAt EF EB sb t (sb + k)) (by
    intro k t hadm
    obtain ⟨h1, h2, h3⟩ := h k hadm.le
    refine clsU_key hu hB ?_
    simp only [candOf, finAt, Nat.add_sub_cancel_left]
    exact cand_penU hu _ (hops.join _ _ hadm.valid) (h1.get _) (h2.get _) h3 hB)
    with ⟨h1, h2⟩ | ⟨k, t, hadm, hfin, hm, ht, _⟩
  · exact Or.inl ⟨h1, h2⟩
  · exact Or.inr ⟨k, t, hadm, hfin, hm, ht⟩

structure MeetOpsBnd (ops : MeetOps SoftF32) : Prop where
  g2 : ∀ (i B : Nat) (x : SoftF32) (p : Bool), B + 1 < 16777216 → Cls B x p → Cls (B + 1) (ops.g2 i x) p
  g3 : ∀ (B : Nat) (x : SoftF32) (p : Bool), B + 1 < 16777216 → Cls B x p → Cls (B + 1) (ops.g3 x) p
  g5 : ∀ (i B : Nat) (x : SoftF32) (p : Bool), B + 1 < 16777216 → Cls B x p → Cls (B + 1) (ops.g5 i x) p
  g6 : ∀ (B : Nat) (x : SoftF32) (p : Bool), B + 1 < 16777216 → Cls B x p → Cls (B + 1) (ops.g6 x) p
  g7 : ∀ (B : Nat) (x : SoftF32) (p : Bool), B + 1 < 16777216 → Cls B x p → Cls (B + 1) (ops.g7 x) p
  g6e : ∀ (B : Nat) (x : SoftF32) (p : Bool), B + 1 < 16777216 → Cls B x p → Cls (B + 1) (ops.g6e x) p

theorem meetOpsBndU_of_meetOpsBnd {ops : MeetOps SoftF32} (h : MeetOpsBnd ops) : MeetOpsBndU 20 ops :=
  ⟨h.g2, h.g3, h.g5, h.g6, h.g7, h.g6e⟩

example (ops : MeetOps SoftF32) (hops : MeetOpsBnd ops) (sb eb n Bf Bb : Nat)
    (F Bk : Nat → States SoftF32) (EF EB : Nat → States ExactScore) (hB : Bf + Bb + 2 < 16777216)
    (h : ∀ k, k ≤ n → StCls Bf (F k) (EF k) ∧ StCls Bb (Bk k) (EB k) ∧
      absLe (Score.tie sb eb (sb + k) : SoftF32) 1048576) :
    let r := meetupRun ops sb eb ((List.range (n + 1)).map F) ((List.range (n + 1)).map Bk)
    (∃ k t, Adm n k t ∧ finAt EF EB sb t (sb + k) = true ∧ r.meet = ((sb + k : Nat) : Int) ∧ r.transition = t) ∨
    (r.transition = -1 ∧ ∀ k t, Adm n k t → finAt EF EB sb t (sb + k) = false) :=
  (meetupRun_clsU 20 (by decide) ops (meetOpsBndU_of_meetOpsBnd hops) sb eb n Bf Bb F Bk EF EB hB h).symm

theorem meetupRun_cls (ops : MeetOps SoftF32) (hops : MeetOpsBnd ops) (sb eb n Bf Bb : Nat)
    (F Bk : Nat → States SoftF32) (EF EB : Nat → States ExactScore) (hB : Bf + Bb + 2 < 16777216)
    (h : ∀ k, k ≤ n → StCls Bf (F k) (EF k) ∧ StCls Bb (Bk k) (EB k) ∧
      absLe (Score.tie sb eb (sb + k) : SoftF32) 1048576) :
    let r := meetupRun ops sb eb ((List.range (n + 1)).map F) ((List.range (n + 1)).map Bk)
    (∃ k t, Adm n k t ∧ finAt EF EB sb t (sb + k) = true ∧ r.meet = ((sb + k : Nat) : Int) ∧ r.transition = t) ∨
    (r.transition = -1 ∧ ∀ k t, Adm n k t → finAt EF EB sb t (sb + k) = false) :=
  (meetupRun_clsU 20 (by decide) ops (meetOpsBndU_of_meetOpsBnd hops) sb eb n Bf Bb F Bk EF EB hB h).symm

end Kalign

import KalignModel.Lemmas.C12SoftVal
import KalignModel.Lemmas.Basic.Iter
/-!
# UPGMA on `SoftF32`: a set of mutually closest leaves becomes a clade (C12)

`upgmaExact_clade` (Lemmas/Upgma.lean) for `upgmaS` (Model/TreeSoft.lean), i.e. for the arithmetic the C function
`upgma` really performs (both through `clade_join`, Lemmas/UpgmaRound.lean): `dm[a][j] = (dm[a][j] + dm[b][j]) * 0.5F + 0.001F` in binary32, first strict minimum starting from `FLT_MAX`.

Leaves are labelled by the sample ids; `c` marks the labels of `C`.  Bounds are on the grid 2⁻²⁰ (`2¹²⁹` units of 2⁻¹⁴⁹):
inside `C` all entries are bounded by `A0·2⁻²⁰` in magnitude, between `C` and the rest they are at least `B0·2⁻²⁰`, with
`A0 + 1049·n ≤ B0 < 2²³` (`1049·2⁻²⁰ ≥ 0.001F`; every bound that occurs is a binary32 number, so no rounding error accumulates:
`joinVal_AbsV`, `joinVal_ge`).
-/
set_option exponentiation.threshold 512
namespace Kalign
open SoftF32

theorem scan_minS (n : Nat) (dm : FMatS) (act : Array Bool) (i j : Nat) (hij : i < j) (hj : j < n)
    (hai : act.getD i false = true) (haj : act.getD j false = true) :
    SoftF32.lt (dm.get i j) (scanMinS n dm act).mx = false := by
  rw [scanMin_eqS, ← Bool.not_eq_true]
  refine pairScan_min (lt := fun x y => SoftF32.lt x y = true) ScanS.a ScanS.b ScanS.found ScanS.hmk ?_
    (fun _ _ _ => SoftF32.lt_transL) n _ i j hij hj hai haj
  intro x
  rw [SoftF32.lt_irreflL]
  exact Bool.false_ne_true

theorem scan_mxS (n : Nat) (dm : FMatS) (act : Array Bool) (h : (scanMinS n dm act).found = true) :
    (scanMinS n dm act).mx = dm.get (scanMinS n dm act).a (scanMinS n dm act).b := by
  rw [scanMin_eqS] at h ⊢
  exact (pairScan_pair ScanS.a ScanS.b ScanS.found ScanS.hmk n _ rfl rfl h).1

theorem upgmaRoundS_spec (n : Nat) (samples : List Nat) (k : Nat) (s s' : UpgmaStS) (h : SlotInv n samples k s.act s.tree s.last)
    (hr : upgmaRoundS n s = some s') :
    ∃ a b ta tb, a < b ∧ b < n ∧ s.tree.getD a none = some ta ∧ s.tree.getD b none = some tb ∧
      (∀ i, s'.tree.getD i none = if i = b then none else if i = a then some (.node ta tb) else s.tree.getD i none) ∧
      (∀ i j, i < j → j < n → s.act.getD i false = true → s.act.getD j false = true →
        SoftF32.lt (s.dm.get i j) (s.dm.get a b) = false) ∧
      s'.dm = joinedDmS n a b s.dm := by
  obtain ⟨hf, ta, tb, hta, htb, _, e2, _, e4⟩ := upgmaRound_slotsS n s s' hr
  obtain ⟨hab, hbn, _, _⟩ := (scan_invS n s.dm s.act).2 hf
  refine ⟨_, _, ta, tb, hab, hbn, hta, htb, fun i => ?_, fun i j hij hj hai haj => ?_, e4⟩
  · rw [e2]
    exact slots_join h.tsize (by omega) hbn _ i
  · rw [← scan_mxS n s.dm s.act hf]
    exact scan_minS n s.dm s.act i j hij hj hai haj

theorem lt_of_bounds {x y : SoftF32} {U L : Nat} (hx : AbsV x U) (hy : y.isFinite = true) (hL : (L : Int) ≤ toInt y)
    (h : U < L) : SoftF32.lt x y = true := by
  rw [SoftF32.lt_iff_toInt (isNaN_of_finite hx.finite) (isNaN_of_finite hy)]
  have := hx.toInt_le
  omega

/-- after `k` joins (`CladeInv`, Lemmas/UpgmaRound.lean): entries between different subtrees inside `C` are at most
`(A0 + 1049·k)·2⁻²⁰` in magnitude, entries between a subtree inside `C` and one outside are at least `B0·2⁻²⁰` (and bounded by
`upgBnd k`, which `joinVal_ge` needs) — or `C` is complete.  `AbsV` counts in units of 2⁻¹⁴⁹, `absLe` in units of 1
(`absLe y N` is `AbsV y (N·2¹⁴⁹)`). -/
def SoftInv (n : Nat) (samples : List Nat) (c : Nat → Bool) (A0 B0 k : Nat) (s : UpgmaStS) : Prop :=
  CladeState n (· ∈ samples) c (fun i => s.tree.getD i none) s.dm.get (fun x => AbsV x ((A0 + 1049 * k) * 2 ^ 129))
    (fun y => absLe y (upgBnd k) ∧ ((B0 * 2 ^ 129 : Nat) : Int) ≤ toInt y)

theorem act_of_tree {n : Nat} {samples : List Nat} {k : Nat} {s : UpgmaStS} (h : SlotInv n samples k s.act s.tree s.last) {i : Nat} {t : GTree}
    (hi : i < n) (ht : s.tree.getD i none = some t) : s.act.getD i false = true := by
  rw [h.sync i hi, ht]; rfl

theorem roundS_step (n : Nat) (samples : List Nat) (c : Nat → Bool) (A0 B0 : Nat) (hB : B0 < 8388608)
    (hm : A0 + 1049 * n ≤ B0) (k : Nat) (s : UpgmaStS) (hk : k + 2 ≤ n) (hU : SlotInv n samples k s.act s.tree s.last)
    (hM : MatBnd (upgBnd k) s.dm) (hI : SoftInv n samples c A0 B0 k s) :
    ∃ s', upgmaRoundS n s = some s' ∧ SlotInv n samples (k + 1) s'.act s'.tree s'.last ∧ MatBnd (upgBnd (k + 1)) s'.dm ∧
      SoftInv n samples c A0 B0 (k + 1) s' := by
  have hk23 : k + 1 < 8388608 := by omega
  have hc23 : A0 + 1049 * k + 1049 < 8388608 := by
    have : 1049 * k + 1049 * 2 ≤ 1049 * n := by rw [← Nat.mul_add]; exact Nat.mul_le_mul_left _ hk
    omega
  have hAB : A0 + 1049 * k < B0 := by
    have : 1049 * k < 1049 * n := Nat.mul_lt_mul_of_pos_left (by omega) (by decide)
    omega
  have hB0 : 0 < B0 := by omega
  have hk1 : A0 + 1049 * k + 1049 = A0 + 1049 * (k + 1) := by omega
  have hle : upgBnd k ≤ upgBnd (k + 1) := by unfold upgBnd; omega
  have hcount := hU.count
  obtain ⟨i0, j0, hij0, hj0, hai0, haj0⟩ := exists_two_active n (fun i => s.act.getD i false) (by omega)
  obtain ⟨s', hr⟩ := (upgmaRoundsS n).steps s hU.sync i0 j0 hij0 hj0 hai0 haj0 (lt_fltMax_of_absLe (k := k) (by omega) (hM i0 j0))
  obtain ⟨a, b, ta, tb, hltab, hbn, hta, htb, htree, hmin, hdm⟩ := upgmaRoundS_spec n samples k s s' hU hr
  refine ⟨s', hr, (upgmaRoundsS n).inv hU hr, upgmaRoundS_bnd n k hk23 s s' hM hr, ?_⟩
  obtain ⟨d1, d2, d3, _⟩ := joinedDmS_spec n a b (Nat.ne_of_lt hltab) s.dm
  rw [← hdm] at d1 d2 d3
  unfold SoftInv at hI ⊢
  rw [← hk1]
  exact clade_join (lt := fun x y => SoftF32.lt x y = true) (keep := fun x => x) (join := joinVal)
    (fun x y hx hy => lt_of_bounds hx hy.1.finite hy.2 (Nat.mul_lt_mul_of_pos_right hAB (Nat.pow_pos (by decide))))
    (fun x hx => hx.mono (Nat.mul_le_mul_right _ (Nat.le_add_right _ _))) (fun y hy => ⟨hy.1.mono hle, hy.2⟩)
    (fun x y hx hy => joinVal_AbsV hc23 hx hy)
    (fun x y hx hy => ⟨joinVal_absLe hk23 hx.1 hy.1, joinVal_ge hk23 hx.1 hy.1 hB0 hB hx.2 hy.2⟩)
    hltab hbn hta htb htree
    (fun i j ti tj hij hj hti htj =>
      Bool.eq_false_iff.1 (hmin i j hij hj (act_of_tree hU (Nat.lt_trans hij hj) hti) (act_of_tree hU hj htj)))
    (fun i t x hi ht hx => (hU.mem x).2 ⟨i, hi, t, ht, hx⟩)
    (fun i j _ _ h1 h2 => d1 i j h1 h2) (fun j _ h1 _ => (d2 j h1).imp id And.right) (fun i _ h1 _ => d3 i h1) hI

theorem roundsS_step (n : Nat) (samples : List Nat) (c : Nat → Bool) (A0 B0 : Nat) (hB : B0 < 8388608)
    (hm : A0 + 1049 * n ≤ B0) (m k : Nat) (s : UpgmaStS) (hkm : k + m + 1 ≤ n) (hU : SlotInv n samples k s.act s.tree s.last)
    (hM : MatBnd (upgBnd k) s.dm) (hI : SoftInv n samples c A0 B0 k s) :
    ∃ s', iterOpt (upgmaRoundS n) m s = some s' ∧ SlotInv n samples (k + m) s'.act s'.tree s'.last ∧ MatBnd (upgBnd (k + m)) s'.dm ∧
      SoftInv n samples c A0 B0 (k + m) s' :=
  iterOpt_steps _ (fun k (s : UpgmaStS) => SlotInv n samples k s.act s.tree s.last ∧ MatBnd (upgBnd k) s.dm ∧ SoftInv n samples c A0 B0 k s) n
    (fun k s hk h => roundS_step n samples c A0 B0 hB hm k s hk h.1 h.2.1 h.2.2) m k s hkm ⟨hU, hM, hI⟩

theorem upgmaInitS_tree (dm : List (List SoftF32)) (samples : List Nat) (i : Nat) (hi : i < samples.length) :
    (upgmaInitS dm samples).tree.getD i none = some (.leaf samples[i]) := by
  simp [upgmaInitS, Array.getD, hi]

/-- `hbnd`: entries are finite and at most 2³³ in magnitude -/
theorem upgmaS_clade (dm : List (List SoftF32)) (samples : List Nat) (c : Nat → Bool) (A0 B0 : Nat)
    (hB : B0 < 8388608) (hm : A0 + 1049 * samples.length ≤ B0)
    (hC : ∃ x, x ∈ samples ∧ c x = true)
    (hbnd : MatBnd (upgBnd 0) (upgmaInitS dm samples).dm)
    (hcc : ∀ i j (hi : i < samples.length) (hj : j < samples.length), i ≠ j → c samples[i] = true → c samples[j] = true →
      AbsV ((upgmaInitS dm samples).dm.get i j) (A0 * 2 ^ 129))
    (hcr : ∀ i z (hi : i < samples.length) (hz : z < samples.length), c samples[i] = true → c samples[z] = false →
      ((B0 * 2 ^ 129 : Nat) : Int) ≤ toInt ((upgmaInitS dm samples).dm.get i z) ∧
      ((B0 * 2 ^ 129 : Nat) : Int) ≤ toInt ((upgmaInitS dm samples).dm.get z i)) :
    ∃ T, upgmaS dm samples = some T ∧ ∃ u ∈ T.subtrees, ∀ x, x ∈ u.leaves ↔ (x ∈ samples ∧ c x = true) := by
  have hn : samples.length ≠ 0 := by
    obtain ⟨x0, hx0s, _⟩ := hC
    intro h
    rw [List.length_eq_zero_iff] at h
    rw [h] at hx0s; cases hx0s
  have hlab : ∀ i (hi : i < samples.length), samples.getD i 0 = samples[i] := fun i hi => by
    rw [List.getD_eq_getElem?_getD, List.getElem?_eq_getElem hi]; rfl
  have hP0 : SoftInv samples.length samples c A0 B0 0 (upgmaInitS dm samples) :=
    Or.inl (CladeInv.init (fun i => samples.getD i 0)
      (fun i hi => by rw [upgmaInitS_tree dm samples i hi, hlab i hi])
      (fun x hx => by
        obtain ⟨i, hi, e⟩ := List.getElem_of_mem hx
        exact ⟨i, hi, by rw [hlab i hi, e]⟩)
      (fun i j hi hj hij hci hcj => by
        rw [hlab i hi] at hci
        rw [hlab j hj] at hcj
        rw [show A0 + 1049 * 0 = A0 by omega]
        exact hcc i j hi hj hij hci hcj)
      (fun i z hi hz hci hcz => by
        rw [hlab i hi] at hci
        rw [hlab z hz] at hcz
        exact ⟨⟨hbnd i z, (hcr i z hi hz hci hcz).1⟩, hbnd z i, (hcr i z hi hz hci hcz).2⟩))
  obtain ⟨st, hit, hU, _, hI⟩ := roundsS_step samples.length samples c A0 B0 hB hm (samples.length - 1) 0
    (upgmaInitS dm samples) (by omega) (SlotInv.init samples hn) hbnd hP0
  rw [Nat.zero_add] at hU hI
  obtain ⟨T, hT, hl, huniq⟩ := hU.root (by omega)
  exact ⟨T, by rw [upgma_eqS dm samples hn, hit]; exact hT,
    clade_root hI (fun i t hi ht => (huniq i t hi ht).2) (fun x hx => hl.mem_iff.1 hx) hC⟩

end Kalign

import KalignModel.Lemmas.Cut
import KalignModel.Lemmas.ScoreST
import KalignModel.Lemmas.Walk
/-!
# `scoreST` is the score by run lengths

`scoreST_eq_runs`: for a valid column list without a gap-in-a run next to a gap-in-b run the one-pass, position-based
`scoreST` equals `scoreSTruns`: substitution scores minus `2·gpo + (L−1)·gpe` for every internal gap run of `L` columns
and `L·tgpe` for the first and the last run when they are gap runs.  The proof splits a walk into its substitution part
and its gap part and takes a gap run off together with the aligned column behind it (`STW.gapPart_runs`).
-/
namespace Kalign

def STW.subPart (w : STW) : Nat → Nat → List Col → Int
  | _, _, [] => 0
  | i, j, c :: cs => (if c = .both then w.sc i j else 0) + w.subPart (stepP i c) (stepK j c) cs

theorem STW.subPart_append (w : STW) (xs ys : List Col) (i j : Nat) :
    w.subPart i j (xs ++ ys) = w.subPart i j xs + w.subPart (i + consA xs) (j + consB xs) ys := by
  induction xs generalizing i j with
  | nil => simp [STW.subPart]
  | cons c xs ih =>
    simp only [List.cons_append, STW.subPart, ih]
    rw [stepP_add_consA, stepK_add_consB]; omega

theorem subPart_eq_subSum (sub : Nat → Nat → Int) (gpo gpe tgpe : Int) (a b : List Nat) (cs : List Col) (i j : Nat)
    (hA : i + consA cs ≤ a.length) (hB : j + consB cs ≤ b.length) :
    (STW.mk a.length b.length gpo gpe tgpe fun i j => sub (a.getD i 0) (b.getD j 0)).subPart i j cs =
      subSum sub cs (a.drop i) (b.drop j) := by
  induction cs generalizing i j with
  | nil => simp [STW.subPart, subSum]
  | cons c cs ih =>
    rw [consA_cons] at hA
    rw [consB_cons] at hB
    cases c with
    | skip =>
      simp only [STW.subPart, stepP, stepK, subSum] at hA hB ⊢
      rw [ih i j (by omega) (by omega)]; simp
    | both =>
      simp only [stepP, stepK] at hA hB
      have hi : i < a.length := by omega
      have hj : j < b.length := by omega
      rw [List.drop_eq_getElem_cons hi, List.drop_eq_getElem_cons hj]
      simp only [STW.subPart, stepP, stepK, subSum, if_true]
      rw [ih (i + 1) (j + 1) (by omega) (by omega)]
      simp [List.getD_eq_getElem?_getD, hi, hj]
    | gapA =>
      simp only [stepP, stepK] at hA hB
      have hj : j < b.length := by omega
      rw [List.drop_eq_getElem_cons hj]
      simp only [STW.subPart, stepP, stepK, subSum]
      rw [ih i (j + 1) (by omega) (by omega)]; simp
    | gapB =>
      simp only [stepP, stepK] at hA hB
      have hi : i < a.length := by omega
      rw [List.drop_eq_getElem_cons hi]
      simp only [STW.subPart, stepP, stepK, subSum]
      rw [ih (i + 1) j (by omega) (by omega)]; simp

theorem rle_cons (c : Col) (cs0 : List Col) :
    ∃ n cs', 1 ≤ n ∧ c :: cs0 = List.replicate n c ++ cs' ∧ rle (c :: cs0) = (c, n) :: rle cs' ∧
      (∀ d ds, cs' = d :: ds → d ≠ c) := by
  induction cs0 generalizing c with
  | nil => exact ⟨1, [], by omega, rfl, rfl, by simp⟩
  | cons d ds ih =>
    obtain ⟨m, cs'', hm, hsplit, hrle, hhead⟩ := ih d
    by_cases hcd : c = d
    · subst hcd
      refine ⟨m + 1, cs'', by omega, ?_, ?_, hhead⟩
      · rw [hsplit, List.replicate_succ]; rfl
      · show (match rle (c :: ds) with
          | (d, n) :: rest => if c = d then (d, n + 1) :: rest else (c, 1) :: (d, n) :: rest
          | [] => [(c, 1)]) = _
        rw [hrle]; simp
    · refine ⟨1, d :: ds, by omega, rfl, ?_, ?_⟩
      · show (match rle (d :: ds) with
          | (d', n) :: rest => if c = d' then (d', n + 1) :: rest else (c, 1) :: (d', n) :: rest
          | [] => [(c, 1)]) = _
        rw [hrle]; simp [hcd]
      · intro d' ds' h
        injection h with h1 _
        rw [← h1]; exact fun h => hcd h.symm

theorem rle_isEmpty (cs : List Col) : (rle cs).isEmpty = cs.isEmpty := by
  cases cs with
  | nil => rfl
  | cons c cs0 =>
    obtain ⟨n, cs', _, _, hrle, _⟩ := rle_cons c cs0
    rw [hrle]; rfl

def STW.gapPart (w : STW) (i j : Nat) (st : Kind) (cs : List Col) : Int := w.walk i j st cs - w.subPart i j cs

theorem STW.gapPart_nil (w : STW) (i j : Nat) (st : Kind) : w.gapPart i j st [] = 0 := rfl

theorem STW.gapPart_cons (w : STW) (i j : Nat) (st : Kind) (c : Col) (cs : List Col) :
    w.gapPart i j st (c :: cs) =
      (w.stCol c i j - (if c = .both then w.sc i j else 0)) + w.stE st (colKind st c) i j +
        w.gapPart (stepP i c) (stepK j c) (colKind st c) cs := by
  unfold STW.gapPart
  simp only [STW.walk, STW.subPart]
  omega

theorem STW.gapPart_append (w : STW) (xs ys : List Col) (i j : Nat) (st : Kind) :
    w.gapPart i j st (xs ++ ys) =
      w.gapPart i j st xs + w.gapPart (i + consA xs) (j + consB xs) (lastKind st xs) ys := by
  unfold STW.gapPart
  rw [STW.walk_append, STW.subPart_append]
  omega

theorem consA_replicate (n : Nat) (c : Col) : consA (List.replicate n c) = n * stepP 0 c := by
  induction n with
  | zero => simp
  | succ n ih => rw [List.replicate_succ, consA_cons, ih, Nat.succ_mul, Nat.add_comm]
theorem consB_replicate (n : Nat) (c : Col) : consB (List.replicate n c) = n * stepK 0 c := by
  induction n with
  | zero => simp
  | succ n ih => rw [List.replicate_succ, consB_cons, ih, Nat.succ_mul, Nat.add_comm]
theorem consA_replicate_both (n : Nat) : consA (List.replicate n Col.both) = n := by
  rw [consA_replicate]; exact Nat.mul_one n
theorem consB_replicate_both (n : Nat) : consB (List.replicate n Col.both) = n := by
  rw [consB_replicate]; exact Nat.mul_one n

theorem lastKind_replicate (st : Kind) (c : Col) (n : Nat) (hc : c ≠ .skip) :
    lastKind st (List.replicate (n + 1) c) = colKind .A c := by
  induction n generalizing st with
  | zero => exact colKind_indep _ _ _ hc
  | succ n ih => rw [List.replicate_succ]; exact ih _

theorem STW.gapPart_both_cons (w : STW) (i j : Nat) (st : Kind) (cs : List Col) :
    w.gapPart i j st (.both :: cs) = w.stE st .A i j + w.gapPart (i + 1) (j + 1) .A cs := by
  simp [STW.gapPart_cons, STW.stCol, colKind, stepP, stepK]

theorem STW.gapPart_gap_cons (w : STW) {g : Col} (hg : g = .gapA ∨ g = .gapB) (i j : Nat) (st : Kind) (cs : List Col) :
    w.gapPart i j st (g :: cs) =
      w.stCol g i j + w.stE st (colKind .A g) i j + w.gapPart (stepP i g) (stepK j g) (colKind .A g) cs := by
  rcases hg with rfl | rfl <;> simp [STW.gapPart_cons, colKind]

theorem STW.termK_gap_step (w : STW) {g : Col} (hg : g = .gapA ∨ g = .gapB) (i j : Nat) :
    w.termK (colKind .A g) (stepP i g) (stepK j g) = w.termK (colKind .A g) i j := by
  rcases hg with rfl | rfl <;> rfl

theorem STW.gap_col_cont (w : STW) {g : Col} (hg : g = .gapA ∨ g = .gapB) (i j : Nat) :
    w.stCol g i j + w.stE (colKind .A g) (colKind .A g) i j =
      - (if w.termK (colKind .A g) i j then w.tgpe else w.gpe) := by
  rcases hg with rfl | rfl <;> simp only [STW.stCol, STW.stE, colKind] <;> split <;> simp [*]

theorem STW.gap_col_open (w : STW) {g : Col} (hg : g = .gapA ∨ g = .gapB) (i j : Nat) :
    w.stCol g i j + w.stE .A (colKind .A g) i j =
      - (if w.termK (colKind .A g) i j then w.tgpe else w.gpo) := by
  rcases hg with rfl | rfl <;> simp only [STW.stCol, STW.stE, colKind] <;> split <;> simp [*]

theorem STW.gapPart_gap_cont (w : STW) {g : Col} (hg : g = .gapA ∨ g = .gapB) (n i j : Nat) :
    w.gapPart i j (colKind .A g) (List.replicate n g) =
      - ((n : Int) * (if w.termK (colKind .A g) i j then w.tgpe else w.gpe)) := by
  induction n generalizing i j with
  | zero => simp [STW.gapPart_nil]
  | succ n ih =>
    rw [List.replicate_succ, w.gapPart_gap_cons hg, ih, w.termK_gap_step hg, w.gap_col_cont hg]
    push_cast
    rw [Int.add_mul]
    omega

theorem STW.gapPart_gap_run (w : STW) {g : Col} (hg : g = .gapA ∨ g = .gapB) (n i j : Nat) :
    w.gapPart i j .A (List.replicate (n + 1) g) =
      - (if w.termK (colKind .A g) i j then ((n + 1 : Nat) : Int) * w.tgpe else w.gpo + (n : Int) * w.gpe) := by
  rw [List.replicate_succ, w.gapPart_gap_cons hg, w.gapPart_gap_cont hg, w.termK_gap_step hg, w.gap_col_open hg]
  split
  · push_cast
    rw [Int.add_mul]
    omega
  · omega

theorem runsCost_both_cons (gpo gpe tgpe : Int) (first : Bool) (cs : List Col) :
    runsCost gpo gpe tgpe first (rle (.both :: cs)) = runsCost gpo gpe tgpe false (rle cs) := by
  show runsCost gpo gpe tgpe first (match rle cs with
    | (d, n) :: rest => if Col.both = d then (d, n + 1) :: rest else (.both, 1) :: (d, n) :: rest
    | [] => [(.both, 1)]) = _
  cases rle cs with
  | nil => simp [runsCost, Col.isGap]
  | cons dn rest =>
    by_cases hd : Col.both = dn.1
    · simp [runsCost, Col.isGap, ← hd]
    · simp [runsCost, Col.isGap, hd]

/-- `a`, `b`: what the columns after the run consume -/
theorem STW.termK_gap_run (w : STW) {g : Col} (hg : g = .gapA ∨ g = .gapB) {n i j a b : Nat}
    (hA : i + (consA (List.replicate n g) + a) = w.lenA) (hB : j + (consB (List.replicate n g) + b) = w.lenB)
    (hpos : (i = 0 ∧ j = 0) ∨ (1 ≤ i ∧ 1 ≤ j)) (hab : a = 0 ↔ b = 0) :
    w.termK (colKind .A g) i j = (decide (i = 0 ∧ j = 0) || decide (a = 0)) := by
  rw [consA_replicate] at hA
  rw [consB_replicate] at hB
  rw [Bool.eq_iff_iff]
  rcases hg with rfl | rfl <;>
    simp only [stepP, stepK, Nat.mul_zero, colKind, STW.termK, Bool.or_eq_true, decide_eq_true_eq] at hA hB ⊢ <;>
    omega

theorem STW.stE_gap_close (w : STW) {g : Col} (hg : g = .gapA ∨ g = .gapB) (n i j : Nat) :
    w.stE (colKind .A g) .A (i + consA (List.replicate n g)) (j + consB (List.replicate n g)) =
      if w.termK (colKind .A g) i j then 0 else - w.gpo := by
  rw [consA_replicate, consB_replicate]
  rcases hg with rfl | rfl <;> simp only [STW.stE, colKind, stepP, stepK, Nat.mul_zero, Nat.add_zero] <;> rfl

theorem adjOK_after_gap {g d : Col} {ds : List Col} (hg : g = .gapA ∨ g = .gapB)
    (h : adjOK (colKind .A g) (d :: ds) = true) (hd : d ≠ g) : d = .both ∧ adjOK .A ds = true := by
  rcases hg with rfl | rfl <;> cases d <;> simp_all [adjOK, colKind, Kind.compat]

/-- a gap run is taken off together with the aligned column behind it, so that the walk is always resumed after an
aligned column -/
theorem STW.gapPart_runs (w : STW) (k : Nat) : ∀ (cs : List Col) (i j : Nat), cs.length ≤ k →
    i + consA cs = w.lenA → j + consB cs = w.lenB → adjOK .A cs = true → ((i = 0 ∧ j = 0) ∨ (1 ≤ i ∧ 1 ≤ j)) →
    w.gapPart i j .A cs = - runsCost w.gpo w.gpe w.tgpe (decide (i = 0 ∧ j = 0)) (rle cs) := by
  induction k with
  | zero =>
    intro cs i j hlen _ _ _ _
    obtain rfl : cs = [] := List.eq_nil_of_length_eq_zero (by omega)
    simp [STW.gapPart_nil, rle, runsCost]
  | succ k ih =>
    intro cs i j hlen hA hB hadj hpos
    cases cs with
    | nil => simp [STW.gapPart_nil, rle, runsCost]
    | cons c cs0 =>
      simp only [List.length_cons] at hlen
      by_cases hb : c = .both
      · subst hb
        simp only [adjOK, Bool.and_eq_true] at hadj
        rw [consA_both] at hA
        rw [consB_both] at hB
        rw [runsCost_both_cons, STW.gapPart_both_cons, ih cs0 (i + 1) (j + 1) (by omega) (by omega) (by omega) hadj.2
          (Or.inr ⟨by omega, by omega⟩)]
        simp [STW.stE]
      · have hcs : c ≠ .skip := by
          simp only [adjOK, Bool.and_eq_true, bne_iff_ne, ne_eq] at hadj
          exact hadj.1.1
        have hg : c = .gapA ∨ c = .gapB := by cases c <;> simp_all
        obtain ⟨n, cs', hn, hsplit, hrle, hhead⟩ := rle_cons c cs0
        obtain ⟨m, rfl⟩ : ∃ m, n = m + 1 := ⟨n - 1, by omega⟩
        have hlen' : m + 1 + cs'.length ≤ k + 1 := by
          have := congrArg List.length hsplit
          simp only [List.length_cons, List.length_append, List.length_replicate] at this
          omega
        rw [hsplit, consA_append] at hA
        rw [hsplit, consB_append] at hB
        rw [hsplit, adjOK_append, Bool.and_eq_true, lastKind_replicate .A c m hcs] at hadj
        rw [hrle, hsplit, STW.gapPart_append, w.gapPart_gap_run hg, lastKind_replicate .A c m hcs]
        have hgap : c.isGap = true := by rcases hg with rfl | rfl <;> rfl
        cases cs' with
        | nil =>
          have hT := w.termK_gap_run hg hA hB hpos Iff.rfl
          simp [hT, STW.gapPart_nil, rle, runsCost, gapRunCost, hgap]
        | cons d cs'' =>
          obtain ⟨rfl, hadj'⟩ := adjOK_after_gap hg hadj.2 (hhead d cs'' rfl)
          rw [consA_both] at hA
          rw [consB_both] at hB
          have hT := w.termK_gap_run hg hA hB hpos (by omega)
          rw [STW.gapPart_both_cons, ih cs'' _ _ (by simp only [List.length_cons] at hlen'; omega) (by omega) (by omega) hadj'
            (Or.inr ⟨by omega, by omega⟩), runsCost, runsCost_both_cons, rle_isEmpty]
          rw [w.stE_gap_close hg, hT, hgap]
          cases decide (i = 0 ∧ j = 0) <;> simp [gapRunCost] <;> omega

theorem scoreST_eq_runs (sub : Nat → Nat → Int) (gpo gpe tgpe : Int) (cs : List Col) (a b : List Nat)
    (hV : ValidCols cs a.length b.length) (hadj : adjOK .A cs = true) :
    scoreST sub gpo gpe tgpe cs a b = scoreSTruns sub gpo gpe tgpe cs a b := by
  unfold scoreST scoreSTruns
  have h1 := STW.gapPart_runs ⟨a.length, b.length, gpo, gpe, tgpe, fun i j => sub (a.getD i 0) (b.getD j 0)⟩
    cs.length cs 0 0 (Nat.le_refl _) (by simpa using hV.2.1) (by simpa using hV.2.2) hadj (Or.inl ⟨rfl, rfl⟩)
  have h2 := subPart_eq_subSum sub gpo gpe tgpe a b cs 0 0 (by simpa using Nat.le_of_eq hV.2.1)
    (by simpa using Nat.le_of_eq hV.2.2)
  simp only [List.drop_zero] at h2
  unfold STW.gapPart at h1
  simp only [and_self, decide_true] at h1
  rw [← h2]
  omega

end Kalign

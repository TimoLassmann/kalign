import KalignModel.Lemmas.KernelSpec
import KalignModel.Lemmas.Progressive
import KalignModel.Model.ScoreST
/-!
# Readings split into feasibility (`walkOK`) and value (`walkSc`)

`runF` (Lemmas/KernelSpec.lean) charges a column list as the sequence–sequence kernels of `aln_seqseq.c` charge it, with −∞ for a
column the kernel has no cell for.  `runF_some`: `runF c ⟨p,k,st,some v⟩ cs` ends at node `(p + consA cs, k + consB cs)` in kind
`lastKind st cs` with value `some (v + walkSc …)` when `walkOK …`, and −∞ otherwise.  `walkOK` does not mention the scores.
At the end, what holds of `lastKind` / `firstKind` of a column list without `skip`, no kernel involved (`lastKind_reverse`,
`firstKind_indep`, `lastKind_A_cases`).
-/
namespace Kalign

def lastKind (st : Kind) (cs : List Col) : Kind := cs.foldl colKind st

def firstKind (bk : Kind) : List Col → Kind
  | [] => bk
  | c :: _ => colKind bk c

def stepOK (c : KCfg) (p k : Nat) (st : Kind) : Col → Bool
  | .both => decide (k + 1 ≤ c.n)
  | .gapA => decide (k + 1 < c.n) && (st != .GB)
  | .gapB => decide (k ≤ c.n) && (st != .GA)
  | .skip => false

def stepSc (c : KCfg) (p k : Nat) (st : Kind) : Col → Int
  | .both => c.sc p k - (if st = .A then 0 else c.gpo)
  | .gapA => - (if c.termA p then c.tgpe else if st = .GA then c.gpe else c.gpo)
  | .gapB => - (if c.termB k then c.tgpe else if st = .GB then c.gpe else c.gpo)
  | .skip => 0

def walkOK (c : KCfg) : Nat → Nat → Kind → List Col → Bool
  | _, _, _, [] => true
  | p, k, st, col :: cs => stepOK c p k st col && walkOK c (stepP p col) (stepK k col) (colKind st col) cs

def walkSc (c : KCfg) : Nat → Nat → Kind → List Col → Int
  | _, _, _, [] => 0
  | p, k, st, col :: cs => stepSc c p k st col + walkSc c (stepP p col) (stepK k col) (colKind st col) cs

theorem stepF_some (c : KCfg) (p k : Nat) (st : Kind) (v : Int) (col : Col) :
    stepF c ⟨p, k, st, some v⟩ col =
      ⟨stepP p col, stepK k col, colKind st col,
        if stepOK c p k st col then some (v + stepSc c p k st col) else none⟩ := by
  cases col with
  | skip => simp [stepF, stepP, stepK, colKind, stepOK]
  | both =>
    simp only [stepF, stepP, stepK, colKind, stepOK, stepSc, decide_eq_true_eq]
    congr 1
    split
    · cases st <;> simp [alFrom] <;> omega
    · rfl
  | gapA =>
    simp only [stepF, stepP, stepK, colKind, stepOK, stepSc, Bool.and_eq_true, decide_eq_true_eq, bne_iff_ne, ne_eq]
    congr 1
    split
    · simp only [gapFrom, osub_some]
      congr 1
      cases st <;> simp <;> omega
    · rfl
  | gapB =>
    simp only [stepF, stepP, stepK, colKind, stepOK, stepSc, Bool.and_eq_true, decide_eq_true_eq, bne_iff_ne, ne_eq]
    congr 1
    split
    · simp only [gapFrom, osub_some]
      congr 1
      cases st <;> simp <;> omega
    · rfl

theorem consA_cons (col : Col) (cs : List Col) : consA (col :: cs) = stepP 0 col + consA cs := by
  cases col <;> simp [stepP] <;> omega
theorem consB_cons (col : Col) (cs : List Col) : consB (col :: cs) = stepK 0 col + consB cs := by
  cases col <;> simp [stepK] <;> omega
theorem stepP_eq (p : Nat) (col : Col) : stepP p col = p + stepP 0 col := by cases col <;> simp [stepP]
theorem stepK_eq (k : Nat) (col : Col) : stepK k col = k + stepK 0 col := by cases col <;> simp [stepK]
theorem stepP_add_consA (p : Nat) (col : Col) (cs : List Col) : stepP p col + consA cs = p + consA (col :: cs) := by
  rw [consA_cons, stepP_eq p, Nat.add_assoc]
theorem stepK_add_consB (k : Nat) (col : Col) (cs : List Col) : stepK k col + consB cs = k + consB (col :: cs) := by
  rw [consB_cons, stepK_eq k, Nat.add_assoc]

theorem runF_none (c : KCfg) (cs : List Col) (p k : Nat) (st : Kind) :
    runF c ⟨p, k, st, none⟩ cs = ⟨p + consA cs, k + consB cs, lastKind st cs, none⟩ := by
  induction cs generalizing p k st with
  | nil => simp [lastKind]
  | cons col cs ih =>
    rw [runF_cons, stepF_none', ih, consA_cons, consB_cons, stepP_eq p, stepK_eq k]
    simp only [lastKind, List.foldl_cons, Nat.add_assoc]

theorem runF_some (c : KCfg) (cs : List Col) (p k : Nat) (st : Kind) (v : Int) :
    runF c ⟨p, k, st, some v⟩ cs =
      ⟨p + consA cs, k + consB cs, lastKind st cs,
        if walkOK c p k st cs then some (v + walkSc c p k st cs) else none⟩ := by
  induction cs generalizing p k st v with
  | nil => simp [lastKind, walkOK, walkSc]
  | cons col cs ih =>
    rw [runF_cons, stepF_some]
    rw [← stepP_add_consA, ← stepK_add_consB]
    by_cases hok : stepOK c p k st col = true
    · rw [if_pos hok, ih]
      simp only [lastKind, List.foldl_cons, walkOK, walkSc, hok, Bool.true_and]
      congr 1
      split
      · congr 1; omega
      · rfl
    · rw [if_neg hok, runF_none]
      simp only [lastKind, List.foldl_cons, walkOK, hok, Bool.false_and]
      rfl

theorem lastKind_append (st : Kind) (xs ys : List Col) : lastKind st (xs ++ ys) = lastKind (lastKind st xs) ys := by
  simp [lastKind, List.foldl_append]

theorem walkOK_append (c : KCfg) (xs ys : List Col) (p k : Nat) (st : Kind) :
    walkOK c p k st (xs ++ ys) =
      (walkOK c p k st xs && walkOK c (p + consA xs) (k + consB xs) (lastKind st xs) ys) := by
  induction xs generalizing p k st with
  | nil => simp [walkOK, lastKind]
  | cons col xs ih =>
    simp only [List.cons_append, walkOK, ih, Bool.and_assoc, stepP_add_consA, stepK_add_consB, lastKind, List.foldl_cons]

theorem walkSc_append (c : KCfg) (xs ys : List Col) (p k : Nat) (st : Kind) :
    walkSc c p k st (xs ++ ys) =
      walkSc c p k st xs + walkSc c (p + consA xs) (k + consB xs) (lastKind st xs) ys := by
  induction xs generalizing p k st with
  | nil => simp [walkSc, lastKind]
  | cons col xs ih =>
    simp only [List.cons_append, walkSc, ih, stepP_add_consA, stepK_add_consB, lastKind, List.foldl_cons, Int.add_assoc]

theorem runF_eta (c : KCfg) (s : PSt) (cs : List Col) :
    runF c s cs = ⟨s.p + consA cs, s.k + consB cs, lastKind s.st cs, (runF c s cs).v⟩ := by
  obtain ⟨p, k, st, v⟩ := s
  cases v with
  | none => rw [runF_none]
  | some v => rw [runF_some]

theorem runF_p (c : KCfg) (s : PSt) (cs : List Col) : (runF c s cs).p = s.p + consA cs := by rw [runF_eta]
theorem runF_k (c : KCfg) (s : PSt) (cs : List Col) : (runF c s cs).k = s.k + consB cs := by rw [runF_eta]
theorem runF_st (c : KCfg) (s : PSt) (cs : List Col) : (runF c s cs).st = lastKind s.st cs := by rw [runF_eta]

theorem abs_cell_spec (c : KCfg) (hn : 1 ≤ c.n) (start : States ExactScore) (m k : Nat) (hk : k ≤ c.n) :
    (∀ k0 cs, consA cs = m → consB cs = k → ole (readAbs c start k0 cs) ((absTab c start m k).get (lastKind k0 cs))) ∧
    (∀ st, (absTab c start m k).get st = none ∨ ∃ k0 cs, consA cs = m ∧ consB cs = k ∧ lastKind k0 cs = st ∧
      readAbs c start k0 cs = (absTab c start m k).get st) := by
  refine ⟨fun k0 cs hA hB => ?_, fun st => ?_⟩
  · have := abs_sound c hn start k0 cs
    rw [runF_p, runF_k, runF_st] at this
    simpa [initP, hA, hB] using this
  · rcases abs_attained c hn start m k hk st with h1 | ⟨k0, cs, h1⟩
    · exact Or.inl h1
    · right
      have hp := congrArg PSt.p h1
      have hk' := congrArg PSt.k h1
      have hs := congrArg PSt.st h1
      rw [runF_p] at hp; rw [runF_k] at hk'; rw [runF_st] at hs
      exact ⟨k0, cs, by simpa [initP] using hp, by simpa [initP] using hk', by simpa [initP] using hs, congrArg PSt.v h1⟩

theorem colKind_indep (st st' : Kind) (c : Col) (h : c ≠ .skip) : colKind st c = colKind st' c := by
  cases c <;> simp_all [colKind]

theorem lastKind_reverse (st : Kind) (xs : List Col) (h : Col.skip ∉ xs) :
    lastKind st xs.reverse = firstKind st xs := by
  cases xs with
  | nil => rfl
  | cons c xs =>
    simp only [List.reverse_cons, lastKind_append, firstKind]
    simp only [lastKind, List.foldl_cons, List.foldl_nil]
    exact colKind_indep _ _ _ (fun hc => h (by simp [hc]))

theorem firstKind_cons_noskip (bk st : Kind) (c : Col) (cs : List Col) (h : c ≠ .skip) :
    firstKind bk (c :: cs) = colKind st c := by
  simp only [firstKind]; exact colKind_indep _ _ _ h

theorem firstKind_append_ne (bk : Kind) (X Y : List Col) (h : X ≠ []) : firstKind bk (X ++ Y) = firstKind bk X := by
  cases X with
  | nil => exact absurd rfl h
  | cons c cs => rfl

theorem firstKind_indep (bk bk' : Kind) (X : List Col) (h : X ≠ []) (hs : Col.skip ∉ X) :
    firstKind bk X = firstKind bk' X := by
  cases X with
  | nil => exact absurd rfl h
  | cons c cs => exact colKind_indep _ _ _ (fun hc => hs (by simp [hc]))

theorem both_notin_of_cons_zero (X : List Col) (h : consA X = 0 ∨ consB X = 0) : Col.both ∉ X := by
  intro hm
  have hA : 0 < consA X := List.length_pos_of_mem (List.mem_filter.mpr ⟨hm, rfl⟩)
  have hB : 0 < consB X := List.length_pos_of_mem (List.mem_filter.mpr ⟨hm, rfl⟩)
  omega

theorem lastKind_snoc (st : Kind) (X : List Col) (c : Col) : lastKind st (X ++ [c]) = colKind (lastKind st X) c :=
  lastKind_append st X [c]

theorem lastKind_A_cases (st : Kind) (X : List Col) (hs : Col.skip ∉ X) (h : lastKind st X = .A) :
    X = [] ∨ (1 ≤ consA X ∧ 1 ≤ consB X) := by
  rcases List.eq_nil_or_concat X with h0 | ⟨X', c, hX⟩
  · exact Or.inl h0
  · right
    subst hX
    rw [List.concat_eq_append, lastKind_snoc] at h
    rw [List.concat_eq_append, consA_append, consB_append]
    cases c with
    | skip => exact absurd (by simp) hs
    | both => simp
    | gapA => simp [colKind] at h
    | gapB => simp [colKind] at h

end Kalign

import KalignModel.Lemmas.SoftKernel
import KalignModel.Lemmas.SoftMeet
import KalignModel.Lemmas.Feas
import KalignModel.Lemmas.MonCtrl
import KalignModel.Lemmas.Basic.ArrayGetD
/-!
# The Hirschberg monitor on the software binary32

`family_stepMon`: operands whose view respects the value classes (`View.Bnd` with unit `2^u ≥ 2²⁰`, cost `C`), short
enough for the bounds and with bounded tie-break terms (`TieBnd`), satisfy `StepMon` for the rectangle invariant `FeasRect`: every
forward/backward cell is sentinel-like or bounded, in the finiteness pattern of the exact kernel (`genTab_clsU`); a feasible rectangle
has a cut with two finite parts (`feas_has_candidate`), so the meetup leaves its sentinel and returns such a cut (`meetupRun_clsU`),
which satisfies the meetup contract and makes both sub-rectangles feasible (`candidate_contract`).  Hence `mon = true` for the whole
run (`family_alnRun_mon`); two sequences under parameters bounded by 2²⁰ (`ApBnd`) are such operands (`ss_alnRun_mon`).
-/
namespace Kalign
open SoftF32

/-- the tie-break terms `fabsf((float)(c3-c2)/2.0F + (float)c2 - (float)i)/1000.0F` of all columns up to `lenB` are bounded -/
def TieBnd (lenB : Nat) : Prop :=
  ∀ sb eb i : Nat, sb ≤ i → i ≤ eb → eb ≤ lenB → absLe (Score.tie (sb : Int) (eb : Int) (i : Int) : SoftF32) 1048576

/-- an exact configuration with `n + 1` cells; its penalties and scores are irrelevant here -/
def cZ (n : Nat) : KCfg := ⟨n, false, false, 0, 0, 0, fun _ _ => 0⟩

theorem two_pow_20_le {u : Nat} (h : 20 ≤ u) : 1048576 ≤ 2 ^ u := by
  have : (2 : Nat) ^ 20 ≤ 2 ^ u := Nat.pow_le_pow_right (by decide) h
  have e : (2 : Nat) ^ 20 = 1048576 := by decide
  omega

theorem stClsU_hot (u : Nat) (k : Kind) {ap : AlnParam SoftF32} {ops : Operands SoftF32} {lenA lenB : Nat} :
    StClsU u 0 ((realKernels ap ops lenA lenB).st k) (hot k) := by
  cases k
  · exact ⟨clsU_zero u 0, clsU_negInf u 0, clsU_negInf u 0⟩
  · exact ⟨clsU_negInf u 0, clsU_zero u 0, clsU_negInf u 0⟩
  · exact ⟨clsU_negInf u 0, clsU_negInf u 0, clsU_zero u 0⟩

theorem family_step_contract {u C : Nat} {ap : AlnParam SoftF32} {ops : Operands SoftF32} (hb : (ops.view ap).Bnd u C) (hu20 : 20 ≤ u) (lenB : Nat)
    (htie : TieBnd lenB) (fk bk : Kind) (sa m1 m2 sb n : Nat) (hm2 : 1 ≤ m2) (hn : 1 ≤ n) (heb : sb + n ≤ lenB)
    (hlen : C * (m1 + m2 + 2 * n) + 2 * C + 2 < 16777216) (hfeas : Feas fk bk (m1 + m2) n) (startF startB : States SoftF32)
    (hsF : StClsU u 0 startF (hot fk)) (hsB : StClsU u 0 startB (hot bk)) :
    let rF : Rect := ⟨sa, sa + m1, sb, sb + n, lenB⟩
    let rB : Rect := ⟨sa + m1, sa + m1 + m2, sb, sb + n, lenB⟩
    let r := kMeetup ap ops rF (sa + m1) (kForward ap ops rF startF) (kBackward ap ops rB startB)
    meetupContract fk bk (sa : Int) ((sa + m1 + m2 : Nat) : Int) (sb : Int) ((sb + n : Nat) : Int)
        ((sa + m1 : Nat) : Int) r.meet r.transition = true ∧
    ChildrenFeas fk bk (sa : Int) ((sa + m1 + m2 : Nat) : Int) (sb : Int) ((sb + n : Nat) : Int)
        ((sa + m1 : Nat) : Int) r.meet r.transition := by
  intro rF rB r
  have e1 : rF.endb - rF.startb = n := Nat.add_sub_cancel_left _ _
  have e2 : rF.enda - rF.starta = m1 := Nat.add_sub_cancel_left _ _
  have e4 : rB.enda - rB.starta = m2 := Nat.add_sub_cancel_left _ _
  have hF := (ops.view ap).forward_eq_genTab rF (Nat.lt_add_of_pos_right hn) startF
  have hB := (ops.view ap).backward_eq_genTab rB (Nat.lt_add_of_pos_right hn) startB
  rw [e1, e2] at hF
  rw [show rB.endb - rB.startb = n from e1, e4, map_range_reverse] at hB
  -- every cell of the two tables is sentinel-like or bounded, in the finiteness pattern of an exact kernel
  have hcF := genTab_clsU u C _ _ (hb.gaRel (fun k => rF.startb + k) (rF.startb == 0) (cZ n)) n startF (hot fk) _ _
    (fun p => hb.rowF rF (rF.starta + p) (cZ n) p) 0 (m1 + n)
    (by have := Nat.mul_le_mul_left C (show m1 + n ≤ m1 + m2 + 2 * n by omega); omega) hsF m1
  have hcB := genTab_clsU u C _ _ (hb.gaRel (fun k => rB.endb - k + 1) (rB.endb == rB.lenB) (cZ n)) n startB (hot bk) _ _
    (fun p => hb.rowB rB (rB.starta + m2 - 1 - p) (cZ n) p) 0 (m2 + n)
    (by have := Nat.mul_le_mul_left C (show m2 + n ≤ m1 + m2 + 2 * n by omega); omega) hsB m2
  have hmeet := meetupRun_clsU u hb.hu _ (hb.meetOps rF (sa + m1)) sb (sb + n) n (C * (m1 + n)) (C * (m2 + n)) _ _
    (fun k => absTab (cZ n) (hot fk) m1 k) (fun k => absTab (cZ n) (hot bk) m2 (n - k))
    (by rw [← Nat.mul_add, show m1 + n + (m2 + n) = m1 + m2 + 2 * n by omega]; omega)
    fun k hk => ⟨(Nat.zero_add _ ▸ hcF k (by omega)).mono (Nat.mul_le_mul_left _ (by omega)),
      (Nat.zero_add _ ▸ hcB (n - k) (by omega)).mono (Nat.mul_le_mul_left _ (by omega)),
      Nat.one_mul _ ▸ (htie sb (sb + n) (sb + k) (by omega) (by omega) heb).mono (two_pow_20_le hu20)⟩
  rw [← hF, ← hB] at hmeet
  have hr : r = meetupRun ((ops.view ap).meetOps rF (sa + m1)) sb (sb + n) ((ops.view ap).forward rF startF)
      ((ops.view ap).backward rB startB) := by
    show kMeetup _ _ _ _ _ _ = _
    rw [kMeetup_view, kForward_view, kBackward_view]
  rw [← hr] at hmeet
  -- a feasible rectangle has a finite cut, so the meetup answers with one; such a cut satisfies the contract
  obtain ⟨k0, t0, hadm0, hf0, hb0⟩ := feas_has_candidate (cZ n) (cZ n) hn rfl fk bk m1 m2 hm2 hfeas
  rcases hmeet with ⟨_, hnone⟩ | ⟨k, t, hadm, hfin, hmm, ht⟩
  · have := hnone k0 t0 hadm0
    simp only [finAt, Nat.add_sub_cancel_left] at this
    have hb0' : ((absTab (cZ n) (hot bk) m2 (n - k0)).get (bkOf t0)).isSome = true := Option.isSome_iff_ne_none.2 hb0
    rw [Option.isSome_iff_ne_none.2 hf0, hb0'] at this
    exact absurd this (by decide)
  · simp only [finAt, Nat.add_sub_cancel_left, Bool.and_eq_true] at hfin
    rw [hmm, ht]
    exact candidate_contract (cZ n) (cZ n) hn rfl fk bk sa sb m1 m2 hm2 k t hadm (Option.isSome_iff_ne_none.1 hfin.1)
      (Option.isSome_iff_ne_none.1 hfin.2)

theorem realStep_some {α : Type} [Score α] {ap : AlnParam α} {ops : Operands α} {lenA lenB : Nat} {f b : Array (States α)}
    {sa mid ea sb eb : Int} {r : KStep (Array (States α)) α} (h : realStep ap ops lenA lenB f b sa mid ea sb eb = some r) :
    let rF : Rect := ⟨sa.toNat, mid.toNat, sb.toNat, eb.toNat, lenB⟩
    let rB : Rect := ⟨mid.toNat, ea.toNat, sb.toNat, eb.toNat, lenB⟩
    let m := kMeetup ap ops rF mid.toNat (kForward ap ops rF (f.getD 0 States.negInf))
      (kBackward ap ops rB (b.getD 0 States.negInf))
    r.meet = m.meet ∧ r.transition = m.transition := by
  unfold realStep at h
  split at h
  · dsimp only at h
    split at h
    · cases h; exact ⟨rfl, rfl⟩
    · cases h
  · cases h

theorem rect_nat_coords {sa ea sb eb : Int} (h0 : 0 ≤ sa) (h1 : sa < ea) (h3 : 0 ≤ sb) (h4 : sb < eb) :
    ∃ sa' m1 m2 sb' n : Nat, 1 ≤ m2 ∧ 1 ≤ n ∧ (ea - sa).toNat = m1 + m2 ∧ (eb - sb).toNat = n ∧
      (ea - sa) / 2 + sa = ((sa' + m1 : Nat) : Int) ∧ sa = sa' ∧ ea = ((sa' + m1 + m2 : Nat) : Int) ∧ sb = sb' ∧
      eb = ((sb' + n : Nat) : Int) := by
  obtain ⟨sa', rfl⟩ := Int.eq_ofNat_of_zero_le h0
  obtain ⟨sb', rfl⟩ := Int.eq_ofNat_of_zero_le h3
  obtain ⟨rows, hr⟩ := Int.eq_ofNat_of_zero_le (Int.le_of_lt (Int.sub_pos_of_lt h1))
  obtain ⟨n, hn⟩ := Int.eq_ofNat_of_zero_le (Int.le_of_lt (Int.sub_pos_of_lt h4))
  rw [hr, hn]
  exact ⟨sa', rows / 2, rows - rows / 2, sb', n, by omega, by omega, by omega, rfl, by omega, rfl, by omega, rfl, by omega⟩

theorem family_stepMon {u C : Nat} {ap : AlnParam SoftF32} {ops : Operands SoftF32} (hb : (ops.view ap).Bnd u C) (hu20 : 20 ≤ u) (lenA lenB : Nat)
    (hlen : C * (lenA + 2 * lenB) + 2 * C + 2 < 16777216) (htie : TieBnd lenB) :
    StepMon (realKernels ap ops lenA lenB) (fun a : Array (States SoftF32) => lenB + 1 ≤ a.size) FeasRect lenA lenB where
  safe := realKernels_stepSafe ap ops lenA lenB
  get_set := by
    intro f s hf
    exact getD_set!_self f 0 s _ (by omega)
  step := by
    intro f b fk bk sa ea sb eb _ _ hf0 hb0 h0 h1 h2 h3 h4 h5 hQ r hr
    have hfeas := hQ h1 h4
    obtain ⟨sa', m1, m2, sb', n, hm2, hn, e1, e2, hmid, rfl, rfl, rfl, rfl⟩ := rect_nat_coords h0 h1 h3 h4
    rw [e1, e2] at hfeas
    rw [hmid] at hr ⊢
    have hA : sa' + m1 + m2 ≤ lenA := Int.ofNat_le.1 h2
    have hB : sb' + n ≤ lenB := Int.ofNat_le.1 h5
    have hCle : C * (m1 + m2 + 2 * n) ≤ C * (lenA + 2 * lenB) := Nat.mul_le_mul_left _ (by omega)
    obtain ⟨hmeet, htr⟩ := realStep_some hr
    rw [hmeet, htr]
    exact family_step_contract hb hu20 lenB htie fk bk sa' m1 m2 sb' n hm2 hn hB (by omega) hfeas _ _
      (by rw [show f.getD 0 States.negInf = _ from hf0]; exact stClsU_hot u fk)
      (by rw [show b.getD 0 States.negInf = _ from hb0]; exact stClsU_hot u bk)

theorem family_alnRun_mon {u C : Nat} {ap : AlnParam SoftF32} {ops : Operands SoftF32} (hb : (ops.view ap).Bnd u C) (hu20 : 20 ≤ u) (lenA lenB : Nat)
    (hA : 1 ≤ lenA) (hB : 1 ≤ lenB) (hlen : C * (lenA + 2 * lenB) + 2 * C + 2 < 16777216) (htie : TieBnd lenB) :
    (alnRun .serial ap ops lenA lenB (initMem lenA lenB)).mon = true := by
  unfold alnRun
  refine runnerSerial_mon_fuel (family_stepMon hb hu20 lenA lenB hlen htie) _ (initMem_core lenA lenB)
    (by simp [initMem]) (by simp [initMem]) (by simp [initMem]) (by simp [initMem]) ?_
  refine ⟨rfl, ?_, ?_, ?_⟩
  · simp [initMem, realKernels, Kernels.st, Array.getD]
  · simp [initMem, realKernels, Kernels.st, Array.getD]
  · intro _ _
    simp only [initMem]
    have := feas_top lenA lenB hA hB
    simpa using this

theorem ssKernels_stepMon (ap : AlnParam SoftF32) (hap : ApBnd ap) (seq1 seq2 : Array Nat) (lenA lenB : Nat)
    (hlen : lenA + lenB < 4194304) (htie : TieBnd lenB) :
    StepMon (realKernels ap (.seqseq seq1 seq2) lenA lenB) (fun a : Array (States SoftF32) => lenB + 1 ≤ a.size)
      FeasRect lenA lenB :=
  family_stepMon (hap.view seq1 seq2) (Nat.le_refl 20) lenA lenB (by omega) htie

theorem ss_alnRun_mon (ap : AlnParam SoftF32) (hap : ApBnd ap) (seq1 seq2 : Array Nat) (lenA lenB : Nat)
    (hA : 1 ≤ lenA) (hB : 1 ≤ lenB) (hlen : lenA + lenB < 4194304) (htie : TieBnd lenB) :
    (alnRun .serial ap (.seqseq seq1 seq2) lenA lenB (initMem lenA lenB)).mon = true :=
  family_alnRun_mon (hap.view seq1 seq2) (Nat.le_refl 20) lenA lenB hA hB (by omega) htie

end Kalign

import KalignModel.Model.Tree
/-!
`iterOpt f k` (Model/Tree.lean) runs a partial step `k` times: the last step written as a `bind`, an invariant indexed by the number of steps,
and progress (the steps return as long as the invariant makes them).
-/
namespace Kalign

theorem iterOpt_succ_right {σ : Type} (f : σ → Option σ) (k : Nat) (s : σ) :
    iterOpt f (k + 1) s = (iterOpt f k s).bind f := by
  induction k generalizing s with
  | zero => simp [iterOpt]
  | succ k ih =>
    rw [iterOpt]
    cases hf : f s with
    | none => simp [iterOpt, hf]
    | some s1 =>
      simp only [Option.bind_some]
      rw [ih s1]
      conv => rhs; rw [iterOpt, hf]; simp only [Option.bind_some]

theorem iterOpt_inv {σ : Type} (f : σ → Option σ) (P : Nat → σ → Prop)
    (hstep : ∀ k s s', P k s → f s = some s' → P (k + 1) s') (s0 : σ) (h0 : P 0 s0) :
    ∀ k s, iterOpt f k s0 = some s → P k s := by
  intro k
  induction k with
  | zero =>
    intro s hs
    cases hs
    exact h0
  | succ k ih =>
    intro s' hs'
    rw [iterOpt_succ_right] at hs'
    cases hk : iterOpt f k s0 with
    | none => rw [hk] at hs'; cases hs'
    | some s =>
      rw [hk, Option.bind_some] at hs'
      exact hstep k s s' (ih s hk) hs'

theorem iterOpt_steps {σ : Type} (f : σ → Option σ) (P : Nat → σ → Prop) (n : Nat)
    (hstep : ∀ k s, k + 2 ≤ n → P k s → ∃ s', f s = some s' ∧ P (k + 1) s') :
    ∀ m k s, k + m + 1 ≤ n → P k s → ∃ s', iterOpt f m s = some s' ∧ P (k + m) s' := by
  intro m
  induction m with
  | zero => intro k s _ h; exact ⟨s, rfl, h⟩
  | succ m ih =>
    intro k s hkm h
    obtain ⟨s1, h1, hP1⟩ := hstep k s (by omega) h
    obtain ⟨s2, h2, hP2⟩ := ih (k + 1) s1 (by omega) hP1
    refine ⟨s2, by simp only [iterOpt, h1, Option.bind_some]; exact h2, ?_⟩
    rw [show k + (m + 1) = k + 1 + m by omega]
    exact hP2

end Kalign

/-!
The model sequences partial steps over a list with `List.mapM` (a distance matrix row by row, the rows of a k-means table, the gap vectors
of the final rows).  `l.mapM f = some a` says that `a` lists the values `f` returns along `l`; core Lean has no lemma for it.
-/
namespace Kalign

theorem mapM_some_iff {α β : Type} {f : α → Option β} {l : List α} {a : List β} :
    l.mapM f = some a ↔ l.map f = a.map some := by
  induction l generalizing a with
  | nil => cases a <;> simp
  | cons x xs ih =>
    cases hx : f x with
    | none => cases a <;> simp [hx]
    | some y =>
      cases hr : xs.mapM f with
      | none =>
        cases a with
        | nil => simp [hx, hr]
        | cons b bs =>
          simp only [List.mapM_cons, hx, hr, List.map_cons, List.cons.injEq]
          exact ⟨(fun h => nomatch h), (fun h => nomatch hr.symm.trans (ih.2 h.2))⟩
      | some ys =>
        cases a with
        | nil => simp [hx, hr]
        | cons b bs => simp [hx, hr, ← ih]

theorem mapM_eq_some_map {α β : Type} (f : α → Option β) (g : α → β) (l : List α) (h : ∀ a ∈ l, f a = some (g a)) :
    l.mapM f = some (l.map g) :=
  mapM_some_iff.2 (by rw [List.map_map]; exact List.map_congr_left h)

theorem mapM_some_get {α β : Type} {f : α → Option β} {l : List α} {a : List β} (h : l.mapM f = some a) :
    a.length = l.length ∧ ∀ i (h1 : i < l.length) (h2 : i < a.length), f l[i] = some a[i] := by
  have e := mapM_some_iff.1 h
  have hl : a.length = l.length := by simpa using (congrArg List.length e).symm
  refine ⟨hl, fun i h1 h2 => ?_⟩
  have := congrArg (·[i]?) e
  simpa [h1, h2] using this

theorem mapM_option_spec {α β : Type} (f : α → Option β) (P : β → Prop) (l : List α)
    (h : ∀ i ∈ l, ∃ y, f i = some y ∧ P y) :
    ∃ a, l.mapM f = some a ∧ a.length = l.length ∧ ∀ y ∈ a, P y := by
  induction l with
  | nil => exact ⟨[], rfl, rfl, by simp⟩
  | cons x xs ih =>
    obtain ⟨y, hy, hp⟩ := h x List.mem_cons_self
    obtain ⟨a, ha, hl, hP⟩ := ih (fun i hi => h i (List.mem_cons_of_mem _ hi))
    refine ⟨y :: a, by simp [List.mapM_cons, hy, ha], by simp [hl], ?_⟩
    intro z hz
    rcases List.mem_cons.1 hz with rfl | hz
    · exact hp
    · exact hP z hz

end Kalign

/-!
A fold whose invariant is indexed by the number of elements consumed (the column loops of the bit-parallel routines are such folds), the
running minimum `foldl min`, reads by position in a list or in a table built from `List.range`, a fold that reaches a goal at one element and
keeps it (`foldl_reach`), an invariant of a fold in `Option` (`foldlM_option_inv`), what a write at one position does to a `flatMap`
(`flatMap_set_perm`), lists whose images under a map are distinct (`eq_of_nodup_map`, `nodup_map_cons`), and a filter of `List.range` that one
index passes (`filter_range_eq`).
-/
namespace Kalign

theorem foldl_inv_idx {σ ι : Type} (I : Nat → σ → Prop) (f : σ → ι → σ) (t : List ι) (s0 : σ) (h0 : I 0 s0)
    (hstep : ∀ j (hj : j < t.length) s, I j s → I (j + 1) (f s t[j])) : I t.length (t.foldl f s0) := by
  have h : ∀ j, j ≤ t.length → I j ((t.take j).foldl f s0) := by
    intro j hj
    induction j with
    | zero => exact h0
    | succ j ih =>
      rw [← List.take_append_getElem (by omega : j < t.length), List.foldl_append]
      exact hstep j (by omega) _ (ih (by omega))
  have := h t.length (Nat.le_refl _)
  rwa [List.take_length] at this

theorem foldl_min_isMin (l : List Nat) (d : Nat) : l.foldl min d ∈ d :: l ∧ ∀ b, b ∈ d :: l → l.foldl min d ≤ b :=
  List.min?_eq_some_iff.1 List.min?_cons'

theorem foldl_min_le_init (l : List Nat) (d : Nat) : l.foldl min d ≤ d :=
  (foldl_min_isMin l d).2 d List.mem_cons_self

theorem foldl_min_le_mem (l : List Nat) (d : Nat) (x : Nat) (h : x ∈ l) : l.foldl min d ≤ x :=
  (foldl_min_isMin l d).2 x (List.mem_cons_of_mem _ h)

theorem foldl_min_attained (l : List Nat) (d : Nat) : l.foldl min d = d ∨ l.foldl min d ∈ l :=
  List.mem_cons.1 (foldl_min_isMin l d).1

theorem range_succ_eq_cons (m : Nat) : List.range (m + 1) = 0 :: List.range' 1 m := by
  rw [List.range_eq_range', List.range'_succ]

theorem getD_of_lt {α : Type} (l : List α) (i : Nat) (d : α) (h : i < l.length) : l.getD i d = l[i] :=
  (List.getElem_eq_getD d).symm

theorem tab_getD {α : Type} (f : Nat → α) (n c : Nat) (d : α) (hc : c < n) :
    (((List.range n).map f).toArray).getD c d = f c := by
  simp [Array.getD, hc]

theorem takeWhile_all {α : Type} (p : α → Bool) (l : List α) (h : ∀ b ∈ l, p b = true) : l.takeWhile p = l := by
  simpa using List.takeWhile_append_of_pos (l₂ := []) h

theorem map_range_reverse {β : Type} (f : Nat → β) (n : Nat) :
    ((List.range (n + 1)).map f).reverse = (List.range (n + 1)).map fun k => f (n - k) := by
  apply List.ext_getElem
  · simp
  · intro i h1 h2
    simp only [List.length_reverse, List.length_map, List.length_range] at h1
    simp only [List.getElem_reverse, List.getElem_map, List.getElem_range, List.length_map, List.length_range]
    simp only [Nat.add_sub_cancel]

theorem cell_of_map_range {β : Type} {l : List β} {F : Nat → β} {n : Nat} (h : l = (List.range n).map F) {k : Nat} (hk : k < n) :
    l[k]? = some (F k) := by
  rw [h, List.getElem?_map, List.getElem?_range hk]
  rfl

theorem foldl_reach {σ ι : Type} (f : σ → ι → σ) (P G : σ → Prop) (l : List ι) (x : ι) (hx : x ∈ l)
    (hP : ∀ s y, y ∈ l → P s → P (f s y)) (hG : ∀ s y, y ∈ l → P s → G s → G (f s y))
    (hstep : ∀ s, P s → G (f s x)) (s0 : σ) (h0 : P s0) : G (l.foldl f s0) := by
  induction l generalizing s0 with
  | nil => cases hx
  | cons y ys ih =>
    rw [List.foldl_cons]
    rcases List.mem_cons.1 hx with e | e
    · subst e
      have : P (ys.foldl f (f s0 x)) ∧ G (ys.foldl f (f s0 x)) := by
        refine List.foldlRecOn (motive := fun s => P s ∧ G s) ys f ⟨hP s0 x List.mem_cons_self h0, hstep s0 h0⟩ ?_
        intro s ⟨h1, h2⟩ y hy
        exact ⟨hP s y (List.mem_cons_of_mem _ hy) h1, hG s y (List.mem_cons_of_mem _ hy) h1 h2⟩
      exact this.2
    · exact ih e (fun s y hy => hP s y (List.mem_cons_of_mem _ hy))
        (fun s y hy => hG s y (List.mem_cons_of_mem _ hy)) _ (hP s0 y List.mem_cons_self h0)

theorem flatMap_set_perm {α β : Type} (g : α → List β) (v : α) :
    ∀ (l : List α) (i : Nat) (hi : i < l.length), ((l.set i v).flatMap g ++ g l[i]).Perm (g v ++ l.flatMap g)
  | x :: xs, 0, _ => by
    simp only [List.set_cons_zero, List.flatMap_cons, List.getElem_cons_zero, List.append_assoc]
    exact List.Perm.append_left _ List.perm_append_comm
  | x :: xs, i + 1, hi => by
    simp only [List.set_cons_succ, List.flatMap_cons, List.getElem_cons_succ, List.append_assoc]
    exact ((flatMap_set_perm g v xs i (by simpa using hi)).append_left (g x)).trans (List.perm_append_comm_assoc _ _ _)

theorem foldlM_option_inv {σ α : Type} (P : σ → Prop) (f : σ → α → Option σ)
    (hf : ∀ s a s', f s a = some s' → P s → P s') (l : List α) (s s' : σ)
    (h : l.foldlM f s = some s') (hs : P s) : P s' := by
  induction l generalizing s with
  | nil => cases h; exact hs
  | cons a l ih =>
    rw [List.foldlM_cons] at h
    cases ha : f s a with
    | none => rw [ha] at h; cases h
    | some s1 => rw [ha] at h; exact ih s1 h (hf s a s1 ha hs)

theorem eq_of_nodup_map {α β : Type} {f : α → β} {A : List α} (hnd : (A.map f).Nodup) {a b : α}
    (ha : a ∈ A) (hb : b ∈ A) (h : f a = f b) : a = b := by
  induction A with
  | nil => cases ha
  | cons x A ih =>
    simp only [List.map_cons, List.nodup_cons, List.mem_map] at hnd
    rcases List.mem_cons.mp ha with rfl | ha' <;> rcases List.mem_cons.mp hb with rfl | hb'
    · rfl
    · exact absurd ⟨b, hb', h.symm⟩ hnd.1
    · exact absurd ⟨a, ha', h⟩ hnd.1
    · exact ih hnd.2 ha' hb'

theorem nodup_map_cons {α β : Type} {f : α → β} {z : α} {Z : List α} (h : ((z :: Z).map f).Nodup) :
    (∀ w ∈ Z, f z ≠ f w) ∧ (Z.map f).Nodup := by
  simp only [List.map_cons, List.nodup_cons, List.mem_map] at h
  exact ⟨fun w hw e => h.1 ⟨w, hw, e.symm⟩, h.2⟩

theorem filter_range_eq (n a : Nat) (ha : a < n) (P : Nat → Bool) (hP : ∀ c, c < n → (P c = true ↔ c = a)) :
    (List.range n).filter P = [a] := by
  induction n with
  | zero => omega
  | succ n ih =>
    rw [List.range_succ, List.filter_append]
    by_cases han : a = n
    · subst han
      have h1 : (List.range a).filter P = [] := by
        rw [List.filter_eq_nil_iff]
        intro c hc
        have hc' := List.mem_range.mp hc
        have := hP c (by omega)
        intro hpc; have := this.mp hpc; omega
      have h2 : P a = true := (hP a (by omega)).mpr rfl
      simp [h1, h2]
    · have h1 := ih (by omega) (fun c hc => hP c (by omega))
      have h2 : P n = false := by
        cases hpn : P n
        · rfl
        · have := (hP n (by omega)).mp hpn; omega
      simp [h1, h2]

end Kalign

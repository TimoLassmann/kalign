import KalignModel.Model.Kmeans
/-!
`mergeBy` / `msortBy` (Model/Kmeans.lean: glibc's merge sort with a comparator that may be inconsistent) permute their input, whatever the
comparator answers.
-/
namespace Kalign.Kmeans

theorem mergeBy_perm {α : Type} (f : α → α → Bool) (l r : List α) : (mergeBy f l r).Perm (l ++ r) := by
  induction l, r using mergeBy.induct f with
  | case1 r => simp [mergeBy]
  | case2 l h => simp [mergeBy]
  | case3 a l b r h ih =>
    rw [mergeBy]; simp only [h, if_true]
    exact List.Perm.cons a ih
  | case4 a l b r h ih =>
    rw [mergeBy]; simp only [h]
    exact (List.Perm.cons b ih).trans (List.perm_middle.symm)

theorem msortBy_perm {α : Type} (f : α → α → Bool) (l : List α) : (msortBy f l).Perm l := by
  induction l using msortBy.induct with
  | case1 l h => rw [msortBy]; simp [h]
  | case2 l h ih1 ih2 =>
    rw [msortBy]; simp only [h, dite_false]
    exact (mergeBy_perm f _ _).trans ((ih1.append ih2).trans (by rw [List.take_append_drop]))

end Kalign.Kmeans

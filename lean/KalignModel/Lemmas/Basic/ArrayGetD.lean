/-!
The model reads arrays with `Array.getD` (a total read with a default, as the C code reads memory it has sized itself) and writes them with
`set!` / `setIfInBounds`.  Core Lean states what a write does to a later read for `[·]?` only (`Array.getElem?_setIfInBounds`); these are the
`getD` forms, with a `getD` read under `Array.all` and through `toList`.
-/
namespace Kalign

theorem getD_setIfInBounds {α : Type} (a : Array α) (i j : Nat) (v d : α) :
    (a.setIfInBounds i v).getD j d = if i = j ∧ i < a.size then v else a.getD j d := by
  simp only [Array.getD_eq_getD_getElem?, Array.getElem?_setIfInBounds]
  by_cases hij : i = j
  · subst hij
    by_cases hi : i < a.size
    · simp [hi]
    · simp [hi]
  · simp [hij]

theorem getD_set! {α : Type} (a : Array α) (i j : Nat) (v d : α) :
    (a.set! i v).getD j d = if i = j ∧ i < a.size then v else a.getD j d :=
  getD_setIfInBounds a i j v d

theorem getD_setIfInBounds_of_lt {α : Type} (a : Array α) (i j : Nat) (v d : α) (hi : i < a.size) :
    (a.setIfInBounds i v).getD j d = if j = i then v else a.getD j d := by
  rw [getD_setIfInBounds]
  by_cases h : j = i
  · rw [if_pos h, if_pos ⟨h.symm, hi⟩]
  · rw [if_neg h, if_neg fun e => h e.1.symm]

theorem getD_set!_self {α : Type} (a : Array α) (i : Nat) (v d : α) (h : i < a.size) : (a.set! i v).getD i d = v := by
  rw [getD_set!, if_pos ⟨rfl, h⟩]

theorem getD_of_all {α : Type} {p : α → Bool} {a : Array α} (h : a.all p = true) (d : α) (hd : p d = true) (i : Nat) :
    p (a.getD i d) = true := by
  rw [Array.getD_eq_getD_getElem?]
  by_cases hi : i < a.size
  · rw [Array.getElem?_eq_getElem hi]
    exact Array.all_eq_true.1 h i hi
  · rw [Array.getElem?_eq_none (Nat.le_of_not_lt hi)]
    exact hd

theorem getD_toList {α : Type} (a : Array α) (i : Nat) (d : α) (hi : i < a.size) : a.toList[i]'(by simpa using hi) = a.getD i d := by
  simp [Array.getD, hi]

end Kalign

import KalignModel.Lemmas.DiagMeet
import KalignModel.Lemmas.CutInstances
import KalignModel.Lemmas.DiagOpt
/-!
# The diagonal of identical operands satisfies `CutHypE` under a per-residue condition

`DiagRes gpo gpe tgpe s seq`: non-negative penalties and, for all residues `x`, `y` of `seq`, `0 < s x x + 2·min(gpo, gpe, tgpe)` and
`2·s x y ≤ s x x + s y y` (no relation between the penalties: `tgpe = 0` is allowed, and a negative self-score is allowed when every
gap column costs more than half of it).  Every rectangle that the Hirschberg recursion (`aln_runner`, lib/src/aln_controller.c)
reaches along the diagonal of `(seq, seq)` is a square on the diagonal (`diag_rect`), where `MeetAns.diag` applies:
`Level.cut_of_diag`, the counterpart of `Level.cut_of_margin` (Lemmas/OptCut.lean); `diag_cutHyp` is its instance for the exact meetup.
-/
namespace Kalign

structure DiagRes (gpo gpe tgpe : Int) (s : Nat → Nat → Int) (seq : Array Nat) : Prop where
  hgpo : 0 ≤ gpo
  hgpe : 0 ≤ gpe
  htgpe : 0 ≤ tgpe
  hself : ∀ x ∈ seq.toList, 0 < s x x + 2 * min gpo (min gpe tgpe)
  hdom : ∀ x ∈ seq.toList, ∀ y ∈ seq.toList, 2 * s x y ≤ s x x + s y y

theorem getD_mem_toList (seq : Array Nat) (i : Nat) (h : i < seq.size) : seq.getD i 0 ∈ seq.toList := by
  have : seq.getD i 0 = seq[i] := by simp [Array.getD, h]
  rw [this]
  exact Array.getElem_mem_toList h

def selfSc (s : Nat → Nat → Int) (seq : Array Nat) (j : Nat) : Int := s (seq.getD j 0) (seq.getD j 0)

/-- a kernel configuration whose cell `(p, k)` scores residue `f p` of `seq` against residue `f k` -/
theorem diagCfg_of_index (c : KCfg) (gpo gpe tgpe : Int) (s : Nat → Nat → Int) (seq : Array Nat) (E : Int) (f : Nat → Nat)
    (hg : c.gpo = gpo ∧ c.gpe = gpe ∧ c.tgpe = tgpe) (hsc : ∀ p k, c.sc p k = s (seq.getD (f p) 0) (seq.getD (f k) 0))
    (hf : ∀ i, i < c.n → f i < seq.size) (hgpo : 0 ≤ gpo)
    (hself : ∀ x ∈ seq.toList, E ≤ s x x + 2 * min gpo (min gpe tgpe))
    (hdom : ∀ x ∈ seq.toList, ∀ y ∈ seq.toList, 2 * s x y ≤ s x x + s y y) :
    DiagCfg c (fun i => selfSc s seq (f i)) (min gpo (min gpe tgpe)) E := by
  obtain ⟨g1, g2, g3⟩ := hg
  refine ⟨by rw [g1]; exact hgpo, by rw [g1]; omega, by rw [g2]; omega, by rw [g3]; omega, ?_, ?_, ?_⟩
  · intro p k hp hk
    rw [hsc]
    exact hdom _ (getD_mem_toList seq (f p) (hf p hp)) _ (getD_mem_toList seq (f k) (hf k hk))
  · intro p _
    exact hsc p p
  · intro i hi
    exact hself _ (getD_mem_toList seq (f i) (hf i hi))

theorem diagCfgF (gpo gpe tgpe : Int) (s : Nat → Nat → Int) (seq : Array Nat) (E : Int) (hgpo : 0 ≤ gpo)
    (hself : ∀ x ∈ seq.toList, E ≤ s x x + 2 * min gpo (min gpe tgpe))
    (hdom : ∀ x ∈ seq.toList, ∀ y ∈ seq.toList, 2 * s x y ≤ s x x + s y y)
    (sa mid ea lenB : Nat) (hea : ea ≤ seq.size) :
    DiagCfg (cfgF gpo gpe tgpe s seq seq ⟨sa, mid, sa, ea, lenB⟩) (fun i => selfSc s seq (sa + i))
      (min gpo (min gpe tgpe)) E :=
  diagCfg_of_index _ gpo gpe tgpe s seq E (fun i => sa + i) ⟨rfl, rfl, rfl⟩ (fun _ _ => rfl)
    (fun i hi => by have : i < ea - sa := hi; omega) hgpo hself hdom

theorem diagCfgB (gpo gpe tgpe : Int) (s : Nat → Nat → Int) (seq : Array Nat) (E : Int) (hgpo : 0 ≤ gpo)
    (hself : ∀ x ∈ seq.toList, E ≤ s x x + 2 * min gpo (min gpe tgpe))
    (hdom : ∀ x ∈ seq.toList, ∀ y ∈ seq.toList, 2 * s x y ≤ s x x + s y y)
    (sa mid ea lenB : Nat) (hea : ea ≤ seq.size) :
    DiagCfg (cfgB gpo gpe tgpe s seq seq ⟨mid, ea, sa, ea, lenB⟩) (fun i => selfSc s seq (ea - 1 - i))
      (min gpo (min gpe tgpe)) E :=
  diagCfg_of_index _ gpo gpe tgpe s seq E (fun i => ea - 1 - i) ⟨rfl, rfl, rfl⟩ (fun _ _ => rfl)
    (fun i hi => by have : i < ea - sa := hi; omega) hgpo hself hdom

theorem mem_diag_both {n : Nat} {Y Z W : List Col} (h : diagCols n = Y ++ Z ++ W) :
    (∀ c ∈ Y, c = .both) ∧ (∀ c ∈ Z, c = .both) ∧ (∀ c ∈ W, c = .both) := by
  have hall : ∀ c ∈ Y ++ Z ++ W, c = .both := by
    intro c hc
    rw [← h] at hc
    exact List.eq_of_mem_replicate hc
  refine ⟨fun c hc => hall c (by simp [hc]), fun c hc => hall c (by simp [hc]), fun c hc => hall c (by simp [hc])⟩

theorem diag_rect {n sa ea sb eb : Nat} {P1 X P2 : List Col} (hP : diagCols n = P1 ++ X ++ P2) (a1 : consA P1 = sa)
    (b1 : consB P1 = sb) (a2 : consA P2 + ea = n) (b2 : consB P2 + eb = n) :
    sb = sa ∧ eb = ea ∧ lastKind .A P1 = .A ∧ firstKind .A P2 = .A ∧ X = diagCols (eb - sb) := by
  obtain ⟨hb1, hbX, hb2⟩ := mem_diag_both hP
  have eP1 := all_both_diag P1 hb1
  have eX := all_both_diag X hbX
  have eP2 := all_both_diag P2 hb2
  have hlen := congrArg List.length hP
  simp only [diagCols, List.length_replicate, List.length_append] at hlen
  rw [eP1, consA_diag] at a1
  rw [eP1, consB_diag] at b1
  rw [eP2, consA_diag] at a2
  rw [eP2, consB_diag] at b2
  refine ⟨by omega, by omega, ?_, ?_, ?_⟩
  · rw [eP1]; exact lastKind_diag _
  · rw [eP2]; exact firstKind_diag _
  · rw [eX]
    congr 1
    omega

theorem diag_mid_arith {sb mid eb n : Nat} (h1 : sb ≤ mid) (h2 : mid < eb) (h3 : eb ≤ n) :
    (mid - sb) + (eb - mid) = eb - sb ∧ 1 ≤ eb - mid ∧ mid - sb < eb - sb ∧ sb ≤ eb ∧ eb = sb + (eb - sb) ∧
      eb - sb ≤ n := by omega

theorem Level.cut_of_diag {seq : Array Nat} (L : Level seq.size seq.size) {X : List Col}
    (hP : diagCols seq.size = L.P1 ++ X ++ L.P2) (hmid : L.mid = (L.ea - L.sa) / 2 + L.sa)
    {gpo gpe tgpe : Int} {s : Nat → Nat → Int} (hgpo : 0 ≤ gpo) (hgpe : 0 ≤ gpe) (htgpe : 0 ≤ tgpe) {E : Int}
    (hself : ∀ x ∈ seq.toList, E ≤ s x x + 2 * min gpo (min gpe tgpe))
    (hdom : ∀ x ∈ seq.toList, ∀ y ∈ seq.toList, 2 * s x y ≤ s x x + s y y)
    {τ : Nat → Int} (hτ : ∀ k, k ≤ L.n → τ (L.n / 2) ≤ τ k) {S : Int} (hS : 0 ≤ S) (hES : S < E) {meet trans : Int}
    (hans : MeetAns (L.meet (ssW gpo gpe tgpe s seq seq seq.size seq.size)) L.sb τ S meet trans) :
    (L.meet (ssW gpo gpe tgpe s seq seq seq.size seq.size)).CutOf X L.sb meet trans := by
  obtain ⟨hsb, heb, hfkA, hbkA, eX⟩ := diag_rect hP L.a1 L.b1 L.a2 L.b2
  dsimp only [Level.meet, Level.cF, Level.cB, Level.rF, Level.rB, Level.fk, Level.bk, Level.n, Level.m1, Level.m2] at hans hτ ⊢
  simp only [hsb, heb, hfkA, hbkA] at hans hτ eX ⊢
  obtain ⟨hm, hm2, _, hle, _, _⟩ := diag_mid_arith L.sa_le_mid L.mid_lt_ea L.ea_le
  obtain ⟨hmeet, htrans⟩ := MeetAns.diag (diagCfgF gpo gpe tgpe s seq E hgpo hself hdom L.sa L.mid L.ea seq.size L.ea_le)
    (diagCfgB gpo gpe tgpe s seq E hgpo hself hdom L.sa L.mid L.ea seq.size L.ea_le) hgpe htgpe rfl hm hm2
    (psum_split (selfSc s seq) L.sa L.ea hle)
    (fun k hk => by rw [show L.mid - L.sa = (L.ea - L.sa) / 2 by omega]; exact hτ k hk) hS hES hans
  exact ⟨diagCols (L.mid - L.sa), diagCols (L.ea - L.mid), L.mid - L.sa, 1, by rw [diagCols_reverse, eX, ← diagCols_add, hm],
    hmeet, htrans, Or.inl ⟨by show L.mid - L.sa < L.ea - L.sa; have := L.sa_le_mid; have := L.mid_lt_ea; omega, Or.inl rfl⟩,
    MeetWalk.diag _ _ _ hm⟩

theorem diag_cutHyp (ap : AlnParam ExactScore) (gpo gpe tgpe : Int) (s : Nat → Nat → Int)
    (hap : ApOK ap gpo gpe tgpe s) (seq : Array Nat) (H : DiagRes gpo gpe tgpe s seq) :
    CutHypE ap gpo gpe tgpe s seq seq seq.size seq.size (diagCols seq.size) := by
  refine ⟨⟨adjOK_diag _ _, consA_diag _, consB_diag _, fun L X hP hmid res hres => ?_⟩, hap⟩
  subst hres
  refine L.cut_of_diag hP hmid H.hgpo H.hgpe H.htgpe (E := 1) (fun x hx => Int.add_one_le_of_lt (H.hself x hx)) H.hdom
    (fun k _ => ?_) (Int.le_refl 0) (by decide)
    (absMeet_ans _ L.sb L.eb)
  show tieOf L.sb L.eb (L.n / 2) ≤ tieOf L.sb L.eb k
  have := tie_mid_min L.sb L.n k
  rwa [L.sb_add_n] at this

end Kalign

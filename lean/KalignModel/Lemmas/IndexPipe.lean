import KalignModel.Lemmas.IndexAlign
import KalignModel.Lemmas.IndexTree
import KalignModel.Lemmas.IndexKmeans
import KalignModel.Lemmas.Kmeans
import KalignModel.Lemmas.NoFaultRec
/-!
# The checked pipeline agrees with the totalised one
-/
namespace Kalign.Pipeline
open Kalign Kalign.Kmeans

theorem mirrorPathC_eq (lenA : Nat) (apath : List Int) (h : ∀ p ∈ apath, p ≤ lenA) :
    Agrees (mirrorPathC lenA apath) (mirrorPath lenA apath) := by
  unfold mirrorPathC mirrorPath
  refine (foldlC_eq_inv (fun o : List Int => o.length = lenA) _ _ _ _ (by simp) ?_).1
  intro o ip hip ho
  obtain ⟨q, hq, rfl⟩ := List.mem_map.1 hip
  have hp : q.1 ≤ lenA := h q.1 (by
    have := List.mem_zipIdx hq
    obtain ⟨p, i⟩ := q
    obtain ⟨_, _, e⟩ := this
    simp only at e ⊢
    rw [e]; exact List.getElem_mem _)
  dsimp only
  split
  · exact ⟨rfl, ho⟩
  · exact ⟨Agrees.writeL (by omega), by simpa using ho⟩

theorem roundResC_eq (spC : Nat → Chk Split) (sp : Nat → Option Split) (h : ∀ k, Agrees (spC k).run (sp k))
    (step i : Nat) : Agrees (roundResC spC step i).run (roundRes sp step i) := by
  unfold roundResC roundRes
  simp only [OptionT.run_bind, h, Option.elimM, Option.pure_def, Option.bind_eq_bind, Option.bind_some]
  cases sp (i * step) <;> cases sp ((i + 1) * step) <;> cases sp ((i + 2) * step) <;> cases sp ((i + 3) * step) <;> rfl

theorem roundsGoC_eq (spC : Nat → Chk Split) (sp : Nat → Option Split) (h : ∀ k, Agrees (spC k).run (sp k))
    (step rem i : Nat) (best : Option Split) :
    Agrees (roundsGoC spC step rem i best).run (roundsGo sp step rem i best) := by
  induction rem generalizing i best with
  | zero => rfl
  | succ rem ih =>
    rw [roundsGoC, roundsGo, OptionT.run_bind, roundResC_eq spC sp h]
    cases roundRes sp step i with
    | none => rfl
    | some rs =>
      simp only [Option.elimM, Option.pure_def, Option.bind_eq_bind, Option.bind_some, Option.elim_some]
      generalize reduceRes (best, 0) rs = bc
      obtain ⟨b', ch⟩ := bc
      dsimp only
      split
      · rfl
      · exact ih (i + 4) b'

theorem bestSplitC_eq (avx : Bool) (dm : Array (Array Float32)) (na : Nat) (samples : List Nat) :
    Agrees (bestSplitC avx dm na samples).run (bestSplit avx dm na samples) := by
  unfold bestSplitC bestSplit
  dsimp only
  generalize (if kmTries < samples.length then kmTries else samples.length) = tries
  split
  · rfl
  · rw [OptionT.run_bind, roundsGoC_eq _ (split2 avx dm samples na) (fun k => split2WithC_eq kmMaxIter avx dm samples na k)]
    generalize roundsGo (split2 avx dm samples na) _ _ 0 none = res
    cases res with
    | none => rfl
    | some o => cases o <;> rfl

theorem bisectOC_eq (avx : Bool) (dm : Array (Array Float32)) (na N : Nat) (smallC : List Nat → Chk Tree)
    (small : List Nat → Option Tree) (hs : ∀ l, (∀ s ∈ l, s < N) → Agrees (smallC l).run (small l))
    (fuel : Nat) (samples : List Nat) (hl : ∀ s ∈ samples, s < N) :
    Agrees (bisectOC avx dm na smallC fuel samples) (bisectO avx dm na small fuel samples) := by
  induction fuel generalizing samples with
  | zero =>
    rw [bisectOC, bisectO]
    split
    · rw [hs samples hl]; cases small samples <;> rfl
    · rfl
  | succ fuel ih =>
    rw [bisectOC, bisectO]
    split
    · rw [hs samples hl]; cases small samples <;> rfl
    · rw [bestSplitC_eq, Option.bind_some]
      cases hb : bestSplit avx dm na samples with
      | none => rfl
      | some b =>
        have hg := bestSplit_good hb
        dsimp only
        rw [ih b.sl (fun s h => hl s (hg.subl.subset h)), Option.bind_some,
          ih b.sr (fun s h => hl s (hg.subr.subset h)), Option.map_some]
        cases bisectO avx dm na small fuel b.sl <;> cases bisectO avx dm na small fuel b.sr <;> rfl

theorem buildTasksC_eq (avx : Bool) (codes : Array (List Nat)) : Agrees (buildTasksC avx codes) (buildTasks avx codes) := by
  unfold buildTasksC buildTasks
  dsimp only
  cases hp : pickAnchors (codes.toList.map List.length) with
  | none => rfl
  | some anchors =>
    dsimp only
    have hne : codes.toList.map List.length ≠ [] := by
      intro e
      rw [e] at hp
      simp [pickAnchors] at hp
    obtain ⟨a', ha', _, hlt⟩ := pickAnchors_spec _ hne
    rw [hp] at ha'
    cases ha'
    have hlt' : ∀ a ∈ anchors, a < codes.size := by
      intro a ha; have := hlt a ha; simpa using this
    rw [anchorMatrixC_eq codes anchors hlt', Option.bind_some]
    cases anchorMatrix codes anchors with
    | none => rfl
    | some dm =>
      dsimp only
      rw [bisectOC_eq avx dm anchors.length codes.size (smallTreeC codes) (smallTree codes)
        (fun l hl => smallTreeC_eq codes l hl) codes.size (List.range codes.size)
        (fun s hs => List.mem_range.1 hs), Option.map_some]
      generalize bisectO avx dm anchors.length (smallTree codes) codes.size (List.range codes.size) = res
      cases res with
      | error e => cases e <;> rfl
      | ok t => rfl

theorem leafNodeC_eq (codes : Array (List Nat)) (i : Nat) (h : i < codes.size) :
    Agrees (leafNodeC codes i) (leafNode codes i) :=
  Agrees.map (.read h)

theorem mergeNodesC_eq (entry : Entry) (ap : AlnParam Float32) (hw : ap.wf) (A B : Node) (isLast : Bool) :
    Agrees (mergeNodesC entry ap A B isLast) (mergeNodes entry ap A B isLast) := by
  unfold mergeNodesC mergeNodes
  dsimp only
  -- the three-entry state `mergeNodes` hands to `doAlign`
  generalize hst : (⟨#[A.seq, B.seq], #[A.prof, B.prof, none], #[A.len, B.len, 0], #[A.nsip, B.nsip, 0]⟩ : AlnState Float32) = st
  have hwf : st.wf := hst ▸ ⟨rfl, rfl⟩
  rw [doAlignC_eq entry ap hw st hwf 0 1 2 isLast, Option.bind_some]
  cases hd : doAlign entry ap st 0 1 2 isLast with
  | none => rfl
  | some r =>
    obtain ⟨st', out⟩ := r
    obtain ⟨_, h2, _, _⟩ := doAlign_sizes entry ap st st' out 0 1 2 isLast hd
    dsimp only
    split
    · rfl
    · split
      · rfl
      · exact Agrees.map (.read (by rw [h2, ← hst]; simp))

theorem recAlnC_eq (ap : AlnParam Float32) (hw : ap.wf) (tasks : Array (Nat × Nat × Nat)) (codes : Array (List Nat))
    (n fuel k : Nat) : Agrees (recAlnC ap tasks codes n fuel k) (recAln ap tasks codes n fuel k) := by
  induction fuel generalizing k with
  | zero => rfl
  | succ fuel ih =>
    rw [recAlnC]
    cases hk : tasks[k]? with
    | none => rw [recAln, hk]
    | some t =>
      obtain ⟨a, b, c⟩ := t
      rw [recAln_succ ap tasks codes n fuel k a b c hk]
      dsimp only
      have hchild : ∀ x, Agrees (if x ≥ n then recAlnC ap tasks codes n fuel (x - n)
            else if x < codes.size then (leafNodeC codes x).map Except.ok else some (.error .fault))
          (nodeVal ap tasks codes n fuel x) := fun x =>
        .ite (fun _ => ih _) fun _ => .ite (fun hx => .map (leafNodeC_eq codes x hx)) fun _ => .pure _
      rw [hchild a, Option.bind_some]
      cases nodeVal ap tasks codes n fuel a with
      | error e => rfl
      | ok A =>
        dsimp only
        rw [hchild b, Option.bind_some]
        cases nodeVal ap tasks codes n fuel b with
        | error e => rfl
        | ok B => exact mergeNodesC_eq .parallel ap hw A B _

theorem paramOfTable_wf (biotype : Nat) (type : Int) (gpo gpe tgpe : Float32) (ap : AlnParam Float32)
    (h : paramOfTable biotype type gpo gpe tgpe = some ap) : ap.wf := by
  unfold paramOfTable at h
  split at h
  · cases h
  · split at h
    · cases h
    · simp only [Option.some.injEq] at h
      subst h
      refine ⟨by simp, ?_⟩
      intro i hi
      simp [Array.getD, hi]

theorem matricesBits_shape :
    (Gen.matricesBits.all fun rows => decide (23 ≤ rows.length) && (rows.take 23).all fun row => decide (23 ≤ row.length)) =
      true := by decide

theorem paramOfTableC_eq (biotype : Nat) (type : Int) (gpo gpe tgpe : Float32) :
    Agrees (paramOfTableC biotype type gpo gpe tgpe).run (paramOfTable biotype type gpo gpe tgpe) := by
  unfold paramOfTableC paramOfTable
  cases alnParamInitF biotype type gpo gpe tgpe with
  | none => rfl
  | some p =>
    dsimp only
    cases hr : Gen.matricesBits[p.mat]? with
    | none => rfl
    | some rows =>
      dsimp only
      have hmem : rows ∈ Gen.matricesBits := List.mem_of_getElem? hr
      have hsh := (List.all_eq_true.1 matricesBits_shape) rows hmem
      simp only [Bool.and_eq_true, decide_eq_true_eq, List.all_eq_true] at hsh
      obtain ⟨h1, h2⟩ := hsh
      have hrow : ∀ i, i < 23 → 23 ≤ (rows.getD i []).length := by
        intro i hi
        have hi' : i < rows.length := by omega
        have : rows.getD i [] = rows[i] := by simp [List.getD, hi']
        rw [this]
        exact h2 _ (by
          have : rows[i] = (rows.take 23)[i]'(by simp; omega) := by simp
          rw [this]; exact List.getElem_mem _)
      simp only [← range_map_toArray]
      exact Agrees.lift <| Agrees.map <| mapC_eq _ _ _ fun i hi =>
        have hi' : i < 23 := by simpa using hi
        have := hrow i hi'
        Agrees.bind (.readL (by omega)) <| .map <| mapC_eq _ _ _ fun j hj =>
          have hj' : j < 23 := by simpa using hj
          Agrees.map (.readL (by omega))

theorem coreC_eq (avx : Bool) (bio : Bio) (c1 c2 : List (List Nat)) (type : Int) (gpo gpe tgpe : Float32) :
    Agrees (coreC avx bio c1 c2 type gpo gpe tgpe) (core avx bio c1 c2 type gpo gpe tgpe) := by
  unfold coreC core
  dsimp only
  split
  · rfl
  · rw [buildTasksC_eq, Option.bind_some]
    cases buildTasks avx c1.toArray with
    | error e => rfl
    | ok tasks =>
      dsimp only
      rw [paramOfTableC_eq, Option.bind_some]
      cases hp : paramOfTable bio.code type gpo gpe tgpe with
      | none => rfl
      | some ap =>
        dsimp only
        rw [recAlnC_eq ap (paramOfTable_wf _ _ _ _ _ ap hp), Option.map_some]
        cases recAln ap tasks c2.toArray c2.length tasks.size (tasks.size - 1) with
        | error e => rfl
        | ok root => cases (List.range c2.length).mapM (finalGaps root.group) <;> rfl

end Kalign.Pipeline

import KalignModel.Model.TreeSoft
import KalignModel.Lemmas.SoftDiv
/-!
# The length-bias term of `d_estimation` on `SoftF32`: at most 1, and two-sided on the grid

`lenTermS la lb = (float)min(10000, s) / (float)10000` is a quotient `(float)j / (float)D` of two integers below 2²⁴, which lies
between any two representable numbers that enclose `j / D` (`div_ofNat_le`, `le_div_ofNat`); with `j ≤ D` it is at most 1.

Two-sided (for C12): `lenTermS` takes the values `lenQ j`, `j = 0 … 10000`; each is non-negative, finite, and within the grid interval `[lenLo j, lenHi j]·2⁻²⁰`
around `j / 10000` (`lenLo j = ⌊j·2²⁰/10000⌋ − 1`, `lenHi j = ⌊j·2²⁰/10000⌋ + 2`), because the grid points are representable and enclose the exact quotient (`lenQ_spec`).
-/
set_option exponentiation.threshold 512
namespace Kalign
open SoftF32

def lenQ (j : Nat) : SoftF32 := SoftF32.div (SoftF32.ofNat j) (SoftF32.ofNat 10000)

theorem lenTermS_eq (la lb : Nat) : lenTermS la lb = lenQ (min 10000 ((la + lb) / 2)) := rfl

theorem distEntryS_of_raw {a b : List Nat} {d0 : Nat} (h0 : calcDistanceRaw a b = some d0) :
    distEntryS a b = some (SoftF32.add (SoftF32.ofNat d0) (lenTermS a.length b.length)) := by
  simp [distEntryS, calcDistanceS, h0]

/-- on the grid of multiples of 2⁻²⁰: `j / 10000 ≤ k·2⁻²⁰` carries over to the computed quotient … -/
theorem lenQ_le {j k : Nat} (hj : j ≤ 10000) (hk : k < 16777216) (h : j * 1048576 ≤ k * 10000) :
    (lenQ j).sign = false ∧ (lenQ j).mag < 2139095040 ∧ magVal (lenQ j).mag ≤ k * 2 ^ 129 :=
  div_ofNat_le (by omega) (by decide) (by decide) hk (by decide) (by
    rw [show 149 = 20 + 129 from rfl, Nat.pow_add, ← Nat.mul_assoc, Nat.mul_right_comm k]
    exact Nat.mul_le_mul_right _ h)

/-- … and so does `k·2⁻²⁰ ≤ j / 10000` -/
theorem le_lenQ {j k : Nat} (hj : j ≤ 10000) (hk : k < 16777216) (h : k * 10000 ≤ j * 1048576) :
    k * 2 ^ 129 ≤ magVal (lenQ j).mag :=
  le_div_ofNat (by omega) (by decide) (by decide) hk (by decide) (by
    rw [show 149 = 20 + 129 from rfl, Nat.pow_add, ← Nat.mul_assoc, Nat.mul_right_comm k]
    exact Nat.mul_le_mul_right _ h)

theorem lenTermS_absLe (la lb : Nat) : absLe (lenTermS la lb) 1 := by
  obtain ⟨_, h1, h2⟩ := lenQ_le (j := min 10000 ((la + lb) / 2)) (k := 1048576) (by omega) (by decide) (by omega)
  exact ⟨h1, Nat.le_trans h2 (by decide)⟩

/-- the pattern of the quotient is at most the pattern of `1.0` -/
def lenOk (k : Nat) : Bool :=
  decide ((SoftF32.div (SoftF32.ofNat k) (SoftF32.ofNat 10000)).mag ≤ 1065353216)

theorem lenOk_all : (List.range 10001).all lenOk = true :=
  List.all_eq_true.2 fun k hk => decide_eq_true (by
    have hk' := List.mem_range.1 hk
    have h := (lenQ_le (j := k) (k := 1048576) (by omega) (by decide) (by omega)).2.2
    rw [show 1048576 * 2 ^ 129 = magVal 1065353216 by decide] at h
    exact magVal_le_iff.1 h)

end Kalign

namespace Kalign
open SoftF32

def lenLo (j : Nat) : Nat := j * 1048576 / 10000 - 1
def lenHi (j : Nat) : Nat := j * 1048576 / 10000 + 2

theorem lenQ_spec {j : Nat} (hj : j ≤ 10000) :
    (lenQ j).sign = false ∧ (lenQ j).mag < 2139095040 ∧ lenLo j * 2 ^ 129 ≤ magVal (lenQ j).mag ∧
      magVal (lenQ j).mag ≤ lenHi j * 2 ^ 129 := by
  obtain ⟨h1, h2, h3⟩ := lenQ_le (k := lenHi j) hj (by unfold lenHi; omega) (by unfold lenHi; omega)
  exact ⟨h1, h2, le_lenQ (k := lenLo j) hj (by unfold lenLo; omega) (by unfold lenLo; omega), h3⟩

/-- the upper bound at `m` stays `524000·2⁻²⁰` below `1 +` the lower bound at `m' ≥ (m − 1)/2` -/
theorem lenHi_gap {m m' : Nat} (hm : m ≤ 2 * m' + 1) (h : m ≤ 10000) : lenHi m + 524000 ≤ 1048576 + lenLo m' := by
  unfold lenHi lenLo; omega

/-- at the length terms of `(S, S)` and `(S, empty)`, for every length `L` of `S` -/
theorem len_gap (L : Nat) : lenHi (min 10000 L) + 524000 ≤ 1048576 + lenLo (min 10000 (L / 2)) :=
  lenHi_gap (by omega) (by omega)

end Kalign

import KalignModel.Lemmas.SoftProfBuild
import KalignModel.Lemmas.ProfKernel
import KalignModel.Lemmas.ProfKernelPP
/-!
# binary32: the profile kernels on profiles of identical copies are the sequence–sequence kernels on scaled parameters

`sp_realKernels_eqS`: for a `ProfOKS` profile of `k` copies of `seqA`, `realKernels ap (.seqprof prof seq2 k) =
realKernels (scaleParamS ap k) (.seqseq seqA seq2)` as `Kernels` objects.  What a cell reads from the operands agrees as a
*function* of its float argument (so also on NaN, `±0`, `±∞`, the sentinels; `sp_view_of_profOKS`): `x + (−p) = x − p` is the same
binary32 operation (`add_neg_eq_sub`), and the profile entries are the exact products `half (s·k) = half s * (float)k`.
`pp_realKernels_eqS`: the same for `k` copies of `seqA` against `m` copies of `seqB`, with `scaleParamS ap (k * m)`.  A column of
identical copies has a single non-zero residue count, so the dot product of a cell is the single exact product
`half (k·m·sh(seqB[j], seqA[i]))`, for a symmetric matrix the entry of the scaled sequence–sequence problem.  The gap slots depend on
the column, so the two views agree inside the problem only (`pp_view_of_profOKS`); that is enough for an equality of `Kernels`
objects because `realStep` only runs on rectangles inside the operands.
-/
set_option exponentiation.threshold 512
namespace Kalign
open SoftF32

theorem S_add_neg (x : SoftF32) {a : Int} (ha : a.natAbs < 16777216) :
    Score.add x (neg (half a)) = Score.sub x (half a) :=
  add_neg_eq_sub x _ (half_not_nan ha)

theorem scaleParamS_half {U : Nat} {ap : AlnParam SoftF32} {go ge gt : Int} {sh : Nat → Nat → Int}
    (hh : HalfParam U ap go ge gt sh) {K : Nat} (hK1 : 1 ≤ K) (hK : K < 16777216) (hKU : K * U < 16777216) :
    (scaleParamS ap K).gpo = half (go * (K : Int)) ∧ (scaleParamS ap K).gpe = half (ge * (K : Int)) ∧
    (scaleParamS ap K).tgpe = half (gt * (K : Int)) ∧
    ∀ i j, (scaleParamS ap K).sub i j = half (sh i j * (K : Int)) := by
  have hm : ∀ g : Int, g.natAbs ≤ U → Score.mul (half g) (Score.ofNat K : SoftF32) = half (g * (K : Int)) := fun g gU =>
    mul_half_ofNat hK1 hK (natAbs_lt_of_le gU hK1 hKU) (natAbs_mul_lt gU hKU)
  refine ⟨?_, ?_, ?_, ?_⟩
  · show Score.mul ap.gpo (Score.ofNat K) = _
    rw [hh.gpo]; exact hm go hh.bo
  · show Score.mul ap.gpe (Score.ofNat K) = _
    rw [hh.gpe]; exact hm ge hh.be
  · show Score.mul ap.tgpe (Score.ofNat K) = _
    rw [hh.tgpe]; exact hm gt hh.bt
  · intro i j
    have e1 : (scaleParamS ap K).sub i j = Score.mul (ap.sub i j) (Score.ofNat K) :=
      sub_map ap.subm ap.gpo ap.gpe ap.tgpe _ _ _ (fun e => Score.mul e (Score.ofNat K)) (mul_zero_ofNat_S K hK1 hK) i j
    rw [e1, hh.sub]; exact hm _ (hh.bs i j)

section sp
variable (U : Nat) (ap : AlnParam SoftF32) (go ge gt : Int) (sh : Nat → Nat → Int) (hh : HalfParam U ap go ge gt sh)

include hh in
theorem ProfOKS.gapSlots {prof : Array SoftF32} {seq : Array Nat} {k m : Nat} (hk1 : 1 ≤ k * m) (hk : k * m < 16777216)
    (hKU : k * m * U < 16777216) (hP : ProfOKS prof seq k m go ge gt sh) : GapSlots (scaleParamS ap (k * m)) prof seq.size := by
  obtain ⟨so, se, st, _⟩ := scaleParamS_half hh hk1 hk hKU
  refine ⟨fun col hc x => ?_, fun col hc x => ?_, fun col hc x => ?_⟩
  · rw [so, hP.g27 col hc, S_add_neg x (natAbs_mul_lt hh.bo hKU)]
  · rw [se, hP.g28 col hc, S_add_neg x (natAbs_mul_lt hh.be hKU)]
  · rw [st, hP.g29 col hc, S_add_neg x (natAbs_mul_lt hh.bt hKU)]

variable (prof : Array SoftF32) (seqA seq2 : Array Nat) (k : Nat) (hk1 : 1 ≤ k) (hk : k < 16777216) (hkU : k * U < 16777216)
  (hP : ProfOKS prof seqA k 1 go ge gt sh) (h2 : ∀ j, seq2.getD j 0 < 23)

include hh hk1 hk hkU hP in
theorem sp_gapSlotsS : GapSlots (scaleParamS ap k) prof seqA.size := by
  have := hP.gapSlots U ap go ge gt sh hh (by omega) (by omega) (by rw [Nat.mul_one]; exact hkU)
  rwa [Nat.mul_one] at this

include hh hk1 hk hkU hP h2 in
theorem sp_view_of_profOKS (lenB : Nat) :
    (spView ap prof seq2 k).AgreeOn (ssView (scaleParamS ap k) seqA seq2) seqA.size lenB :=
  sp_agree (sp_gapSlotsS U ap go ge gt sh hh prof seqA k hk1 hk hkU hP) rfl rfl rfl
    (fun i hi c hc => by rw [hP.subE i hi c hc, (scaleParamS_half hh hk1 hk hkU).2.2.2]) h2 lenB

include hh hk1 hk hkU hP h2 in
theorem spForward_eqS (r : Rect) (hb : r.startb < r.endb) (ha : r.enda ≤ seqA.size) (start : States SoftF32) :
    spForward ap prof seq2 k r start = ssForward (scaleParamS ap k) seqA seq2 r start :=
  (sp_view_of_profOKS U ap go ge gt sh hh prof seqA seq2 k hk1 hk hkU hP h2 r.endb).forward r hb ha (Nat.le_refl _) start

include hh hk1 hk hkU hP h2 in
theorem spBackward_eqS (r : Rect) (hb : r.startb < r.endb) (ha : r.enda ≤ seqA.size) (start : States SoftF32) :
    spBackward ap prof seq2 k r start = ssBackward (scaleParamS ap k) seqA seq2 r start :=
  (sp_view_of_profOKS U ap go ge gt sh hh prof seqA seq2 k hk1 hk hkU hP h2 r.endb).backward r hb ha (Nat.le_refl _) start

include hh hk1 hk hkU hP in
theorem spMeetOps_eqS (r : Rect) (mid : Nat) (hm : mid ≤ seqA.size) :
    spMeetOps ap prof k r mid = ssMeetOps (scaleParamS ap k) r := by
  have G := sp_gapSlotsS U ap go ge gt sh hh prof seqA k hk1 hk hkU hP
  unfold spMeetOps ssMeetOps
  simp only [G.o (mid + 1) (by omega), G.e (mid + 1) (by omega), G.t (mid + 1) (by omega), G.o mid (by omega)]
  rfl

include hh hk1 hk hkU hP h2 in
theorem sp_realStep_eqS (lenB : Nat) :
    realStep ap (.seqprof prof seq2 k) seqA.size lenB =
      realStep (scaleParamS ap k) (.seqseq seqA seq2) seqA.size lenB :=
  realStep_of_view (sp_view_of_profOKS U ap go ge gt sh hh prof seqA seq2 k hk1 hk hkU hP h2 lenB)

include hh hk1 hk hkU hP h2 in
theorem sp_realKernels_eqS (lenB : Nat) :
    realKernels ap (.seqprof prof seq2 k) seqA.size lenB =
      realKernels (scaleParamS ap k) (.seqseq seqA seq2) seqA.size lenB :=
  realKernels_of_view (sp_view_of_profOKS U ap go ge gt sh hh prof seqA seq2 k hk1 hk hkU hP h2 lenB)

end sp

section pp
variable (U : Nat) (ap : AlnParam SoftF32) (go ge gt : Int) (sh : Nat → Nat → Int) (hh : HalfParam U ap go ge gt sh)
  (hsym : ∀ x y, sh x y = sh y x)
  (prof1 prof2 : Array SoftF32) (seqA seqB : Array Nat) (k m : Nat) (hk1 : 1 ≤ k) (hm1 : 1 ≤ m)
  (hKU : k * m * U < 16777216) (hK : k * m < 8388608)
  (hP1 : ProfOKS prof1 seqA k m go ge gt sh) (hP2 : ProfOKS prof2 seqB m k go ge gt sh)
  (hA23 : ∀ i, seqA.getD i 0 < 23)

include hk1 hm1 hK hP1 hA23 in
theorem freqOf_copiesS (i : Nat) (hi : i < seqA.size) : freqOf prof1 (i + 1) = [seqA.getD i 0] := by
  have hk23 : k < 8388608 := by
    have : k * 1 ≤ k * m := Nat.mul_le_mul_left k hm1
    omega
  exact freqOf_single (hA23 i) (isNonzero_ofNat hk1 hk23) isNonzero_zero (hP1.cnt i hi)

include hh hsym hk1 hm1 hKU hK hP1 hP2 hA23 in
theorem dotAdd_copiesS (i j : Nat) (hi : i < seqA.size) (hj : j < seqB.size) (acc : SoftF32) :
    dotAdd prof1 (i + 1) prof2 (j + 1) (freqOf prof1 (i + 1)).reverse acc =
      Score.add acc ((scaleParamS ap (k * m)).sub (seqA.getD i 0) (seqB.getD j 0)) := by
  have hk24 : k < 16777216 := by
    have : k * 1 ≤ k * m := Nat.mul_le_mul_left k hm1
    omega
  have hmU : m * U < 16777216 := by
    have : 1 * m ≤ k * m := Nat.mul_le_mul_right m hk1
    have : 1 * m * U ≤ k * m * U := Nat.mul_le_mul_right U this
    rw [Nat.one_mul] at this
    omega
  obtain ⟨_, _, _, ss⟩ := scaleParamS_half hh (K := k * m) (Nat.mul_pos hk1 hm1) (by omega) hKU
  rw [freqOf_copiesS go ge gt sh prof1 seqA k m hk1 hm1 hK hP1 hA23 i hi]
  simp only [List.reverse_cons, List.reverse_nil, List.nil_append, dotAdd, List.foldl_cons, List.foldl_nil]
  rw [hP1.cnt i hi _ (hA23 i), if_pos rfl, hP2.subE j hj _ (hA23 i), ss, hsym (seqB.getD j 0)]
  have e : sh (seqA.getD i 0) (seqB.getD j 0) * ((k * m : Nat) : Int) =
      sh (seqA.getD i 0) (seqB.getD j 0) * (m : Int) * (k : Int) := by
    push_cast
    rw [Int.mul_assoc, Int.mul_comm (m : Int) (k : Int)]
  congr 1
  show mul (SoftF32.ofNat k) _ = _
  rw [e]
  exact mul_ofNat_half hk1 hk24 (natAbs_mul_lt (hh.bs _ _) hmU) (by
    rw [← e]; exact natAbs_mul_lt (hh.bs _ _) hKU)

include hh hk1 hm1 hKU hK hP1 hP2 in
theorem pp_gapSlotsS :
    GapSlots (scaleParamS ap (k * m)) prof1 seqA.size ∧ GapSlots (scaleParamS ap (k * m)) prof2 seqB.size := by
  have G2 := hP2.gapSlots U ap go ge gt sh hh (Nat.mul_pos hm1 hk1) (by rw [Nat.mul_comm]; omega) (by rw [Nat.mul_comm m k]; exact hKU)
  rw [Nat.mul_comm m k] at G2
  exact ⟨hP1.gapSlots U ap go ge gt sh hh (Nat.mul_pos hk1 hm1) (by omega) hKU, G2⟩

include hh hsym hk1 hm1 hKU hK hP1 hP2 hA23 in
theorem pp_view_of_profOKS : (ppView prof1 prof2).AgreeOn (ssView (scaleParamS ap (k * m)) seqA seqB) seqA.size seqB.size :=
  pp_agree (pp_gapSlotsS U ap go ge gt sh hh prof1 prof2 seqA seqB k m hk1 hm1 hKU hK hP1 hP2).1
    (pp_gapSlotsS U ap go ge gt sh hh prof1 prof2 seqA seqB k m hk1 hm1 hKU hK hP1 hP2).2
    (dotAdd_copiesS U ap go ge gt sh hh hsym prof1 prof2 seqA seqB k m hk1 hm1 hKU hK hP1 hP2 hA23)

include hh hsym hk1 hm1 hKU hK hP1 hP2 hA23 in
theorem ppForward_eqS (r : Rect) (hb : r.startb < r.endb) (ha : r.enda ≤ seqA.size) (hbB : r.endb ≤ seqB.size)
    (start : States SoftF32) :
    ppForward prof1 prof2 r start = ssForward (scaleParamS ap (k * m)) seqA seqB r start :=
  (pp_view_of_profOKS U ap go ge gt sh hh hsym prof1 prof2 seqA seqB k m hk1 hm1 hKU hK hP1 hP2 hA23).forward r hb ha hbB start

include hh hsym hk1 hm1 hKU hK hP1 hP2 hA23 in
theorem ppBackward_eqS (r : Rect) (hb : r.startb < r.endb) (ha : r.enda ≤ seqA.size) (hbB : r.endb ≤ seqB.size)
    (start : States SoftF32) :
    ppBackward prof1 prof2 r start = ssBackward (scaleParamS ap (k * m)) seqA seqB r start :=
  (pp_view_of_profOKS U ap go ge gt sh hh hsym prof1 prof2 seqA seqB k m hk1 hm1 hKU hK hP1 hP2 hA23).backward r hb ha hbB start

include hh hk1 hm1 hKU hK hP1 hP2 in
theorem pp_meet_eqS (r : Rect) (mid : Nat) (hm : mid ≤ seqA.size) (hbB : r.endb ≤ seqB.size) (F B : Nat → States SoftF32) :
    meetupRun (ppMeetOps prof1 prof2 r mid) r.startb r.endb
        ((List.range (r.endb - r.startb + 1)).map F) ((List.range (r.endb - r.startb + 1)).map B) =
      meetupRun (ssMeetOps (scaleParamS ap (k * m)) r) r.startb r.endb
        ((List.range (r.endb - r.startb + 1)).map F) ((List.range (r.endb - r.startb + 1)).map B) :=
  (pp_gapsAgree (pp_gapSlotsS U ap go ge gt sh hh prof1 prof2 seqA seqB k m hk1 hm1 hKU hK hP1 hP2).1
    (pp_gapSlotsS U ap go ge gt sh hh prof1 prof2 seqA seqB k m hk1 hm1 hKU hK hP1 hP2).2).meet r mid hm hbB F B

include hh hsym hk1 hm1 hKU hK hP1 hP2 hA23 in
theorem pp_realStep_eqS :
    realStep ap (.profprof prof1 prof2) seqA.size seqB.size =
      realStep (scaleParamS ap (k * m)) (.seqseq seqA seqB) seqA.size seqB.size :=
  realStep_of_view (pp_view_of_profOKS U ap go ge gt sh hh hsym prof1 prof2 seqA seqB k m hk1 hm1 hKU hK hP1 hP2 hA23)

include hh hsym hk1 hm1 hKU hK hP1 hP2 hA23 in
theorem pp_realKernels_eqS :
    realKernels ap (.profprof prof1 prof2) seqA.size seqB.size =
      realKernels (scaleParamS ap (k * m)) (.seqseq seqA seqB) seqA.size seqB.size :=
  realKernels_of_view (pp_view_of_profOKS U ap go ge gt sh hh hsym prof1 prof2 seqA seqB k m hk1 hm1 hKU hK hP1 hP2 hA23)

end pp
end Kalign

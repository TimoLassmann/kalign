import KalignModel.Lemmas.IndexRules
import KalignModel.Lemmas.BpmBlock
/-!
# The checked `bpmBlock` and `distEntry` agree with the totalised ones
-/
namespace Kalign

theorem bitsToBVC_eq (w : Nat) (fC : Nat → Option Bool) (f : Nat → Bool) (n : Nat)
    (h : ∀ i, i < n → Agrees (fC i) (f i)) : Agrees (bitsToBVC w fC n) (bitsToBV w f n) := by
  induction n with
  | zero => rfl
  | succ n ih =>
    rw [bitsToBVC, bitsToBV]
    exact Agrees.bind (ih fun i hi => h i (by omega)) (.map (h n (by omega)))

theorem peqWordC_eq (p : List Nat) (m c block : Nat) (hm : m ≤ p.length) :
    Agrees (peqWordC p m c block) (peqWord p m c block) := by
  unfold peqWordC peqWord
  refine bitsToBVC_eq _ _ _ _ fun i _ => ?_
  split
  · rename_i h; simp [h]
  · exact Agrees.map (.readL (by omega))

theorem blkScoreC_eq (bs : List BlockSt) (b : Nat) (h : b < bs.length) : Agrees (blkScoreC bs b) (blkScore bs b) :=
  Agrees.map (.readL h)

theorem bandShrinkC_eq (bs : List BlockSt) (lim : Int) (y : Nat) (h : y < bs.length) :
    Agrees (bandShrinkC bs lim y) (bandShrink bs lim y) := by
  induction y with
  | zero => rfl
  | succ y ih =>
    rw [bandShrinkC, bandShrink]
    exact Agrees.bind (blkScoreC_eq bs (y + 1) h) (.ite (fun _ => ih (by omega)) fun _ => .pure _)

theorem bandShrink_le (bs : List BlockSt) (lim : Int) (y : Nat) : bandShrink bs lim y ≤ y := by
  induction y with
  | zero => exact Nat.le_refl _
  | succ y ih =>
    rw [bandShrink]
    split
    · omega
    · exact Nat.le_refl _

theorem colBlocksC_eq (peqC : Nat → Option (BitVec 64)) (peq : Nat → BitVec 64) (lim : Nat)
    (h : ∀ b, b < lim → Agrees (peqC b) (peq b)) (cnt b : Nat) (carry : Int) (bs : List BlockSt) (hb : b + cnt ≤ lim) :
    Agrees (colBlocksC peqC b cnt carry bs) (colBlocks peq b cnt carry bs) := by
  induction cnt generalizing b carry bs with
  | zero => cases bs <;> rfl
  | succ cnt ih =>
    cases bs with
    | nil => rfl
    | cons s rest =>
      rw [colBlocksC, colBlocks]
      exact Agrees.bind (h b (by omega)) (.map (ih (b + 1) _ rest (by omega)))

/-- a three-part condition evaluated left to right like the C `&&`: the last part, which reads `xC`, only when the
first two hold -/
theorem and3C_eq {γ : Type} (A B : Prop) [Decidable A] [Decidable B] (P : γ → Prop) [DecidablePred P]
    (xC : Option γ) (x : γ) (h : B → Agrees xC x) :
    Agrees (if A then if B then xC.map fun w => decide (P w) else some false else some false)
      (decide (A ∧ B ∧ P x)) := by
  by_cases hA : A
  · by_cases hB : B
    · simp [hA, hB, h hB]
    · simp [hA, hB]
  · simp [hA]

def BandFits (bmax : Nat) (st : BpmSt) : Prop := st.blocks.length = bmax ∧ st.y < bmax

theorem bpmBlockColC_eq (peqC : Nat → Nat → Option (BitVec 64)) (peq : Nat → Nat → BitVec 64) (bmax : Nat) (c : Nat)
    (h : ∀ b, b < bmax → Agrees (peqC c b) (peq c b)) (maxd : Int) (st : BpmSt) (hst : BandFits bmax st) :
    Agrees (bpmBlockColC peqC bmax maxd st c) (bpmBlockCol peq bmax maxd st c) ∧
      BandFits bmax (bpmBlockCol peq bmax maxd st c) := by
  obtain ⟨hl, hy⟩ := hst
  unfold bpmBlockColC bpmBlockCol
  rw [colBlocksC_eq (peqC c) (peq c) bmax h (st.y + 1) 0 0 st.blocks (by omega), Option.bind_some]
  have hlen := length_colBlocks (peq c) 0 (st.y + 1) 0 st.blocks
  generalize colBlocks (peq c) 0 (st.y + 1) 0 st.blocks = r at hlen
  dsimp only
  have hy' : st.y < r.1.length := by omega
  rw [blkScoreC_eq r.1 st.y hy', Option.bind_some,
    and3C_eq _ _ (fun w : BitVec 64 => w.getLsbD 0 = true ∨ r.2 < 0) _ _ (h (st.y + 1)), Option.bind_some]
  by_cases hc : blkScore r.1 st.y - r.2 ≤ maxd ∧ st.y + 1 < bmax ∧ ((peq c (st.y + 1)).getLsbD 0 = true ∨ r.2 < 0)
  · rw [if_pos (decide_eq_true hc), if_pos hc]
    exact ⟨Agrees.bind (h _ hc.2.1) (.bind (.pure _) (.map (.writeL (by omega)))),
      by simp [hlen, hl], hc.2.1⟩
  · have hle := bandShrink_le r.1 (maxd + 64) st.y
    rw [if_neg (fun hh => hc (of_decide_eq_true hh)), if_neg hc]
    exact ⟨Agrees.bind (bandShrinkC_eq r.1 _ st.y hy') (.map (blkScoreC_eq r.1 _ (by omega))),
      by show r.1.length = bmax; omega, by show bandShrink _ _ _ < bmax; omega⟩

theorem bpmColsC_eq (tab : Array (Array (BitVec 64))) (bmax : Nat) (hsz : tab.size = SIGMA)
    (hrow : ∀ c, c < SIGMA → (tab.getD c #[]).size = bmax) (maxd : Int) (cols : List Nat) (hc : ∀ c ∈ cols, c < SIGMA)
    (st : BpmSt) (hst : BandFits bmax st) :
    Agrees (foldlC (bpmBlockColC (fun c b => (tab[c]?).bind fun row => row[b]?) bmax maxd) st cols)
      (cols.foldl (bpmBlockCol (fun c b => (tab.getD c #[]).getD b 0#64) bmax maxd) st) :=
  (foldlC_eq_inv (BandFits bmax) _ _ cols st hst fun st c hcm hst =>
    bpmBlockColC_eq _ _ bmax c
      (fun b hb =>
        have h1 : c < tab.size := hsz ▸ hc c hcm
        have h2 : b < (tab.getD c #[]).size := hrow c (hc c hcm) ▸ hb
        Agrees.bind (.read (d := #[]) h1) (.read (d := 0#64) h2))
      maxd st hst).1

theorem bpmBlockC_eq (t p : List Nat) : Agrees (bpmBlockC t p).run (bpmBlock t p) := by
  unfold bpmBlockC bpmBlock
  cases hany : t.any fun c => decide (SIGMA ≤ c)
  case true => rfl
  case false =>
    have ht : ∀ c ∈ t, c < SIGMA := by simpa using hany
    dsimp only
    have hbpos : 0 < divCeil (min p.length 1024) 64 := (divCeil_facts _).1
    generalize divCeil (min p.length 1024) 64 = bmax at hbpos
    refine Agrees.lift <| Agrees.bind
      (mapC_eq _ _ _ fun c _ => Agrees.map (mapC_eq _ _ _ fun b _ => peqWordC_eq p _ c b (by omega)))
      (.map (bpmColsC_eq _ bmax (by simp) (fun c hc => by simp [Array.getD, hc]) _ _ ?_ _ ?_))
    · intro c hc
      rcases List.mem_append.1 hc with h | h
      · exact ht c h
      · rw [List.mem_replicate] at h; rw [h.2]; decide
    · exact ⟨by simp, by show bmax - 1 < bmax; omega⟩

theorem calcDistanceRawC_eq (a b : List Nat) : Agrees (calcDistanceRawC a b).run (calcDistanceRaw a b) := by
  unfold calcDistanceRawC calcDistanceRaw
  refine Agrees.mapM ?_
  split
  · exact bpmBlockC_eq a b
  · exact bpmBlockC_eq b a

theorem calcDistanceC_eq (a b : List Nat) : Agrees (calcDistanceC a b).run (calcDistance a b) :=
  Agrees.mapM (calcDistanceRawC_eq a b)

theorem distEntryC_eq (a b : List Nat) : Agrees (distEntryC a b).run (distEntry a b) :=
  Agrees.mapM (calcDistanceC_eq a b)

end Kalign

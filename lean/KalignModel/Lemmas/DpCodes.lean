import KalignModel.Lemmas.Mirror
import KalignModel.Lemmas.CutRun
/-!
`dp_unswapped` / `dp_swapped`: if the controller writes the path of `P` (`RunOK`; of the exchanged list when the operands
are swapped), the column codes `do_align` computes (`dpCodes`, Lemmas/Mirror.lean) are those of `P`.  They are stated for `dpCodesOf`, to
which `dpCodes` and its binary32 twin `dpCodesS` (Lemmas/MarginSoft.lean) unfold.
-/
namespace Kalign

variable {α : Type} [Score α]

theorem dp_unswapped (entry : Entry) (ap : AlnParam α) (ops : Operands α) (lenA lenB : Nat)
    (P : List Col) (hrun : RunOK entry ap ops lenA lenB P)
    (hV : ValidCols P lenA lenB) (hadj : adjOK .A P = true) (h1 : 1 ≤ lenA) (h2 : 1 ≤ lenB) :
    ∃ codes, dpCodesOf entry ap ops false lenA lenB lenA lenB = some codes ∧ codes.map Col.ofCode = P := by
  unfold dpCodesOf
  simp only [hrun.1, hrun.2, Bool.false_eq_true, if_false]
  exact expandPath_valid hV hadj h1 h2

theorem expandPath_mirror {P : List Col} {lenA lenB : Nat} (hV : ValidCols P lenA lenB) (hadj : adjOK .A P = true)
    (h1 : 1 ≤ lenA) (h2 : 1 ≤ lenB) :
    ∃ codes, expandPath lenB (mirrorPath lenA (pathFrom 0 (P.map Col.swap))) = some codes ∧ codes.map Col.ofCode = P := by
  rw [mirrorPath_pathFrom _ lenA (by rw [consB_swap]; exact hV.2.1), map_swap_swap]
  exact expandPath_valid hV hadj h1 h2

theorem dp_swapped (entry : Entry) (ap : AlnParam α) (ops : Operands α) (lenA lenB : Nat)
    (P : List Col) (hrun : RunOK entry ap ops lenB lenA (P.map Col.swap))
    (hV : ValidCols P lenA lenB) (hadj : adjOK .A P = true) (h1 : 1 ≤ lenA) (h2 : 1 ≤ lenB) :
    ∃ codes, dpCodesOf entry ap ops true lenB lenA lenA lenB = some codes ∧ codes.map Col.ofCode = P := by
  unfold dpCodesOf
  simp only [hrun.1, hrun.2, Bool.false_eq_true, if_false, if_true]
  exact expandPath_mirror hV hadj h1 h2

theorem map_swap_injective {P Q : List Col} (h : P.map Col.swap = Q.map Col.swap) : P = Q := by
  have := congrArg (List.map Col.swap) h
  rwa [map_swap_swap, map_swap_swap] at this

theorem dpCodes_of_cols {entry : Entry} {ap : AlnParam α} {ops : Operands α} {swapped : Bool}
    {la lb lenA lenB : Nat} {P : List Col}
    (h : ∃ codes, dpCodesOf entry ap ops swapped la lb lenA lenB = some codes ∧ codes.map Col.ofCode = P) :
    dpCodesOf entry ap ops swapped la lb lenA lenB = some (markSuffix (markPrefix (P.map Col.code))) := by
  obtain ⟨codes, h, rfl⟩ := h
  rw [h]
  simp only [dpCodesOf] at h
  split at h
  · cases h
  · exact congrArg some (expandPath_of_cols h)

end Kalign

import KalignModel.Lemmas.KernelSS
import KalignModel.Model.Score
/-!
# The generated parameter tables on the exact carrier

Table values are ×1000, the exact carrier counts 1/2000: `exactParam m gpo gpe tgpe` is the parameter set of a table row with matrix `m` on `ExactScore`,
`exactSub m` its substitution function (indices outside `23 × 23` read `0`; on any carrier: `AlnParam.sub_tab`).
-/
namespace Kalign

/-- the entry of a tabulated 23 × 23 matrix; indices outside read `0` -/
theorem AlnParam.sub_tab {α : Type} [Score α] (f : Nat → Nat → α) (g1 g2 g3 : α) (i j : Nat) :
    (⟨(Array.range 23).map fun i => (Array.range 23).map fun j => f i j, g1, g2, g3⟩ : AlnParam α).sub i j =
      if i < 23 ∧ j < 23 then f i j else Score.zero := by
  unfold AlnParam.sub
  by_cases hi : i < 23
  · by_cases hj : j < 23
    · simp [hi, hj, Array.getD]
    · simp [hi, hj, Array.getD]
  · simp [hi, Array.getD]

def exactSub (m : List (List Int)) (x y : Nat) : Int := if x < 23 ∧ y < 23 then 2 * subOf m x y else 0

def exactParam (m : List (List Int)) (gpo gpe tgpe : Int) : AlnParam ExactScore :=
  { subm := (Array.range 23).map fun i => (Array.range 23).map fun j => some (exactSub m i j)
    gpo := some (2 * gpo), gpe := some (2 * gpe), tgpe := some (2 * tgpe) }

theorem exactParam_ok (m : List (List Int)) (gpo gpe tgpe : Int) :
    ApOK (exactParam m gpo gpe tgpe) (2 * gpo) (2 * gpe) (2 * tgpe) (exactSub m) := by
  refine ⟨rfl, rfl, rfl, fun i j => ?_⟩
  rw [exactParam, AlnParam.sub_tab]
  unfold exactSub
  split <;> simp_all <;> rfl

theorem exactSub_symm (m : List (List Int)) (h : ∀ x, x < 23 → ∀ y, y < 23 → subOf m x y = subOf m y x) :
    ∀ x y, exactSub m x y = exactSub m y x := by
  intro x y
  unfold exactSub
  by_cases hx : x < 23
  · by_cases hy : y < 23
    · simp [hx, hy, h x hx y hy]
    · simp [hx, hy]
  · simp [hx]

end Kalign

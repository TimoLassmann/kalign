import KalignModel.Lemmas.Basic.OptionMapM
import KalignModel.Lemmas.IndexRules
/-!
# The checked k-means lanes agree with the totalised ones
-/
namespace Kalign.Kmeans
open Kalign

theorem laneGoC_eq (a b : Array Float32) (k : Nat) (hk : k < 8) (n blk : Nat) (r : Float32)
    (ha : 8 * (blk + n) ≤ a.size) (hb : 8 * (blk + n) ≤ b.size) :
    Agrees (laneGoC a b k n blk r) (laneGo a b k n blk r) := by
  induction n generalizing blk r with
  | zero => rfl
  | succ n ih =>
    rw [laneGoC, laneGo]
    exact Agrees.bind (.read! (by omega)) (.bind (.read! (by omega)) (ih (blk + 1) _ (by omega) (by omega)))

theorem edist256C_eq (a b : Array Float32) (len : Nat) (ha : 8 * ((len + 7) / 8) ≤ a.size)
    (hb : 8 * ((len + 7) / 8) ≤ b.size) : Agrees (edist256C a b len) (edist256 a b len) := by
  unfold edist256C edist256
  have h : ∀ k, k < 8 → Agrees (laneGoC a b k ((len + 7) / 8) 0 0) (laneGo a b k ((len + 7) / 8) 0 0) :=
    fun k hk => laneGoC_eq a b k hk _ 0 0 (by omega) (by omega)
  simp only [h, Nat.reduceLT, Option.bind_some]

theorem serialGoC_eq (a b : Array Float32) (n i : Nat) (d : Float32) (ha : i + n ≤ a.size) (hb : i + n ≤ b.size) :
    Agrees (serialGoC a b n i d) (serialGo a b n i d) := by
  induction n generalizing i d with
  | zero => rfl
  | succ n ih =>
    rw [serialGoC, serialGo]
    exact Agrees.bind (.read! (by omega)) (.bind (.read! (by omega)) (ih (i + 1) _ (by omega) (by omega)))

theorem edistSerialC_eq (a b : Array Float32) (len : Nat) (ha : len ≤ a.size) (hb : len ≤ b.size) :
    Agrees (edistSerialC a b len) (edistSerial a b len) :=
  Agrees.map (serialGoC_eq a b len 0 0 (by omega) (by omega))

theorem edistC_eq (avx : Bool) (a b : Array Float32) (len : Nat) (ha : 8 * ((len + 7) / 8) ≤ a.size)
    (hb : 8 * ((len + 7) / 8) ≤ b.size) : Agrees (edistC avx a b len) (edist avx a b len) :=
  Agrees.ite (fun _ => edist256C_eq a b len ha hb) fun _ => edistSerialC_eq a b len (by omega) (by omega)

theorem numVarOf_eq (n : Nat) : numVarOf n = 8 * ((n + 7) / 8) := by
  unfold numVarOf
  split <;> omega

theorem le_numVarOf (n : Nat) : n ≤ numVarOf n := by rw [numVarOf_eq]; omega

def RowsPadded (rows : Array (Array Float32)) (nv : Nat) : Prop := ∀ i, i < rows.size → nv ≤ (rows[i]!).size

/-- entry `j` of row `i`, read only when the row is taken -/
theorem addEntryC_eq (rows : Array (Array Float32)) (nv : Nat) (hr : RowsPadded rows nv) (i j : Nat) (hi : i < rows.size)
    (hj : j < nv) (acc : Float32) (take : Bool) :
    Agrees (if take then (rows[i]?).bind fun row => (row[j]?).map fun x => acc + x else some acc)
      (if take then acc + rows[i]![j]! else acc) :=
  have hrow := hr i hi
  Agrees.ite (fun _ => .bind (.read! hi) (.map (.read! (by omega)))) fun _ => .pure _

theorem colSumGoC_eq (rows : Array (Array Float32)) (nv : Nat) (hr : RowsPadded rows nv)
    (sel : Option (Array Bool × Bool)) (hsel : ∀ fl side, sel = some (fl, side) → rows.size ≤ fl.size)
    (j : Nat) (hj : j < nv) (n i : Nat) (acc : Float32) (hi : i + n ≤ rows.size) :
    Agrees (colSumGoC rows sel j n i acc) (colSumGo rows sel j n i acc) := by
  induction n generalizing i acc with
  | zero => rfl
  | succ n ih =>
    have hadd := addEntryC_eq rows nv hr i j (by omega) hj acc
    rw [colSumGoC.eq_def, colSumGo.eq_def]
    dsimp only
    cases sel with
    | none => exact Agrees.bind (.pure _) (.bind (hadd _) (ih (i + 1) _ (by omega)))
    | some fs =>
      have := hsel fs.1 fs.2 rfl
      exact Agrees.bind (.map (.read! (by omega))) (.bind (hadd _) (ih (i + 1) _ (by omega)))

theorem colSumC_eq (rows : Array (Array Float32)) (nv : Nat) (hr : RowsPadded rows nv)
    (sel : Option (Array Bool × Bool)) (hsel : ∀ fl side, sel = some (fl, side) → rows.size ≤ fl.size)
    (j : Nat) (hj : j < nv) : Agrees (colSumC rows sel j) (colSum rows sel j) :=
  colSumGoC_eq rows nv hr sel hsel j hj _ 0 0 (by omega)

theorem mkVecC_eq (nv na : Nat) (fC : Nat → Option Float32) (f : Nat → Float32)
    (h : ∀ j, j < na → j < nv → Agrees (fC j) (f j)) : Agrees (mkVecC nv na fC) (mkVec nv na f) := by
  unfold mkVecC mkVec
  rw [mapC_eq _ (fun j => if j < na then f j else 0) _ (by
    intro j hj
    have hj' : j < nv := by simpa using hj
    split
    · rename_i h1; exact h j h1 hj'
    · rfl)]
  rw [Option.map_some]
  congr 1
  apply Array.ext
  · simp
  · intro i h1 h2
    simp

/-- the mean of the selected rows, as `split2` computes its centres -/
theorem meanVecC_eq (rows : Array (Array Float32)) (nv na : Nat) (hr : RowsPadded rows nv)
    (sel : Option (Array Bool × Bool)) (hsel : ∀ fl side, sel = some (fl, side) → rows.size ≤ fl.size) (d : Float32) :
    Agrees (mkVecC nv na fun j => (colSumC rows sel j).map (· / d)) (mkVec nv na fun j => colSum rows sel j / d) :=
  mkVecC_eq _ _ _ _ fun j _ hj => Agrees.map (colSumC_eq rows nv hr sel hsel j hj)

/-- the second start centre of `split2`: the first one reflected at the mean -/
theorem reflectVecC_eq (nv na : Nat) (w cl : Array Float32) (hw : w.size = nv) (hc : cl.size = nv) :
    Agrees (mkVecC nv na fun j => (w[j]?).bind fun wj => (cl[j]?).bind fun cj => (w[j]?).map fun wj' => wj - (cj - wj'))
      (mkVec nv na fun j => w[j]! - (cl[j]! - w[j]!)) :=
  mkVecC_eq _ _ _ _ fun j _ hj =>
    Agrees.bind (.read! (by omega)) (.bind (.read! (by omega)) (.map (.read! (by omega))))

theorem size_mkVec (nv na : Nat) (f : Nat → Float32) : (mkVec nv na f).size = nv := by simp [mkVec]

theorem assignGo_size (avx : Bool) (rows : Array (Array Float32)) (cl cr : Array Float32) (na n i : Nat) (sc : Float32)
    (fl : Array Bool) : (assignGo avx rows cl cr na n i sc fl).1.size = fl.size + n := by
  induction n generalizing i sc fl with
  | zero => rfl
  | succ n ih => rw [assignGo, ih]; simp; omega

theorem assignGoC_eq (avx : Bool) (rows : Array (Array Float32)) (cl cr : Array Float32) (na : Nat)
    (hr : RowsPadded rows (numVarOf na)) (hcl : numVarOf na ≤ cl.size) (hcr : numVarOf na ≤ cr.size)
    (n i : Nat) (sc : Float32) (fl : Array Bool) (hi : i + n ≤ rows.size) :
    Agrees (assignGoC avx rows cl cr na n i sc fl) (assignGo avx rows cl cr na n i sc fl) := by
  induction n generalizing i sc fl with
  | zero => rfl
  | succ n ih =>
    have hi' : i < rows.size := by omega
    have hrow := hr i hi'
    rw [numVarOf_eq] at hrow hcl hcr
    rw [assignGoC, assignGo]
    exact Agrees.bind (.read! hi') (.bind (edistC_eq avx _ cl na hrow hcl)
      (.bind (edistC_eq avx _ cr na hrow hcr) (ih (i + 1) _ _ (by omega))))

theorem centresMovedC_eq (wl wr cl cr : Array Float32) (na : Nat) (h1 : na ≤ wl.size) (h2 : na ≤ wr.size)
    (h3 : na ≤ cl.size) (h4 : na ≤ cr.size) : Agrees (centresMovedC wl wr cl cr na) (centresMoved wl wr cl cr na) := by
  unfold centresMovedC centresMoved
  refine anyC_eq _ _ _ fun j hj => ?_
  have hj' : j < na := by simpa using hj
  refine Agrees.bind (.read! (by omega)) (.bind (.read! (by omega)) ?_)
  -- the second pair is read only when the first comparison answers 0
  cases cmpFloats wl[j]! cl[j]! != 0
  · exact Agrees.bind (.read! (by omega)) (.map (.read! (by omega)))
  · rfl

theorem iterStepC_eq (avx : Bool) (rows : Array (Array Float32)) (samples : List Nat) (na : Nat)
    (hr : RowsPadded rows (numVarOf na)) (cl cr : Array Float32) (hcl : cl.size = numVarOf na) (hcr : cr.size = numVarOf na) :
    Agrees (iterStepC avx rows samples na (numVarOf na) cl cr) (iterStep avx rows samples na (numVarOf na) cl cr) ∧
      ∀ r cl' cr', iterStep avx rows samples na (numVarOf na) cl cr = (r, some (cl', cr')) →
        cl'.size = numVarOf na ∧ cr'.size = numVarOf na := by
  have hle := le_numVarOf na
  unfold iterStepC iterStep
  rw [assignGoC_eq avx rows cl cr na hr (by omega) (by omega) rows.size 0 0 _ (by omega), Option.bind_some]
  have hsz := assignGo_size avx rows cl cr na rows.size 0 0 (Array.mkEmpty rows.size)
  generalize assignGo avx rows cl cr na rows.size 0 0 (Array.mkEmpty rows.size) = ag at hsz
  obtain ⟨flags, score⟩ := ag
  have hfl : rows.size ≤ flags.size := by simp at hsz; omega
  dsimp only
  cases (splitBy flags.toList samples).1.isEmpty || (splitBy flags.toList samples).2.isEmpty
  case true => exact ⟨rfl, fun r cl' cr' e => by cases e⟩
  case false =>
    rw [if_neg Bool.false_ne_true, if_neg Bool.false_ne_true]
    have hsel : ∀ (side : Bool) fl s, some (flags, side) = some (fl, s) → rows.size ≤ fl.size := by
      intro side fl s e; cases e; exact hfl
    refine ⟨Agrees.bind (meanVecC_eq rows _ na hr _ (hsel true) _) <| .bind (meanVecC_eq rows _ na hr _ (hsel false) _) <|
      .map (centresMovedC_eq _ _ cl cr na (by rw [size_mkVec]; exact hle) (by rw [size_mkVec]; exact hle) (by omega)
        (by omega)), ?_⟩
    intro r cl' cr' e
    split at e
    · simp only [Prod.mk.injEq, Option.some.injEq] at e
      obtain ⟨_, rfl, rfl⟩ := e
      exact ⟨size_mkVec _ _ _, size_mkVec _ _ _⟩
    · cases e

theorem split2IterC_eq (avx : Bool) (rows : Array (Array Float32)) (samples : List Nat) (na : Nat)
    (hr : RowsPadded rows (numVarOf na)) (k : Nat) (cl cr : Array Float32) (hcl : cl.size = numVarOf na)
    (hcr : cr.size = numVarOf na) :
    Agrees (split2IterC avx rows samples na (numVarOf na) k cl cr) (split2Iter avx rows samples na (numVarOf na) k cl cr) := by
  induction k generalizing cl cr with
  | zero =>
    rw [split2IterC, split2Iter, (iterStepC_eq avx rows samples na hr cl cr hcl hcr).1]
    rfl
  | succ k ih =>
    obtain ⟨e, hs⟩ := iterStepC_eq avx rows samples na hr cl cr hcl hcr
    rw [split2IterC, split2Iter, e, Option.bind_some]
    generalize hit : iterStep avx rows samples na (numVarOf na) cl cr = it at hs
    obtain ⟨r, o⟩ := it
    cases o with
    | none => rfl
    | some cc =>
      obtain ⟨cl', cr'⟩ := cc
      obtain ⟨h1, h2⟩ := hs r cl' cr' rfl
      exact ih cl' cr' h1 h2

theorem rowsOf_ok (dm : Array (Array Float32)) (nv : Nat) (samples : List Nat) (rows : Array (Array Float32))
    (h : rowsOf dm nv samples = some rows) : rows.size = samples.length ∧ RowsPadded rows nv := by
  simp only [rowsOf, Option.map_eq_some_iff] at h
  obtain ⟨l, hm, rfl⟩ := h
  obtain ⟨h1, h2⟩ := mapM_some_get hm
  refine ⟨by simpa using h1, ?_⟩
  intro i hi
  have hi' : i < l.length := by simpa using hi
  have hx := h2 i (by omega) hi'
  have : (l.toArray)[i]! = l[i] := by simp [hi']
  rw [this]
  unfold rowAt at hx
  split at hx
  · split at hx
    · cases hx
    · simp only [Option.some.injEq] at hx; subst hx; omega
  · cases hx

theorem split2WithC_eq (maxIter : Nat) (avx : Bool) (dm : Array (Array Float32)) (samples : List Nat) (na seedPick : Nat) :
    Agrees (split2WithC maxIter avx dm samples na seedPick).run (split2With maxIter avx dm samples na seedPick) := by
  unfold split2WithC split2With
  dsimp only
  by_cases hn : samples.length = 0
  · rw [if_pos hn, if_pos hn]
    rfl
  rw [if_neg hn, if_neg hn]
  cases hro : rowsOf dm (numVarOf na) samples with
  | none => rfl
  | some rows =>
    obtain ⟨hsz, hr⟩ := rowsOf_ok dm _ samples rows hro
    dsimp only
    split
    · rename_i hseed
      have hle := le_numVarOf na
      have hseed' : seedPick < rows.size := by omega
      have hrow := hr seedPick hseed'
      exact Agrees.lift <| Agrees.bind (meanVecC_eq rows _ na hr none (fun _ _ e => by cases e) _) <|
        .bind (.read! hseed') <| .bind (mkVecC_eq _ _ _ _ fun j _ hj => Agrees.read! (by omega)) <|
        .bind (reflectVecC_eq _ na _ _ (size_mkVec _ _ _) (size_mkVec _ _ _)) <|
        split2IterC_eq avx rows samples na hr _ _ _ (size_mkVec _ _ _) (size_mkVec _ _ _)
    · rfl

end Kalign.Kmeans

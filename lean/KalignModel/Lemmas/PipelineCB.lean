import KalignModel.Model.TreeSoft
import KalignModel.Lemmas.Pipeline
import KalignModel.Props.C01
import KalignModel.Lemmas.NoFaultRecNode
import KalignModel.Lemmas.Basic.OptionMapM
/-!
# The pipeline over any score carrier and task-table builder (`coreCB`, `stagesCB`, `kalignRunWithCB`, Model/TreeSoft.lean)

`kalignRunWith_eq_CB`: the `Float32` pipeline of Model/Pipeline.lean is `kalignRunWithCB` on `Float32` with `buildTasks` as the
builder (`Node` and `NodeC Float32` have the same fields: `Node.toC`, `NodeC.toNode`), so what is proved for `…CB` holds for
`core`, `stagesG`, `kalignRunWith`; `kalignRunWithC_eq_CB`: the same for the carrier-generic pipeline of Model/PipelineSoft.lean.
`recAlnC_groupOK`: every node `recursive_aln` completes satisfies the group invariant `GroupOK` of C01, by `C01_merge_integrity`
at every merge (`mergeNodes_shape` is the `Float32` form for the C10 argument of Props/PipelineFile.lean).
`kalignRunWithCB_integrity`: C01 for a successful run of the generic pipeline.
-/
namespace Kalign.Pipeline
open Kalign List

theorem recAln_toC (ap : AlnParam Float32) (tasks : Array (Nat × Nat × Nat)) (codes : Array (List Nat)) (n fuel k : Nat) :
    recAln ap tasks codes n fuel k = (recAlnC ap tasks codes n fuel k).map NodeC.toNode := by
  rw [← nodeVal_add, nodeVal_toC, childOfC_add]

theorem core_eq_coreCB (avx : Bool) (bio : Bio) (c1 c2 : List (List Nat)) (type : Int) (gpo gpe tgpe : Float32) :
    core avx bio c1 c2 type gpo gpe tgpe = coreCB (buildTasks avx) (paramOfTable bio.code type gpo gpe tgpe) c1 c2 := by
  unfold core coreCB
  simp only
  split
  · rfl
  · cases buildTasks avx c1.toArray with
    | error e => rfl
    | ok tasks =>
      simp only
      cases paramOfTable bio.code type gpo gpe tgpe with
      | none => rfl
      | some ap =>
        simp only [recAln_toC]
        cases recAlnC ap tasks c2.toArray c2.length tasks.size (tasks.size - 1) <;> rfl

theorem stagesG_eq_stagesCB (avx : Bool) (bio : Bio) (type : Int) (gpo gpe tgpe : Float32) (V : List (Name × List Char)) :
    stagesG avx bio type gpo gpe tgpe V =
      stagesCB (buildTasks avx) bio (fun b => paramOfTable b.code type gpo gpe tgpe) V := by
  unfold stagesG stagesCB
  cases bio with
  | unknown => rfl
  | protein => simp only [core_eq_coreCB]; rfl
  | dna => simp only [core_eq_coreCB]; rfl

theorem kalignRunWith_eq_CB (det : List Nat → Bio) (avx : Bool) (inp : List InSeq) (type : Int) (gpo gpe tgpe : Float32) :
    kalignRunWith det avx inp type gpo gpe tgpe =
      kalignRunWithCB det (buildTasks avx) (fun b => paramOfTable b.code type gpo gpe tgpe) inp := by
  unfold kalignRunWith kalignRunWithCB
  simp only [stagesG_eq_stagesCB]
  rfl

theorem coreC_eq_CB {α : Type} [Score α] (avx : Bool) (pm : Option (AlnParam α)) (c1 c2 : List (List Nat)) :
    coreC avx pm c1 c2 = coreCB (buildTasks avx) pm c1 c2 := rfl

theorem stagesC_eq_CB {α : Type} [Score α] (avx : Bool) (bio : Bio) (pm : Bio → Option (AlnParam α))
    (V : List (Name × List Char)) : stagesC avx bio pm V = stagesCB (buildTasks avx) bio pm V := by
  unfold stagesC stagesCB
  cases bio with
  | unknown => rfl
  | protein => simp only [coreC_eq_CB]; rfl
  | dna => simp only [coreC_eq_CB]; rfl

theorem kalignRunWithC_eq_CB {α : Type} [Score α] (det : List Nat → Bio) (avx : Bool) (pm : Bio → Option (AlnParam α))
    (inp : List InSeq) : kalignRunWithC det avx pm inp = kalignRunWithCB det (buildTasks avx) pm inp := by
  unfold kalignRunWithC kalignRunWithCB
  simp only [stagesC_eq_CB]
  rfl

section
variable {α : Type} [Score α]

omit [Score α] in
theorem leafNodeC_groupOK (codes : Array (List Nat)) (i : Nat) :
    NodeOK (fun j => codes.getD j []) (leafNodeC (α := α) codes i).group (leafNodeC (α := α) codes i).len := by
  exact ⟨groupOK_leaf (fun j => codes.getD j []) i, by simp [leafNodeC],
    by simp [leafNodeC, Group.plen, GSeq.row, makeLinear_replicate_zero]⟩

/-- the premise `ValidCols` of `C01_merge_integrity` is what the run-time monitor checked -/
theorem mergeNodesC_groupOK (seqs : Nat → List Nat) (entry : Entry) (ap : AlnParam α) (A B N : NodeC α)
    (isLast : Bool) (hA : NodeOK seqs A.group A.len) (hB : NodeOK seqs B.group B.len)
    (h : mergeNodesC entry ap A B isLast = .ok N) :
    NodeOK seqs N.group N.len ∧ ∃ codes : List Nat, N.group = mergeGroups codes A.group B.group ∧
      ValidCols (codes.map Col.ofCode) A.group.plen B.group.plen ∧ N.group.plen = codes.length := by
  obtain ⟨_, out, _, _, hv, rfl⟩ := mergeNodesC_ok_iff.1 h
  rw [hA.2.2, hB.2.2] at hv
  obtain ⟨h1, h2⟩ := C01_merge_integrity seqs out.codes A.group B.group hA.1 hB.1 hA.2.1 hB.2.1 hv
  exact ⟨⟨h1, mergeGroups_ne_nil _ _ _ hA.2.1, h2.symm⟩, out.codes, rfl, hv, h2⟩

theorem childOfC_groupOK (ap : AlnParam α) (tasks : Array (Nat × Nat × Nat)) (codes : Array (List Nat)) (n : Nat) :
    ∀ (fuel x : Nat) (N : NodeC α), childOfC ap tasks codes n fuel x = .ok N →
      NodeOK (fun j => codes.getD j []) N.group N.len :=
  childOfC_ok_ind _ (fun i _ => leafNodeC_groupOK codes i)
    (fun A B N _ hA hB h => (mergeNodesC_groupOK _ _ _ A B N _ hA hB h).1)

theorem recAlnC_groupOK (ap : AlnParam α) (tasks : Array (Nat × Nat × Nat)) (codes : Array (List Nat)) (n : Nat)
    (fuel k : Nat) (N : NodeC α) (h : recAlnC ap tasks codes n fuel k = .ok N) :
    NodeOK (fun j => codes.getD j []) N.group N.len :=
  childOfC_groupOK ap tasks codes n fuel (k + n) N ((childOfC_add ap tasks codes n fuel k).trans h)

end

theorem mergeNodesC_of_mergeNodes {entry : Entry} {ap : AlnParam Float32} {A B N : Node} {isLast : Bool}
    (h : mergeNodes entry ap A B isLast = .ok N) : mergeNodesC entry ap A.toC B.toC isLast = .ok N.toC :=
  ok_of_map_toNode ((mergeNodes_toC entry ap A.toC B.toC isLast).symm.trans h)

theorem mergeNodes_shape {entry : Entry} {ap : AlnParam Float32} {A B N : Node} {isLast : Bool}
    (seqs : Nat → List Nat) (hA : NodeOK seqs A.group A.len) (hB : NodeOK seqs B.group B.len)
    (h : mergeNodes entry ap A B isLast = .ok N) :
    ∃ codes : List Nat, N.group = mergeGroups codes A.group B.group ∧
      ValidCols (codes.map Col.ofCode) A.group.plen B.group.plen ∧ N.group.plen = codes.length :=
  (mergeNodesC_groupOK seqs entry ap A.toC B.toC N.toC isLast hA hB (mergeNodesC_of_mergeNodes h)).2

section
variable {α : Type} [Score α]

theorem coreCB_ok {build : Array (List Nat) → Except PipeErr (Array (Nat × Nat × Nat))} {pm : Option (AlnParam α)}
    {c1 c2 : List (List Nat)} {gaps : List (List Nat)} (h : coreCB build pm c1 c2 = .ok gaps) :
    2 ≤ c2.length ∧ ∃ tasks ap root, build c1.toArray = .ok tasks ∧ pm = some ap ∧
      recAlnC ap tasks c2.toArray c2.length tasks.size (tasks.size - 1) = .ok root ∧
      (List.range c2.length).mapM (finalGaps root.group) = some gaps := by
  unfold coreCB at h
  simp only at h
  split at h
  · cases h
  · rename_i hn
    split at h
    · cases h
    · rename_i tasks htasks
      split at h
      · cases h
      · rename_i ap
        split at h
        · cases h
        · rename_i root hroot
          split at h
          · cases h
          · rename_i gp hgp
            cases h
            exact ⟨by omega, tasks, ap, root, htasks, rfl, hroot, hgp⟩

theorem stagesCB_ok {build : Array (List Nat) → Except PipeErr (Array (Nat × Nat × Nat))} {bio : Bio}
    {pm : Bio → Option (AlnParam α)} {V : List (Name × List Char)} {rows : List GRow}
    (h : stagesCB build bio pm V = .ok rows) :
    bio ≠ .unknown ∧ ∃ gaps, coreCB build (pm bio) ((V.map fun x => bytesOf x.2).map (convertN (treeAlphabet bio)))
      ((V.map fun x => bytesOf x.2).map (convertN (alnAlphabet bio))) = .ok gaps ∧
      rows = List.zipWith makeLinear (V.map (·.2)) gaps := by
  unfold stagesCB at h
  split at h
  · cases h
  · rename_i hb
    simp only at h
    split at h
    · cases h
    · rename_i gaps hc
      cases h
      exact ⟨fun e => hb e, gaps, hc, rfl⟩

theorem kalignRunWithCB_ok {det : List Nat → Bio} {build : Array (List Nat) → Except PipeErr (Array (Nat × Nat × Nat))}
    {pm : Bio → Option (AlnParam α)} {inp : List InSeq} {out : List (Name × GRow)}
    (h : kalignRunWithCB det build pm inp = .ok out) :
    ∃ c rows, canon inp = some c ∧ stagesCB build (bioOf det inp) pm (view c) = .ok rows ∧ out = finish c rows := by
  unfold kalignRunWithCB at h
  split at h
  · cases h
  · simp only at h
    split at h
    · cases h
    · rename_i c hc
      split at h
      · cases h
      · rename_i rows hrows
        cases h
        exact ⟨c, rows, hc, hrows, rfl⟩

theorem coreCB_spec {build : Array (List Nat) → Except PipeErr (Array (Nat × Nat × Nat))} {pm : Option (AlnParam α)}
    {c1 c2 : List (List Nat)} {gaps : List (List Nat)} (h : coreCB build pm c1 c2 = .ok gaps) :
    gaps.length = c2.length ∧ ∃ L, ∀ i (h1 : i < c2.length) (h2 : i < gaps.length),
      gaps[i].length = c2[i].length + 1 ∧ c2[i].length + gaps[i].sum = L := by
  obtain ⟨_, tasks, ap, root, _, _, hroot, hgp⟩ := coreCB_ok h
  obtain ⟨hl, hg⟩ := mapM_some_get hgp
  have hok := recAlnC_groupOK ap tasks c2.toArray c2.length _ _ root hroot
  refine ⟨by simpa using hl, root.group.plen, ?_⟩
  intro i h1 h2
  have hi := hg i (by simpa using h1) h2
  simp only [getElem_range] at hi
  obtain ⟨m, hm, hidx, hgaps⟩ := finalGaps_some hi
  have hres := hok.1.res m hm
  have hwf := hok.1.wf m hm
  have hlen := hok.1.len m hm
  simp only [hidx, Array.getD_eq_getD_getElem?, List.getElem?_toArray, getElem?_eq_getElem h1,
    Option.getD_some] at hres
  unfold GSeq.WF at hwf
  rw [hgaps, hres] at hwf
  refine ⟨hwf, ?_⟩
  rw [GSeq.row, length_makeLinear _ _ (by rw [hgaps, hres]; exact hwf), hgaps, hres] at hlen
  exact hlen

theorem stagesCB_spec {build : Array (List Nat) → Except PipeErr (Array (Nat × Nat × Nat))} {bio : Bio}
    {pm : Bio → Option (AlnParam α)} {V : List (Name × List Char)} {rows : List GRow}
    (h : stagesCB build bio pm V = .ok rows) :
    rows.length = V.length ∧ ∃ L, ∀ i (h1 : i < V.length) (h2 : i < rows.length),
      degap rows[i] = V[i].2 ∧ rows[i].length = L := by
  obtain ⟨_, gaps, hc, rfl⟩ := stagesCB_ok h
  obtain ⟨hl, L, hL⟩ := coreCB_spec hc
  simp only [length_map] at hl
  refine ⟨by simp [hl], L, ?_⟩
  intro i h1 h2
  have hg : i < gaps.length := by rw [hl]; exact h1
  obtain ⟨e1, e2⟩ := hL i (by simpa using h1) hg
  simp only [getElem_map, length_convertN, bytesOf, length_map] at e1 e2
  simp only [getElem_zipWith, getElem_map]
  exact ⟨degap_makeLinear _ _ e1, by rw [length_makeLinear _ _ e1]; exact e2⟩

end

/-- C01 for the composed model with gapped rows (`none` = gap), for any score carrier, detection function and task-table
builder: a successful run returns one row per non-empty input, in input order, under its name; removing the gaps gives back
the residues; all rows have one length.  The premise of `C01_merge_integrity` (valid column codes at every merge) is enforced
by the run-time monitor of `mergeNodesC`, so no further hypothesis is needed. -/
theorem kalignRunWithCB_integrity {α : Type} [Score α] (det : List Nat → Bio)
    (build : Array (List Nat) → Except PipeErr (Array (Nat × Nat × Nat))) (pm : Bio → Option (AlnParam α))
    (inp : List InSeq) (out : List (Name × GRow)) (h : kalignRunWithCB det build pm inp = .ok out) :
    out.map (·.1) = (inp.filter fun x => x.seq.length ≠ 0).map (·.name) ∧
    out.map (fun x => degap x.2) = (inp.filter fun x => x.seq.length ≠ 0).map (·.seq) ∧
    ∃ L, ∀ x ∈ out, x.2.length = L := by
  obtain ⟨c, rows, hc, hrows, rfl⟩ := kalignRunWithCB_ok h
  obtain ⟨E, -, rfl, hperm, hview, hranks⟩ := canon_some hc
  obtain ⟨hl, L, hL⟩ := stagesCB_spec hrows
  have hlen : rows.length = E.length := by
    rw [hl]; simp [view, hperm.length_eq]
  have hfst := sortRank_zip_fst E hranks rows hlen
  have hpair : ∀ z ∈ sortRankBy (fun x : RSeq × GRow => x.1.rank) ((sortLenName E).zip rows),
      degap z.2 = z.1.seq ∧ z.2.length = L := by
    intro z hz
    obtain ⟨i, h1, h2, rfl⟩ := mem_sortRank_zip hz
    have := hL i (by simpa [view] using h1) h2
    simpa [view] using this
  have hnames : E.map (·.name) = (inp.filter fun x => x.seq.length ≠ 0).map (·.name) := by
    rw [← map_fst_keptView, ← hview]
    simp [view]
  have hseqs : E.map (·.seq) = (inp.filter fun x => x.seq.length ≠ 0).map (·.seq) := by
    have := congrArg (fun l => l.map (·.2)) hview
    simpa [view, keptView, map_map, Function.comp_def] using this
  unfold finish
  refine ⟨?_, ?_, L, ?_⟩
  · rw [map_map]
    have : ((fun x : Name × GRow => x.1) ∘ fun x : RSeq × GRow => (x.1.name, x.2))
        = (fun x : RSeq => x.name) ∘ (fun x : RSeq × GRow => x.1) := rfl
    rw [this, ← map_map, hfst, hnames]
  · have e := congrArg (fun l => l.map (·.seq)) hfst
    simp only [map_map] at e
    rw [map_map, ← hseqs, ← e]
    apply map_congr_left
    intro z hz
    exact (hpair z hz).1
  · intro x hx
    obtain ⟨z, hz, rfl⟩ := mem_map.1 hx
    exact (hpair z hz).2

theorem kalignRunWithCB_ok_more {α : Type} [Score α] {det : List Nat → Bio}
    {build : Array (List Nat) → Except PipeErr (Array (Nat × Nat × Nat))} {pm : Bio → Option (AlnParam α)}
    {inp : List InSeq} {out : List (Name × GRow)} (h : kalignRunWithCB det build pm inp = .ok out) :
    bioOf det inp ≠ .unknown ∧ 1 < (keptView inp).length := by
  obtain ⟨c, rows, hc, hrows, _⟩ := kalignRunWithCB_ok h
  refine ⟨(stagesCB_ok hrows).1, ?_⟩
  have hv := canon_view inp
  rw [hc] at hv
  split at hv
  · rename_i hk; exact hk.2
  · cases hv

theorem kalignRunWith_integrity (det : List Nat → Bio) (avx : Bool) (inp : List InSeq) (type : Int)
    (gpo gpe tgpe : Float32) (out : List (Name × GRow))
    (h : kalignRunWith det avx inp type gpo gpe tgpe = .ok out) :
    out.map (·.1) = (inp.filter fun x => x.seq.length ≠ 0).map (·.name) ∧
    out.map (fun x => degap x.2) = (inp.filter fun x => x.seq.length ≠ 0).map (·.seq) ∧
    ∃ L, ∀ x ∈ out, x.2.length = L :=
  kalignRunWithCB_integrity det _ _ inp out (kalignRunWith_eq_CB det avx inp type gpo gpe tgpe ▸ h)

end Kalign.Pipeline

import KalignModel.Lemmas.SoftMul
import KalignModel.Lemmas.SoftTie
import KalignModel.Lemmas.SoftMon
import KalignModel.Lemmas.ProfBuild
/-!
# The Hirschberg monitor on the software binary32: profile operands with bounded entries

The sequence–profile and profile–profile kernels read profile entries (`pget`) and multiply them; with the entries of the prepared
operand profiles finite and bounded (`EntBnd`) and a unit `2^u` that dominates every increment (`SpBnd`, `PpBnd`), the views of such
operands respect the value classes (`SpBnd.view`, `PpBnd.view`: `View.Bnd`, cost 1 resp. 12 units per cell: a profile–profile cell adds up
to 23 products), so `family_alnRun_mon` applies to both kinds of operands (`sp_alnRun_mon`, `pp_alnRun_mon`).  `entCheck` decides `EntBnd` on a concrete profile.
-/
set_option exponentiation.threshold 512
namespace Kalign
open SoftF32

/-- entries of a prepared operand profile: finite, at most `Ng` in the gap-penalty slots 27..29 of every column and at most `Nc`
elsewhere (reads outside the array give `0`) -/
def EntBnd (Nc Ng : Nat) (q : Array SoftF32) : Prop :=
  ∀ i, absLe (q.getD i Score.zero) (if i % 64 = 27 ∨ i % 64 = 28 ∨ i % 64 = 29 then Ng else Nc)

theorem EntBnd.gap {Nc Ng : Nat} {q : Array SoftF32} (h : EntBnd Nc Ng q) (col k : Nat) (hk : k = 27 ∨ k = 28 ∨ k = 29) :
    absLe (pget q col k) Ng := by
  have := h (64 * col + k)
  rwa [if_pos (by omega)] at this

theorem EntBnd.other {Nc Ng : Nat} {q : Array SoftF32} (h : EntBnd Nc Ng q) (col k : Nat) (hk64 : k < 64)
    (hk : ¬ (k = 27 ∨ k = 28 ∨ k = 29)) : absLe (pget q col k) Nc := by
  have := h (64 * col + k)
  rwa [if_neg (by omega)] at this

theorem EntBnd.any {Nc Ng N : Nat} {q : Array SoftF32} (h : EntBnd Nc Ng q) (hNc : Nc ≤ N) (hNg : Ng ≤ N) (col k : Nat) :
    absLe (pget q col k) N := by
  have := h (64 * col + k)
  split at this
  · exact this.mono hNg
  · exact this.mono hNc

theorem clsU_add_unit {u : Nat} (hu : u ≤ 79) {x y : SoftF32} {B N : Nat} {p : Bool} (hx : ClsU u B x p) (hy : absLe y N)
    (hN : N ≤ 2 ^ u) (hB : B + 1 < 16777216) : ClsU u (B + 1) (Score.add x y) p :=
  penU_add hu (absLe_unit hy hN) B x p hB hx

theorem clsU_sub_unit {u : Nat} (hu : u ≤ 79) {x y : SoftF32} {B N : Nat} {p : Bool} (hx : ClsU u B x p) (hy : absLe y N)
    (hN : N ≤ 2 ^ u) (hB : B + 1 < 16777216) : ClsU u (B + 1) (Score.sub x y) p :=
  clsU_sub_pen hu (B' := 1) hx (absLe_unit hy hN) hB

/-- bounds for a sequence–profile pair: the entries of the profile and the three penalties `gpo·sip`, `gpe·sip`, `tgpe·sip` -/
structure SpBnd (u Nc Ng : Nat) (ap : AlnParam SoftF32) (prof1 : Array SoftF32) (sip : Nat) : Prop where
  hu : u ≤ 79
  ent : EntBnd Nc Ng prof1
  hNc : Nc ≤ 2 ^ u
  hNg : Ng ≤ 2 ^ u
  pen1 : absLe (Score.mul ap.gpo (Score.ofNat sip)) (1 * 2 ^ u)
  pen2 : absLe (Score.mul ap.gpe (Score.ofNat sip)) (1 * 2 ^ u)
  pen3 : absLe (Score.mul ap.tgpe (Score.ofNat sip)) (1 * 2 ^ u)

theorem SpBnd.view {u Nc Ng : Nat} {ap : AlnParam SoftF32} {prof1 : Array SoftF32} {sip : Nat} (h : SpBnd u Nc Ng ap prof1 sip)
    (seq2 : Array Nat) : (spView ap prof1 seq2 sip).Bnd u 1 :=
  have g := fun col k hk => penU_add h.hu (absLe_unit (h.ent.gap col k hk) h.hNg)
  ⟨h.hu, Nat.le_refl _, fun i => g i 27 (by omega), fun i => g i 28 (by omega), fun i => g i 29 (by omega), fun _ => penU_sub h.hu h.pen1,
    fun _ => penU_sub h.hu h.pen2, fun _ => penU_sub h.hu h.pen3,
    fun _ _ B x p hB hx => clsU_add_unit h.hu hx (h.ent.any h.hNc h.hNg _ _) (Nat.le_refl _) (by omega)⟩

structure PpBnd (u Nc1 Ng1 Nc2 Ng2 : Nat) (prof1 prof2 : Array SoftF32) : Prop where
  hu : u ≤ 79
  ent1 : EntBnd Nc1 Ng1 prof1
  ent2 : EntBnd Nc2 Ng2 prof2
  hNg1 : Ng1 ≤ 2 ^ u
  hNg2 : Ng2 ≤ 2 ^ u
  hprod : Nc1 * Nc2 ≤ 2 ^ u

theorem dotAdd_clsU {u Nc1 Ng1 Nc2 Ng2 : Nat} {prof1 prof2 : Array SoftF32} (h : PpBnd u Nc1 Ng1 Nc2 Ng2 prof1 prof2) (c1 c2 : Nat) :
    ∀ (fr : List Nat), (∀ c ∈ fr, c < 23) → ∀ (B : Nat) (acc : SoftF32) (p : Bool), ClsU u B acc p →
      B + fr.length < 16777216 → ClsU u (B + fr.length) (dotAdd prof1 c1 prof2 c2 fr acc) p := by
  intro fr
  induction fr with
  | nil => intro _ B acc p hx _; simpa [dotAdd] using hx
  | cons c fr ih =>
    intro hfr B acc p hx hB
    have hc : c < 23 := hfr c (List.mem_cons_self ..)
    have hprod : absLe (SoftF32.mul (pget prof1 c1 c) (pget prof2 c2 (32 + c))) (1 * 2 ^ u) :=
      mul_absLe (h.ent1.other c1 c (by omega) (by omega)) (h.ent2.other c2 (32 + c) (by omega) (by omega))
        (by rw [Nat.one_mul]; exact h.hprod) (by decide) (by have := h.hu; omega)
    have hstep : ClsU u (B + 1) (Score.add acc (Score.mul (pget prof1 c1 c) (pget prof2 c2 (32 + c)))) p := by
      have := clsU_add h.hu hx (show ClsU u 1 (SoftF32.mul (pget prof1 c1 c) (pget prof2 c2 (32 + c))) true by
        rw [clsU_true]; exact hprod) (by simp only [List.length_cons] at hB; omega)
      rwa [Bool.and_true] at this
    have := ih (fun d hd => hfr d (List.mem_cons_of_mem _ hd)) (B + 1) _ p hstep
      (by simp only [List.length_cons] at hB; omega)
    have e : B + (c :: fr).length = B + 1 + fr.length := by simp only [List.length_cons]; omega
    rw [e]
    simpa [dotAdd] using this

theorem PpBnd.view {u Nc1 Ng1 Nc2 Ng2 : Nat} {prof1 prof2 : Array SoftF32} (h : PpBnd u Nc1 Ng1 Nc2 Ng2 prof1 prof2) :
    (ppView prof1 prof2).Bnd u 12 :=
  have g1 := fun col k hk => penU_add h.hu (absLe_unit (h.ent1.gap col k hk) h.hNg1)
  have g2 := fun col k hk => penU_add h.hu (absLe_unit (h.ent2.gap col k hk) h.hNg2)
  ⟨h.hu, by decide, fun i => g1 i 27 (by omega), fun i => g1 i 28 (by omega), fun i => g1 i 29 (by omega), fun j => g2 j 27 (by omega),
    fun j => g2 j 28 (by omega), fun j => g2 j 29 (by omega),
    fun i j B x p hB hx => by
      have hl := freqOf_length prof1 i
      exact (dotAdd_clsU h i j _ (freqOf_lt prof1 i) (B + 1) x p hx (by omega)).mono (by omega)⟩

theorem sp_alnRun_mon {u Nc Ng : Nat} {ap : AlnParam SoftF32} {prof1 : Array SoftF32} {sip : Nat}
    (h : SpBnd u Nc Ng ap prof1 sip) (hu20 : 20 ≤ u) (seq2 : Array Nat) (lenA lenB : Nat) (hA : 1 ≤ lenA) (hB : 1 ≤ lenB)
    (hlen : lenA + 2 * lenB + 4 < 16777216) (hlenB : lenB < 4194304) :
    (alnRun .serial ap (.seqprof prof1 seq2 sip) lenA lenB (initMem lenA lenB)).mon = true :=
  family_alnRun_mon (h.view seq2) hu20 lenA lenB hA hB (by omega)
    (fun sb eb i h1 h2 h3 => tie_bound sb eb i h1 h2 (by omega))

theorem pp_alnRun_mon {u Nc1 Ng1 Nc2 Ng2 : Nat} {ap : AlnParam SoftF32} {prof1 prof2 : Array SoftF32}
    (h : PpBnd u Nc1 Ng1 Nc2 Ng2 prof1 prof2) (hu20 : 20 ≤ u) (lenA lenB : Nat) (hA : 1 ≤ lenA) (hB : 1 ≤ lenB)
    (hlen : 12 * (lenA + 2 * lenB) + 26 < 16777216) (hlenB : lenB < 4194304) :
    (alnRun .serial ap (.profprof prof1 prof2) lenA lenB (initMem lenA lenB)).mon = true :=
  family_alnRun_mon (ap := ap) h.view hu20 lenA lenB hA hB (by omega)
    (fun sb eb i h1 h2 h3 => tie_bound sb eb i h1 h2 (by omega))

def entCheck (Nc Ng : Nat) (q : Array SoftF32) : Bool :=
  (List.range q.size).all fun i =>
    decide ((q.getD i Score.zero).mag < 2139095040) &&
      decide (magVal (q.getD i Score.zero).mag ≤ (if i % 64 = 27 ∨ i % 64 = 28 ∨ i % 64 = 29 then Ng else Nc) * 2 ^ 149)

theorem entBnd_of_check {Nc Ng : Nat} {q : Array SoftF32} (h : entCheck Nc Ng q = true) : EntBnd Nc Ng q := by
  intro i
  by_cases hi : i < q.size
  · unfold entCheck at h
    rw [List.all_eq_true] at h
    have := h i (List.mem_range.2 hi)
    simp only [Bool.and_eq_true, decide_eq_true_eq] at this
    exact this
  · have : q.getD i Score.zero = (Score.zero : SoftF32) := by simp [Array.getD, hi]
    rw [this]
    refine ⟨by decide, ?_⟩
    have : magVal (Score.zero : SoftF32).mag = 0 := by decide
    omega

end Kalign

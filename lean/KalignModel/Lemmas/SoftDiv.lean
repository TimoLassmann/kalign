import KalignModel.Lemmas.SoftFloat
/-!
# Division on the software binary32 against representable bounds

`div` of finite non-zero values is correctly rounded as long as the exponent of the quotient stays in the `roundNat` range
(`b.ex ≤ a.ex + 98`; `div_rne`: the `RneAtD` specification of Lemmas/SoftFloat.lean for the exact quotient).  Rounding is monotone and every `c·2^t` with `c < 2²⁴` is a binary32 number, so a quotient lies between any two such numbers
that enclose the exact quotient (`div_le_grid`, `le_div_grid`; for quotients of integers `div_ofNat_le`, `le_div_ofNat`, `div_ofNat_eq`).

`abs_div_thousand_le` is the last step `fabsf(x) / 1000.0F` of the tie-break term of the meetup.
-/
set_option exponentiation.threshold 512
namespace Kalign.SoftF32

theorem div_nat_path {a b : SoftF32} (ha : a.isFinite = true) (hb : b.isFinite = true) (ha0 : a.mag ≠ 0) (hb0 : b.mag ≠ 0)
    (he : b.ex ≤ a.ex + 98) :
    div a b = pack (a.sign != b.sign)
      (roundNat (2 * (a.sig * 2 ^ 50 / b.sig) + (if (a.sig * 2 ^ 50) % b.sig = 0 then 0 else 1)) (a.ex + 98 - b.ex)) := by
  have h5 : a.isZero = false := by simp [isZero, ha0]
  have h6 : b.isZero = false := by simp [isZero, hb0]
  unfold div
  simp only [isNaN_of_finite ha, isNaN_of_finite hb, isInf_of_finite ha, isInf_of_finite hb, h5, h6, Bool.false_eq_true, if_false,
    Nat.shiftLeft_eq]
  unfold roundInt
  have hpos : (0 : Int) ≤ (a.ex : Int) - (b.ex : Int) + 98 := by omega
  rw [if_pos hpos]
  have : ((a.ex : Int) - (b.ex : Int) + 98).toNat = a.ex + 98 - b.ex := by omega
  rw [this]

theorem ex_ge_of_magVal {g t : Nat} (h : 2 ^ (t + 23) ≤ magVal g) : t ≤ magExp g := by
  have hv : magVal ((t + 1) * 8388608) = 2 ^ (t + 23) := by
    have := magVal_enc t 8388608 (Or.inr (Nat.le_refl _)) (by decide)
    have e : t * 8388608 + 8388608 = (t + 1) * 8388608 := by omega
    rw [e] at this
    rw [this, Nat.pow_add, Nat.mul_comm]
  rw [← hv, magVal_le_iff] at h
  unfold magExp
  have : t + 1 ≤ g / 8388608 := by
    rw [Nat.le_div_iff_mul_le (by decide)]; exact h
  omega

theorem ex_le_of_magVal {g t : Nat} (h : magVal g < 2 ^ (t + 24)) : magExp g ≤ t := by
  have hv : magVal ((t + 2) * 8388608) = 2 ^ (t + 24) := by
    have := magVal_enc (t + 1) 8388608 (Or.inr (Nat.le_refl _)) (by decide)
    have e : (t + 1) * 8388608 + 8388608 = (t + 2) * 8388608 := by omega
    rw [e] at this
    have e2 : (2 : Nat) ^ (t + 24) = 8388608 * 2 ^ (t + 1) := by
      have : t + 24 = 23 + (t + 1) := by omega
      rw [this, Nat.pow_add]
    rw [this, e2]
  rw [← hv, magVal_lt_iff] at h
  unfold magExp
  have : g / 8388608 < t + 2 := by
    rw [Nat.div_lt_iff_lt_mul (by decide)]; exact h
  omega

theorem sig_lt (x : SoftF32) : x.sig < 16777216 := by
  unfold sig magSig
  split <;> omega

theorem sig_pos {x : SoftF32} (h : x.mag ≠ 0) : 0 < x.sig := by
  unfold sig magSig
  split <;> omega

/-! ## the quotient is correctly rounded

`div` rounds `m·2^E`, `m = 2⌊n/d⌋ + sticky`, where the exact quotient is `n/d·2^(E+1)`.  A grid value or the midpoint of two neighbouring
grid values is `c·2^t` with `c ≤ 2²⁵ ≤ n/d` (the quotient of the significands carries at least 26 bits), so either `t > E` and it is a
multiple of `2^(E+1)`, where `m·2^E` and the exact quotient compare alike (`sticky_le_iff`, `le_sticky_iff`), or `t ≤ E` and it is below
both (`sticky_scaled_iff`).  Hence rounding `m·2^E` is rounding the exact quotient (`rneAtD_sticky`, `div_rne`). -/

theorem pow_split (c u E : Nat) : c * 2 ^ (u + (E + 1)) = 2 * (c * 2 ^ u) * 2 ^ E := by
  rw [Nat.pow_add, Nat.pow_succ, Nat.mul_comm 2, Nat.mul_assoc, Nat.mul_assoc, Nat.mul_comm 2]

/-- the dividend `sa·2^50`, at the place `2^(E+1)` of the quotient's unit and scaled by the divisor's exponent, is the value of
`a` times `2¹⁴⁹` -/
theorem quot_scale {ea eb : Nat} (sa : Nat) (he : eb ≤ ea + 98) :
    sa * 2 ^ 50 * 2 ^ (ea + 98 - eb + 1) * 2 ^ eb = sa * 2 ^ ea * 2 ^ 149 := by
  rw [Nat.mul_assoc, Nat.mul_assoc, Nat.mul_assoc, ← Nat.pow_add, ← Nat.pow_add, ← Nat.pow_add]
  congr 2
  omega

theorem sticky_le_iff {n d h : Nat} (hd : 0 < d) :
    2 * (n / d) + (if n % d = 0 then 0 else 1) ≤ 2 * h ↔ n ≤ h * d := by
  have hdm := Nat.div_add_mod n d
  have hr := Nat.mod_lt n hd
  rw [Nat.mul_comm d] at hdm
  by_cases h1 : n / d < h
  · have := Nat.mul_le_mul_right d (show n / d + 1 ≤ h from h1)
    rw [Nat.add_mul, Nat.one_mul] at this
    constructor
    · intro _; omega
    · intro _; split <;> omega
  · by_cases h2 : n / d = h
    · rw [h2] at hdm ⊢
      constructor
      · intro hm
        split at hm
        · omega
        · omega
      · intro hn
        rw [if_pos (by omega)]
        omega
    · have := Nat.mul_le_mul_right d (show h + 1 ≤ n / d by omega)
      rw [Nat.add_mul, Nat.one_mul] at this
      constructor
      · intro hm; split at hm <;> omega
      · intro _; omega

theorem le_sticky_iff {n d h : Nat} (hd : 0 < d) :
    2 * h ≤ 2 * (n / d) + (if n % d = 0 then 0 else 1) ↔ h * d ≤ n := by
  constructor
  · intro hm
    refine Classical.not_not.1 fun hn => ?_
    have := (Nat.div_lt_iff_lt_mul hd).2 (show n < h * d by omega)
    split at hm <;> omega
  · intro hn
    have := (Nat.le_div_iff_mul_le hd).2 hn
    omega

theorem sticky_scaled_iff {n d c t E : Nat} (hd : 0 < d) (hdn : d ≤ n) (hcd : c * d ≤ n) :
    ((2 * (n / d) + (if n % d = 0 then 0 else 1)) * 2 ^ E ≤ c * 2 ^ t ↔ n * 2 ^ (E + 1) ≤ c * 2 ^ t * d) ∧
    (c * 2 ^ t ≤ (2 * (n / d) + (if n % d = 0 then 0 else 1)) * 2 ^ E ↔ c * 2 ^ t * d ≤ n * 2 ^ (E + 1)) := by
  have hP : 0 < 2 ^ E := Nat.pow_pos (by decide)
  by_cases hte : E + 1 ≤ t
  · obtain ⟨u, rfl⟩ : ∃ u, t = u + (E + 1) := ⟨t - (E + 1), by omega⟩
    have e : c * 2 ^ (u + (E + 1)) * d = c * 2 ^ u * d * 2 ^ (E + 1) := by
      rw [Nat.pow_add, ← Nat.mul_assoc, Nat.mul_right_comm]
    rw [e, pow_split, Nat.mul_le_mul_right_iff hP, Nat.mul_le_mul_right_iff hP,
      Nat.mul_le_mul_right_iff (Nat.pow_pos (by decide)), Nat.mul_le_mul_right_iff (Nat.pow_pos (by decide))]
    exact ⟨sticky_le_iff hd, le_sticky_iff hd⟩
  · -- `c·2^t` is below both `m·2^E` and the exact quotient
    have h1 : c ≤ n / d := (Nat.le_div_iff_mul_le hd).2 hcd
    have hq : 1 ≤ n / d := (Nat.le_div_iff_mul_le hd).2 (by omega)
    have h2 : (2 : Nat) ^ t ≤ 2 ^ E := Nat.pow_le_pow_right (by decide) (by omega)
    have h3 : c * 2 ^ t ≤ n / d * 2 ^ E := Nat.mul_le_mul h1 h2
    have h4 : c * 2 ^ t * d ≤ n * 2 ^ E := by
      rw [Nat.mul_right_comm]
      exact Nat.mul_le_mul hcd h2
    have h5 : 0 < n / d * 2 ^ E := Nat.mul_pos hq hP
    have h6 : 0 < n * 2 ^ E := Nat.mul_pos (by omega) hP
    have em : ∀ st : Nat, (2 * (n / d) + st) * 2 ^ E = 2 * (n / d * 2 ^ E) + st * 2 ^ E := fun st => by
      rw [Nat.add_mul, Nat.mul_assoc]
    have en : n * 2 ^ (E + 1) = 2 * (n * 2 ^ E) := by
      rw [Nat.pow_succ, ← Nat.mul_assoc, Nat.mul_comm]
    rw [em, en]
    constructor
    · constructor
      · intro _; omega
      · intro _; omega
    · constructor
      · intro _; omega
      · intro _; omega

theorem rneAtD_sticky {n d : Nat} (E : Nat) (hd : 0 < d) (hdn : d ≤ n) (hc : ∀ c, c ≤ 33554432 → c * d ≤ n) :
    ∃ g, RneAtD d (n * 2 ^ (E + 1)) g (roundNatU (2 * (n / d) + (if n % d = 0 then 0 else 1)) E) := by
  obtain ⟨g, hg⟩ := roundNatU_spec (2 * (n / d) + (if n % d = 0 then 0 else 1)) E
  refine ⟨g, ?_⟩
  obtain ⟨E', q, rfl, h1, h2⟩ := pattern_decomp g
  have v1 : magVal (E' * 8388608 + q) = q * 2 ^ E' := magVal_enc _ _ h1 (Nat.le_of_lt h2)
  have v2 : magVal (E' * 8388608 + q + 1) = (q + 1) * 2 ^ E' := by
    rw [Nat.add_assoc]
    exact magVal_enc _ _ (by omega) (by omega)
  have e3 : q * 2 ^ E' + (q + 1) * 2 ^ E' = (2 * q + 1) * 2 ^ E' := by
    rw [← Nat.add_mul]
    congr 1
    omega
  have k1 := sticky_scaled_iff (c := q) (t := E') (E := E) hd hdn (hc q (by omega))
  have k2 := sticky_scaled_iff (c := q + 1) (t := E') (E := E) hd hdn (hc (q + 1) (by omega))
  have k3 := sticky_scaled_iff (c := 2 * q + 1) (t := E') (E := E + 1) hd hdn (hc (2 * q + 1) (by omega))
  have em : ∀ x : Nat, x * 2 ^ (E + 1) = 2 * (x * 2 ^ E) := fun x => by
    rw [Nat.pow_succ, ← Nat.mul_assoc, Nat.mul_comm]
  have en : n * 2 ^ (E + 1 + 1) = 2 * (n * 2 ^ (E + 1)) := by
    rw [Nat.pow_succ, ← Nat.mul_assoc, Nat.mul_comm]
  unfold RneAt at hg
  unfold RneAtD
  rw [v1, v2, e3] at hg ⊢
  rw [em, en] at k3
  obtain ⟨g1, g2, g3⟩ := hg
  refine ⟨k1.2.1 g1, Nat.lt_of_not_le fun h => Nat.not_le.2 g2 (k2.2.2 h), ?_⟩
  rcases g3 with ⟨c1, c2⟩ | ⟨c1, c2⟩ | ⟨c1, c2⟩
  · exact Or.inl ⟨Nat.lt_of_not_le fun h => Nat.not_le.2 c1 (k3.2.2 h), c2⟩
  · exact Or.inr (Or.inl ⟨Nat.lt_of_not_le fun h => Nat.not_le.2 c1 (k3.1.2 h), c2⟩)
  · exact Or.inr (Or.inr ⟨Nat.le_antisymm (k3.1.1 (Nat.le_of_eq c1)) (k3.2.1 (Nat.le_of_eq c1.symm)), c2⟩)

theorem div_rne {a b : SoftF32} (ha : a.isFinite = true) (hb : b.isFinite = true) (ha0 : a.mag ≠ 0) (hb0 : b.mag ≠ 0)
    (he : b.ex ≤ a.ex + 98) :
    ∃ g r, (div a b).mag = min r infMag ∧ RneAtD (magVal b.mag) (magVal a.mag * 2 ^ 149) g r := by
  obtain ⟨g, hg⟩ := rneAtD_sticky (n := a.sig * 2 ^ 50) (d := b.sig) (a.ex + 98 - b.ex) (sig_pos hb0)
    (Nat.le_trans (Nat.le_of_lt (Nat.lt_trans (sig_lt b) (by decide))) (Nat.le_mul_of_pos_left _ (sig_pos ha0)))
    (fun c hc => Nat.le_trans (Nat.mul_le_mul hc (Nat.le_of_lt (sig_lt b)))
      (Nat.le_trans (by decide : 33554432 * 16777216 ≤ 1 * 2 ^ 50) (Nat.mul_le_mul_right _ (sig_pos ha0))))
  rw [← rneAtD_scale (c := 2 ^ b.ex) (Nat.pow_pos (by decide)), quot_scale _ he, sig_mul_ex, sig_mul_ex] at hg
  refine ⟨g, _, ?_, hg⟩
  rw [div_nat_path ha hb ha0 hb0 he, mag_pack _ _ (roundNat_lt _ _)]
  rfl

theorem div_le_grid {a b : SoftF32} (ha : a.isFinite = true) (hb : b.isFinite = true) (ha0 : a.mag ≠ 0) (hb0 : b.mag ≠ 0)
    (he : b.ex ≤ a.ex + 98) {c t : Nat} (hc : c < 16777216) (ht : t ≤ 253)
    (h : magVal a.mag * 2 ^ 149 ≤ c * 2 ^ t * magVal b.mag) :
    (div a b).sign = (a.sign != b.sign) ∧ AbsV (div a b) (c * 2 ^ t) := by
  obtain ⟨g, r, e, hr⟩ := div_rne ha hb ha0 hb0 he
  unfold AbsV
  rw [e]
  exact ⟨by rw [div_nat_path ha hb ha0 hb0 he, sign_pack _ _ (roundNat_lt _ _)],
    bounded_of_rne (Nat.pos_of_ne_zero (mt magVal_eq_zero.1 hb0)) hr hc ht h⟩

theorem le_div_grid {a b : SoftF32} (ha : a.isFinite = true) (hb : b.isFinite = true) (ha0 : a.mag ≠ 0) (hb0 : b.mag ≠ 0)
    (he : b.ex ≤ a.ex + 98) {c t : Nat} (hc : c < 16777216) (ht : t ≤ 253)
    (h : c * 2 ^ t * magVal b.mag ≤ magVal a.mag * 2 ^ 149) : c * 2 ^ t ≤ magVal (div a b).mag := by
  obtain ⟨g, r, e, hr⟩ := div_rne ha hb ha0 hb0 he
  rw [e]
  exact lower_of_rne (Nat.pos_of_ne_zero (mt magVal_eq_zero.1 hb0)) hr hc ht h

theorem div_zero_left {a b : SoftF32} (ha0 : a.mag = 0) (hb : b.isFinite = true) (hb0 : b.mag ≠ 0) :
    div a b = pack (a.sign != b.sign) 0 := by
  have ha : a.isFinite = true := isFinite_of_mag (by omega)
  have h5 : a.isZero = true := by simp [isZero, ha0]
  have h6 : b.isZero = false := by simp [isZero, hb0]
  unfold div
  simp only [isNaN_of_finite ha, isNaN_of_finite hb, isInf_of_finite ha, isInf_of_finite hb, h5, h6, Bool.false_eq_true, if_false,
    if_true]

theorem mag_ofNat_ne {n : Nat} (h0 : n ≠ 0) (hn : n < 16777216) : (ofNat n).mag ≠ 0 := by
  intro h
  have := magVal_ofNat hn
  rw [h, magVal_zero] at this
  exact h0 ((Nat.mul_eq_zero.1 this.symm).resolve_right (Nat.ne_of_gt (Nat.pow_pos (by decide))))

theorem ex_ofNat {n : Nat} (h0 : n ≠ 0) (hn : n < 16777216) : 126 ≤ (ofNat n).ex ∧ (ofNat n).ex ≤ 149 := by
  constructor
  · apply ex_ge_of_magVal
    rw [magVal_ofNat hn]
    exact Nat.le_mul_of_pos_left _ (Nat.pos_of_ne_zero h0)
  · apply ex_le_of_magVal
    rw [magVal_ofNat hn, Nat.pow_add, Nat.mul_comm (2 ^ 149)]
    exact Nat.mul_lt_mul_of_pos_right hn (by decide)

theorem div_ofNat_le {j D c t : Nat} (hj : j < 16777216) (hD0 : D ≠ 0) (hD : D < 16777216) (hc : c < 16777216) (ht : t ≤ 253)
    (h : j * 2 ^ 149 ≤ c * 2 ^ t * D) :
    (div (ofNat j) (ofNat D)).sign = false ∧ AbsV (div (ofNat j) (ofNat D)) (c * 2 ^ t) := by
  by_cases hj0 : j = 0
  · subst hj0
    unfold AbsV
    rw [div_zero_left (by rw [mag_ofNat hj, roundNatU_zero]) (ofNat_absLe hD).finite (mag_ofNat_ne hD0 hD),
      sign_pack _ _ (by decide), mag_pack _ _ (by decide), sign_ofNat, sign_ofNat]
    exact ⟨rfl, by decide, Nat.zero_le _⟩
  · have := div_le_grid (ofNat_absLe hj).finite (ofNat_absLe hD).finite (mag_ofNat_ne hj0 hj) (mag_ofNat_ne hD0 hD)
      (by have := ex_ofNat hj0 hj; have := ex_ofNat hD0 hD; omega) hc ht
      (by rw [magVal_ofNat hj, magVal_ofNat hD, ← Nat.mul_assoc]; exact Nat.mul_le_mul_right _ h)
    rwa [sign_ofNat, sign_ofNat] at this

theorem le_div_ofNat {j D c t : Nat} (hj : j < 16777216) (hD0 : D ≠ 0) (hD : D < 16777216) (hc : c < 16777216) (ht : t ≤ 253)
    (h : c * 2 ^ t * D ≤ j * 2 ^ 149) : c * 2 ^ t ≤ magVal (div (ofNat j) (ofNat D)).mag := by
  by_cases hj0 : j = 0
  · subst hj0
    rw [Nat.zero_mul] at h
    have := Nat.le_of_mul_le_mul_right (Nat.le_trans h (Nat.zero_le (0 * D))) (Nat.pos_of_ne_zero hD0)
    omega
  · exact le_div_grid (ofNat_absLe hj).finite (ofNat_absLe hD).finite (mag_ofNat_ne hj0 hj) (mag_ofNat_ne hD0 hD)
      (by have := ex_ofNat hj0 hj; have := ex_ofNat hD0 hD; omega) hc ht
      (by rw [magVal_ofNat hj, magVal_ofNat hD, ← Nat.mul_assoc]; exact Nat.mul_le_mul_right _ h)

theorem div_ofNat_eq {j D c t : Nat} (hj : j < 16777216) (hD0 : D ≠ 0) (hD : D < 16777216) (hc : c < 16777216) (ht : t ≤ 253)
    (h : j * 2 ^ 149 = c * 2 ^ t * D) :
    (div (ofNat j) (ofNat D)).sign = false ∧ (div (ofNat j) (ofNat D)).mag < 2139095040 ∧
      magVal (div (ofNat j) (ofNat D)).mag = c * 2 ^ t := by
  obtain ⟨h1, h2, h3⟩ := div_ofNat_le hj hD0 hD hc ht (Nat.le_of_eq h)
  exact ⟨h1, h2, Nat.le_antisymm h3 (le_div_ofNat hj hD0 hD hc ht (Nat.le_of_eq h.symm))⟩

theorem div_thousand_le {a : SoftF32} (ha : a.isFinite = true) (ha0 : a.mag ≠ 0) (he : 37 ≤ a.ex) {c t : Nat}
    (hc : c < 16777216) (ht : t ≤ 253) (hX : magVal a.mag ≤ 1000 * (c * 2 ^ t)) :
    (div a thousand).sign = a.sign ∧ AbsV (div a thousand) (c * 2 ^ t) := by
  have hte : thousand.ex = 135 := by decide
  have htv : magVal thousand.mag = 1000 * 2 ^ 149 := by decide
  obtain ⟨h1, h2⟩ := div_le_grid (b := thousand) ha (by decide) ha0 (by decide) (by omega) hc ht (by
    rw [htv, ← Nat.mul_assoc, Nat.mul_comm _ 1000]
    exact Nat.mul_le_mul_right _ hX)
  exact ⟨by rw [h1]; exact Bool.xor_false _, h2⟩

theorem abs_div_thousand_le {x : SoftF32} {w c : Nat} (x1 : x.mag < 2139095040) (x2 : magVal x.mag = w * 2 ^ 148)
    (hc : c < 16777216) (h : w ≤ 1000 * c) :
    (div (abs x) thousand).sign = false ∧ AbsV (div (abs x) thousand) (c * 2 ^ 148) := by
  have hm : (abs x).mag = x.mag := mag_abs x
  by_cases hw0 : x.mag = 0
  · unfold AbsV
    rw [div_zero_left (by rw [hm]; exact hw0) (by decide) (by decide), sign_abs, sign_pack _ _ (by decide),
      mag_pack _ _ (by decide)]
    exact ⟨by decide, by decide, Nat.zero_le _⟩
  · have hex : 125 ≤ (abs x).ex := by
      apply ex_ge_of_magVal
      rw [hm, x2]
      rcases Nat.eq_zero_or_pos w with rfl | hw
      · exact absurd (magVal_eq_zero.1 (by rw [x2, Nat.zero_mul])) hw0
      · exact Nat.le_mul_of_pos_left _ hw
    have := div_thousand_le (a := abs x) (isFinite_of_mag (by rw [hm]; exact x1)) (by rw [hm]; exact hw0) (by omega) hc
      (by decide : 148 ≤ 253) (by rw [hm, x2, ← Nat.mul_assoc]; exact Nat.mul_le_mul_right _ h)
    rwa [sign_abs] at this

end Kalign.SoftF32

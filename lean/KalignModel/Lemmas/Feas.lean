import KalignModel.Lemmas.Cut
import KalignModel.Lemmas.MeetLevel
import KalignModel.Lemmas.Controller
import KalignModel.Lemmas.PathCols
import KalignModel.Lemmas.Walk
/-!
# Feasible rectangles of the Hirschberg recursion

`Feas fk bk rows cols`: a complete column list exists for a rectangle that follows a column of kind `fk` and is followed
by a column of kind `bk`: the rectangles on which `aln_runner` (aln_controller.c) can be called with boundary states of these
kinds and still find a finite cut.  The whole problem is feasible (`feas_top`); a feasible rectangle has a cut with finite forward
and backward cells (`feas_has_candidate`); every admissible cut with finite cells satisfies the meetup contract and leaves
two feasible child rectangles (`candidate_contract`).
-/
namespace Kalign

def Feas (fk bk : Kind) (rows cols : Nat) : Prop :=
  ∃ X : List Col, adjOK fk X = true ∧ (lastKind fk X).compat bk = true ∧ consA X = rows ∧ consB X = cols

/-- `Feas` for a rectangle given by integer corners; nothing is claimed for a degenerate rectangle -/
def FeasRect (fk bk : Kind) (sa ea sb eb : Int) : Prop :=
  sa < ea → sb < eb → Feas fk bk (ea - sa).toNat (eb - sb).toNat

/-- the rectangles of the two recursive calls of `aln_continue` (Model/Hirschberg.lean `alnContinue`) for transition `t` -/
def ChildrenFeas (fk bk : Kind) (sa ea sb eb mid meet t : Int) : Prop :=
  (t = 1 → FeasRect fk .A sa (mid - 1) sb (meet - 1) ∧ FeasRect .A bk (mid + 1) ea (meet + 1) eb) ∧
  (t = 2 → FeasRect fk .A sa (mid - 1) sb (meet - 1) ∧ FeasRect .GA bk mid ea (meet + 1) eb) ∧
  (t = 3 → FeasRect fk .A sa (mid - 1) sb (meet - 1) ∧ FeasRect .GB bk (mid + 1) ea meet eb) ∧
  (t = 5 → FeasRect fk .GA sa mid sb (meet - 1) ∧ FeasRect .A bk (mid + 1) ea (meet + 1) eb) ∧
  (t = 6 → FeasRect fk .GB sa (mid - 1) sb meet ∧ FeasRect .GB bk (mid + 1) ea meet eb) ∧
  (t = 7 → FeasRect fk .GB sa (mid - 1) sb meet ∧ FeasRect .A bk (mid + 1) ea (meet + 1) eb)

theorem feas_symm {fk bk : Kind} {rows cols : Nat} (h : Feas fk bk rows cols) : Feas bk fk rows cols := by
  obtain ⟨X, hadj, hc, hA, hB⟩ := h
  refine ⟨X.reverse, adjOK_reverse fk bk X hadj hc, ?_, by rw [consA_reverse]; exact hA, by rw [consB_reverse]; exact hB⟩
  rw [lastKind_reverse _ _ (adjOK_noskip _ _ hadj)]
  cases X with
  | nil =>
    simp only [firstKind]
    simp only [lastKind, List.foldl_nil] at hc
    rw [Kind.compat_symm]; exact hc
  | cons c cs =>
    simp only [adjOK, Bool.and_eq_true, bne_iff_ne, ne_eq] at hadj
    simp only [firstKind]
    rw [colKind_indep bk fk c hadj.1.1, Kind.compat_symm]
    exact hadj.1.2

theorem adjOK_repA (st : Kind) (n : Nat) (h : st ≠ .GB) : adjOK st (List.replicate n Col.gapA) = true := by
  induction n generalizing st with
  | zero => rfl
  | succ n ih =>
    rw [List.replicate_succ]
    simp only [adjOK, colKind, Bool.and_eq_true, bne_iff_ne, ne_eq]
    refine ⟨⟨by decide, ?_⟩, ih _ (by decide)⟩
    cases st <;> simp_all [Kind.compat]

theorem adjOK_repB (st : Kind) (n : Nat) (h : st ≠ .GA) : adjOK st (List.replicate n Col.gapB) = true := by
  rw [← adjOK_swap, List.map_replicate]
  exact adjOK_repA _ n (by cases st <;> simp_all [Kind.swap])

theorem cons_repA (n : Nat) : consA (List.replicate n Col.gapA) = 0 ∧ consB (List.replicate n Col.gapA) = n := by
  induction n with
  | zero => exact ⟨rfl, rfl⟩
  | succ n ih => rw [List.replicate_succ, consA_cons, consB_cons, ih.1, ih.2]; simp [stepP, stepK]; omega

theorem cons_repB (n : Nat) : consA (List.replicate n Col.gapB) = n ∧ consB (List.replicate n Col.gapB) = 0 := by
  induction n with
  | zero => exact ⟨rfl, rfl⟩
  | succ n ih => rw [List.replicate_succ, consA_cons, consB_cons, ih.1, ih.2]; simp [stepP, stepK]; omega

/-- witness: `lenB - 1` gap-in-a columns, one aligned column, `lenA - 1` gap-in-b columns -/
theorem feas_top (lenA lenB : Nat) (hA : 1 ≤ lenA) (hB : 1 ≤ lenB) : Feas .A .A lenA lenB := by
  refine ⟨List.replicate (lenB - 1) Col.gapA ++ Col.both :: List.replicate (lenA - 1) Col.gapB, ?_,
    Kind.compat_A_right _, ?_, ?_⟩
  · rw [adjOK_append, adjOK_repA _ _ (by decide), Bool.true_and]
    simp only [adjOK, colKind, Kind.compat_A_right, Bool.and_true]
    rw [adjOK_repB _ _ (by decide)]; rfl
  · rw [consA_append, consA_cons, (cons_repA _).1, (cons_repB _).1]; simp [stepP]; omega
  · rw [consB_append, consB_cons, (cons_repA _).2, (cons_repB _).2]; simp [stepK]; omega

theorem only_gapA (st : Kind) (X : List Col) (h : adjOK st X = true) (hA : consA X = 0) :
    (X = [] ∧ consB X = 0) ∨ (st ≠ .GB ∧ lastKind st X = .GA ∧ 1 ≤ consB X) := by
  induction X generalizing st with
  | nil => exact Or.inl ⟨rfl, rfl⟩
  | cons c cs ih =>
    right
    simp only [adjOK, Bool.and_eq_true, bne_iff_ne, ne_eq] at h
    obtain ⟨⟨hs, hc⟩, hrest⟩ := h
    rw [consA_cons] at hA
    cases c with
    | skip => exact absurd rfl hs
    | both => simp [stepP] at hA
    | gapB => simp [stepP] at hA
    | gapA =>
      simp only [colKind] at hc hrest
      have hA' : consA cs = 0 := by simp [stepP] at hA; exact hA
      refine ⟨?_, ?_, ?_⟩
      · intro h; subst h; simp [Kind.compat] at hc
      · have : lastKind st (Col.gapA :: cs) = lastKind .GA cs := rfl
        rw [this]
        rcases ih _ hrest hA' with ⟨h1, _⟩ | ⟨_, h2, _⟩
        · subst h1; rfl
        · exact h2
      · rw [consB_cons]; simp [stepK]

theorem lastKind_swap (st : Kind) (cs : List Col) : lastKind st.swap (cs.map Col.swap) = (lastKind st cs).swap := by
  induction cs generalizing st with
  | nil => rfl
  | cons c cs ih => simp only [List.map_cons, lastKind, List.foldl_cons, colKind_swap] at ih ⊢; exact ih _

theorem only_gapB (st : Kind) (X : List Col) (h : adjOK st X = true) (hB : consB X = 0) :
    (X = [] ∧ consA X = 0) ∨ (st ≠ .GA ∧ lastKind st X = .GB ∧ 1 ≤ consA X) := by
  have := only_gapA st.swap (X.map Col.swap) (by rw [adjOK_swap]; exact h) (by rw [consA_swap]; exact hB)
  rw [consB_swap, lastKind_swap, List.map_eq_nil_iff] at this
  rcases this with h1 | ⟨h1, h2, h3⟩
  · exact Or.inl h1
  · exact Or.inr ⟨by cases st <;> simp_all [Kind.swap], by cases hk : lastKind st X <;> simp_all [Kind.swap], h3⟩

theorem childOK_of_feas (fk bk : Kind) (sa sb : Int) (rows cols : Nat) (h : Feas fk bk rows cols) :
    childOK fk bk sa (sa + rows) sb (sb + cols) = true := by
  obtain ⟨X, hadj, hc, hA, hB⟩ := h
  unfold childOK
  by_cases h1 : sa < sa + (rows : Int) ∧ sb < sb + (cols : Int)
  · rw [if_pos h1]
  · rw [if_neg h1, if_neg (by omega)]
    by_cases h2 : sa + (rows : Int) = sa
    · rw [if_pos h2]
      have hr : rows = 0 := by omega
      subst hr
      unfold segEnd
      rcases only_gapA fk X hadj hA with ⟨hX, h0⟩ | ⟨h3, h4, h5⟩
      · subst hX
        have hc0 : cols = 0 := by omega
        subst hc0
        rw [if_pos (by simp)]
        exact hc
      · rw [if_neg (by omega)]
        rw [h4] at hc
        have hbk : bk ≠ .GB := by intro h; subst h; simp [Kind.compat] at hc
        simp only [Bool.and_eq_true, decide_eq_true_eq, bne_iff_ne, ne_eq]
        exact ⟨⟨by omega, h3⟩, hbk⟩
    · rw [if_neg h2]
      have hc0 : cols = 0 := by omega
      subst hc0
      rcases only_gapB fk X hadj hB with ⟨hX, h0⟩ | ⟨h3, h4, h5⟩
      · omega
      · unfold segEnd
        rw [if_pos (by simp)]
        rw [h4] at hc
        simp only [Bool.and_eq_true, bne_iff_ne, ne_eq]
        exact ⟨h3, hc⟩

/-- `cF`/`cB` are any configurations with the same `n` (their penalties/scores are irrelevant), `m1` rows forward, `m2 ≥ 1`
rows backward -/
theorem feas_has_candidate (cF cB : KCfg) (hn : 1 ≤ cF.n) (hnn : cB.n = cF.n) (fk bk : Kind) (m1 m2 : Nat) (hm2 : 1 ≤ m2)
    (h : Feas fk bk (m1 + m2) cF.n) :
    ∃ k t, Adm cF.n k t ∧ (absTab cF (hot fk) m1 k).get (fkOf t) ≠ none ∧
      (absTab cB (hot bk) m2 (cF.n - k)).get (bkOf t) ≠ none := by
  obtain ⟨X, hadj, hc, hA, hB⟩ := h
  obtain ⟨X1, X2r, t, _, hadm, hw⟩ := cut_exists ⟨cF, cB, hnn, fk, bk, m1, m2⟩ X hm2 hadj hc hA hB
  obtain ⟨v, hv, _⟩ := hw.le_ev hn
  obtain ⟨a, b, ha, hb, _⟩ := osub_oplus_some hv
  refine ⟨consB X1, t, hadm, ?_, ?_⟩
  · intro h0; cases h0.symm.trans ha
  · intro h0; cases h0.symm.trans hb

theorem walkEnd (fk st : Kind) (X : List Col) (h : adjOK fk X = true) (hl : lastKind fk X = st) :
    (X = [] ∧ st = fk) ∨ ∃ X' c, X = X' ++ [c] ∧ c ≠ .skip ∧ colKind fk c = st ∧ adjOK fk X' = true ∧
      (lastKind fk X').compat st = true := by
  rcases List.eq_nil_or_concat X with hX | ⟨X', c, hX⟩
  · subst hX; exact Or.inl ⟨rfl, hl.symm⟩
  · right
    rw [List.concat_eq_append] at hX
    subst hX
    rw [adjOK_append, Bool.and_eq_true] at h
    obtain ⟨h1, h2⟩ := h
    simp only [adjOK, Bool.and_true, Bool.and_eq_true, bne_iff_ne, ne_eq] at h2
    rw [lastKind_append] at hl
    have hl' : colKind (lastKind fk X') c = st := hl
    refine ⟨X', c, rfl, h2.1, ?_, h1, ?_⟩
    · rw [colKind_indep fk (lastKind fk X') c h2.1]; exact hl'
    · rw [← hl']; exact h2.2

theorem walkEnd_feas (fk u : Kind) (X : List Col) (m j : Nat) (h : adjOK fk X = true) (hA : consA X = m) (hB : consB X = j)
    (hl : lastKind fk X = u) :
    (m = 0 ∧ j = 0 ∧ fk = u) ∨ ∃ m' j' : Nat, (m : Int) = m' + da u ∧ (j : Int) = j' + db u ∧ Feas fk u m' j' := by
  rcases walkEnd fk u X h hl with ⟨hX, hs⟩ | ⟨X', c, hX, hs, hk, hadj, hc⟩
  · subst hX; exact Or.inl ⟨hA.symm, hB.symm, hs.symm⟩
  · right
    have e1 := stepP_da fk c hs
    have e2 := stepK_db fk c hs
    subst hX
    rw [hk] at e1 e2
    rw [consA_snoc] at hA
    rw [consB_snoc] at hB
    exact ⟨consA X', consB X', by omega, by omega, X', hadj, hc, rfl, rfl⟩

theorem feas_int (fk bk : Kind) (sa ea sb eb : Int) (rows cols : Nat) (h : Feas fk bk rows cols)
    (h1 : ea = sa + rows) (h2 : eb = sb + cols) :
    childOK fk bk sa ea sb eb = true ∧ FeasRect fk bk sa ea sb eb := by
  subst h1 h2
  refine ⟨childOK_of_feas fk bk sa sb rows cols h, fun _ _ => ?_⟩
  have e1 : (sa + (rows : Int) - sa).toNat = rows := by omega
  have e2 : (sb + (cols : Int) - sb).toNat = cols := by omega
  rw [e1, e2]; exact h

theorem left_feas (fk u : Kind) (sa sb m1 k : Nat) (X : List Col) (hadj : adjOK fk X = true) (hA : consA X = m1)
    (hB : consB X = k) (hl : lastKind fk X = u) :
    LeftOf u fk sa sb ((sa + m1 : Nat) : Int) ((sb + k : Nat) : Int) ∧
    FeasRect fk u sa (((sa + m1 : Nat) : Int) - da u) sb (((sb + k : Nat) : Int) - db u) := by
  have hda := da_nonneg u
  rcases walkEnd_feas fk u X m1 k hadj hA hB hl with ⟨h1, h2, h3⟩ | ⟨m', j', e1, e2, hf⟩
  · subst h1 h2 h3
    refine ⟨?_, fun h _ => by omega⟩
    cases fk with
    | A => exact ⟨fun _ => ⟨rfl, rfl⟩, fun ne => absurd rfl ne⟩
    | GA => exact ⟨fun _ => rfl, fun ne => absurd ⟨rfl, rfl⟩ ne⟩
    | GB => exact ⟨fun _ => ⟨rfl, rfl⟩, fun ne => absurd rfl ne⟩
  · obtain ⟨c1, c2⟩ := feas_int fk u sa (((sa + m1 : Nat) : Int) - da u) sb (((sb + k : Nat) : Int) - db u) m' j' hf
      (by omega) (by omega)
    refine ⟨?_, c2⟩
    cases u with
    | A => exact ⟨fun e => by have : da .A = 1 := rfl; omega, fun _ => c1⟩
    | GA => exact ⟨fun e => by have : db .GA = 1 := rfl; omega, fun _ => c1⟩
    | GB => exact ⟨fun e => by have : da .GB = 1 := rfl; omega, fun _ => c1⟩

theorem right_feas (bk v : Kind) (sa sb m1 m2 n k : Nat) (hm2 : 1 ≤ m2) (hkn : k ≤ n) (X : List Col)
    (hadj : adjOK bk X = true) (hA : consA X = m2) (hB : consB X = n - k) (hl : lastKind bk X = v) :
    childOK v bk (((sa + m1 : Nat) : Int) + da v) ((sa + m1 + m2 : Nat) : Int) (((sb + k : Nat) : Int) + db v)
        ((sb + n : Nat) : Int) = true ∧
    FeasRect v bk (((sa + m1 : Nat) : Int) + da v) ((sa + m1 + m2 : Nat) : Int) (((sb + k : Nat) : Int) + db v)
        ((sb + n : Nat) : Int) := by
  rcases walkEnd_feas bk v X m2 (n - k) hadj hA hB hl with ⟨h0, _, _⟩ | ⟨m', j', e1, e2, hf⟩
  · omega
  · exact feas_int v bk _ _ _ _ m' j' (feas_symm hf) (by omega) (by omega)

/-- `ChildrenFeas` is `ChildrenQ FeasRect` -/
theorem childrenFeas_iff {fk bk : Kind} {sa ea sb eb mid meet t : Int} (ht : ValidT t) :
    ChildrenFeas fk bk sa ea sb eb mid meet t ↔
      FeasRect fk (fkOf t) sa (mid - da (fkOf t)) sb (meet - db (fkOf t)) ∧
        FeasRect (bkOf t) bk (mid + da (bkOf t)) ea (meet + db (bkOf t)) eb :=
  ChildrenQ.iff (Q := FeasRect) ht

theorem contract_of_lists (fk bk : Kind) (sa sb m1 m2 n : Nat) (hm2 : 1 ≤ m2) (k : Nat) (t : Int) (hadm : Adm n k t)
    (X1 X2 : List Col)
    (hadj1 : adjOK fk X1 = true) (hA1 : consA X1 = m1) (hB1 : consB X1 = k) (hl1 : lastKind fk X1 = fkOf t)
    (hadj2 : adjOK bk X2 = true) (hA2 : consA X2 = m2) (hB2 : consB X2 = n - k) (hl2 : lastKind bk X2 = bkOf t) :
    meetupContract fk bk (sa : Int) ((sa + m1 + m2 : Nat) : Int) (sb : Int) ((sb + n : Nat) : Int)
        ((sa + m1 : Nat) : Int) ((sb + k : Nat) : Int) t = true ∧
    ChildrenFeas fk bk (sa : Int) ((sa + m1 + m2 : Nat) : Int) (sb : Int) ((sb + n : Nat) : Int)
        ((sa + m1 : Nat) : Int) ((sb + k : Nat) : Int) t := by
  have hkn : k ≤ n := hadm.le
  obtain ⟨hL, fL⟩ := left_feas fk (fkOf t) sa sb m1 k X1 hadj1 hA1 hB1 hl1
  obtain ⟨hR, fR⟩ := right_feas bk (bkOf t) sa sb m1 m2 n k hm2 hkn X2 hadj2 hA2 hB2 hl2
  refine ⟨contract_intro _ _ _ _ _ _ _ _ _ hadm.valid (by omega) ?_ hL hR, (childrenFeas_iff hadm.valid).mpr ⟨fL, fR⟩⟩
  -- the cut column may be the last one only when the column behind the cut is a gap-in-b column
  rcases hadm with h | ⟨_, h⟩
  · have := db_le_one (bkOf t); omega
  · have e : db (bkOf t) = 0 := by rcases h with h | h <;> subst h <;> rfl
    omega

theorem cell_list (c : KCfg) (hn : 1 ≤ c.n) (fk st : Kind) (m k : Nat) (hk : k ≤ c.n)
    (h : (absTab c (hot fk) m k).get st ≠ none) :
    ∃ X, adjOK fk X = true ∧ consA X = m ∧ consB X = k ∧ lastKind fk X = st := by
  cases hv : (absTab c (hot fk) m k).get st with
  | none => exact absurd hv h
  | some v =>
    obtain ⟨k0, X, hX⟩ := abs_attained_some c hn (hot fk) m k hk st v hv
    obtain ⟨hw, _, hA, hB, hl⟩ := runF_hot c fk k0 X m k st v hX
    exact ⟨X, walkOK_adjOK c X 0 0 fk hw, hA, hB, hl⟩

/-- Rectangle: rows `sa .. sa+m1+m2`, columns `sb .. sb+n`, middle row `sa+m1`, cut column `sb+k`. -/
theorem candidate_contract (cF cB : KCfg) (hn : 1 ≤ cF.n) (hnn : cB.n = cF.n) (fk bk : Kind) (sa sb m1 m2 : Nat) (hm2 : 1 ≤ m2)
    (k : Nat) (t : Int) (hadm : Adm cF.n k t)
    (hf : (absTab cF (hot fk) m1 k).get (fkOf t) ≠ none)
    (hb : (absTab cB (hot bk) m2 (cF.n - k)).get (bkOf t) ≠ none) :
    meetupContract fk bk (sa : Int) ((sa + m1 + m2 : Nat) : Int) (sb : Int) ((sb + cF.n : Nat) : Int)
        ((sa + m1 : Nat) : Int) ((sb + k : Nat) : Int) t = true ∧
    ChildrenFeas fk bk (sa : Int) ((sa + m1 + m2 : Nat) : Int) (sb : Int) ((sb + cF.n : Nat) : Int)
        ((sa + m1 : Nat) : Int) ((sb + k : Nat) : Int) t := by
  obtain ⟨X1, hadj1, hA1, hB1, hl1⟩ := cell_list cF hn fk (fkOf t) m1 k hadm.le hf
  obtain ⟨X2, hadj2, hA2, hB2, hl2⟩ := cell_list cB (by omega) bk (bkOf t) m2 (cF.n - k) (by omega) hb
  exact contract_of_lists fk bk sa sb m1 m2 cF.n hm2 k t hadm X1 X2 hadj1 hA1 hB1 hl1 hadj2 hA2 hB2 hl2

/-- non-vacuity: the hypotheses of `candidate_contract` are met at the top level of every problem (by `feas_has_candidate`
applied to `feas_top`) -/
example (cF cB : KCfg) (hn : 1 ≤ cF.n) (hnn : cB.n = cF.n) (m1 m2 : Nat) (hm2 : 1 ≤ m2) :
    ∃ k t, Adm cF.n k t ∧
      meetupContract .A .A ((0 : Nat) : Int) ((0 + m1 + m2 : Nat) : Int) ((0 : Nat) : Int) ((0 + cF.n : Nat) : Int)
        ((0 + m1 : Nat) : Int) ((0 + k : Nat) : Int) t = true := by
  obtain ⟨k, t, hadm, hf, hb⟩ :=
    feas_has_candidate cF cB hn hnn .A .A m1 m2 hm2 (feas_top (m1 + m2) cF.n (by omega) hn)
  exact ⟨k, t, hadm, (candidate_contract cF cB hn hnn .A .A 0 0 m1 m2 hm2 k t hadm hf hb).1⟩

end Kalign

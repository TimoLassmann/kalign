import KalignModel.Lemmas.LocalGlobal
import KalignModel.Lemmas.LevelBound
import KalignModel.Lemmas.PathCols
import KalignModel.Lemmas.Walk
/-!
# Sub-rectangles: the reading of one Hirschberg level, with its context, versus the reference score

A level works on the rectangle `(sa..ea) × (sb..eb)` with middle row `mid`; the columns before it (`P1`, ending in kind
`fk`) and behind it (`P2`, starting in kind `bk`) are fixed.  For every complete column list `X1 ++ X2` of the rectangle
the level's reading plus a constant `C` (what the kernels of the whole problem charge for `P1` and `P2`) is
the reading of the global alignment `P1 ++ X1 ++ X2 ++ P2` by a level of the *whole* problem, hence within
`[S_T − gpo·nterm − slackLo, S_T + slackHi]` (`Level.bounds`).  The context is a `Level`, what fills it a `MeetWalk`
(Lemmas/MeetLevel.lean); nothing here depends on the sequences except through the scoring problem `w : STW`
(`STW.cfgF`, `STW.cfgB`: the kernel configurations of a rectangle of `w`).  `OnEveryLevel`: a condition on every level of a complete
alignment `P`, the shape of the cut hypotheses (Lemmas/CutRun.lean, Lemmas/CutInstances.lean).
-/
namespace Kalign

def ssW (gpo gpe tgpe : Int) (s : Nat → Nat → Int) (seq1 seq2 : Array Nat) (lenA lenB : Nat) : STW :=
  ⟨lenA, lenB, gpo, gpe, tgpe, fun i j => s (seq1.getD i 0) (seq2.getD j 0)⟩

/-- configuration of the forward kernel on rectangle `r` of the problem `w` -/
def STW.cfgF (w : STW) (r : Rect) : KCfg :=
  { n := r.endb - r.startb, tF := r.startb == 0, tL := r.endb == r.lenB, gpo := w.gpo, gpe := w.gpe, tgpe := w.tgpe
    sc := fun p k => w.sc (r.starta + p) (r.startb + k) }

def STW.cfgB (w : STW) (r : Rect) : KCfg :=
  { n := r.endb - r.startb, tF := r.endb == r.lenB, tL := r.startb == 0, gpo := w.gpo, gpe := w.gpe, tgpe := w.tgpe
    sc := fun p k => w.sc (r.enda - 1 - p) (r.endb - 1 - k) }

theorem cfgF_eq_ssW (gpo gpe tgpe : Int) (s : Nat → Nat → Int) (seq1 seq2 : Array Nat) (lenA lenB : Nat) (r : Rect) :
    cfgF gpo gpe tgpe s seq1 seq2 r = (ssW gpo gpe tgpe s seq1 seq2 lenA lenB).cfgF r := rfl
theorem cfgB_eq_ssW (gpo gpe tgpe : Int) (s : Nat → Nat → Int) (seq1 seq2 : Array Nat) (lenA lenB : Nat) (r : Rect) :
    cfgB gpo gpe tgpe s seq1 seq2 r = (ssW gpo gpe tgpe s seq1 seq2 lenA lenB).cfgB r := rfl

theorem STW.subCfgF (w : STW) (r : Rect) (hb : r.startb < r.endb) (he : r.endb ≤ w.lenB) (hl : r.lenB = w.lenB) :
    SubCfg (w.cfgF r) w.kcfg r.starta r.startb := by
  refine ⟨?_, ?_, ?_, ?_, rfl, rfl, rfl, rfl, rfl, fun p k => rfl⟩
  · show r.startb + (r.endb - r.startb) ≤ w.lenB; omega
  · show 1 ≤ r.endb - r.startb; omega
  · show (r.startb == 0) = true ↔ _; simp
  · show (r.endb == r.lenB) = true ↔ r.startb + (r.endb - r.startb) = w.lenB
    rw [beq_iff_eq, hl]; omega

theorem STW.subCfgB (w : STW) (r : Rect) (oa ob : Nat) (hb : r.startb < r.endb) (hoa : oa + r.enda = w.lenA)
    (hob : ob + r.endb = w.lenB) (hl : r.lenB = w.lenB) : SubCfg (w.cfgB r) w.mirror.kcfg oa ob := by
  refine ⟨?_, ?_, ?_, ?_, rfl, rfl, rfl, rfl, rfl, fun p k => ?_⟩
  · show ob + (r.endb - r.startb) ≤ w.lenB; omega
  · show 1 ≤ r.endb - r.startb; omega
  · show (r.endb == r.lenB) = true ↔ _
    rw [beq_iff_eq, hl]; omega
  · show (r.startb == 0) = true ↔ ob + (r.endb - r.startb) = w.lenB
    rw [beq_iff_eq]; omega
  · show w.sc (r.enda - 1 - p) (r.endb - 1 - k) = w.sc (w.lenA - 1 - (oa + p)) (w.lenB - 1 - (ob + k))
    have e1 : w.lenA - 1 - (oa + p) = r.enda - 1 - p := by omega
    have e2 : w.lenB - 1 - (ob + k) = r.endb - 1 - k := by omega
    rw [e1, e2]

theorem walk_ctx {cL cG : KCfg} (P X rest : List Col) (hsub : SubCfg cL cG (consA P) (consB P))
    (hadj : adjOK .A (P ++ (X ++ rest)) = true) (hB : consB (P ++ (X ++ rest)) = cG.n) (hrest : 1 ≤ consA (X ++ rest))
    (hok : walkOK cL 0 0 (lastKind .A P) X = true) (hinv : (consB P = 0 ↔ consA P = 0) ∨ lastKind .A P = .GB) :
    walkOK cG 0 0 .A (P ++ X) = true ∧
      walkSc cG 0 0 .A (P ++ X) = walkSc cG 0 0 .A P + walkSc cL 0 0 (lastKind .A P) X := by
  have hokP := walkOK_prefix cG P (X ++ rest) 0 0 .A hadj (by rw [Nat.zero_add]; exact hB) hrest
  obtain ⟨hokG, hsc⟩ := walk_local_global hsub X 0 0 (lastKind .A P) hok (fun _ => hinv)
  rw [walkOK_append, walkSc_append, hokP, Nat.zero_add, Nat.zero_add, hsc, Bool.true_and]
  exact ⟨hokG, rfl⟩

theorem noGapAAt_append (L : Nat) (U V : List Col) (i : Nat) :
    noGapAAt L i (U ++ V) = (noGapAAt L i U && noGapAAt L (i + consA U) V) := by
  induction U generalizing i with
  | nil => simp [noGapAAt]
  | cons c cs ih =>
    simp only [List.cons_append, noGapAAt, ih, stepP_add_consA, Bool.and_assoc]

theorem noGapAAt_reverse (L : Nat) (X : List Col) (hs : Col.skip ∉ X) (hA : consA X ≤ L)
    (hh : X.head? ≠ some Col.gapA) : noGapAAt L 0 X.reverse = true := by
  cases X with
  | nil => rfl
  | cons c cs =>
    have hne : c ≠ .gapA := fun h => hh (by rw [h]; rfl)
    have hc : stepP 0 c = 1 := by
      cases c with
      | skip => exact absurd (by simp) hs
      | gapA => exact absurd rfl hne
      | both => rfl
      | gapB => rfl
    rw [consA_cons, hc] at hA
    rw [List.reverse_cons, noGapAAt_append, noGapAAt_of_lt L _ 0 (by rw [consA_reverse]; omega)]
    simp [noGapAAt, hne]

theorem ite_two (b : Bool) (x y : Int) :
    (if b = true then x else y) = y ∨ (if b = true then x else y) = x := by cases b <;> simp

theorem joinCost_six (c : KCfg) (k : Nat) :
    joinCost c 6 k =
      if k < c.n then (if c.tF then c.tgpe else c.gpe) else (if c.tL then c.tgpe else c.gpe) := by
  simp [joinCost]

theorem joinCost_six_cases (c : KCfg) (k : Nat) : joinCost c 6 k = c.gpe ∨ joinCost c 6 k = c.tgpe := by
  rw [joinCost_six]
  split
  · exact ite_two _ _ _
  · exact ite_two _ _ _


theorem joinCost_six_term {sb eb lenB k : Nat} {gpe tgpe : Int} (h4 : sb < eb) (h5 : eb ≤ lenB) (hk : sb + k ≤ eb)
    (hj : sb + k = 0 ∨ sb + k = lenB) :
    (if k < eb - sb then (if (sb == 0) = true then tgpe else gpe) else (if (eb == lenB) = true then tgpe else gpe)) =
      tgpe := by
  rcases hj with hj | hj
  · rw [if_pos (by omega), if_pos (by simp; omega)]
  · rw [if_neg (by omega), if_pos (by simp; omega)]

/-- what the meetup subtracts for a transition `t` at column `k` of the rectangle is what the joining edge of the
whole problem allows at node `(mid, sb + k)` -/
theorem STW.joinOK_of_valid (w : STW) (sa : Nat) {mid sb eb k : Nat} {t : Int} (h4 : sb < eb) (h5 : eb ≤ w.lenB)
    (hk : sb + k ≤ eb) (ht : t = 1 ∨ t = 2 ∨ t = 3 ∨ t = 5 ∨ t = 6 ∨ t = 7) :
    w.JoinOK (fkOf t) (bkOf t) mid (sb + k) (joinCost (w.cfgF ⟨sa, mid, sb, eb, w.lenB⟩) t k) := by
  rcases ht with h | h | h | h | h | h <;> subst h
  · left; exact ⟨rfl, rfl, rfl⟩
  · right; left; exact ⟨rfl, Or.inl rfl, rfl⟩
  · right; left; exact ⟨rfl, Or.inr rfl, rfl⟩
  · right; right; left; exact ⟨Or.inl rfl, rfl, rfl⟩
  · right; right; right
    refine ⟨rfl, rfl, joinCost_six_cases _ k, fun hterm => ?_⟩
    have hj : sb + k = 0 ∨ sb + k = w.lenB := by simpa [STW.termK] using hterm
    rw [joinCost_six]
    exact joinCost_six_term h4 h5 hk hj
  · right; right; left; exact ⟨Or.inr rfl, rfl, rfl⟩

/-- With no row before the cut the second part does not start with a gap-in-a column.  It would be entered by
transition 2, after an aligned column; then nothing precedes the cut, and the column would be the backward kernel's
last one, in the last cell of its row, which `stepOK` excludes. -/
theorem head_ne_gapA (c : KCfg) (Y1 X2 rest : List Col) (bk : Kind) (t : Int)
    (hs : Col.skip ∉ Y1) (hA : consA Y1 = 0) (hX2 : X2 ≠ [])
    (hfk : lastKind .A Y1 = fkOf t) (hbk : lastKind bk X2.reverse = bkOf t)
    (hok : walkOK c 0 0 bk X2.reverse = true) (hn : c.n ≤ consB Y1 + consB X2) :
    (X2 ++ rest).head? ≠ some Col.gapA := by
  cases X2 with
  | nil => exact absurd rfl hX2
  | cons d cs =>
    intro hd
    obtain rfl : d = Col.gapA := by simpa using hd
    rw [List.reverse_cons] at hbk hok
    rw [lastKind_snoc] at hbk
    obtain rfl : t = 2 := by
      by_cases h2 : t = 2
      · exact h2
      · rw [bkOf, if_neg h2] at hbk
        split at hbk <;> cases hbk
    rcases lastKind_A_cases .A Y1 hs (hfk.trans rfl) with h | ⟨h, _⟩
    · subst h
      rw [walkOK_append, Bool.and_eq_true] at hok
      have hstep := hok.2
      simp only [walkOK, Bool.and_true, stepOK, Bool.and_eq_true, decide_eq_true_eq, Nat.zero_add,
        consB_reverse] at hstep
      simp only [consB_nil, Nat.zero_add, consB_gapA] at hn
      omega
    · omega

/-- one level of the recursion of `aln_runner` on a problem of size `lenA × lenB`, without the columns inside its rectangle:
rows `sa..ea` with middle row `mid`, cells `sb..eb`, the columns `P1` before the rectangle and `P2` behind it -/
structure Level (lenA lenB : Nat) where
  sa : Nat
  mid : Nat
  ea : Nat
  sb : Nat
  eb : Nat
  P1 : List Col
  P2 : List Col
  sa_le_mid : sa ≤ mid
  mid_lt_ea : mid < ea
  ea_le : ea ≤ lenA
  sb_lt_eb : sb < eb
  eb_le : eb ≤ lenB
  adj1 : adjOK .A P1 = true
  adj2 : adjOK .A P2 = true
  a1 : consA P1 = sa
  b1 : consB P1 = sb
  a2 : consA P2 + ea = lenA
  b2 : consB P2 + eb = lenB
  /-- the kernel's test "my first row is terminal" (`startb == 0`) is right, or no gap-in-a column can stand there -/
  invF : (sb = 0 ↔ sa = 0) ∨ lastKind .A P1 = .GB
  invB : (eb = lenB ↔ ea = lenA) ∨ firstKind .A P2 = .GB

/-- `P` is a complete alignment, and `Φ L X` holds on every level `L` of `P` with the middle row the controller uses, `X` being the
columns of `P` in its rectangle -/
structure OnEveryLevel (lenA lenB : Nat) (P : List Col) (Φ : Level lenA lenB → List Col → Prop) : Prop where
  hadj : adjOK .A P = true
  hA : consA P = lenA
  hB : consB P = lenB
  on : ∀ L X, P = L.P1 ++ X ++ L.P2 → L.mid = (L.ea - L.sa) / 2 + L.sa → Φ L X

theorem OnEveryLevel.mono {lenA lenB : Nat} {P : List Col} {Φ Ψ : Level lenA lenB → List Col → Prop}
    (H : OnEveryLevel lenA lenB P Φ) (h : ∀ L X, P = L.P1 ++ X ++ L.P2 → Φ L X → Ψ L X) : OnEveryLevel lenA lenB P Ψ :=
  ⟨H.hadj, H.hA, H.hB, fun L X hP hmid => h L X hP (H.on L X hP hmid)⟩

namespace Level
variable {lenA lenB : Nat} (L : Level lenA lenB)

abbrev fk : Kind := lastKind .A L.P1
abbrev bk : Kind := firstKind .A L.P2
abbrev n : Nat := L.eb - L.sb
abbrev m1 : Nat := L.mid - L.sa
abbrev m2 : Nat := L.ea - L.mid
/-- the rectangle the forward kernel is called on: the rows above the middle row -/
abbrev rF : Rect := ⟨L.sa, L.mid, L.sb, L.eb, lenB⟩
/-- the rectangle the backward kernel is called on: the rows below the middle row -/
abbrev rB : Rect := ⟨L.mid, L.ea, L.sb, L.eb, lenB⟩
abbrev cF (w : STW) : KCfg := w.cfgF L.rF
abbrev cB (w : STW) : KCfg := w.cfgB L.rB

abbrev meet (w : STW) : Meet := ⟨L.cF w, L.cB w, rfl, L.fk, L.bk, L.m1, L.m2⟩

theorem m2_pos : 1 ≤ L.m2 := Nat.sub_pos_of_lt L.mid_lt_ea
theorem sa_add_m1 : L.sa + L.m1 = L.mid := Nat.add_sub_of_le L.sa_le_mid
theorem mid_add_m2 : L.mid + L.m2 = L.ea := Nat.add_sub_of_le (Nat.le_of_lt L.mid_lt_ea)
theorem sb_add_n : L.sb + L.n = L.eb := Nat.add_sub_of_le (Nat.le_of_lt L.sb_lt_eb)
theorem n_le : L.n ≤ lenB := Nat.le_trans (Nat.sub_le _ _) L.eb_le

theorem whole {X : List Col} (hadj : adjOK L.fk X = true) (hc : (lastKind L.fk X).compat L.bk = true)
    (hA : consA X = L.m1 + L.m2) (hB : consB X = L.n) :
    adjOK .A (L.P1 ++ X ++ L.P2) = true ∧ consA (L.P1 ++ X ++ L.P2) = lenA ∧ consB (L.P1 ++ X ++ L.P2) = lenB := by
  have h1 := L.sa_le_mid; have h2 := L.mid_lt_ea; have h4 := L.sb_lt_eb; have a1 := L.a1; have b1 := L.b1; have a2 := L.a2; have b2 := L.b2
  simp only [Level.m1, Level.m2] at hA
  simp only [Level.n] at hB
  refine ⟨?_, ?_, ?_⟩
  · rw [adjOK_append, adjOK_append, L.adj1, hadj, lastKind_append, adjOK_change_start .A _ L.P2 L.adj2 (fun _ => hc)]
    rfl
  · simp only [consA_append]; omega
  · simp only [consB_append]; omega

theorem inner {X : List Col} (hadj : adjOK .A (L.P1 ++ X ++ L.P2) = true) (hA : consA (L.P1 ++ X ++ L.P2) = lenA)
    (hB : consB (L.P1 ++ X ++ L.P2) = lenB) :
    adjOK L.fk X = true ∧ (lastKind L.fk X).compat L.bk = true ∧ consA X = L.m1 + L.m2 ∧ consB X = L.n := by
  have h1 := L.sa_le_mid; have h2 := L.mid_lt_ea; have h4 := L.sb_lt_eb; have a1 := L.a1; have b1 := L.b1; have a2 := L.a2; have b2 := L.b2
  simp only [consA_append, consB_append] at hA hB
  refine ⟨(adj_pieces hadj).2.1, compat_firstKind _ _ (adj_pieces hadj).2.2, ?_, ?_⟩
  · show consA X = L.mid - L.sa + (L.ea - L.mid)
    omega
  · show consB X = L.eb - L.sb
    omega

end Level

theorem rest_extent {len s e p1 x p2 : Nat} (hs : p1 + x + p2 = len) (h1 : p1 = s) (hx : x = e - s) (h : s ≤ e) :
    p2 + e = len := by omega

def Level.ofRect {lenA lenB sa mid ea sb eb : Nat} {P1 X P2 : List Col} (h1 : sa ≤ mid) (h2 : mid < ea) (h3 : ea ≤ lenA)
    (h4 : sb < eb) (h5 : eb ≤ lenB) (hadj : adjOK .A (P1 ++ X ++ P2) = true)
    (hA : consA (P1 ++ X ++ P2) = lenA) (hB : consB (P1 ++ X ++ P2) = lenB)
    (hP1a : consA P1 = sa) (hP1b : consB P1 = sb) (hXa : consA X = ea - sa) (hXb : consB X = eb - sb)
    (hInvF : (sb = 0 ↔ sa = 0) ∨ lastKind .A P1 = .GB) (hInvB : (eb = lenB ↔ ea = lenA) ∨ firstKind .A P2 = .GB) :
    Level lenA lenB :=
  ⟨sa, mid, ea, sb, eb, P1, P2, h1, h2, h3, h4, h5, (adj_pieces hadj).1,
    adjOK_change_start _ .A P2 (adj_pieces hadj).2.2 (fun _ => Kind.compat_A_left _), hP1a, hP1b,
    rest_extent (by simpa only [consA_append] using hA) hP1a hXa (Nat.le_of_lt (Nat.lt_of_le_of_lt h1 h2)),
    rest_extent (by simpa only [consB_append] using hB) hP1b hXb (Nat.le_of_lt h4), hInvF, hInvB⟩

theorem Level.bounds (w : STW) (L : Level w.lenA w.lenB) (hgpo : 0 ≤ w.gpo) (hgpe : 0 ≤ w.gpe) {k : Nat} {t : Int}
    {X1 X2r : List Col} (hadm : Adm L.n k t) (hw : MeetWalk (L.meet w) k t X1 X2r) :
    let Y := L.P1 ++ (X1 ++ X2r.reverse) ++ L.P2
    let C := walkSc w.kcfg 0 0 .A L.P1 + walkSc w.mirror.kcfg 0 0 .A L.P2.reverse
    let R := (L.meet w).read X1 X2r t
    w.walk 0 0 .A Y - w.gpo * (nterm Y : Int) - w.slackLo ≤ R + C ∧ R + C ≤ w.walk 0 0 .A Y + w.slackHi := by
  dsimp only
  obtain ⟨f1, f2, f3, f4⟩ := hw.fills hadm L.m2_pos
  obtain ⟨hadj, hA, hB⟩ := L.whole f1 f2 f3 f4
  clear f1 f2 f3 f4
  obtain ⟨hokF, hX1a, hX1b, hfk, hokB, hX2a, hX2b, hbk⟩ := hw
  obtain ⟨X2, rfl⟩ : ∃ X2, X2r = X2.reverse := ⟨X2r.reverse, (List.reverse_reverse _).symm⟩
  rw [consA_reverse] at hX2a
  rw [consB_reverse] at hX2b
  simp only [List.reverse_reverse] at hadj hA hB ⊢
  have a1 := L.a1; have b1 := L.b1; have a2 := L.a2; have b2 := L.b2; have h2 := L.mid_lt_ea; have h3 := L.ea_le
  -- the extents of the two parts without truncated subtraction: `omega` below sees them in a large context
  have eA1 : L.sa + consA X1 = L.mid := by rw [hX1a]; exact L.sa_add_m1
  have eA2 : L.mid + consA X2 = L.ea := by rw [hX2a]; exact L.mid_add_m2
  have eB : L.sb + (consB X1 + consB X2) = L.eb := by
    rw [hX1b, hX2b]
    show L.sb + (k + (L.n - k)) = L.eb
    rw [Nat.add_sub_of_le hadm.le]
    exact L.sb_add_n
  clear hX1a hX2a hX2b
  have hYeq : L.P1 ++ (X1 ++ X2) ++ L.P2 = (L.P1 ++ X1) ++ (X2 ++ L.P2) := by simp
  rw [hYeq] at hadj hA hB
  have hskip := adjOK_noskip _ _ hadj
  have hsX2 : Col.skip ∉ X2 := fun h => hskip (by simp [h])
  have hsP2 : Col.skip ∉ L.P2 := fun h => hskip (by simp [h])
  have hX2ne : X2 ≠ [] := consA_pos_ne_nil (by omega)
  have hAs := hA; have hBs := hB
  simp only [consA_append, consB_append] at hAs hBs
  obtain ⟨hokY1, hscY1⟩ := walk_ctx (cG := w.kcfg) L.P1 X1 (X2 ++ L.P2)
    (by rw [a1, b1]; exact w.subCfgF L.rF L.sb_lt_eb L.eb_le rfl)
    (by rw [List.append_assoc] at hadj; exact hadj)
    (by show consB (L.P1 ++ (X1 ++ (X2 ++ L.P2))) = w.lenB; simp only [consB_append]; omega)
    (by simp only [consA_append]; omega) hokF (by rw [a1, b1]; exact L.invF)
  -- backward side: the same in the mirrored problem
  have hrevY : (L.P1 ++ X1 ++ (X2 ++ L.P2)).reverse = L.P2.reverse ++ (X2.reverse ++ (X1.reverse ++ L.P1.reverse)) := by
    simp
  have hlkP2 : lastKind .A L.P2.reverse = firstKind .A L.P2 := lastKind_reverse _ _ hsP2
  obtain ⟨hokY2, hscY2⟩ := walk_ctx (cG := w.mirror.kcfg) L.P2.reverse X2.reverse (X1.reverse ++ L.P1.reverse)
    (w.subCfgB L.rB _ _ L.sb_lt_eb (by rw [consA_reverse]; exact a2) (by rw [consB_reverse]; exact b2) rfl)
    (by rw [← hrevY]; exact adjOK_reverse .A .A _ hadj (Kind.compat_A_right _))
    (by show consB _ = w.lenB; simp only [consB_append, consB_reverse]; omega)
    (by simp only [consA_append, consA_reverse]; omega)
    (by rw [hlkP2]; exact hokB)
    (by rw [hlkP2, consA_reverse, consB_reverse]
        rcases L.invB with h | h
        · left; omega
        · exact Or.inr h)
  rw [← List.reverse_append] at hokY2
  rw [← List.reverse_append, hlkP2] at hscY2
  have hx : lastKind .A (L.P1 ++ X1) = fkOf t := by rw [lastKind_append]; exact hfk
  have hy : firstKind .A (X2 ++ L.P2) = bkOf t := by
    rw [firstKind_append_ne _ _ _ hX2ne, firstKind_indep .A L.bk X2 hX2ne hsX2, ← lastKind_reverse _ _ hsX2]
    exact hbk
  have hcA : consA (L.P1 ++ X1) = L.mid := by rw [consA_append]; omega
  have hcB : consB (L.P1 ++ X1) = L.sb + k := by rw [consB_append, b1, hX1b]
  have hJ : w.JoinOK (lastKind .A (L.P1 ++ X1)) (firstKind .A (X2 ++ L.P2)) (consA (L.P1 ++ X1)) (consB (L.P1 ++ X1))
      (joinCost (L.cF w) t k) := by
    rw [hx, hy, hcA, hcB]
    exact w.joinOK_of_valid _ L.sb_lt_eb L.eb_le (by omega) hadm.valid
  -- no gap-in-a column of the second part stands in row 0 of the whole problem
  have hrowB : noGapAAt w.lenA 0 (X2 ++ L.P2).reverse = true := by
    by_cases hm : 0 < L.mid
    · exact noGapAAt_of_lt _ _ _ (by rw [consA_reverse, consA_append]; omega)
    · exact noGapAAt_reverse w.lenA _ (fun h => hskip (List.mem_append_right _ h)) (by rw [consA_append]; omega)
        (head_ne_gapA _ (L.P1 ++ X1) X2 L.P2 _ t (fun h => hskip (List.mem_append_left _ h))
          (by omega) hX2ne hx hbk hokB (by show L.eb - L.sb ≤ _; omega))
  have hmain := STW.level_bounds w hgpo hgpe (L.P1 ++ X1) (X2 ++ L.P2) (joinCost (L.cF w) t k)
    (by simp [hX2ne]) hadj hA hB hokY1 hokY2 (by rw [hcA]; omega) hrowB hJ
  rw [← hYeq] at hmain
  have hR : w.levelRead (L.P1 ++ X1) (X2 ++ L.P2) (joinCost (L.cF w) t k) =
      (L.meet w).read X1 X2.reverse t + (walkSc w.kcfg 0 0 .A L.P1 + walkSc w.mirror.kcfg 0 0 .A L.P2.reverse) := by
    simp only [STW.levelRead, hscY1, hscY2, Meet.read_eq, hX1b, Level.cF, Level.cB, Level.fk, Level.bk]
    omega
  rw [hR] at hmain
  exact hmain

end Kalign

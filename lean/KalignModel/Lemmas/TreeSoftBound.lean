import KalignModel.Lemmas.TreeSoftUpgma
import KalignModel.Lemmas.SoftLenTerm
import KalignModel.Lemmas.NoFaultTree
import KalignModel.Lemmas.SoftClass
import KalignModel.Lemmas.SoftMul
import KalignModel.Lemmas.Basic.OptionMapM
import KalignModel.Lemmas.Basic.ArrayGetD
import KalignModel.Lemmas.Basic.Iter
/-!
# The values in `upgmaS` stay bounded, so `upgmaS` always finds a pair

After `k` rounds every entry is at most `upgBnd k = (2²³ + k)·2¹⁰`: `(x + y) * 0.5F + 0.001F` of two values below a binary32 number
`c·2¹⁰` stays below `(c + 1)·2¹⁰` (`joinVal_absLe`), and a round leaves old entries and such joins (`joinedDmS_spec`; its alternatives
are writes outside the stored arrays, which are dropped: the matrix carries no size invariant).  So for at most 2²² samples and the
matrix of `distMatrixS` (at most 2³³, `distEntryS_absLe`) every round finds an active pair below `FLT_MAX`: `upgmaS_some`, `smallTreeS_some`.
-/
set_option exponentiation.threshold 512
namespace Kalign
open SoftF32

theorem sHalf_finite : sHalf.isFinite = true := by decide
theorem sMilli_absLe : absLe sMilli (2 ^ 10) := by unfold absLe; decide
theorem ofNat_absLe_u32 {n : Nat} (hn : n < 4294967296) : absLe (SoftF32.ofNat n) (2 ^ 32) := by
  obtain ⟨g, hg⟩ := roundNatU_spec n 149
  have := bounded_of_rne Nat.one_pos (rneAtD_one.2 hg) (c := 1) (t := 32 + 149) (by decide) (by decide)
    (by rw [Nat.one_mul, Nat.mul_one, Nat.pow_add]; exact Nat.mul_le_mul_right _ (Nat.le_of_lt hn))
  unfold absLe SoftF32.ofNat
  rw [mag_pack _ _ (roundNat_lt _ _)]
  rwa [Nat.one_mul, Nat.pow_add] at this

theorem mul_half_AbsV {a : SoftF32} {c t : Nat} (ha : AbsV a (2 * (c * 2 ^ t))) (hc : c < 16777216) (ht : t ≤ 253) :
    AbsV (SoftF32.mul a sHalf) (c * 2 ^ t) :=
  mul_le_grid ha.finite sHalf_finite hc ht (by
    rw [show magVal sHalf.mag = 2 ^ 148 by decide]
    exact Nat.le_trans (Nat.mul_le_mul_right _ ha.2) (Nat.le_of_eq (by rw [Nat.mul_comm 2, Nat.mul_assoc, ← Nat.pow_succ'])))

theorem mul_half_absLe {a : SoftF32} {c t : Nat} (ha : absLe a (2 * (c * 2 ^ t))) (hc : c < 16777216) (ht : t ≤ 104) :
    absLe (SoftF32.mul a sHalf) (c * 2 ^ t) := by
  have := mul_half_AbsV (c := c) (t := t + 149) ⟨ha.1, by rw [Nat.pow_add, ← Nat.mul_assoc c, ← Nat.mul_assoc 2]; exact ha.2⟩ hc
    (by omega)
  unfold absLe
  rwa [Nat.pow_add, ← Nat.mul_assoc] at this

/-- the bound of the matrix entries after `k` rounds -/
def upgBnd (k : Nat) : Nat := (8388608 + k) * 2 ^ 10

theorem joinVal_absLe {x y : SoftF32} {k : Nat} (hk : k + 1 < 8388608) (hx : absLe x (upgBnd k)) (hy : absLe y (upgBnd k)) :
    absLe (joinVal x y) (upgBnd (k + 1)) := by
  unfold joinVal
  have h1 : absLe (SoftF32.add x y) (upgBnd k + upgBnd k) :=
    add_absLe (c := 8388608 + k) (t := 11) hx hy (by unfold upgBnd; omega) (by omega) (by decide)
  have h1' : absLe (SoftF32.add x y) (2 * ((8388608 + k) * 2 ^ 10)) := by
    have e : upgBnd k + upgBnd k = 2 * ((8388608 + k) * 2 ^ 10) := by unfold upgBnd; omega
    rwa [e] at h1
  have h2 := mul_half_absLe (c := 8388608 + k) (t := 10) h1' (by omega) (by decide)
  have h3 := add_absLe (c := 8388608 + (k + 1)) (t := 10) h2 sMilli_absLe (by omega) (by omega) (by decide)
  have e : (8388608 + k) * 2 ^ 10 + 2 ^ 10 = upgBnd (k + 1) := by unfold upgBnd; omega
  rwa [e] at h3

theorem lt_fltMax_of_absLe {x : SoftF32} {k : Nat} (hk : k < 8388608) (hx : absLe x (upgBnd k)) :
    SoftF32.lt x SoftF32.fltMax = true := by
  rw [lt_iff_key (isNaN_of_finite hx.finite) (by decide), show SoftF32.fltMax.key = 2139095039 by decide]
  have := mag_lt_of_absLe hx (Nat.lt_of_le_of_lt (show upgBnd k ≤ 16777216 * 2 ^ 10 by unfold upgBnd; omega) (by decide))
  have := natAbs_key x
  omega

/-- every entry (the default `0` outside the matrix included) is finite and bounded by `N` -/
def MatBnd (N : Nat) (dm : FMatS) : Prop := ∀ i j, absLe (dm.get i j) N

theorem FMatS.get_set (dm : FMatS) (i j i' j' : Nat) (v : SoftF32) :
    (dm.set i j v).get i' j' =
      if i' = i ∧ j' = j ∧ i < dm.size ∧ j < (dm.getD i #[]).size then v else dm.get i' j' := by
  unfold FMatS.set FMatS.get
  rw [getD_setIfInBounds]
  by_cases h1 : i = i' ∧ i < dm.size
  · rw [if_pos h1, getD_setIfInBounds]
    obtain ⟨rfl, hs⟩ := h1
    by_cases h2 : j = j' ∧ j < (dm.getD i #[]).size
    · rw [if_pos h2, if_pos ⟨rfl, h2.1.symm, hs, h2.2⟩]
    · rw [if_neg h2, if_neg (by intro h; exact h2 ⟨h.2.1.symm, h.2.2.2⟩)]
  · rw [if_neg h1, if_neg (by intro h; exact h1 ⟨h.1.symm, h.2.2.1⟩)]

theorem FMatS.get_set_ne (dm : FMatS) (i j i' j' : Nat) (v : SoftF32) (h : ¬ (i' = i ∧ j' = j)) :
    (dm.set i j v).get i' j' = dm.get i' j' := by
  rw [FMatS.get_set, if_neg (by intro h'; exact h ⟨h'.1, h'.2.1⟩)]

theorem FMatS.get_set_cases (dm : FMatS) (i j i' j' : Nat) (v : SoftF32) :
    (dm.set i j v).get i' j' = v ∨ (dm.set i j v).get i' j' = dm.get i' j' := by
  rw [FMatS.get_set]
  split
  · exact Or.inl rfl
  · exact Or.inr rfl

/-- the row update `for (j…) if (j != b) dm[a][j] = joinVal dm[a][j] dm[b][j]` over a list of distinct columns: it reads only
entries not yet written -/
theorem rowFold_val (a b : Nat) (hab : a ≠ b) (dm0 : FMatS) :
    ∀ l : List Nat, l.Nodup →
      (∀ j, j ∉ l → (l.foldr (fun j dm => if j ≠ b then dm.set a j (joinVal (dm.get a j) (dm.get b j)) else dm) dm0).get a j =
        dm0.get a j) ∧
      (∀ i j, i ≠ a → (l.foldr (fun j dm => if j ≠ b then dm.set a j (joinVal (dm.get a j) (dm.get b j)) else dm) dm0).get i j =
        dm0.get i j) ∧
      (∀ j, (l.foldr (fun j dm => if j ≠ b then dm.set a j (joinVal (dm.get a j) (dm.get b j)) else dm) dm0).get a j = dm0.get a j ∨
        (j ≠ b ∧ (l.foldr (fun j dm => if j ≠ b then dm.set a j (joinVal (dm.get a j) (dm.get b j)) else dm) dm0).get a j =
          joinVal (dm0.get a j) (dm0.get b j))) := by
  intro l
  induction l with
  | nil =>
    intro _
    exact ⟨fun _ _ => rfl, fun _ _ _ => rfl, fun _ => Or.inl rfl⟩
  | cons x xs ih =>
    intro hnd
    obtain ⟨hx, hnd'⟩ := List.nodup_cons.1 hnd
    obtain ⟨i2, i3, i4⟩ := ih hnd'
    rw [List.foldr_cons]
    generalize xs.foldr (fun j dm => if j ≠ b then dm.set a j (joinVal (dm.get a j) (dm.get b j)) else dm) dm0 = dm1 at i2 i3 i4
    by_cases hxb : x ≠ b
    · rw [if_pos hxb]
      refine ⟨?_, ?_, ?_⟩
      · intro j hj
        have hjx : j ≠ x := fun e => hj (e ▸ List.mem_cons_self)
        rw [FMatS.get_set_ne _ _ _ _ _ _ (by intro h; exact hjx h.2)]
        exact i2 j (fun h => hj (List.mem_cons_of_mem _ h))
      · intro i j hi
        rw [FMatS.get_set_ne _ _ _ _ _ _ (by intro h; exact hi h.1)]
        exact i3 i j hi
      · intro j
        rw [FMatS.get_set]
        split
        · rename_i hc
          right
          refine ⟨by rw [hc.2.1]; exact hxb, ?_⟩
          rw [hc.2.1, i2 x hx, i3 b x (fun e => hab e.symm)]
        · exact i4 j
    · rw [if_neg hxb]
      exact ⟨fun j hj => i2 j (fun h => hj (List.mem_cons_of_mem _ h)), i3, i4⟩

theorem rowFold_inv (a b : Nat) (hab : a ≠ b) (M M' : Nat) (hMM : M ≤ M')
    (hjoin : ∀ x y, absLe x M → absLe y M → absLe (joinVal x y) M') (dm0 : FMatS) (h0 : MatBnd M dm0) :
    ∀ l : List Nat, l.Nodup →
      MatBnd M' (l.foldr (fun j dm => if j ≠ b then dm.set a j (joinVal (dm.get a j) (dm.get b j)) else dm) dm0) ∧
      (∀ j, j ∉ l → (l.foldr (fun j dm => if j ≠ b then dm.set a j (joinVal (dm.get a j) (dm.get b j)) else dm) dm0).get a j =
        dm0.get a j) ∧
      (∀ i j, i ≠ a → (l.foldr (fun j dm => if j ≠ b then dm.set a j (joinVal (dm.get a j) (dm.get b j)) else dm) dm0).get i j =
        dm0.get i j) := by
  intro l hl
  obtain ⟨h2, h3, h4⟩ := rowFold_val a b hab dm0 l hl
  refine ⟨?_, h2, h3⟩
  intro i j
  by_cases hi : i = a
  · subst hi
    rcases h4 j with e | ⟨_, e⟩ <;> rw [e]
    · exact (h0 i j).mono hMM
    · exact hjoin _ _ (h0 i j) (h0 b j)
  · rw [h3 i j hi]
    exact (h0 i j).mono hMM

/-- the symmetrisation `for (j…) dm[j][a] = dm[a][j]` -/
theorem symFold_val (a : Nat) (D : FMatS) :
    ∀ l : List Nat,
      (∀ i j, j ≠ a → (l.foldr (fun j dm => dm.set j a (dm.get a j)) D).get i j = D.get i j) ∧
      ((l.foldr (fun j dm => dm.set j a (dm.get a j)) D).get a a = D.get a a) ∧
      (∀ i, (l.foldr (fun j dm => dm.set j a (dm.get a j)) D).get i a = D.get i a ∨
        (l.foldr (fun j dm => dm.set j a (dm.get a j)) D).get i a = D.get a i) := by
  intro l
  induction l with
  | nil => exact ⟨fun _ _ _ => rfl, rfl, fun _ => Or.inl rfl⟩
  | cons x xs ih =>
    obtain ⟨i1, i2, i3⟩ := ih
    rw [List.foldr_cons]
    generalize xs.foldr (fun j dm => dm.set j a (dm.get a j)) D = R at i1 i2 i3
    have hrow : ∀ i, R.get a i = D.get a i := by
      intro i
      by_cases hia : i = a
      · rw [hia]; exact i2
      · exact i1 a i hia
    refine ⟨?_, ?_, ?_⟩
    · intro i j hj
      rw [FMatS.get_set_ne _ _ _ _ _ _ (by intro h; exact hj h.2)]
      exact i1 i j hj
    · rw [FMatS.get_set]
      split
      · rename_i hc
        rw [← hc.1]; exact i2
      · exact i2
    · intro i
      rw [FMatS.get_set]
      split
      · rename_i hc
        right
        rw [← hc.1]; exact hrow i
      · exact i3 i

/-- the diagonal entry is `0` or, outside the stored matrix, what row `a` held -/
theorem joinedDmS_spec (n a b : Nat) (hab : a ≠ b) (dm : FMatS) :
    (∀ i j, i ≠ a → j ≠ a → (joinedDmS n a b dm).get i j = dm.get i j) ∧
    (∀ j, j ≠ a → (joinedDmS n a b dm).get a j = dm.get a j ∨
      (j ≠ b ∧ (joinedDmS n a b dm).get a j = joinVal (dm.get a j) (dm.get b j))) ∧
    (∀ i, i ≠ a → (joinedDmS n a b dm).get i a = dm.get i a ∨ (joinedDmS n a b dm).get i a = (joinedDmS n a b dm).get a i) ∧
    ((joinedDmS n a b dm).get a a = SoftF32.zero ∨ (joinedDmS n a b dm).get a a = dm.get a a ∨
      (joinedDmS n a b dm).get a a = joinVal (dm.get a a) (dm.get b a)) := by
  obtain ⟨_, r2, r3⟩ := rowFold_val a b hab dm (List.range n) List.nodup_range
  unfold joinedDmS
  generalize (List.range n).foldr (fun j dm => if j ≠ b then dm.set a j (joinVal (dm.get a j) (dm.get b j)) else dm) dm = R at r2 r3
  obtain ⟨s1, s2, s3⟩ := symFold_val a (R.set a a SoftF32.zero) (List.range n)
  generalize (List.range n).foldr (fun j dm => dm.set j a (dm.get a j)) (R.set a a SoftF32.zero) = F at s1 s2 s3
  have hrowF : ∀ j, j ≠ a → F.get a j = R.get a j := by
    intro j hj
    rw [s1 a j hj, FMatS.get_set_ne _ _ _ _ _ _ (by intro h; exact hj h.2)]
  refine ⟨?_, ?_, ?_, ?_⟩
  · intro i j hi hj
    rw [s1 i j hj, FMatS.get_set_ne _ _ _ _ _ _ (by intro h; exact hi h.1)]
    exact r2 i j hi
  · intro j hj
    rw [hrowF j hj]
    exact r3 j
  · intro i hi
    rcases s3 i with h | h
    · left
      rw [h, FMatS.get_set_ne _ _ _ _ _ _ (by intro h; exact hi h.1)]
      exact r2 i a hi
    · right
      rw [h, hrowF i hi, FMatS.get_set_ne _ _ _ _ _ _ (by intro h; exact hi h.2)]
  · rw [s2]
    rcases FMatS.get_set_cases R a a a a SoftF32.zero with h | h
    · exact Or.inl h
    · rw [h]
      exact Or.inr ((r3 a).imp id And.right)

theorem joinedDmS_bnd (n a b : Nat) (hab : a ≠ b) {M M' : Nat} (hMM : M ≤ M')
    (hjoin : ∀ x y, absLe x M → absLe y M → absLe (joinVal x y) M') {dm : FMatS} (h : MatBnd M dm) :
    MatBnd M' (joinedDmS n a b dm) := by
  obtain ⟨d1, d2, d3, d4⟩ := joinedDmS_spec n a b hab dm
  have row : ∀ j, absLe ((joinedDmS n a b dm).get a j) M' := by
    intro j
    by_cases hj : j = a
    · subst hj
      rcases d4 with e | e | e <;> rw [e]
      · exact absLe_zero M'
      · exact (h j j).mono hMM
      · exact hjoin _ _ (h j j) (h b j)
    · rcases d2 j hj with e | ⟨_, e⟩ <;> rw [e]
      · exact (h a j).mono hMM
      · exact hjoin _ _ (h a j) (h b j)
  intro i j
  by_cases hi : i = a
  · rw [hi]; exact row j
  · by_cases hj : j = a
    · rw [hj]
      rcases d3 i hi with e | e <;> rw [e]
      · exact (h i a).mono hMM
      · exact row i
    · rw [d1 i j hi hj]
      exact (h i j).mono hMM

theorem upgmaRoundS_bnd (n : Nat) (k : Nat) (hk : k + 1 < 8388608) (s s' : UpgmaStS) (hb : MatBnd (upgBnd k) s.dm)
    (hr : upgmaRoundS n s = some s') : MatBnd (upgBnd (k + 1)) s'.dm := by
  obtain ⟨hf, _, _, _, _, _, _, _, e⟩ := upgmaRound_slotsS n s s' hr
  obtain ⟨hab, _, _, _⟩ := (scan_invS n s.dm s.act).2 hf
  rw [e]
  exact joinedDmS_bnd n _ _ (Nat.ne_of_lt hab) (by unfold upgBnd; omega) (fun x y hx hy => joinVal_absLe hk hx hy) hb

theorem upgma_rounds_bndS (dm : List (List SoftF32)) (samples : List Nat)
    (hb : MatBnd (upgBnd 0) (upgmaInitS dm samples).dm) :
    ∀ k, k < 8388608 → ∀ s, iterOpt (upgmaRoundS samples.length) k (upgmaInitS dm samples) = some s → MatBnd (upgBnd k) s.dm := by
  intro k hk s hs
  refine iterOpt_inv (upgmaRoundS samples.length) (fun k s => k < 8388608 → MatBnd (upgBnd k) s.dm) ?_
    (upgmaInitS dm samples) (fun _ => hb) k s hs hk
  intro k s s' h hr hk
  exact upgmaRoundS_bnd samples.length k hk s s' (h (by omega)) hr

theorem upgmaS_some (dm : List (List SoftF32)) (samples : List Nat) (hn : samples.length ≠ 0)
    (hlen : samples.length ≤ 4194304) (hb : MatBnd (upgBnd 0) (upgmaInitS dm samples).dm) :
    ∃ t, upgmaS dm samples = some t ∧ ∀ x, x ∈ t.leaves ↔ x ∈ samples := by
  apply upgma_someS dm samples hn
  intro j s hj hs i i' _ _ _ _
  exact lt_fltMax_of_absLe (k := j) (by omega) (upgma_rounds_bndS dm samples hb j (by omega) s hs i i')

theorem calcDistanceRaw_lt {a b : List Nat} {k : Nat} (h : calcDistanceRaw a b = some k) : k < 4294967296 := by
  unfold calcDistanceRaw at h
  cases hb : (if a.length > b.length then bpmBlock a b else bpmBlock b a) with
  | none => rw [hb] at h; cases h
  | some z =>
    rw [hb] at h
    simp only [Option.map_some, Option.some.injEq] at h
    subst h
    omega

/-- a distance entry is finite and at most `2³² + 2¹⁰ ≤ upgBnd 0 = 2³³` -/
theorem distEntryS_absLe {a b : List Nat} {d : SoftF32} (h : distEntryS a b = some d) : absLe d (upgBnd 0) := by
  cases hr : calcDistanceRaw a b with
  | none => simp [distEntryS, calcDistanceS, hr] at h
  | some k =>
    cases (distEntryS_of_raw hr).symm.trans h
    have h1 := ofNat_absLe_u32 (calcDistanceRaw_lt hr)
    have h2 : absLe (lenTermS a.length b.length) (2 ^ 10) := (lenTermS_absLe _ _).mono (by decide)
    have h3 := add_absLe (c := 4194305) (t := 10) h1 h2 (by decide) (by decide) (by decide)
    exact h3.mono (by unfold upgBnd; decide)

theorem distEntryS_some (a b : List Nat) (ha : ∀ c ∈ a, c < 13) (hb : ∀ c ∈ b, c < 13) : ∃ d, distEntryS a b = some d := by
  obtain ⟨k, hk⟩ := Pipeline.calcDistanceRaw_some a b ha hb
  exact ⟨_, by rw [distEntryS, calcDistanceS, hk]; rfl⟩

theorem distMatrixS_some (seqs : List (List Nat)) (h : ∀ s ∈ seqs, ∀ c ∈ s, c < 13) :
    ∃ dm, distMatrixS seqs = some dm ∧ ∀ r ∈ dm, ∀ x ∈ r, absLe x (upgBnd 0) := by
  unfold distMatrixS
  simp only
  obtain ⟨a, ha, _, hP⟩ := mapM_option_spec
    (fun x => (List.range seqs.length).mapM fun y => distEntryS (seqs.getD (max x y) []) (seqs.getD (min x y) []))
    (fun r => ∀ x ∈ r, absLe x (upgBnd 0)) (List.range seqs.length) (by
      intro x _
      obtain ⟨r, hr, _, hPr⟩ := mapM_option_spec
        (fun y => distEntryS (seqs.getD (max x y) []) (seqs.getD (min x y) [])) (fun d => absLe d (upgBnd 0))
        (List.range seqs.length) (by
          intro y _
          obtain ⟨d, hd⟩ := distEntryS_some _ _ (Pipeline.getD_lt13 seqs h (max x y)) (Pipeline.getD_lt13 seqs h (min x y))
          exact ⟨d, hd, distEntryS_absLe hd⟩)
      exact ⟨r, hr, hPr⟩)
  exact ⟨a, ha, hP⟩

theorem matBnd_of_rows (N : Nat) (dm : List (List SoftF32)) (h : ∀ r ∈ dm, ∀ x ∈ r, absLe x N) :
    MatBnd N (dm.map List.toArray).toArray := by
  intro i j
  unfold FMatS.get
  simp only [Array.getD_eq_getD_getElem?, List.getElem?_toArray, List.getElem?_map]
  cases hi : dm[i]? with
  | none => simp only [Option.map_none, Option.getD_none]; exact absLe_zero N
  | some r =>
    simp only [Option.map_some, Option.getD_some, List.getElem?_toArray]
    cases hj : r[j]? with
    | none => simp only [Option.getD_none]; exact absLe_zero N
    | some x =>
      simp only [Option.getD_some]
      exact h r (List.mem_of_getElem? hi) x (List.mem_of_getElem? hj)

namespace Pipeline
open Kalign.Kmeans

theorem smallTreeS_some (codes : Array (List Nat)) (h13 : ∀ s ∈ codes.toList, ∀ c ∈ s, c < 13)
    (samples : List Nat) (hne : samples ≠ []) (hlen : samples.length ≤ 4194304) :
    ∃ t, smallTreeS codes samples = some t := by
  have hn : samples.length ≠ 0 := fun h => hne (List.length_eq_zero_iff.1 h)
  obtain ⟨dm, hdm, hb⟩ := distMatrixS_some (samples.map fun s => codes.getD s []) (by
    intro s hs
    simp only [List.mem_map] at hs
    obtain ⟨i, _, rfl⟩ := hs
    exact arr_getD_lt13 codes h13 i)
  obtain ⟨g, hg, _⟩ := upgmaS_some dm samples hn hlen (matBnd_of_rows _ dm hb)
  exact ⟨GTree.toTree g, by unfold smallTreeS; rw [hdm]; simp [hg]⟩

theorem smallTreeS_eq_some {codes : Array (List Nat)} {samples : List Nat} {t : Tree} (h : smallTreeS codes samples = some t) :
    ∃ dm g, distMatrixS (samples.map fun s => codes.getD s []) = some dm ∧ upgmaS dm samples = some g ∧ t = GTree.toTree g := by
  unfold smallTreeS at h
  cases hd : distMatrixS (samples.map fun s => codes.getD s []) with
  | none => rw [hd] at h; cases h
  | some dm =>
    rw [hd, Option.bind_some] at h
    cases hu : upgmaS dm samples with
    | none => rw [hu] at h; cases h
    | some g =>
      rw [hu] at h
      cases h
      exact ⟨dm, g, rfl, hu, rfl⟩

theorem smallTreeS_leaves_perm (codes : Array (List Nat)) (samples : List Nat) (t : Tree)
    (h : smallTreeS codes samples = some t) : t.leaves.Perm samples := by
  obtain ⟨dm, g, _, hu, rfl⟩ := smallTreeS_eq_some h
  rw [GTree.leaves_toTree]
  exact upgma_leaves_permS hu

theorem smallTreeS_leaves (codes : Array (List Nat)) (samples : List Nat) (t : Tree)
    (h : smallTreeS codes samples = some t) : ∀ x, x ∈ t.leaves ↔ x ∈ samples :=
  fun _ => (smallTreeS_leaves_perm codes samples t h).mem_iff

end Pipeline
end Kalign

import KalignModel.Model.DoAlign
import KalignModel.Model.ScoreST
import KalignModel.Lemmas.PathCols
/-!
When `do_align` (`aln_run.c`) hands the operands to the controller in the other order, it turns the path round with
`mirror_path_n` (`aln_setup.c`).  `mirrorPath_pathFrom`: that function maps the path of a column list to the path of the
list with `gapA` and `gapB` exchanged.  `scoreST_swap`: for a symmetric matrix the exchanged list scores the same on the
exchanged sequences, and `nterm` is carried over (for `adjOK`: `adjOK_swap` in Lemmas/PathCols.lean; for `ValidCols`, `consA`, `consB`:
`validCols_swap`, `consA_swap`, `consB_swap` beside `Col.swap` in Lemmas/Progressive.lean).
`dpCodes` / `dpCodesOf` name what `do_align` makes of a controller run: the path, turned round if the operands were swapped, expanded.
-/
namespace Kalign

theorem take_succ_set {α : Type} (o : List α) (j : Nat) (v : α) (h : j < o.length) :
    (o.set j v).take (j + 1) = o.take j ++ [v] := by
  rw [List.take_add_one, List.take_set_of_le (Nat.le_refl j), List.getElem?_set_self h]
  rfl

theorem take_succ_of_get {α : Type} (o : List α) (j : Nat) (x : α) (h : o[j]? = some x) :
    o.take (j + 1) = o.take j ++ [x] := by
  rw [List.take_add_one, h]
  rfl

def mirrorUpd (o : List Int) (ip : Nat × Int) : List Int :=
  if ip.2 ≤ 0 then o else o.set (ip.2.toNat - 1) (ip.1 + 1 : Nat)

theorem mirror_fold (P : List Col) :
    ∀ (i0 j0 : Nat) (o : List Int), j0 + consB P ≤ o.length →
      (∀ t, j0 ≤ t → t < j0 + consB P → o[t]? = some (-1)) →
      (((pathFrom j0 P).zipIdx i0).map fun (p, i) => (i, p)).foldl mirrorUpd o =
        o.take j0 ++ pathFrom i0 (P.map Col.swap) ++ o.drop (j0 + consB P) := by
  induction P with
  | nil => intro i0 j0 o _ _; simp [pathFrom]
  | cons c cs ih =>
    intro i0 j0 o hlen hneg
    cases c with
    | skip =>
      simp only [consB_skip] at hlen hneg
      simp only [pathFrom, List.map_cons, Col.swap, consB_skip]
      exact ih i0 j0 o hlen hneg
    | both =>
      simp only [consB_both] at hlen hneg
      simp only [pathFrom, List.map_cons, Col.swap, consB_both, List.zipIdx_cons, List.foldl_cons]
      have hupd : mirrorUpd o (i0, ((j0 + 1 : Nat) : Int)) = o.set j0 ((i0 + 1 : Nat) : Int) := by
        unfold mirrorUpd
        have : ¬ (((j0 + 1 : Nat) : Int) ≤ 0) := by omega
        rw [if_neg this]
        congr 1
      rw [hupd, ih (i0 + 1) (j0 + 1) (o.set j0 ((i0 + 1 : Nat) : Int)) (by simp; omega) (fun t h1 h2 => by
        rw [List.getElem?_set_ne (by omega)]; exact hneg t (by omega) (by omega))]
      rw [take_succ_set o j0 _ (by omega), List.drop_set_of_lt (by omega),
        show j0 + 1 + consB cs = j0 + (consB cs + 1) by omega]
      simp
    | gapA =>
      simp only [consB_gapA] at hlen hneg
      simp only [pathFrom, List.map_cons, Col.swap, consB_gapA]
      rw [ih i0 (j0 + 1) o (by omega) (fun t h1 h2 => hneg t (by omega) (by omega)),
        take_succ_of_get o j0 (-1) (hneg j0 (Nat.le_refl _) (by omega)),
        show j0 + 1 + consB cs = j0 + (consB cs + 1) by omega]
      simp
    | gapB =>
      simp only [consB_gapB] at hlen hneg
      simp only [pathFrom, List.map_cons, Col.swap, consB_gapB, List.zipIdx_cons, List.foldl_cons]
      have hupd : mirrorUpd o (i0, (-1 : Int)) = o := by unfold mirrorUpd; simp
      rw [hupd, ih (i0 + 1) j0 o hlen hneg]

theorem mirrorPath_pathFrom (P : List Col) (lenA : Nat) (hB : consB P = lenA) :
    mirrorPath lenA (pathFrom 0 P) = pathFrom 0 (P.map Col.swap) := by
  unfold mirrorPath
  have := mirror_fold P 0 0 (List.replicate lenA (-1)) (by simp [hB]) (fun t _ h2 => by
    rw [List.getElem?_replicate, if_pos (by omega)])
  show List.foldl mirrorUpd (List.replicate lenA (-1)) _ = _
  rw [this, hB]
  simp

def STW.swap (w : STW) : STW := ⟨w.lenB, w.lenA, w.gpo, w.gpe, w.tgpe, fun i j => w.sc j i⟩

theorem STW.walk_swap (w : STW) (cs : List Col) (i j : Nat) (st : Kind) :
    w.swap.walk j i st.swap (cs.map Col.swap) = w.walk i j st cs := by
  induction cs generalizing i j st with
  | nil => rfl
  | cons c cs ih =>
    have hT : ∀ g, w.swap.termK (Kind.swap g) j i = w.termK g i j := fun g => by cases g <;> rfl
    have hE : ∀ u v, w.swap.stE (Kind.swap u) (Kind.swap v) j i = w.stE u v i j := by
      intro u v
      cases u <;> cases v <;> simp only [STW.stE, Kind.swap] <;>
        first
          | rfl
          | (rw [show w.swap.termK .GB j i = w.termK .GA i j from rfl]; rfl)
          | (rw [show w.swap.termK .GA j i = w.termK .GB i j from rfl]; rfl)
    simp only [List.map_cons, STW.walk, colKind_swap, hE]
    have hcol : w.swap.stCol c.swap j i = w.stCol c i j := by
      cases c <;> simp only [STW.stCol, Col.swap]
      · rfl
      · rw [show w.swap.termK .GB j i = w.termK .GA i j from rfl]; rfl
      · rw [show w.swap.termK .GA j i = w.termK .GB i j from rfl]; rfl
    have hp : stepP j c.swap = stepK j c := by cases c <;> rfl
    have hk : stepK i c.swap = stepP i c := by cases c <;> rfl
    rw [hcol, hp, hk, ih]

theorem scoreST_swap (sub : Nat → Nat → Int) (hsym : ∀ x y, sub x y = sub y x) (gpo gpe tgpe : Int) (cs : List Col)
    (a b : List Nat) : scoreST sub gpo gpe tgpe (cs.map Col.swap) b a = scoreST sub gpo gpe tgpe cs a b := by
  unfold scoreST
  have := STW.walk_swap ⟨a.length, b.length, gpo, gpe, tgpe, fun i j => sub (a.getD i 0) (b.getD j 0)⟩ cs 0 0 .A
  rw [← this]
  unfold STW.swap
  simp only [Kind.swap]
  congr 2
  funext i j
  exact hsym _ _

theorem nterm_swap (cs : List Col) : nterm (cs.map Col.swap) = nterm cs := by
  unfold nterm
  rw [List.head?_map, List.getLast?_map]
  congr 1
  · cases cs.head? with
    | none => rfl
    | some c => cases c <;> rfl
  · cases cs.getLast? with
    | none => rfl
    | some c => cases c <;> rfl

/-- the column codes `do_align` computes from the operands it hands to the controller (`Model/DoAlign.lean`, the lines
between `initMem` and `expandPath`); `la × lb` is the problem as the controller sees it, `lenA × lenB` the caller's -/
def dpCodes (entry : Entry) (ap : AlnParam ExactScore) (ops : Operands ExactScore) (swapped : Bool)
    (la lb lenA lenB : Nat) : Option (List Nat) :=
  let m := alnRun entry ap ops la lb (initMem la lb)
  if m.fault then none
  else
    let raw := m.pathEntries la
    let path := if swapped then mirrorPath lenA raw else raw
    expandPath lenB path

/-- `dpCodes` on any score carrier -/
def dpCodesOf {α : Type} [Score α] (entry : Entry) (ap : AlnParam α) (ops : Operands α) (swapped : Bool)
    (la lb lenA lenB : Nat) : Option (List Nat) :=
  let m := alnRun entry ap ops la lb (initMem la lb)
  if m.fault then none
  else
    let raw := m.pathEntries la
    let path := if swapped then mirrorPath lenA raw else raw
    expandPath lenB path

end Kalign

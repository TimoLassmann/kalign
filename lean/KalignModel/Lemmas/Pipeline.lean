import KalignModel.Model.Pipeline
import KalignModel.Lemmas.Progressive
import KalignModel.Lemmas.Canon
/-!
# Lemmas about the composed pipeline model (Model/Pipeline.lean)

The frame around stages 3-7 (`finish`: rows attached to the canonical list by position, then `msa_sort_rank`) commutes with
any map on the rows (`finish_map`) and looks at names and ranks only (`finish_congr`); `canon` looks at an input sequence only
through a key from which name and length can be read (`canon_key`); stages 3-7 depend on the residues only through the two
lists of internal codes (`stagesG_pattern`).  `NodeOK` is what the C01 and C10 arguments know about a completed node of
`recursive_aln`.  `kalignRunWith_codes_only`: a run depends on its input only through the byte check, the detected kind and the
keys `codeKey`: same error, or the same gap pattern under every name.
-/
namespace Kalign.Pipeline
open Kalign List

/-- total stand-in for the `< 100` branch: the tree `small` builds, or a caterpillar where `small` faults; with it `bisect` of
Model/Kmeans.lean returns every tree `bisectO` returns (`bisectO_ok_bisect`), so Props/C03Kmeans.lean applies to those -/
def smallOr (small : List Nat → Option Tree) (l : List Nat) : Tree := (small l).getD (Kmeans.caterpillar l)

theorem bisectO_ok_bisect (avx : Bool) (dm : Array (Array Float32)) (na : Nat) (small : List Nat → Option Tree) :
    ∀ (fuel : Nat) (samples : List Nat) (t : Tree), bisectO avx dm na small fuel samples = .ok t →
      Kmeans.bisect avx dm na (smallOr small) fuel samples = .ok t := by
  have hsmall : ∀ fuel samples t, samples.length < Kmeans.kmSmall → bisectO avx dm na small fuel samples = .ok t →
      Kmeans.bisect avx dm na (smallOr small) fuel samples = .ok t := by
    intro fuel samples t hlt h
    unfold bisectO at h
    unfold Kmeans.bisect
    rw [if_pos hlt] at h ⊢
    cases hs : small samples with
    | none => rw [hs] at h; cases h
    | some t' => rw [hs] at h; cases h; simp [smallOr, hs]
  intro fuel
  induction fuel with
  | zero =>
    intro samples t h
    by_cases hlt : samples.length < Kmeans.kmSmall
    · exact hsmall 0 samples t hlt h
    · unfold bisectO at h
      rw [if_neg hlt] at h
      cases h
  | succ fuel ih =>
    intro samples t h
    by_cases hlt : samples.length < Kmeans.kmSmall
    · exact hsmall _ samples t hlt h
    · unfold bisectO at h
      unfold Kmeans.bisect
      rw [if_neg hlt] at h ⊢
      simp only at h ⊢
      cases hb : Kmeans.bestSplit avx dm na samples with
      | none => rw [hb] at h; cases h
      | some b =>
        rw [hb] at h
        simp only at h ⊢
        cases hl : bisectO avx dm na small fuel b.sl with
        | error e => rw [hl] at h; cases h
        | ok l =>
          cases hr : bisectO avx dm na small fuel b.sr with
          | error e => rw [hl, hr] at h; cases h
          | ok r =>
            rw [hl, hr] at h
            simp only [Except.ok.injEq] at h
            subst h
            rw [ih _ _ hl, ih _ _ hr]

def NodeOK (seqs : Nat → List Nat) (g : Group Nat) (len : Nat) : Prop :=
  GroupOK seqs g ∧ g ≠ [] ∧ len = g.plen

theorem finalGaps_some {g : Group Nat} {i : Nat} {gp : List Nat} (h : finalGaps g i = some gp) :
    ∃ m ∈ g, m.idx = i ∧ m.seq.gaps = gp := by
  unfold finalGaps at h
  cases hf : g.find? (·.idx = i) with
  | none => simp [hf] at h
  | some m =>
    simp only [hf, Option.map_some, Option.some.injEq] at h
    refine ⟨m, mem_of_find?_eq_some hf, ?_, h⟩
    have := find?_some hf
    simpa using this

theorem length_convertN (id : Nat) (s : List Nat) : (convertN id s).length = s.length := by
  simp [convertN, convert]

section frame
variable {β : Type}

theorem mem_sortRank_zip {c : List RSeq} {rows : List β} {z : RSeq × β}
    (hz : z ∈ sortRankBy (fun x : RSeq × β => x.1.rank) (c.zip rows)) :
    ∃ i, ∃ (h1 : i < c.length) (h2 : i < rows.length), z = (c[i], rows[i]) := by
  have hz' : z ∈ c.zip rows := (mergeSort_perm _ _).mem_iff.1 hz
  obtain ⟨i, hi, rfl⟩ := mem_iff_getElem.1 hz'
  have hi' := hi
  simp only [length_zip, Nat.lt_min] at hi'
  exact ⟨i, hi'.1, hi'.2, by simp⟩

theorem finish_map {γ : Type} (f : β → γ) (c : List RSeq) (rows : List β) :
    (finish c rows).map (fun x => (x.1, f x.2)) = finish c (rows.map f) := by
  unfold finish
  have hz : c.zip (rows.map f) = (c.zip rows).map (fun z : RSeq × β => (z.1, f z.2)) := by
    rw [zip_map_right]; rfl
  have hs : sortRankBy (fun x : RSeq × γ => x.1.rank) ((c.zip rows).map (fun z : RSeq × β => (z.1, f z.2)))
      = (sortRankBy (fun x : RSeq × β => x.1.rank) (c.zip rows)).map (fun z : RSeq × β => (z.1, f z.2)) := by
    unfold sortRankBy
    exact (map_mergeSort (r := fun a b : RSeq × β => decide (a.1.rank ≤ b.1.rank))
      (s := fun a b : RSeq × γ => decide (a.1.rank ≤ b.1.rank))
      (f := fun z : RSeq × β => (z.1, f z.2)) (l := c.zip rows) (fun a _ b _ => rfl)).symm
  rw [hz, hs, map_map, map_map]
  rfl

end frame

theorem degap_cons_none {α : Type} (r : List (Option α)) : degap (none :: r) = degap r := by simp [degap]
theorem degap_cons_some {α : Type} (c : α) (r : List (Option α)) : degap (some c :: r) = c :: degap r := by simp [degap]

/-- letter map `f`, gap glyph `d` (`render`: `id`, `'-'`; `PipelineFile.renderB`: `charByte`, `45`) -/
theorem filter_renderWith {β : Type} [DecidableEq β] (f : Char → β) (d : β) (r : GRow) (h : ∀ c ∈ degap r, f c ≠ d) :
    (r.map fun | some c => f c | none => d).filter (· ≠ d) = (degap r).map f := by
  induction r with
  | nil => rfl
  | cons x r ih =>
    cases x with
    | none =>
      rw [degap_cons_none] at h ⊢
      rw [map_cons, filter_cons_of_neg (by simp)]
      exact ih h
    | some c =>
      rw [degap_cons_some] at h ⊢
      rw [map_cons, filter_cons_of_pos (by simpa using h c (by simp)), ih (fun e he => h e (by simp [he])), map_cons]

def lookup (out : List (Name × Row)) (n : Name) : Option Row := (out.find? fun x => x.1 = n).map (·.2)

/-- stages 3-7 as the `pipeline` argument of `run` (rendered rows; no rows when a stage fails) -/
def pipeRows (avx : Bool) (bio : Bio) (type : Int) (gpo gpe tgpe : Float32) (V : List (Name × List Char)) : List Row :=
  match stagesG avx bio type gpo gpe tgpe V with
  | .ok rows => rows.map render
  | .error _ => []

theorem kalignRun_eq (inp : List InSeq) (type : Int) (gpo gpe tgpe : Float32) :
    kalignRun inp type gpo gpe tgpe =
      if hasBadByte inp then .error .badByte else
      match canon inp with
      | none => .error .tooFew
      | some c =>
        match stagesG true (bioOf detectF inp) type gpo gpe tgpe (view c) with
        | .error e => .error e
        | .ok rows => .ok (finish c (rows.map render)) := by
  unfold kalignRun kalignRunG kalignRunWith
  by_cases hb : hasBadByte inp = true
  · simp only [hb, if_true]; rfl
  · simp only [hb, Bool.false_eq_true, if_false]
    cases canon inp with
    | none => rfl
    | some c =>
      simp only
      cases stagesG true (bioOf detectF inp) type gpo gpe tgpe (view c) with
      | error e => rfl
      | ok rows =>
        simp only [Except.map]
        rw [finish_map]

theorem lookup_names (l : List (RSeq × Row)) :
    lookup (l.map fun x => (x.1.name, x.2)) = rowsByName (some l) :=
  funext fun n => (rowsByName_some l n).symm

theorem hasBadByte_perm {inp inp' : List InSeq} (hp : inp'.Perm inp) : hasBadByte inp' = hasBadByte inp := by
  unfold hasBadByte
  exact hp.any_eq

theorem histogram_perm {s s' : List (List Nat)} (hp : s.Perm s') : histogram s = histogram s' := by
  unfold histogram
  apply map_congr_left
  intro c _
  have e : ∀ l : List Nat, l.foldl (· + ·) 0 = l.sum := by
    intro l
    rw [List.sum_eq_foldl]
  rw [e, e]
  exact (hp.map _).sum_nat

theorem bioOf_perm (det : List Nat → Bio) {inp inp' : List InSeq} (hp : inp'.Perm inp) :
    bioOf det inp' = bioOf det inp := by
  unfold bioOf
  rw [histogram_perm (hp.map _)]

section keys
variable {K : Type}

def keyR (κ : InSeq → K) (x : RSeq) : K × Nat := (κ ⟨x.name, x.seq⟩, x.rank)

def canonKeys (nm : K → Name) (ln : K → Nat) (ks : List K) : Option (List (K × Nat)) :=
  if ks.length ≤ 1 then none else
  let kept := ks.zipIdx.filter fun x => decide (ln x.1 ≠ 0)
  if 1 < kept.length then
    some (kept.mergeSort fun a b => decide (cmpLenName (ln a.1) (nm a.1) (ln b.1) (nm b.1) ≤ 0))
  else none

theorem canon_key (κ : InSeq → K) (nm : K → Name) (ln : K → Nat)
    (hnm : ∀ x, nm (κ x) = x.name) (hln : ∀ x, ln (κ x) = x.seq.length) (inp : List InSeq) :
    (canon inp).map (·.map (keyR κ)) = canonKeys nm ln (inp.map κ) := by
  unfold canon essentialInputCheck canonKeys
  rw [essentialCheck_eq]
  by_cases h1 : inp.length ≤ 1
  · simp [h1]
  · simp only [h1, if_false, length_map]
    have hF : ((inp.map κ).zipIdx.filter fun x => decide (ln x.1 ≠ 0)) =
        (inp.zipIdx.filter fun x => decide (x.1.seq.length ≠ 0)).map (fun x => (κ x.1, x.2)) := by
      rw [zipIdx_map, filter_map]
      congr 1
      apply filter_congr
      intro x _
      simp [hln]
    rw [hF, length_map]
    generalize (inp.zipIdx.filter fun x => decide (x.1.seq.length ≠ 0)) = F
    by_cases h2 : 1 < F.length
    · simp only [h2, decide_true, if_true, Option.map_some, Option.some.injEq]
      have e1 : sortLenName (F.map fun x => ({ name := x.1.name, seq := x.1.seq, rank := x.2 } : RSeq)) =
          (F.mergeSort fun a b => decide (cmpLenName a.1.seq.length a.1.name b.1.seq.length b.1.name ≤ 0)).map
            fun x => ({ name := x.1.name, seq := x.1.seq, rank := x.2 } : RSeq) := by
        unfold sortLenName
        exact (map_mergeSort (r := fun a b : InSeq × Nat =>
            decide (cmpLenName a.1.seq.length a.1.name b.1.seq.length b.1.name ≤ 0))
          (s := leLenName) (f := fun x : InSeq × Nat => ({ name := x.1.name, seq := x.1.seq, rank := x.2 } : RSeq))
          (l := F) (fun a _ b _ => rfl)).symm
      have e0 : (F.map fun x : InSeq × Nat =>
            match x with | (x, i) => ({ name := x.name, seq := x.seq, rank := i } : RSeq)) =
          F.map fun x => ({ name := x.1.name, seq := x.1.seq, rank := x.2 } : RSeq) := by
        apply map_congr_left
        intro x _
        rfl
      rw [e0, e1, map_map]
      have e2 : (keyR κ ∘ fun x : InSeq × Nat => ({ name := x.1.name, seq := x.1.seq, rank := x.2 } : RSeq)) =
          fun x : InSeq × Nat => (κ x.1, x.2) := rfl
      rw [e2]
      exact map_mergeSort (fun a _ b _ => by simp only [hnm, hln])
    · simp [h2]

theorem canon_key_congr (κ : InSeq → K) (nm : K → Name) (ln : K → Nat)
    (hnm : ∀ x, nm (κ x) = x.name) (hln : ∀ x, ln (κ x) = x.seq.length) {inp₁ inp₂ : List InSeq}
    (h : inp₁.map κ = inp₂.map κ) :
    (canon inp₁).map (·.map (keyR κ)) = (canon inp₂).map (·.map (keyR κ)) := by
  rw [canon_key κ nm ln hnm hln, canon_key κ nm ln hnm hln, h]

end keys

theorem finish_congr {β : Type} {c₁ c₂ : List RSeq} (R : List β)
    (h : c₁.map (fun x => (x.name, x.rank)) = c₂.map (fun x => (x.name, x.rank))) :
    finish c₁ R = finish c₂ R := by
  have key : ∀ c : List RSeq, finish c R =
      (((c.map fun x => (x.name, x.rank)).zip R).mergeSort fun a b : (Name × Nat) × β => decide (a.1.2 ≤ b.1.2)).map
        fun z => (z.1.1, z.2) := by
    intro c
    unfold finish sortRankBy
    have hz : (c.map fun x => (x.name, x.rank)).zip R = (c.zip R).map fun z : RSeq × β => ((z.1.name, z.1.rank), z.2) := by
      rw [zip_map_left]; rfl
    rw [hz, ← map_mergeSort (r := fun a b : RSeq × β => decide (a.1.rank ≤ b.1.rank))
      (f := fun z : RSeq × β => ((z.1.name, z.1.rank), z.2)) (fun a _ b _ => rfl), map_map]
    rfl
  rw [key c₁, key c₂, h]

def gapPattern (r : GRow) : List Bool := r.map Option.isSome

theorem gapPattern_zipWith (L₁ L₂ : List (List Char)) (gaps : List (List Nat))
    (h : L₁.map length = L₂.map length) :
    (zipWith makeLinear L₁ gaps).map gapPattern = (zipWith makeLinear L₂ gaps).map gapPattern := by
  induction L₁ generalizing L₂ gaps with
  | nil =>
    cases L₂ with
    | nil => rfl
    | cons _ _ => simp at h
  | cons s L₁ ih =>
    cases L₂ with
    | nil => simp at h
    | cons s' L₂ =>
      simp only [map_cons, cons.injEq] at h
      cases gaps with
      | nil => rfl
      | cons g gaps =>
        simp only [zipWith_cons_cons, map_cons]
        rw [ih L₂ gaps h.2]
        congr 1
        exact isSome_makeLinear s s' g h.1

theorem stagesG_pattern (avx : Bool) (bio : Bio) (type : Int) (gpo gpe tgpe : Float32) (V₁ V₂ : List (Name × List Char))
    (h1 : V₁.map (fun v => convertN (treeAlphabet bio) (bytesOf v.2)) = V₂.map (fun v => convertN (treeAlphabet bio) (bytesOf v.2)))
    (h2 : V₁.map (fun v => convertN (alnAlphabet bio) (bytesOf v.2)) = V₂.map (fun v => convertN (alnAlphabet bio) (bytesOf v.2))) :
    (stagesG avx bio type gpo gpe tgpe V₁).map (·.map gapPattern) =
    (stagesG avx bio type gpo gpe tgpe V₂).map (·.map gapPattern) := by
  have hlen : (V₁.map (·.2)).map length = (V₂.map (·.2)).map length := by
    have := congrArg (fun l => l.map length) h2
    simpa [map_map, Function.comp_def, length_convertN, bytesOf] using this
  unfold stagesG
  cases bio with
  | unknown => rfl
  | protein =>
    simp only [map_map, Function.comp_def] at h1 h2 ⊢
    rw [h1, h2]
    cases core avx Bio.protein _ _ type gpo gpe tgpe with
    | error e => rfl
    | ok gaps => simp only [Except.map, Except.ok.injEq]; exact gapPattern_zipWith _ _ gaps hlen
  | dna =>
    simp only [map_map, Function.comp_def] at h1 h2 ⊢
    rw [h1, h2]
    cases core avx Bio.dna _ _ type gpo gpe tgpe with
    | error e => rfl
    | ok gaps => simp only [Except.map, Except.ok.injEq]; exact gapPattern_zipWith _ _ gaps hlen

theorem length_render (r : GRow) : (render r).length = r.length := by simp [render]

theorem filter_render (r : GRow) (hr : ∀ c ∈ degap r, c ≠ '-') :
    (render r).filter (· ≠ '-') = degap r :=
  (filter_renderWith id '-' r hr).trans (map_id _)

theorem toNat_ofNat_of_valid (n : Nat) (hv : n.isValidChar) : (Char.ofNat n).toNat = n := by
  unfold Char.ofNat
  rw [dif_pos hv]
  simp [Char.ofNatAux, Char.toNat, UInt32.toNat]

/-- what the run can see of an input sequence once the kind of the input (`bio`) is fixed; the length is the length of either
code list -/
def codeKey (bio : Bio) (x : InSeq) : Name × List Int × List Int :=
  (x.name, convert (treeAlphabet bio) (bytesOf x.seq), convert (alnAlphabet bio) (bytesOf x.seq))

def gapPatterns (out : List (Name × GRow)) : List (Name × List Bool) := out.map fun x => (x.1, gapPattern x.2)

theorem kalignRunWith_codes_only (det : List Nat → Bio) (avx : Bool) (inp₁ inp₂ : List InSeq) (type : Int)
    (gpo gpe tgpe : Float32)
    (hbad : hasBadByte inp₁ = hasBadByte inp₂) (hbio : bioOf det inp₁ = bioOf det inp₂)
    (hkey : inp₁.map (codeKey (bioOf det inp₁)) = inp₂.map (codeKey (bioOf det inp₁))) :
    (kalignRunWith det avx inp₁ type gpo gpe tgpe).map gapPatterns =
    (kalignRunWith det avx inp₂ type gpo gpe tgpe).map gapPatterns := by
  unfold kalignRunWith
  rw [← hbad, ← hbio]
  by_cases hb : hasBadByte inp₁ = true
  · simp only [hb, if_true]
  · simp only [hb, Bool.false_eq_true, if_false]
    generalize bioOf det inp₁ = bio at hkey ⊢
    have hc := canon_key_congr (codeKey bio) (fun k => k.1) (fun k => k.2.1.length) (fun _ => rfl)
      (fun x => by simp [codeKey, convert, bytesOf]) hkey
    cases h₁ : canon inp₁ with
    | none =>
      rw [h₁] at hc
      cases h₂ : canon inp₂ with
      | none => rfl
      | some _ => rw [h₂] at hc; cases hc
    | some c₁ =>
      rw [h₁] at hc
      cases h₂ : canon inp₂ with
      | none => rw [h₂] at hc; cases hc
      | some c₂ =>
        rw [h₂] at hc
        simp only [Option.map_some, Option.some.injEq] at hc
        have hnr : c₁.map (fun x => (x.name, x.rank)) = c₂.map (fun x => (x.name, x.rank)) := by
          have := congrArg (fun l => l.map fun k : (Name × List Int × List Int) × Nat => (k.1.1, k.2)) hc
          simpa [keyR, codeKey, map_map, Function.comp_def] using this
        have ht : (view c₁).map (fun v => convertN (treeAlphabet bio) (bytesOf v.2)) =
            (view c₂).map (fun v => convertN (treeAlphabet bio) (bytesOf v.2)) := by
          have := congrArg (fun l => l.map fun k : (Name × List Int × List Int) × Nat => k.1.2.1.map toU8) hc
          simpa [view, keyR, codeKey, convertN, map_map, Function.comp_def] using this
        have ha : (view c₁).map (fun v => convertN (alnAlphabet bio) (bytesOf v.2)) =
            (view c₂).map (fun v => convertN (alnAlphabet bio) (bytesOf v.2)) := by
          have := congrArg (fun l => l.map fun k : (Name × List Int × List Int) × Nat => k.1.2.2.map toU8) hc
          simpa [view, keyR, codeKey, convertN, map_map, Function.comp_def] using this
        have hp := stagesG_pattern avx bio type gpo gpe tgpe (view c₁) (view c₂) ht ha
        simp only
        cases s₁ : stagesG avx bio type gpo gpe tgpe (view c₁) with
        | error e₁ =>
          rw [s₁] at hp
          cases s₂ : stagesG avx bio type gpo gpe tgpe (view c₂) with
          | error e₂ => rw [s₂] at hp; simpa [Except.map] using hp
          | ok _ => rw [s₂] at hp; simp [Except.map] at hp
        | ok rows₁ =>
          rw [s₁] at hp
          cases s₂ : stagesG avx bio type gpo gpe tgpe (view c₂) with
          | error _ => rw [s₂] at hp; simp [Except.map] at hp
          | ok rows₂ =>
            rw [s₂] at hp
            simp only [Except.map, Except.ok.injEq] at hp ⊢
            unfold gapPatterns
            rw [finish_map, finish_map, hp]
            exact finish_congr _ hnr

end Kalign.Pipeline

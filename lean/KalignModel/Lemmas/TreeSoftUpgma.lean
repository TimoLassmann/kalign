import KalignModel.Model.TreeSoft
import KalignModel.Lemmas.NoFaultUpgma
/-!
# The `SoftF32` `upgmaS` (Model/TreeSoft.lean): combinatorics of the rounds

`scanMinS` is the pair scan of Lemmas/UpgmaRound.lean with `SoftF32.lt` and a round of `upgmaRoundS` joins two slots, so the rounds are a
`JoinRounds` (`upgmaRoundsS`): the leaves of the tree are a permutation of the samples (`upgma_leaves_permS`), and `upgmaS` returns a tree
as long as the entries of active pairs stay below `FLT_MAX` (`upgma_someS`) — as for the Float32 `upgma` (Lemmas/NoFaultUpgma.lean).
Nothing here depends on the values in the matrix; that the entries stay below `FLT_MAX` is Lemmas/TreeSoftBound.lean.
-/
namespace Kalign

theorem scanMin_eqS (n : Nat) (dm : FMatS) (act : Array Bool) :
    scanMinS n dm act =
      pairScan (fun x y => SoftF32.lt x y = true) dm.get act (fun v i j => { mx := v, a := i, b := j, found := true }) ScanS.mx n
        { mx := SoftF32.fltMax, a := 0, b := 0, found := false } :=
  rfl

theorem ScanS.hmk : Reports (fun v i j => ({ mx := v, a := i, b := j, found := true } : ScanS)) ScanS.mx ScanS.a ScanS.b ScanS.found :=
  fun _ _ _ => ⟨rfl, rfl, rfl, rfl⟩

theorem scan_invS (n : Nat) (dm : FMatS) (act : Array Bool) :
    ((scanMinS n dm act).found = false → (scanMinS n dm act).mx = SoftF32.fltMax) ∧
    ((scanMinS n dm act).found = true →
      (scanMinS n dm act).a < (scanMinS n dm act).b ∧ (scanMinS n dm act).b < n ∧
        act.getD (scanMinS n dm act).a false = true ∧ act.getD (scanMinS n dm act).b false = true) := by
  rw [scanMin_eqS]
  exact ⟨pairScan_fresh ScanS.a ScanS.b ScanS.found ScanS.hmk n _,
    fun h => (pairScan_pair ScanS.a ScanS.b ScanS.found ScanS.hmk n _ rfl rfl h).2⟩

theorem scan_foundS (n : Nat) (dm : FMatS) (act : Array Bool) (i j : Nat) (hij : i < j) (hj : j < n)
    (hai : act.getD i false = true) (haj : act.getD j false = true) (hlt : SoftF32.lt (dm.get i j) SoftF32.fltMax = true) :
    (scanMinS n dm act).found = true := by
  rw [scanMin_eqS]
  exact pairScan_found ScanS.a ScanS.b ScanS.found ScanS.hmk n _ i j hij hj hai haj hlt

def AllBelowS (n : Nat) (s : UpgmaStS) : Prop :=
  ∀ i j, i < j → j < n → s.act.getD i false = true → s.act.getD j false = true → SoftF32.lt (s.dm.get i j) SoftF32.fltMax = true

/-- the slot invariant as `upgma_rounds_pcS` states it; proofs use `SlotInv` (Lemmas/UpgmaRound.lean), which implies it -/
structure UInvS (n : Nat) (samples : List Nat) (k : Nat) (s : UpgmaStS) : Prop where
  tsize : s.tree.size = n
  asize : s.act.size = n
  sync : ∀ i, i < n → s.act.getD i false = (s.tree.getD i none).isSome
  count : ((List.range n).filter fun i => s.act.getD i false).length + k = n
  leaves : ∀ x, x ∈ samples ↔ ∃ i, i < n ∧ ∃ t, s.tree.getD i none = some t ∧ x ∈ t.leaves
  last : s.last < n ∧ s.act.getD s.last false = true

theorem UInvS.of_slots {n : Nat} {samples : List Nat} {k : Nat} {s : UpgmaStS} (h : SlotInv n samples k s.act s.tree s.last) :
    UInvS n samples k s :=
  ⟨h.tsize, h.asize, h.sync, h.count, h.mem, h.last⟩

/-- `dm[a][j] = (dm[a][j] + dm[b][j]) * 0.5F + 0.001F` -/
def joinVal (x y : SoftF32) : SoftF32 := SoftF32.add (SoftF32.mul (SoftF32.add x y) sHalf) sMilli

/-- the matrix after the round that joins `a` and `b`: the row update `for (j…) if (j != b) dm[a][j] = joinVal dm[a][j] dm[b][j]`,
`dm[a][a] = 0`, then the symmetrisation `for (j…) dm[j][a] = dm[a][j]` -/
def joinedDmS (n a b : Nat) (dm : FMatS) : FMatS :=
  (List.range n).foldr (fun j dm => dm.set j a (dm.get a j))
    (((List.range n).foldr (fun j dm => if j ≠ b then dm.set a j (joinVal (dm.get a j) (dm.get b j)) else dm) dm).set a a SoftF32.zero)

theorem upgmaRound_slotsS (n : Nat) (s s' : UpgmaStS) (hr : upgmaRoundS n s = some s') :
    let r := scanMinS n s.dm s.act
    r.found = true ∧ ∃ ta tb, s.tree.getD r.a none = some ta ∧ s.tree.getD r.b none = some tb ∧
      s'.act = s.act.setIfInBounds r.b false ∧
      s'.tree = (s.tree.setIfInBounds r.a (some (.node ta tb))).setIfInBounds r.b none ∧ s'.last = r.a ∧
      s'.dm = joinedDmS n r.a r.b s.dm := by
  unfold upgmaRoundS at hr
  cases hf : (scanMinS n s.dm s.act).found with
  | false => simp [hf] at hr
  | true =>
    simp only [hf, Bool.not_true, Bool.false_eq_true, if_false] at hr
    split at hr
    · rename_i ta tb hta htb
      cases hr
      exact ⟨hf, ta, tb, hta, htb, rfl, rfl, rfl, rfl⟩
    · cases hr

def upgmaRoundsS (n : Nat) : JoinRounds n UpgmaStS where
  act := UpgmaStS.act
  tree := UpgmaStS.tree
  last := UpgmaStS.last
  round := upgmaRoundS n
  below s i j := SoftF32.lt (s.dm.get i j) SoftF32.fltMax = true
  found s := (scanMinS n s.dm s.act).found
  a s := (scanMinS n s.dm s.act).a
  b s := (scanMinS n s.dm s.act).b
  pair s := (scan_invS n s.dm s.act).2
  finds s := scan_foundS n s.dm s.act
  joins s s' hr := by
    obtain ⟨hf, ta, tb, hta, htb, e1, e2, e3, _⟩ := upgmaRound_slotsS n s s' hr
    exact ⟨hf, ta, tb, hta, htb, e1, e2, e3⟩
  returns s ta tb hf hta htb := by
    unfold upgmaRoundS
    simp only [hf, Bool.not_true, Bool.false_eq_true, if_false, hta, htb]
    exact ⟨_, rfl⟩

def upgmaInitS (dm : List (List SoftF32)) (samples : List Nat) : UpgmaStS :=
  { dm := (dm.map List.toArray).toArray, act := Array.replicate samples.length true,
    tree := (samples.map fun i => some (GTree.leaf i)).toArray, last := 0 }

theorem upgma_eqS (dm : List (List SoftF32)) (samples : List Nat) (hn : samples.length ≠ 0) :
    upgmaS dm samples = (iterOpt (upgmaRoundS samples.length) (samples.length - 1) (upgmaInitS dm samples)).bind
      fun st => st.tree.getD st.last none := by
  unfold upgmaS upgmaInitS
  simp only [hn, if_false]

theorem upgma_length_neS {dm : List (List SoftF32)} {samples : List Nat} {t : GTree} (h : upgmaS dm samples = some t) :
    samples.length ≠ 0 := by
  intro h0
  simp [upgmaS, h0] at h

theorem upgma_rounds_pcS (dm : List (List SoftF32)) (samples : List Nat) (hn : samples.length ≠ 0) (k : Nat) (s : UpgmaStS)
    (h : iterOpt (upgmaRoundS samples.length) k (upgmaInitS dm samples) = some s) : UInvS samples.length samples k s :=
  .of_slots ((upgmaRoundsS samples.length).rounds_slots (SlotInv.init samples hn) k s h)

theorem upgma_leaves_permS {dm : List (List SoftF32)} {samples : List Nat} {t : GTree} (h : upgmaS dm samples = some t) :
    t.leaves.Perm samples := by
  have hn := upgma_length_neS h
  rw [upgma_eqS dm samples hn] at h
  obtain ⟨s, hs, ht⟩ := Option.bind_eq_some_iff.1 h
  exact (upgmaRoundsS samples.length).leaves_perm (SlotInv.init samples hn) hn hs ht

theorem upgma_leavesS (dm : List (List SoftF32)) (samples : List Nat) (t : GTree) (h : upgmaS dm samples = some t) :
    ∀ x, x ∈ t.leaves ↔ x ∈ samples :=
  fun _ => (upgma_leaves_permS h).mem_iff

/-- `some`: no stale `node_a/node_b`, no NULL subtree -/
theorem upgma_someS (dm : List (List SoftF32)) (samples : List Nat) (hn : samples.length ≠ 0)
    (hbelow : ∀ j s, j + 1 < samples.length → iterOpt (upgmaRoundS samples.length) j (upgmaInitS dm samples) = some s →
      AllBelowS samples.length s) :
    ∃ t, upgmaS dm samples = some t ∧ ∀ x, x ∈ t.leaves ↔ x ∈ samples := by
  obtain ⟨s, t, hs, ht⟩ := (upgmaRoundsS samples.length).rounds_some (SlotInv.init samples hn) hn hbelow
  have hu : upgmaS dm samples = some t := by
    rw [upgma_eqS dm samples hn]
    exact Option.bind_eq_some_iff.2 ⟨s, hs, ht⟩
  exact ⟨t, hu, upgma_leavesS dm samples t hu⟩

theorem upgma_leaves_nodupS (dm : List (List SoftF32)) (samples : List Nat) (t : GTree) (hnd : samples.Nodup)
    (h : upgmaS dm samples = some t) : t.leaves.Nodup :=
  (upgma_leaves_permS h).nodup_iff.2 hnd

end Kalign

import KalignModel.Lemmas.MeetLevel
import KalignModel.Lemmas.PathCols
import KalignModel.Lemmas.Walk
/-!
# Cut decomposition: a complete column list of a rectangle crosses the middle row in an admissible `(k, t)`

The middle row is the row `mid` at which `aln_runner` (aln_controller.c) lets the forward and the backward kernel meet; `Adm`
(Lemmas/MeetSpec.lean) lists the pairs (cell, transition) that `meetup` evaluates.
`adjOK st cs` (Lemmas/PathCols.lean): no `skip` column, and no gap-in-a column next to a gap-in-b column (starting after a column of kind `st`).
`cut_exists`: such a list that consumes `m1 + m2` rows (`m2 ≥ 1`) and `n` columns splits as `X1 ++ X2r.reverse` with `X1` the
longest prefix consuming `m1` rows; both kernels can walk their part (a `MeetWalk`), and the pair of kinds at the cut is one
of the transitions the meetup evaluates in that cell.  (A list with gap-in-a columns in the middle row has a second
admissible cut, transition 2 in front of those columns; the meetup may return either.)
`MeetWalk.fills` is the converse: two walks that meet in an admissible cell of the middle row make such a list.
-/
namespace Kalign

def Col.takesRow (c : Col) : Bool := c == .both || c == .gapB

theorem adjOK_append (st : Kind) (xs ys : List Col) :
    adjOK st (xs ++ ys) = (adjOK st xs && adjOK (lastKind st xs) ys) := by
  induction xs generalizing st with
  | nil => simp [adjOK, lastKind]
  | cons c xs ih => simp [adjOK, ih, lastKind, Bool.and_assoc]

theorem adjOK_reverse (st st' : Kind) (xs : List Col) (h : adjOK st xs = true)
    (hc : (lastKind st xs).compat st' = true) : adjOK st' xs.reverse = true := by
  induction xs generalizing st with
  | nil => rfl
  | cons c xs ih =>
    simp only [adjOK, Bool.and_eq_true, bne_iff_ne, ne_eq] at h
    obtain ⟨⟨hs, _⟩, hrest⟩ := h
    have hlk : lastKind st (c :: xs) = lastKind (colKind st c) xs := rfl
    rw [hlk] at hc
    have ih' := ih (colKind st c) hrest hc
    rw [List.reverse_cons, adjOK_append, ih', Bool.true_and]
    simp only [adjOK, Bool.and_true, Bool.and_eq_true, bne_iff_ne, ne_eq]
    refine ⟨hs, ?_⟩
    rw [lastKind_reverse _ _ (adjOK_noskip _ _ hrest)]
    cases xs with
    | nil =>
      simp only [firstKind]
      simp only [lastKind, List.foldl_nil] at hc
      rw [Kind.compat_symm, colKind_indep st' st c hs]; exact hc
    | cons d xs =>
      simp only [firstKind]
      simp only [adjOK, Bool.and_eq_true, bne_iff_ne, ne_eq] at hrest
      have hd : d ≠ .skip := hrest.1.1
      rw [colKind_indep (colKind st' d) st c hs, colKind_indep st' (colKind st c) d hd, Kind.compat_symm]
      exact hrest.1.2

theorem consA_snoc (X : List Col) (c : Col) : consA (X ++ [c]) = consA X + stepP 0 c := by
  rw [consA_append, consA_cons]; simp
theorem consB_snoc (X : List Col) (c : Col) : consB (X ++ [c]) = consB X + stepK 0 c := by
  rw [consB_append, consB_cons]; simp

theorem stepP_da (st : Kind) (c : Col) (h : c ≠ .skip) : (stepP 0 c : Int) = da (colKind st c) := by
  cases c <;> simp_all [stepP, da, colKind]
theorem stepK_db (st : Kind) (c : Col) (h : c ≠ .skip) : (stepK 0 c : Int) = db (colKind st c) := by
  cases c <;> simp_all [stepK, db, colKind]

theorem first_gapB_of_consB_zero (c : Col) (cs : List Col) (h : consB (c :: cs) = 0) (hs : c ≠ .skip) : c = .gapB := by
  cases c <;> simp_all

theorem consA_pos_ne_nil {xs : List Col} (h : 1 ≤ consA xs) : xs ≠ [] := by
  intro hx; subst hx; simp at h

theorem walkOK_prefix (c : KCfg) (X rest : List Col) (p k : Nat) (st : Kind)
    (hadj : adjOK st (X ++ rest) = true) (hB : k + consB (X ++ rest) = c.n) (hrest : 1 ≤ consA rest) :
    walkOK c p k st X = true := by
  induction X generalizing p k st with
  | nil => rfl
  | cons col X ih =>
    simp only [List.cons_append, adjOK, Bool.and_eq_true, bne_iff_ne, ne_eq] at hadj
    obtain ⟨⟨hs, hcompat⟩, hadj'⟩ := hadj
    rw [List.cons_append, consB_cons] at hB
    simp only [walkOK, Bool.and_eq_true]
    refine ⟨?_, ih _ _ _ hadj' (by rw [stepK_eq k]; omega)⟩
    cases col with
    | skip => exact absurd rfl hs
    | both => simp [stepOK, stepK] at hB ⊢; omega
    | gapB =>
      simp only [stepOK, Bool.and_eq_true, decide_eq_true_eq, bne_iff_ne, ne_eq]
      refine ⟨by omega, ?_⟩
      intro h; subst h; simp [colKind, Kind.compat] at hcompat
    | gapA =>
      simp only [stepOK, Bool.and_eq_true, decide_eq_true_eq, bne_iff_ne, ne_eq, stepK] at hB ⊢
      refine ⟨?_, ?_⟩
      · -- the rest still consumes a residue of b, otherwise a gap-in-b column would follow this one
        have hne : X ++ rest ≠ [] := consA_pos_ne_nil (by rw [consA_append]; omega)
        cases hxr : X ++ rest with
        | nil => exact absurd hxr hne
        | cons d ds =>
          rw [hxr] at hadj' hB
          by_cases h0 : consB (d :: ds) = 0
          · simp only [adjOK, Bool.and_eq_true, bne_iff_ne, ne_eq] at hadj'
            have := first_gapB_of_consB_zero d ds h0 hadj'.1.1
            subst this
            simp [colKind, Kind.compat] at hadj'
          · omega
      · intro h; subst h; simp [colKind, Kind.compat] at hcompat

theorem consA_cons_if (d : Col) (X : List Col) : consA (d :: X) = if d.takesRow = true then consA X + 1 else consA X := by
  cases d <;> rfl

theorem split_rows (X : List Col) (m1 : Nat) (h : m1 < consA X) :
    ∃ X1 c X2, X = X1 ++ c :: X2 ∧ consA X1 = m1 ∧ c.takesRow = true := by
  induction X generalizing m1 with
  | nil => simp at h
  | cons d X ih =>
    rw [consA_cons_if] at h
    by_cases hd : d.takesRow = true
    · rw [if_pos hd] at h
      cases m1 with
      | zero => exact ⟨[], d, X, rfl, rfl, hd⟩
      | succ m1 =>
        obtain ⟨X1, c, X2, h1, h2, h3⟩ := ih m1 (by omega)
        exact ⟨d :: X1, c, X2, by rw [h1]; rfl, by rw [consA_cons_if, if_pos hd, h2], h3⟩
    · rw [if_neg hd] at h
      obtain ⟨X1, c, X2, h1, h2, h3⟩ := ih m1 h
      exact ⟨d :: X1, c, X2, by rw [h1]; rfl, by rw [consA_cons_if, if_neg hd, h2], h3⟩

/-- transition code of a pair (kind before the cut, kind of the a-consuming column after it) -/
def tOf (x y : Kind) : Int :=
  match x, y with
  | .A, .A => 1 | .A, .GB => 3 | .GA, .A => 5 | .GB, .A => 7 | .GB, .GB => 6
  | _, _ => 0

theorem tOf_spec (x y : Kind) (hy : y ≠ .GA) (hxy : x.compat y = true) :
    fkOf (tOf x y) = x ∧ bkOf (tOf x y) = y ∧ ValidT (tOf x y) ∧ (y = .GB → tOf x y = 3 ∨ tOf x y = 6) := by
  cases x <;> cases y <;> simp_all [tOf, fkOf, bkOf, Kind.compat, ValidT]

/-- the second walk read forwards again -/
theorem MeetWalk.a2' {M : Meet} {k : Nat} {t : Int} {X1 X2r : List Col} (h : MeetWalk M k t X1 X2r) : consA X2r.reverse = M.m2 := by
  rw [consA_reverse]; exact h.a2
theorem MeetWalk.bb {M : Meet} {k : Nat} {t : Int} {X1 X2r : List Col} (h : MeetWalk M k t X1 X2r) (hk : k ≤ M.n) :
    consB X1 + consB X2r.reverse = M.n := by
  rw [consB_reverse, h.b1, h.b2]; exact Nat.add_sub_of_le hk
theorem MeetWalk.w2' {M : Meet} {k : Nat} {t : Int} {X1 X2r : List Col} (h : MeetWalk M k t X1 X2r) :
    walkOK M.cB 0 0 M.bk X2r.reverse.reverse = true := by
  rw [List.reverse_reverse]; exact h.w2
theorem MeetWalk.l2' {M : Meet} {k : Nat} {t : Int} {X1 X2r : List Col} (h : MeetWalk M k t X1 X2r) :
    lastKind M.bk X2r.reverse.reverse = bkOf t := by
  rw [List.reverse_reverse]; exact h.l2

theorem cut_exists (M : Meet) (X : List Col) (hm2 : 1 ≤ M.m2) (hadj : adjOK M.fk X = true)
    (hcompat : (lastKind M.fk X).compat M.bk = true) (hA : consA X = M.m1 + M.m2) (hB : consB X = M.n) :
    ∃ X1 X2r t, X = X1 ++ X2r.reverse ∧ Adm M.n (consB X1) t ∧ MeetWalk M (consB X1) t X1 X2r := by
  obtain ⟨cF, cB, hnn, fk, bk, m1, m2⟩ := M
  dsimp only [Meet.n] at hm2 hadj hcompat hA hB ⊢
  obtain ⟨X1, c, X2', hX, hX1, hc⟩ := split_rows X m1 (by omega)
  have hskip := adjOK_noskip _ _ hadj
  rw [hX] at hadj hcompat hA hB hskip
  have hadj2 := hadj
  rw [adjOK_append, Bool.and_eq_true] at hadj2
  obtain ⟨hadj1, hadjX2⟩ := hadj2
  have hA2 : consA (c :: X2') = m2 := by rw [consA_append] at hA; omega
  have hB2 : consB X1 + consB (c :: X2') = cF.n := by rw [consB_append] at hB; exact hB
  have hcs : c ≠ .skip := fun h => hskip (by simp [h])
  have hskip2 : Col.skip ∉ c :: X2' := fun h => hskip (List.mem_append_right _ h)
  have hwF : walkOK cF 0 0 fk X1 = true :=
    walkOK_prefix cF X1 (c :: X2') 0 0 fk hadj (by simpa using hB) (by omega)
  -- backward walk: `X.reverse = X2'.reverse ++ c :: X1.reverse`
  have hrev : (X1 ++ c :: X2').reverse = X2'.reverse ++ c :: X1.reverse := by simp
  have hadjR : adjOK bk (X2'.reverse ++ c :: X1.reverse) = true := by
    rw [← hrev]; exact adjOK_reverse fk bk _ hadj hcompat
  have hlastR : lastKind bk (c :: X2').reverse = colKind bk c := by
    rw [lastKind_reverse _ _ hskip2]; rfl
  have hBr : consB (X2'.reverse ++ c :: X1.reverse) = cB.n := by
    rw [← hrev, consB_reverse, hnn]; exact hB
  have hwB : walkOK cB 0 0 bk (c :: X2').reverse = true := by
    rw [List.reverse_cons, walkOK_append, Bool.and_eq_true]
    refine ⟨walkOK_prefix cB X2'.reverse (c :: X1.reverse) 0 0 bk hadjR (by omega) ?_, ?_⟩
    · rw [consA_cons_if, if_pos hc]; omega
    · have hadjR2 := hadjR
      rw [adjOK_append, Bool.and_eq_true] at hadjR2
      have hstep := hadjR2.2
      simp only [adjOK, Bool.and_eq_true, bne_iff_ne, ne_eq] at hstep
      have hcnt : consB X2'.reverse + consB [c] ≤ cB.n := by
        rw [consB_append, consB_cons] at hBr
        have : consB [c] = stepK 0 c := by rw [consB_cons]; simp
        omega
      simp only [walkOK, Bool.and_true, Nat.zero_add]
      cases c with
      | skip => exact absurd rfl hcs
      | gapA => exact absurd hc (by decide)
      | both => simp [stepOK] at hcnt ⊢; omega
      | gapB =>
        simp only [stepOK, Bool.and_eq_true, decide_eq_true_eq, bne_iff_ne, ne_eq]
        refine ⟨by simp at hcnt; omega, ?_⟩
        intro h
        rw [h] at hstep
        simp [colKind, Kind.compat] at hstep
  have hxy : (lastKind fk X1).compat (colKind (lastKind fk X1) c) = true := by
    simp only [adjOK, Bool.and_eq_true, bne_iff_ne, ne_eq] at hadjX2
    exact hadjX2.1.2
  have hy : colKind bk c ≠ .GA ∧ (consB X1 < cF.n ∨ colKind bk c = .GB) := by
    cases c with
    | skip => exact absurd rfl hcs
    | gapA => exact absurd hc (by decide)
    | both => exact ⟨by simp [colKind], Or.inl (by simp at hB2; omega)⟩
    | gapB => exact ⟨by simp [colKind], Or.inr rfl⟩
  obtain ⟨e1, e2, hv, h36⟩ := tOf_spec (lastKind fk X1) (colKind bk c) hy.1
    (by rw [colKind_indep bk (lastKind fk X1) c hcs]; exact hxy)
  refine ⟨X1, (c :: X2').reverse, tOf (lastKind fk X1) (colKind bk c), by rw [List.reverse_reverse]; exact hX, ?_, hwF, hX1,
    rfl, e1.symm, hwB, by rw [consA_reverse]; exact hA2, by rw [consB_reverse]; exact Nat.eq_sub_of_add_eq' hB2,
    by rw [hlastR, e2]⟩
  by_cases hlt : consB X1 < cF.n
  · exact Or.inl ⟨hlt, hv⟩
  · exact Or.inr ⟨by omega, h36 (hy.2.resolve_left hlt)⟩

theorem walkOK_adjOK (c : KCfg) (X : List Col) (p k : Nat) (st : Kind) (h : walkOK c p k st X = true) :
    adjOK st X = true := by
  induction X generalizing p k st with
  | nil => rfl
  | cons col cs ih =>
    simp only [walkOK, Bool.and_eq_true] at h
    simp only [adjOK, Bool.and_eq_true, bne_iff_ne, ne_eq]
    refine ⟨?_, ih _ _ _ h.2⟩
    have h1 := h.1
    cases col with
    | skip => simp [stepOK] at h1
    | both => exact ⟨by simp, Kind.compat_A_right _⟩
    | gapA =>
      simp only [stepOK, Bool.and_eq_true, bne_iff_ne, ne_eq] at h1
      refine ⟨by simp, ?_⟩
      cases st <;> simp_all [colKind, Kind.compat]
    | gapB =>
      simp only [stepOK, Bool.and_eq_true, bne_iff_ne, ne_eq] at h1
      refine ⟨by simp, ?_⟩
      cases st <;> simp_all [colKind, Kind.compat]

theorem adjOK_change_start (st st' : Kind) (X : List Col) (h : adjOK st X = true)
    (hc : X ≠ [] → st'.compat (firstKind .A X) = true) : adjOK st' X = true := by
  cases X with
  | nil => rfl
  | cons c cs =>
    simp only [adjOK, Bool.and_eq_true, bne_iff_ne, ne_eq] at h ⊢
    have hs : c ≠ .skip := h.1.1
    refine ⟨⟨hs, ?_⟩, ?_⟩
    · have := hc (by simp)
      rw [firstKind_cons_noskip .A st' c cs hs] at this
      exact this
    · rw [colKind_indep st' st c hs]; exact h.2

theorem fk_bk_compat (t : Int) (h : t = 1 ∨ t = 2 ∨ t = 3 ∨ t = 5 ∨ t = 6 ∨ t = 7) :
    (fkOf t).compat (bkOf t) = true := by
  rcases h with h | h | h | h | h | h <;> subst h <;> rfl

theorem adj_pieces {P1 X P2 : List Col} (hadj : adjOK .A (P1 ++ X ++ P2) = true) :
    adjOK .A P1 = true ∧ adjOK (lastKind .A P1) X = true ∧ adjOK (lastKind (lastKind .A P1) X) P2 = true := by
  rw [adjOK_append, adjOK_append, Bool.and_eq_true, Bool.and_eq_true, lastKind_append] at hadj
  exact ⟨hadj.1.1, hadj.1.2, hadj.2⟩

theorem compat_firstKind (st : Kind) (P2 : List Col) (h : adjOK st P2 = true) : st.compat (firstKind .A P2) = true := by
  cases P2 with
  | nil => simp [firstKind, Kind.compat_A_right]
  | cons c cs =>
    simp only [adjOK, Bool.and_eq_true, bne_iff_ne, ne_eq] at h
    rw [firstKind_cons_noskip .A st c cs h.1.1]
    exact h.1.2

theorem MeetWalk.fills {M : Meet} {k : Nat} {t : Int} {X1 X2r : List Col} (h : MeetWalk M k t X1 X2r) (hadm : Adm M.n k t)
    (hm2 : 1 ≤ M.m2) :
    adjOK M.fk (X1 ++ X2r.reverse) = true ∧ (lastKind M.fk (X1 ++ X2r.reverse)).compat M.bk = true ∧
      consA (X1 ++ X2r.reverse) = M.m1 + M.m2 ∧ consB (X1 ++ X2r.reverse) = M.n := by
  have hadjX2r := walkOK_adjOK _ X2r 0 0 _ h.w2
  have hs2r := adjOK_noskip _ _ hadjX2r
  have hne : X2r ≠ [] := consA_pos_ne_nil (by rw [h.a2]; exact hm2)
  have hadjX2 : adjOK (fkOf t) X2r.reverse = true :=
    adjOK_reverse _ (fkOf t) X2r hadjX2r (by rw [h.l2, Kind.compat_symm]; exact fk_bk_compat t hadm.valid)
  have hkn := hadm.le
  refine ⟨?_, ?_, ?_, ?_⟩
  · rw [adjOK_append, walkOK_adjOK _ X1 0 0 _ h.w1, h.l1, hadjX2]
    rfl
  · rw [lastKind_append, h.l1, lastKind_reverse _ _ hs2r, firstKind_indep _ .A _ hne hs2r, Kind.compat_symm]
    exact compat_firstKind _ X2r hadjX2r
  · rw [consA_append, consA_reverse, h.a1, h.a2]
  · rw [consB_append, consB_reverse, h.b1, h.b2]
    omega

end Kalign

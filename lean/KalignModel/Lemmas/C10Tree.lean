import KalignModel.Lemmas.NoFaultRec
import KalignModel.Lemmas.NoFaultTree
/-!
# Every leaf of the guide tree is visited exactly once (for C10 at pipeline level, Props/C10Pipeline.lean)

On pairwise distinct samples `upgma` returns a tree whose leaf list has no repetition (it is a permutation of the samples:
`upgma_leaves_perm`, Lemmas/NoFaultUpgma.lean), and the two parts of a k-means split
are a permutation of the samples (`GoodSplit.perm`).  Hence every table `buildTasks` returns is the sorted task table of a
tree whose leaf list is a permutation of `0 … n-1` (`buildTasks_tree`), and the members of every node `recursive_aln`
completes are pairwise distinct (`nodeVal_idx_nodup`).
-/
namespace Kalign

theorem upgma_leaves_nodup (dm : List (List Float32)) (samples : List Nat) (t : GTree) (hnd : samples.Nodup)
    (h : upgma dm samples = some t) : t.leaves.Nodup :=
  (upgma_leaves_perm h).nodup_iff.2 hnd

namespace Pipeline
open Kalign.Kmeans Kalign.Sched

theorem bisectO_leaves_perm (avx : Bool) (dm : Array (Array Float32)) (na : Nat) (small : List Nat → Option Tree)
    (hsmall : ∀ l t, l.Nodup → small l = some t → t.leaves.Perm l) :
    ∀ (fuel : Nat) (samples : List Nat) (t : Tree), samples.Nodup → bisectO avx dm na small fuel samples = .ok t →
      t.leaves.Perm samples := by
  intro fuel samples
  fun_induction bisectO avx dm na small fuel samples with
  | case1 fuel samples _ t' hs =>
    intro t hnd h
    cases h
    exact hsmall samples t' hnd hs
  | case5 samples _ fuel b hb l r hR hL ihl ihr =>
    intro t hnd h
    cases h
    have hg := bestSplit_good hb
    exact ((ihl l (hg.subl.nodup hnd) hL).append (ihr r (hg.subr.nodup hnd) hR)).trans hg.perm
  | case2 | case3 | case4 | case6 | case7 => exact nofun

theorem buildTasks_tree (avx : Bool) (codes : Array (List Nat)) (tasks : Array (Nat × Nat × Nat))
    (h : buildTasks avx codes = .ok tasks) :
    ∃ T : Tree, tasks = (Kmeans.sortTasks (treeTasks T codes.size)).toArray ∧ T.leaves.Perm (List.range codes.size) := by
  obtain ⟨anchors, dm, t, _, _, ht, rfl⟩ := buildTasksWith_ok h
  exact ⟨t, rfl, bisectO_leaves_perm avx dm anchors.length (smallTree codes)
    (fun l t _ hs => smallTree_leaves_perm codes l t hs) _ _ t List.nodup_range ht⟩

theorem mergeNodes_idx {entry : Entry} {ap : AlnParam Float32} {A B N : Node} {isLast : Bool}
    (h : mergeNodes entry ap A B isLast = .ok N) :
    N.group.map (·.idx) = (A.group.map (·.idx)).reverse ++ (B.group.map (·.idx)).reverse := by
  unfold mergeNodes at h
  simp only at h
  split at h
  · cases h
  · split at h
    · cases h
    · split at h
      · cases h
      · simp only [Except.ok.injEq] at h
        subst h
        exact mergeGroups_idx _ _ _

theorem _root_.Kalign.Sched.LTree.sub_of_mem_leaves {t : Sched.LTree} {i : Nat} (h : i ∈ t.leaves) : Sched.LTree.Sub (.leaf i) t := by
  induction t with
  | leaf j =>
    simp only [Sched.LTree.leaves, List.mem_singleton] at h
    subst h
    exact .refl _
  | node c l r ihl ihr =>
    simp only [Sched.LTree.leaves, List.mem_append] at h
    rcases h with h | h
    · exact .left (ihl h)
    · exact .right (ihr h)

theorem _root_.Kalign.Sched.LTree.sub_of_mem_iids {t : Sched.LTree} {c : Nat} (h : c ∈ Kmeans.LTree.iids t) :
    ∃ l r, Sched.LTree.Sub (.node c l r) t := by
  induction t with
  | leaf j => simp [Kmeans.LTree.iids] at h
  | node c' l r ihl ihr =>
    simp only [Kmeans.LTree.iids, List.mem_append, List.mem_singleton] at h
    rcases h with (h | h) | h
    · obtain ⟨l', r', hs⟩ := ihl h
      exact ⟨l', r', .left hs⟩
    · obtain ⟨l', r', hs⟩ := ihr h
      exact ⟨l', r', .right hs⟩
    · subst h
      exact ⟨l, r, .refl _⟩

theorem nodeVal_members (ap : AlnParam Float32) (T : Tree) (codes : Array (List Nat))
    (hleaves : ∀ i ∈ T.leaves, i < codes.size) :
    ∀ v : Sched.LTree, Sched.LTree.Sub v (label T codes.size) → ∀ (fuel : Nat) (N : Node),
      nodeVal ap (Kmeans.sortTasks (treeTasks T codes.size)).toArray codes codes.size fuel v.id = .ok N →
      (N.group.map (·.idx)).Perm v.leaves := by
  intro v
  induction v with
  | leaf i =>
    intro hsub fuel N h
    have hi : i < codes.size := sub_leaf_lt hleaves hsub
    simp only [Sched.LTree.id] at h
    unfold nodeVal at h
    rw [if_neg (by omega), if_pos hi] at h
    simp only [Except.ok.injEq] at h
    subst h
    simp [leafNode, Sched.LTree.leaves]
  | node c l r ihl ihr =>
    intro hsub fuel N h
    obtain ⟨hc1, hget', -⟩ := sortedTasks_toArray_get T codes.size hsub
    have hsl : Sched.LTree.Sub l (label T codes.size) := Sched.LTree.Sub.trans (.left (.refl l)) hsub
    have hsr : Sched.LTree.Sub r (label T codes.size) := Sched.LTree.Sub.trans (.right (.refl r)) hsub
    simp only [Sched.LTree.id] at h
    cases fuel with
    | zero =>
      unfold nodeVal at h
      rw [if_pos hc1] at h
      simp [recAln] at h
    | succ f =>
      obtain ⟨A, B, hA, hB, hm⟩ := nodeVal_succ hc1 hget' h
      rw [mergeNodes_idx hm]
      simp only [Sched.LTree.leaves]
      exact ((List.reverse_perm _).trans (ihl hsl f A hA)).append ((List.reverse_perm _).trans (ihr hsr f B hB))

theorem nodeVal_node (ap : AlnParam Float32) (T : Tree) (codes : Array (List Nat))
    (hl : ∀ x, x ∈ T.leaves ↔ x < codes.size) (fuel x : Nat) (N : Node)
    (h : nodeVal ap (Kmeans.sortTasks (treeTasks T codes.size)).toArray codes codes.size fuel x = .ok N) :
    ∃ v, Sched.LTree.Sub v (label T codes.size) ∧ v.id = x := by
  by_cases hx : x < codes.size
  · refine ⟨.leaf x, Sched.LTree.sub_of_mem_leaves ?_, rfl⟩
    rw [label_leaves]
    exact (hl x).2 hx
  · unfold nodeVal at h
    rw [if_pos (by omega)] at h
    cases fuel with
    | zero => simp [recAln] at h
    | succ f =>
      unfold recAln at h
      cases ht : (Kmeans.sortTasks (treeTasks T codes.size)).toArray[x - codes.size]? with
      | none => rw [ht] at h; cases h
      | some tk =>
        have hlt : x - codes.size < Kmeans.Tree.nint T := by
          have := (Array.getElem?_eq_some_iff.1 ht).1
          simpa [length_sortTasks] using this
        have hmem : x ∈ Kmeans.LTree.iids (label T codes.size) := by
          rw [label_iids, List.mem_range'_1]
          omega
        obtain ⟨l, r, hs⟩ := Sched.LTree.sub_of_mem_iids hmem
        exact ⟨_, hs, rfl⟩

theorem nodeVal_idx_nodup_tree (ap : AlnParam Float32) (T : Tree) (codes : Array (List Nat))
    (hperm : T.leaves.Perm (List.range codes.size)) {fuel x : Nat} {N : Node}
    (h : nodeVal ap (Kmeans.sortTasks (treeTasks T codes.size)).toArray codes codes.size fuel x = .ok N) :
    (N.group.map (·.idx)).Nodup := by
  have hl : ∀ x, x ∈ T.leaves ↔ x < codes.size := fun x => by rw [hperm.mem_iff, List.mem_range]
  obtain ⟨v, hsub, rfl⟩ := nodeVal_node ap T codes hl fuel x N h
  have hp := nodeVal_members ap T codes (fun i hi => (hl i).1 hi) v hsub fuel N h
  refine hp.nodup_iff.2 (hsub.leaves_sublist.nodup ?_)
  rw [label_leaves]
  exact hperm.nodup_iff.2 List.nodup_range

/-- the hypothesis of `recAln_subalignment_finalRow_partial` discharged -/
theorem nodeVal_idx_nodup {avx : Bool} {codes1 : Array (List Nat)} {tasks : Array (Nat × Nat × Nat)}
    (hb : buildTasks avx codes1 = .ok tasks) (ap : AlnParam Float32) (codes : Array (List Nat))
    (hsz : codes.size = codes1.size) {fuel x : Nat} {N : Node}
    (h : nodeVal ap tasks codes codes.size fuel x = .ok N) : (N.group.map (·.idx)).Nodup := by
  obtain ⟨T, rfl, hperm⟩ := buildTasks_tree avx codes1 tasks hb
  rw [← hsz] at hperm h
  exact nodeVal_idx_nodup_tree ap T codes hperm h

theorem root_members_perm {avx : Bool} {codes1 : Array (List Nat)} {tasks : Array (Nat × Nat × Nat)}
    (hb : buildTasks avx codes1 = .ok tasks) (ap : AlnParam Float32) (codes : Array (List Nat))
    (hsz : codes.size = codes1.size) (h2 : 2 ≤ codes.size) {fuel : Nat} {R : Node}
    (h : recAln ap tasks codes codes.size fuel (tasks.size - 1) = .ok R) :
    (R.group.map (·.idx)).Perm (List.range codes.size) := by
  obtain ⟨T, rfl, hperm⟩ := buildTasks_tree avx codes1 tasks hb
  rw [← hsz] at hperm h
  have hl : ∀ x, x ∈ T.leaves ↔ x < codes.size := fun x => by rw [hperm.mem_iff, List.mem_range]
  obtain ⟨hid, _⟩ := label_root T codes.size h2 hl
  have hv : nodeVal ap (Kmeans.sortTasks (treeTasks T codes.size)).toArray codes codes.size fuel (label T codes.size).id = .ok R := by
    unfold nodeVal
    rw [hid, if_pos (Nat.le_add_left _ _), Nat.add_sub_cancel]
    exact h
  refine (nodeVal_members ap T codes (fun i hi => (hl i).1 hi) _ (.refl _) fuel R hv).trans ?_
  rw [label_leaves]
  exact hperm

end Pipeline
end Kalign

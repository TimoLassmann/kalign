import KalignModel.Lemmas.SoftDyadic
import KalignModel.Lemmas.SoftDiv
/-!
# A sharp bound for the tie-break term of the meetup on the software binary32

`Score.tie c2 c3 i = fabsf((float)(c3 - c2)/2.0F + (float)c2 - (float)i) / 1000.0F`.  Every intermediate value of the numerator is a
half-integer below 2²³, so the numerator is `w/2` with `w = |c3 + c2 − 2i|`, exactly (`tie_numer`, by the arithmetic of `half`).  The
quotient by 1000 is not dyadic, but a computed quotient is at most every representable number that bounds the exact one (`div_le_grid`)
and every half-integer is representable, so it is at most `c/2` for every `c` with `w ≤ 1000·c` (`abs_div_thousand_le`).  With `c = (c3 − c2)/1000 + 1`: in units of 1/2000 score units the
`SoftF32` term is at most `(c3 − c2) + 1000`, where the exact term `w` is at most `c3 − c2` (`tie_le`); in particular it is at most
2²⁰ (`tie_bound`).
This is the tie-break term `sub` of `aln_seqseq_meetup` (lib/src/aln_seqseq.c).
-/
set_option exponentiation.threshold 512
namespace Kalign.SoftF32

theorem ofInt_eq_half {k : Int} (hk : k.natAbs < 16777216) : ofInt k = half (2 * k) := by
  unfold half
  rw [Int.mul_comm 2, Int.mul_assoc, ← c149]
  exact (packZ_int hk (fun _ => rfl)).symm

theorem div_two_eq_half {d : Nat} (hd : d < 16777216) : div (ofInt (d : Int)) two = half d := by
  rw [← ofNat_eq_ofInt, show two = ofNat 2 by decide]
  obtain ⟨b1, _, b3⟩ := div_ofNat_eq (j := d) (D := 2) (c := d) (t := 148) hd (by decide) (by decide) hd (by decide)
    (by rw [Nat.mul_assoc])
  obtain ⟨_, c2, c3⟩ := half_fin (h := (d : Int)) (by omega)
  apply eq_of_sign_mag
  · rw [b1, c3]; simp
  · apply magVal_inj
    have := natAbs_toInt (half (d : Int))
    rw [c2, natAbs_mul148] at this
    rw [b3, ← this]; simp

theorem tie_numer (sb eb i : Nat) (h1 : sb ≤ i) (h2 : i ≤ eb) (h3 : eb < 4194304) :
    ∃ x : SoftF32, (Score.tie (sb : Int) (eb : Int) (i : Int) : SoftF32) = div (abs x) thousand ∧ x.mag < 2139095040 ∧
      magVal x.mag = ((eb : Int) + sb - 2 * i).natAbs * 2 ^ 148 := by
  show ∃ x : SoftF32, div (abs (sub (add (div (ofInt ((eb : Int) - sb)) two) (ofInt sb)) (ofInt i))) thousand =
    div (abs x) thousand ∧ _
  refine ⟨_, rfl, ?_⟩
  obtain ⟨d, hd⟩ : ∃ d : Nat, (eb : Int) - sb = d := ⟨eb - sb, by omega⟩
  rw [hd, div_two_eq_half (by omega), ofInt_eq_half (k := sb) (by omega), ofInt_eq_half (k := i) (by omega),
    add_half (by omega) (by omega), sub_half (by omega) (by omega),
    show (d : Int) + 2 * sb - 2 * i = (eb : Int) + sb - 2 * i by omega]
  obtain ⟨x1, x2, _⟩ := half_fin (h := (eb : Int) + sb - 2 * i) (by omega)
  refine ⟨x1, ?_⟩
  rw [← natAbs_toInt, x2, natAbs_mul148]

theorem tie_bound (sb eb i : Nat) (h1 : sb ≤ i) (h2 : i ≤ eb) (h3 : eb < 4194304) :
    absLe (Score.tie (sb : Int) (eb : Int) (i : Int) : SoftF32) 1048576 := by
  obtain ⟨x, hx, x1, x2⟩ := tie_numer sb eb i h1 h2 h3
  rw [hx]
  exact (abs_div_thousand_le (c := 2097152) x1 x2 (by decide) (by omega)).2

/-- the tie-break term `x` is finite, non-negative and at most `T/2` score units -/
def TieLe (x : SoftF32) (T : Nat) : Prop :=
  x.mag < 2139095040 ∧ 0 ≤ toInt x ∧ toInt x ≤ (T : Int) * ((2 ^ 148 : Nat) : Int)

theorem TieLe.mono {x : SoftF32} {T T' : Nat} (h : TieLe x T) (hT : T ≤ T') : TieLe x T' := by
  refine ⟨h.1, h.2.1, Int.le_trans h.2.2 ?_⟩
  exact Int.mul_le_mul_of_nonneg_right (by omega) (Int.le_of_lt p148_pos)

theorem tie_le (sb eb i : Nat) (h1 : sb ≤ i) (h2 : i ≤ eb) (h3 : eb < 4194304) :
    TieLe (Score.tie (sb : Int) (eb : Int) (i : Int) : SoftF32) ((eb - sb) / 1000 + 1) := by
  obtain ⟨x, hx, x1, x2⟩ := tie_numer sb eb i h1 h2 h3
  rw [hx]
  obtain ⟨t0, t1, t2⟩ := abs_div_thousand_le (c := (eb - sb) / 1000 + 1) x1 x2 (by omega) (by omega)
  refine ⟨t1, ?_, ?_⟩
  · rw [toInt_of_pos t0]; omega
  · rw [toInt_of_pos t0, ← Int.natCast_mul]
    exact Int.ofNat_le.2 t2

end Kalign.SoftF32

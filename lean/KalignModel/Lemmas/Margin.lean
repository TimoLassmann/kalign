import KalignModel.Lemmas.CutInstances
import KalignModel.Lemmas.ScoreST
import KalignModel.Lemmas.DpCodes
import KalignModel.Lemmas.DiagOpt
/-!
# The safe margin

`MarginK s gpo gpe tgpe a b P K T`: `P` beats every other admissible column list of `(a, b)` by the safe margin, the scores multiplied by `K`,
the tie-break term of one meetup bounded by `T`.  It is the one hypothesis under which the controller returns `P`; a run whose kernels are those
of `(a, b)` with all scores multiplied by `K` writes the path of `P` (`scaled_runOK`, `scaled_dp`, `scaled_dp_swapped`).  It is produced by a
finite check (`MarginK.of_enum`) or, for the diagonal of a sequence against itself, from a per-residue condition (`diag_marginK`).
-/
namespace Kalign

theorem C07_walk_eq_scoreST (gpo gpe tgpe : Int) (s : Nat → Nat → Int) (seq1 seq2 : Array Nat) (cs : List Col) :
    (ssW gpo gpe tgpe s seq1 seq2 seq1.size seq2.size).walk 0 0 .A cs =
      scoreST s gpo gpe tgpe cs seq1.toList seq2.toList := by
  unfold scoreST ssW
  have h1 : seq1.toList.length = seq1.size := by simp
  have h2 : seq2.toList.length = seq2.size := by simp
  have h3 : (fun i j => s (seq1.toList.getD i 0) (seq2.toList.getD j 0)) =
      fun i j => s (seq1.getD i 0) (seq2.getD j 0) := by
    funext i j
    simp [Array.getD_eq_getD_getElem?, List.getD_eq_getElem?_getD]
  rw [h1, h2, h3]

/-- the safe margin over the reference score `scoreST` is the margin over the top level's reading (`walk`) that the induction over the
recursion uses; `T` bounds the tie-break term of one meetup -/
theorem walk_margin (gpo gpe tgpe : Int) (s : Nat → Nat → Int) (seq1 seq2 : Array Nat) (P : List Col) (T : Int)
    (hmargin : ∀ Q, ValidCols Q seq1.size seq2.size → adjOK .A Q = true → Q ≠ P →
      scoreST s gpo gpe tgpe Q seq1.toList seq2.toList + T <
        scoreST s gpo gpe tgpe P seq1.toList seq2.toList - gpo * (nterm P : Int) - slackST gpo gpe tgpe)
    (Q : List Col) (hQadj : adjOK .A Q = true) (hQA : consA Q = seq1.size) (hQB : consB Q = seq2.size) (hne : Q ≠ P) :
    (ssW gpo gpe tgpe s seq1 seq2 seq1.size seq2.size).walk 0 0 .A Q + T <
      (ssW gpo gpe tgpe s seq1 seq2 seq1.size seq2.size).walk 0 0 .A P - gpo * (nterm P : Int) -
        (ssW gpo gpe tgpe s seq1 seq2 seq1.size seq2.size).slackLo -
        (ssW gpo gpe tgpe s seq1 seq2 seq1.size seq2.size).slackHi := by
  have := hmargin Q ⟨adjOK_noskip _ _ hQadj, hQA, hQB⟩ hQadj hne
  rw [C07_walk_eq_scoreST, C07_walk_eq_scoreST, Int.sub_sub _ (STW.slackLo _), STW.slack_eq]
  exact this

/-- all column lists (without `skip`) that consume `a` rows and `b` columns; `f` = fuel ≥ `a + b` -/
def enumCols : Nat → Nat → Nat → List (List Col)
  | 0, a, b => if a = 0 ∧ b = 0 then [[]] else []
  | f + 1, a, b =>
    (if a = 0 ∧ b = 0 then [[]] else []) ++
    (match a, b with
      | a' + 1, b' + 1 => (enumCols f a' b').map (Col.both :: ·)
      | _, _ => []) ++
    (match b with
      | b' + 1 => (enumCols f a b').map (Col.gapA :: ·)
      | 0 => []) ++
    (match a with
      | a' + 1 => (enumCols f a' b).map (Col.gapB :: ·)
      | 0 => [])

theorem enumCols_complete (Q : List Col) (hs : Col.skip ∉ Q) :
    ∀ f, consA Q + consB Q ≤ f → Q ∈ enumCols f (consA Q) (consB Q) := by
  induction Q with
  | nil => intro f _; cases f <;> simp [enumCols]
  | cons c cs ih =>
    intro f hf
    have ih' := ih fun h => hs (List.mem_cons_of_mem _ h)
    cases c with
    | skip => exact absurd (by simp) hs
    | both =>
      simp only [consA_both, consB_both] at hf ⊢
      obtain ⟨g, rfl⟩ : ∃ g, f = g + 1 := ⟨f - 1, by omega⟩
      simp only [enumCols, List.mem_append, List.mem_map]
      left; left; right
      exact ⟨cs, ih' g (by omega), rfl⟩
    | gapA =>
      simp only [consA_gapA, consB_gapA] at hf ⊢
      obtain ⟨g, rfl⟩ : ∃ g, f = g + 1 := ⟨f - 1, by omega⟩
      simp only [enumCols, List.mem_append, List.mem_map]
      left; right
      exact ⟨cs, ih' g (by omega), rfl⟩
    | gapB =>
      simp only [consA_gapB, consB_gapB] at hf ⊢
      obtain ⟨g, rfl⟩ : ∃ g, f = g + 1 := ⟨f - 1, by omega⟩
      simp only [enumCols, List.mem_append, List.mem_map]
      right
      exact ⟨cs, ih' g (by omega), rfl⟩

theorem scaled_margin (K : Nat) (gpo gpe tgpe : Int) (s : Nat → Nat → Int) (a b : List Nat) (P Q : List Col) (lenB : Int)
    (h : (K : Int) * scoreST s gpo gpe tgpe Q a b + lenB <
      (K : Int) * (scoreST s gpo gpe tgpe P a b - gpo * (nterm P : Int) - slackST gpo gpe tgpe)) :
    scoreST (fun x y => (K : Int) * s x y) (K * gpo) (K * gpe) (K * tgpe) Q a b + lenB <
      scoreST (fun x y => (K : Int) * s x y) (K * gpo) (K * gpe) (K * tgpe) P a b - (K * gpo) * (nterm P : Int) -
        slackST (K * gpo) (K * gpe) (K * tgpe) := by
  rw [scoreST_scale, scoreST_scale, slack_scale _ _ _ _ (Int.natCast_nonneg K)]
  rw [Int.mul_sub, Int.mul_sub, ← Int.mul_assoc] at h
  exact h

def MarginK (s : Nat → Nat → Int) (gpo gpe tgpe : Int) (a b : Array Nat) (P : List Col) (K T : Nat) : Prop :=
  ∀ Q, ValidCols Q a.size b.size → adjOK .A Q = true → Q ≠ P →
    (K : Int) * scoreST s gpo gpe tgpe Q a.toList b.toList + (T : Int) <
      (K : Int) * (scoreST s gpo gpe tgpe P a.toList b.toList - gpo * (nterm P : Int) -
        (max 0 (max (tgpe - gpe) (tgpe - gpo)) + max 0 (gpe - tgpe)))

theorem MarginK.mono {s : Nat → Nat → Int} {gpo gpe tgpe : Int} {a b : Array Nat} {P : List Col} {K T T' : Nat}
    (h : MarginK s gpo gpe tgpe a b P K T) (hT : T' ≤ T) : MarginK s gpo gpe tgpe a b P K T' := by
  intro Q h1 h2 h3
  have := h Q h1 h2 h3
  omega

theorem adjOK_swapA (P : List Col) (hadj : adjOK .A P = true) : adjOK .A (P.map Col.swap) = true := by
  have := adjOK_swap .A P
  simp only [Kind.swap] at this
  rw [this]; exact hadj

theorem MarginK.swap {s : Nat → Nat → Int} (hsym : ∀ x y, s x y = s y x) {gpo gpe tgpe : Int} {a b : Array Nat}
    {P : List Col} {K T : Nat} (h : MarginK s gpo gpe tgpe a b P K T) :
    MarginK s gpo gpe tgpe b a (P.map Col.swap) K T := by
  intro Q' hV hadj hne
  have h1 := h (Q'.map Col.swap) (validCols_swap _ _ _ hV) (adjOK_swapA Q' hadj) (by
    intro hq; apply hne; rw [← hq, map_swap_swap])
  rw [scoreST_swap s hsym, nterm_swap]
  have e : scoreST s gpo gpe tgpe Q' b.toList a.toList =
      scoreST s gpo gpe tgpe (Q'.map Col.swap) a.toList b.toList := by
    have := scoreST_swap s hsym gpo gpe tgpe (Q'.map Col.swap) a.toList b.toList
    rw [map_swap_swap] at this
    exact this
  rw [e]; exact h1

theorem MarginK.of_enum {s : Nat → Nat → Int} {gpo gpe tgpe : Int} {a b : Array Nat} {P : List Col} {K T : Nat}
    (hall : (enumCols (a.size + b.size) a.size b.size).all (fun Q => !(adjOK .A Q) || decide (Q = P) ||
      decide ((K : Int) * scoreST s gpo gpe tgpe Q a.toList b.toList + (T : Int) <
        (K : Int) * (scoreST s gpo gpe tgpe P a.toList b.toList - gpo * (nterm P : Int) -
          (max 0 (max (tgpe - gpe) (tgpe - gpo)) + max 0 (gpe - tgpe))))) = true) :
    MarginK s gpo gpe tgpe a b P K T := by
  intro Q hV hadj hne
  have hmem : Q ∈ enumCols (a.size + b.size) a.size b.size := by
    have h := enumCols_complete Q hV.1 (a.size + b.size) (by rw [hV.2.1, hV.2.2]; exact Nat.le_refl _)
    rw [hV.2.1, hV.2.2] at h
    exact h
  have := List.all_eq_true.mp hall Q hmem
  simp only [Bool.or_eq_true, Bool.not_eq_true', decide_eq_true_eq] at this
  rcases this with (h | h) | h
  · rw [hadj] at h; exact absurd h (by simp)
  · exact absurd h hne
  · exact h

/-- the margin as the theorems spell it out, with the tie bound as an integer -/
theorem MarginK.iff_inline {s : Nat → Nat → Int} {gpo gpe tgpe : Int} {a b : Array Nat} {P : List Col} {K T : Nat} {T' : Int}
    (hT : T' = (T : Int)) : MarginK s gpo gpe tgpe a b P K T ↔
      ∀ Q, ValidCols Q a.size b.size → adjOK .A Q = true → Q ≠ P →
        (K : Int) * scoreST s gpo gpe tgpe Q a.toList b.toList + T' <
          (K : Int) * (scoreST s gpo gpe tgpe P a.toList b.toList - gpo * (nterm P : Int) -
            (max 0 (max (tgpe - gpe) (tgpe - gpo)) + max 0 (gpe - tgpe))) := by
  subst hT; exact Iff.rfl

/-- `K = 1`: the margin of the sequence–sequence theorems -/
theorem MarginK.one_iff {s : Nat → Nat → Int} {gpo gpe tgpe : Int} {a b : Array Nat} {P : List Col} {T : Nat} {T' : Int}
    (hT : T' = (T : Int)) : MarginK s gpo gpe tgpe a b P 1 T ↔
      ∀ Q, ValidCols Q a.size b.size → adjOK .A Q = true → Q ≠ P →
        scoreST s gpo gpe tgpe Q a.toList b.toList + T' <
          scoreST s gpo gpe tgpe P a.toList b.toList - gpo * (nterm P : Int) -
            (max 0 (max (tgpe - gpe) (tgpe - gpo)) + max 0 (gpe - tgpe)) := by
  subst hT; simp only [MarginK, Int.natCast_one, Int.one_mul]

/-- the margin as the induction over the recursion reads it: over the top level's reading `walk` of the problem with all scores multiplied by `K` -/
theorem MarginK.walk {s : Nat → Nat → Int} {gpo gpe tgpe : Int} {a b : Array Nat} {P : List Col} {K T : Nat} {T' : Int}
    (hm : MarginK s gpo gpe tgpe a b P K T) (hT : T' = (T : Int)) (Q : List Col) (hQadj : adjOK .A Q = true)
    (hQA : consA Q = a.size) (hQB : consB Q = b.size) (hne : Q ≠ P) :
    let w := ssW (K * gpo) (K * gpe) (K * tgpe) (fun x y => (K : Int) * s x y) a b a.size b.size
    w.walk 0 0 .A Q + T' < w.walk 0 0 .A P - (K * gpo) * (nterm P : Int) - w.slackLo - w.slackHi :=
  walk_margin _ _ _ _ a b P _ (fun Q hQ hQadj hne => scaled_margin K gpo gpe tgpe s _ _ P Q _ (hT ▸ hm Q hQ hQadj hne)) Q hQadj hQA hQB
    hne

theorem diag_marginK (gpo gpe tgpe : Int) (s : Nat → Nat → Int) (seq : Array Nat) (K T : Nat) (hK : 1 ≤ K)
    (hd : ∀ x ∈ seq.toList,
      slackST gpo gpe tgpe + (T : Int) < s x x + 2 * min (min (2 * gpo) gpe) tgpe)
    (h2 : ∀ x ∈ seq.toList, ∀ y ∈ seq.toList, 2 * s x y ≤ s x x + s y y) :
    MarginK s gpo gpe tgpe seq seq (diagCols seq.size) K T := by
  intro Q hQ hQadj hne
  have hlen : seq.toList.length = seq.size := by simp
  have := diag_margin s gpo gpe tgpe (min (min (2 * gpo) gpe) tgpe)
    (slackST gpo gpe tgpe + (T : Int))
    (by omega) (by omega) (by omega) (by have := slackST_nonneg gpo gpe tgpe; omega) seq.toList hd h2 Q (by rw [hlen]; exact hQ) hQadj (by rw [hlen]; exact hne)
  rw [hlen] at this
  rw [nterm_diag]
  have hK' : (1 : Int) ≤ (K : Int) := by omega
  have hT : (0 : Int) ≤ (T : Int) := Int.natCast_nonneg T
  generalize scoreST s gpo gpe tgpe Q seq.toList seq.toList = x at this ⊢
  generalize scoreST s gpo gpe tgpe (diagCols seq.size) seq.toList seq.toList = y at this ⊢
  rw [← slackST_eq]
  generalize slackST gpo gpe tgpe = sl at this ⊢
  have h3 : x + sl + (T : Int) + 1 ≤ y := by omega
  have h4 : (K : Int) * (x + sl + (T : Int) + 1) ≤ (K : Int) * y := Int.mul_le_mul_of_nonneg_left h3 (by omega)
  have h5 : (T : Int) ≤ (K : Int) * (T : Int) := by
    have := Int.mul_le_mul_of_nonneg_right hK' hT
    simpa using this
  simp only [Int.mul_add, Int.mul_sub, Int.mul_one] at h4 ⊢
  omega

/-! `ops`, handed to the controller as an `a.size × b.size` problem, gives the kernels of `(a, b)` under a parameter set `ap'` whose
scores are `K` times `gpo`, `gpe`, `tgpe`, `s`: a profile of copies (`K` the number of copies, `ap' = scaleParam ap K`), or two plain
sequences (`K = 1`, `ap' = ap`).  Then the controller returns `P` under the `K`-scaled margin; the tie bound is not scaled. -/

section
variable (entry : Entry) (ap ap' : AlnParam ExactScore) (gpo gpe tgpe : Int) (s : Nat → Nat → Int) (K : Nat)
  (hap' : ApOK ap' (K * gpo) (K * gpe) (K * tgpe) (fun x y => (K : Int) * s x y))
  (hgpo : 0 ≤ gpo) (hgpe : 0 ≤ gpe) (htgpe : 0 ≤ tgpe) (hsym : ∀ x y, s x y = s y x)
  (ops : Operands ExactScore) (a b : Array Nat) (P : List Col)
include hap' hgpo hgpe htgpe

omit hsym in
theorem optHyp_scaled (hV : ValidCols P a.size b.size) (hadj : adjOK .A P = true)
    (hm : MarginK s gpo gpe tgpe a b P K b.size) :
    OptHyp ap' ((K : Int) * gpo) ((K : Int) * gpe) ((K : Int) * tgpe) (fun x y => (K : Int) * s x y)
      a b a.size b.size P :=
  ⟨hap', Int.mul_nonneg (Int.natCast_nonneg K) hgpo, Int.mul_nonneg (Int.natCast_nonneg K) hgpe,
    Int.mul_nonneg (Int.natCast_nonneg K) htgpe, hadj, hV.2.1, hV.2.2, hm.walk rfl⟩

omit hsym in
theorem scaled_runOK (hK : realKernels ap ops a.size b.size = realKernels ap' (.seqseq a b) a.size b.size)
    (hV : ValidCols P a.size b.size) (hadj : adjOK .A P = true) (hm : MarginK s gpo gpe tgpe a b P K b.size) :
    RunOK entry ap ops a.size b.size P :=
  RunOK.of_kernels hK (alnRun_path (optHyp_scaled ap' gpo gpe tgpe s K hap' hgpo hgpe htgpe a b P hV hadj hm).cutHyp entry)

omit hsym in
/-- `a` is the row dimension -/
theorem scaled_dp (h1A : 1 ≤ a.size) (h1B : 1 ≤ b.size)
    (hK : realKernels ap ops a.size b.size = realKernels ap' (.seqseq a b) a.size b.size)
    (hV : ValidCols P a.size b.size) (hadj : adjOK .A P = true) (hm : MarginK s gpo gpe tgpe a b P K b.size) :
    ∃ codes, dpCodes entry ap ops false a.size b.size a.size b.size = some codes ∧ codes.map Col.ofCode = P :=
  dp_unswapped entry ap _ _ _ P (scaled_runOK entry ap ap' gpo gpe tgpe s K hap' hgpo hgpe htgpe ops a b P hK hV hadj hm)
    hV hadj h1A h1B

include hsym in
/-- `b` is the row dimension: the controller solves the exchanged problem (symmetric matrix), the path is mirrored -/
theorem scaled_dp_swapped (h1A : 1 ≤ a.size) (h1B : 1 ≤ b.size)
    (hK : realKernels ap ops b.size a.size = realKernels ap' (.seqseq b a) b.size a.size)
    (hV : ValidCols P a.size b.size) (hadj : adjOK .A P = true) (hm : MarginK s gpo gpe tgpe a b P K a.size) :
    ∃ codes, dpCodes entry ap ops true b.size a.size a.size b.size = some codes ∧ codes.map Col.ofCode = P :=
  dp_swapped entry ap _ _ _ P (scaled_runOK entry ap ap' gpo gpe tgpe s K hap' hgpo hgpe htgpe ops b a _ hK
    (validCols_swap _ _ _ hV) (adjOK_swapA P hadj) (hm.swap hsym)) hV hadj h1A h1B

end

end Kalign

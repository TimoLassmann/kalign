import KalignModel.Lemmas.SoftDyadicCells
import KalignModel.Lemmas.SoftMul
import KalignModel.Lemmas.ProfKernel
import KalignModel.Lemmas.SoftDiv
import KalignModel.Lemmas.SoftTie
/-!
# Scaling a dyadic parameter set by a sequence count stays dyadic

`mul_half_ofNat`: `half a * (float)k = half (a·k)` exactly, for `|a·k| < 2²⁴`, `1 ≤ k < 2²⁴` — the products `k·s` and `k·penalty`
that `set_gap_penalties_n`, `update_n` (lib/src/aln_setup.c) and the profile kernels form for groups of identical copies are
computed exactly.

The second part is the binary32 arithmetic of profiles of identical copies: what `make_profile_n`, `update_n` (along the diagonal), `set_gap_penalties_n` and the
profile kernels compute on dyadic values is exact, signed zero included (`−0 + −0 = −0`).
-/
set_option exponentiation.threshold 512
namespace Kalign.SoftF32

theorem half_mag_zero : (half 0).mag = 0 := by decide
theorem half_magVal {h : Int} (hh : h.natAbs < 16777216) : magVal (half h).mag = h.natAbs * 2 ^ 148 := by
  have := natAbs_toInt (half h)
  rw [(half_fin hh).2.1, natAbs_mul148] at this
  exact this.symm

theorem half_inj {a b : Int} (ha : a.natAbs < 16777216) (hb : b.natAbs < 16777216) (h : half a = half b) : a = b := by
  have h1 := (half_fin ha).2.1
  have h2 := (half_fin hb).2.1
  rw [h, h2] at h1
  have := @mul148_le a b
  have := @mul148_le b a
  omega

theorem mul_half_ofNat {a : Int} {k : Nat} (hk1 : 1 ≤ k) (hk : k < 16777216) (ha : a.natAbs < 16777216)
    (hak : (a * k).natAbs < 16777216) : mul (half a) (ofNat k) = half (a * k) := by
  obtain ⟨f1, _, s1⟩ := half_fin hak
  -- the exact product `|a|·2¹⁴⁸ · k·2¹⁴⁹` is the value of `half (a·k)` (times the unit 2¹⁴⁹)
  have hprod : magVal (half a).mag * magVal (ofNat k).mag = magVal (half (a * k)).mag * 2 ^ 149 := by
    rw [half_magVal ha, magVal_ofNat hk, half_magVal hak, Int.natAbs_mul, Int.natAbs_natCast]
    generalize (2 : Nat) ^ 148 = X
    generalize (2 : Nat) ^ 149 = Y
    ac_rfl
  rw [mul_exact (half_finite ha) (ofNat_absLe hk).finite f1 hprod]
  apply eq_of_sign_mag
  · rw [sign_pack _ _ (by omega), (half_fin ha).2.2, sign_ofNat, s1, Bool.bne_false]
    have hkp : (0 : Int) < (k : Int) := by omega
    refine decide_eq_decide.2 ⟨fun h => Int.mul_neg_of_neg_of_pos h hkp, fun h => Classical.not_not.1 fun h' => ?_⟩
    have := Int.mul_nonneg (show 0 ≤ a by omega) (Int.le_of_lt hkp)
    omega
  · rw [mag_pack _ _ (by omega)]

end Kalign.SoftF32

namespace Kalign
open SoftF32

def scaleParamS (ap : AlnParam SoftF32) (K : Nat) : AlnParam SoftF32 :=
  { subm := ap.subm.map fun row => row.map fun e => Score.mul e (Score.ofNat K)
    gpo := Score.mul ap.gpo (Score.ofNat K)
    gpe := Score.mul ap.gpe (Score.ofNat K)
    tgpe := Score.mul ap.tgpe (Score.ofNat K) }

theorem dyVal_scale {U K : Nat} {x : SoftF32} {e : ExactScore} (h : DyVal U x e) (hK1 : 1 ≤ K) (hK : K < 16777216)
    (hKU : K * U < 16777216) : DyVal (K * U) (Score.mul x (Score.ofNat K)) (Score.mul e (Score.ofNat K)) := by
  obtain ⟨g, g1, rfl, rfl⟩ := h
  have hKU' : g.natAbs * K ≤ K * U := by rw [Nat.mul_comm]; exact Nat.mul_le_mul_left K g1
  have hgk : (g * (K : Int)).natAbs = g.natAbs * K := by rw [Int.natAbs_mul, Int.natAbs_natCast]
  refine ⟨g * K, by rw [hgk]; exact hKU', ?_, ?_⟩
  · show mul (half g) (ofNat K) = half (g * K)
    have hgU : g.natAbs ≤ K * U := by
      have : g.natAbs * 1 ≤ g.natAbs * K := Nat.mul_le_mul_left _ hK1
      omega
    exact mul_half_ofNat hK1 hK (by omega) (by rw [hgk]; omega)
  · rw [ex_mul_ofNat]
    congr 1
    rw [Int.mul_assoc]

theorem mul_zero_ofNat_S (K : Nat) (hK1 : 1 ≤ K) (hK : K < 16777216) :
    Score.mul (Score.zero : SoftF32) (Score.ofNat K) = Score.zero := by
  show mul zero (ofNat K) = zero
  rw [← half_zero]
  have := mul_half_ofNat (a := 0) hK1 hK (by decide) (by simp)
  simpa using this

theorem dyadic_scale {U K : Nat} {ap : AlnParam SoftF32} {apE : AlnParam ExactScore} (hd : DyadicParam U ap apE)
    (hK1 : 1 ≤ K) (hK : K < 16777216) (hKU : K * U < 16777216) :
    DyadicParam (K * U) (scaleParamS ap K) (scaleParam apE K) := by
  refine ⟨dyVal_scale hd.gpo hK1 hK hKU, dyVal_scale hd.gpe hK1 hK hKU, dyVal_scale hd.tgpe hK1 hK hKU, ?_⟩
  intro i j
  have e1 : (scaleParamS ap K).sub i j = Score.mul (ap.sub i j) (Score.ofNat K) :=
    sub_map ap.subm ap.gpo ap.gpe ap.tgpe _ _ _ (fun e => Score.mul e (Score.ofNat K)) (mul_zero_ofNat_S K hK1 hK) i j
  have e2 : (scaleParam apE K).sub i j = Score.mul (apE.sub i j) (Score.ofNat K) :=
    sub_map apE.subm apE.gpo apE.gpe apE.tgpe _ _ _ (fun e => Score.mul e (Score.ofNat K)) (mul_zero_ofNat_E K) i j
  rw [e1, e2]
  exact dyVal_scale (hd.sub i j) hK1 hK hKU

end Kalign

namespace Kalign.SoftF32

theorem neg_finite {x : SoftF32} (h : x.isFinite = true) : (neg x).isFinite = true := by
  rw [isFinite_neg]; exact h

theorem neg_half_not_nan {a : Int} (ha : a.natAbs < 16777216) : (neg (half a)).isNaN = false := by
  rw [isNaN_neg]; exact half_not_nan ha

theorem neg_packZ (s0 : Bool) (z : Int) : neg (packZ s0 z) = packZ (!s0) (-z) := by
  apply eq_of_sign_mag
  · rw [sign_neg, sign_packZ, sign_packZ]
    by_cases h0 : z = 0
    · subst h0; simp
    · have h0' : ¬ (-z = 0) := by omega
      rw [if_neg h0, if_neg h0']
      by_cases hz : z < 0
      · simp [hz]; omega
      · simp [hz]; omega
  · rw [mag_neg, mag_packZ, mag_packZ]
    by_cases h0 : z = 0
    · subst h0; simp
    · have h0' : ¬ (-z = 0) := by omega
      rw [if_neg h0, if_neg h0', Int.natAbs_neg]

theorem neg_half_of_ne {a : Int} (ha : a ≠ 0) : neg (half a) = half (-a) := by
  unfold half
  rw [neg_packZ, ← Int.neg_mul]
  unfold packZ
  have h1 : ¬ (-a * ((2 ^ 148 : Nat) : Int) = 0) := fun e => ha (by have := mul148_eq_zero.1 e; omega)
  rw [if_neg h1, if_neg h1]

/-- same sign, so also the sign of a zero sum is right -/
theorem neg_half_add {a b : Int} (ha0 : 0 ≤ a) (hb0 : 0 ≤ b) (ha : a.natAbs < 16777216) (hb : b.natAbs < 16777216) :
    add (neg (half a)) (neg (half b)) = neg (half (a + b)) := by
  obtain ⟨_, a2, a3⟩ := half_fin ha
  obtain ⟨_, b2, b3⟩ := half_fin hb
  rw [add_eq_packZ (neg_finite (half_finite ha)) (neg_finite (half_finite hb)), toInt_neg, toInt_neg, a2, b2, sign_neg, sign_neg,
    a3, b3]
  have e1 : decide (a < 0) = false := by simp; omega
  have e2 : decide (b < 0) = false := by simp; omega
  rw [e1, e2]
  unfold half
  rw [neg_packZ, Int.add_mul]
  congr 1
  omega

theorem mul_neg_left {x y : SoftF32} (hx : x.isFinite = true) (hy : y.isFinite = true) : mul (neg x) y = neg (mul x y) := by
  have e3 : (neg x).sig = x.sig := by unfold sig; rw [mag_neg]
  have e4 : (neg x).ex = x.ex := by unfold ex; rw [mag_neg]
  rw [mul_of_finite (neg_finite hx) hy, mul_of_finite hx hy, e3, e4, sign_neg]
  apply eq_of_sign_mag
  · rw [sign_neg, sign_pack _ _ (roundInt_lt _ _), sign_pack _ _ (roundInt_lt _ _)]
    cases x.sign <;> cases y.sign <;> rfl
  · rw [mag_neg, mag_pack _ _ (roundInt_lt _ _), mag_pack _ _ (roundInt_lt _ _)]

theorem mul_comm_fin {x y : SoftF32} (hx : x.isFinite = true) (hy : y.isFinite = true) : mul x y = mul y x := by
  rw [mul_of_finite hx hy, mul_of_finite hy hx, Nat.mul_comm x.sig y.sig, Int.add_comm (x.ex : Int) (y.ex : Int)]
  congr 1
  cases x.sign <;> cases y.sign <;> rfl

theorem ofNat_finite {k : Nat} (hk : k < 16777216) : (ofNat k).isFinite = true := (ofNat_absLe hk).finite

theorem mul_neg_half_ofNat {a : Int} {k : Nat} (hk1 : 1 ≤ k) (hk : k < 16777216) (ha : a.natAbs < 16777216)
    (hak : (a * k).natAbs < 16777216) : mul (neg (half a)) (ofNat k) = neg (half (a * k)) := by
  rw [mul_neg_left (half_finite ha) (ofNat_finite hk), mul_half_ofNat hk1 hk ha hak]

/-- operand order of the profile–profile kernels -/
theorem mul_ofNat_half {a : Int} {k : Nat} (hk1 : 1 ≤ k) (hk : k < 16777216) (ha : a.natAbs < 16777216)
    (hak : (a * k).natAbs < 16777216) : mul (ofNat k) (half a) = half (a * k) := by
  rw [mul_comm_fin (ofNat_finite hk) (half_finite ha), mul_half_ofNat hk1 hk ha hak]

theorem mul_half_one {a : Int} (ha : a.natAbs < 16777216) : mul (half a) (ofNat 1) = half a := by
  have := mul_half_ofNat (a := a) (k := 1) (by decide) (by decide) ha (by simpa using ha)
  simpa using this

theorem ofNat_eq_half {k : Nat} (hk : k < 16777216) : ofNat k = half (2 * (k : Int)) := by
  rw [ofNat_eq_ofInt, ofInt_eq_half (by omega)]

theorem add_ofNat {a b : Nat} (h : a + b < 8388608) : add (ofNat a) (ofNat b) = ofNat (a + b) := by
  rw [ofNat_eq_half (by omega), ofNat_eq_half (by omega), ofNat_eq_half (by omega), add_half (by omega) (by omega)]
  congr 1
  omega

theorem add_zero_one : add zero one = ofNat 1 := by decide
theorem add_zero_zero : add zero zero = zero := by decide

theorem isNonzero_zero : Score.isNonzero (Score.zero : SoftF32) = false := by decide

theorem isNonzero_ofNat {k : Nat} (hk1 : 1 ≤ k) (hk : k < 8388608) : Score.isNonzero (Score.ofNat k : SoftF32) = true := by
  show (!beq (ofNat k) zero) = true
  have hm := mag_ofNat_ne (n := k) (by omega) (by omega)
  have hkey := natAbs_key (ofNat k)
  have hn : (ofNat k).isNaN = false := isNaN_of_finite (ofNat_finite (by omega))
  simp only [beq, hn, show zero.isNaN = false by decide, show zero.key = 0 by decide, Bool.not_false, Bool.true_and,
    Bool.not_eq_true', decide_eq_false_iff_not]
  omega

end Kalign.SoftF32

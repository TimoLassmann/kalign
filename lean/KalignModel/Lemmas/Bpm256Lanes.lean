import KalignModel.Lemmas.BpmWord
import KalignModel.Lemmas.Basic.ListWalk
/-!
# `bpm_256`: the AVX2 lane emulation is the word loop on 256 bits

`toBV` reads the four 64-bit lanes as one 256-bit number.  `add256` (carry resolution through `movemask` and the
`BROADCAST_MASK` table) is the 256-bit addition, `bitShiftLeft256ymm` the 256-bit shift; with these every lane operation of
`bpm256Step` is the wide operation of `bpmCore`, and `bpm256_eq_sellers` is `wordLoop_eq_sellers` (Lemmas/BpmWord.lean)
with the views `toBV`.
-/
namespace Kalign
open V256

def V256.lane (a : V256) : Nat → BitVec 64
  | 0 => a.l0
  | 1 => a.l1
  | 2 => a.l2
  | _ => a.l3

theorem toBV_lane_bit (a : V256) (l r : Nat) (hl : l < 4) (hr : r < 64) :
    a.toBV.getLsbD (64 * l + r) = (a.lane l).getLsbD r := by
  simp only [V256.toBV, BitVec.getLsbD_append]
  match l, hl with
  | 0, _ => rw [if_pos (by omega), show 64 * 0 + r = r by omega]; rfl
  | 1, _ => rw [if_neg (by omega), if_pos (by omega), show 64 * 1 + r - 64 = r by omega]; rfl
  | 2, _ => rw [if_neg (by omega), if_neg (by omega), if_pos (by omega), show 64 * 2 + r - 64 - 64 = r by omega]; rfl
  | 3, _ =>
    rw [if_neg (by omega), if_neg (by omega), if_neg (by omega), show 64 * 3 + r - 64 - 64 - 64 = r by omega]; rfl

theorem toBV_eq (a : V256) (x : BitVec 256)
    (h : ∀ l r, l < 4 → r < 64 → (a.lane l).getLsbD r = x.getLsbD (64 * l + r)) : a.toBV = x := by
  apply BitVec.eq_of_getLsbD_eq
  intro i hi
  have e := h (i / 64) (i % 64) (by omega) (Nat.mod_lt _ (by omega))
  rw [← toBV_lane_bit a _ _ (by omega) (Nat.mod_lt _ (by omega)), Nat.div_add_mod] at e
  exact e

theorem lane_map2 (f : BitVec 64 → BitVec 64 → BitVec 64) (a b : V256) (l : Nat) :
    (V256.map2 f a b).lane l = f (a.lane l) (b.lane l) :=
  match l with
  | 0 => rfl
  | 1 => rfl
  | 2 => rfl
  | _ + 3 => rfl

theorem lane_set1 (x : BitVec 64) (l : Nat) : (V256.set1 x).lane l = x :=
  match l with
  | 0 => rfl
  | 1 => rfl
  | 2 => rfl
  | _ + 3 => rfl

theorem toBV_map2 (f : BitVec 64 → BitVec 64 → BitVec 64) (g : BitVec 256 → BitVec 256 → BitVec 256)
    (g' : Bool → Bool → Bool)
    (hf : ∀ x y i, (f x y).getLsbD i = g' (x.getLsbD i) (y.getLsbD i))
    (hg : ∀ x y i, (g x y).getLsbD i = g' (x.getLsbD i) (y.getLsbD i)) (a b : V256) :
    (V256.map2 f a b).toBV = g a.toBV b.toBV := by
  apply toBV_eq
  intro l r hl hr
  rw [lane_map2, hf, hg, toBV_lane_bit a l r hl hr, toBV_lane_bit b l r hl hr]

theorem toBV_and (a b : V256) : (V256.and a b).toBV = a.toBV &&& b.toBV :=
  toBV_map2 _ _ (· && ·) (fun _ _ _ => BitVec.getLsbD_and) (fun _ _ _ => BitVec.getLsbD_and) a b
theorem toBV_or (a b : V256) : (V256.or a b).toBV = a.toBV ||| b.toBV :=
  toBV_map2 _ _ (· || ·) (fun _ _ _ => BitVec.getLsbD_or) (fun _ _ _ => BitVec.getLsbD_or) a b
theorem toBV_xor (a b : V256) : (V256.xor a b).toBV = a.toBV ^^^ b.toBV :=
  toBV_map2 _ _ (fun x y => x ^^ y) (fun _ _ _ => BitVec.getLsbD_xor) (fun _ _ _ => BitVec.getLsbD_xor) a b

theorem toBV_ones : (V256.set1 V256.ones64).toBV = BitVec.allOnes 256 := by
  apply toBV_eq
  intro l r hl hr
  rw [lane_set1, V256.ones64, BitVec.getLsbD_allOnes, BitVec.getLsbD_allOnes, decide_eq_true hr,
    decide_eq_true (by omega : 64 * l + r < 256)]

theorem toBV_zero : V256.zero.toBV = 0#256 := by
  apply toBV_eq
  intro l r _ _
  rw [V256.zero, lane_set1, BitVec.getLsbD_zero, BitVec.getLsbD_zero]

/-- `_mm256_andnot_si256(x, NOTONE)` is the complement -/
theorem toBV_andnot_ones (a : V256) : (V256.andnot a (V256.set1 V256.ones64)).toBV = ~~~ a.toBV := by
  apply toBV_eq
  intro l r hl hr
  rw [V256.andnot, lane_map2, lane_set1, V256.ones64, BitVec.and_allOnes, BitVec.getLsbD_not, BitVec.getLsbD_not,
    toBV_lane_bit a l r hl hr, decide_eq_true hr, decide_eq_true (by omega : 64 * l + r < 256)]

theorem shl_or_bit (x z : BitVec 64) (c r : Nat) (hr : r < 64) (hz : c ≤ r → z.getLsbD r = false) :
    (x <<< c ||| z).getLsbD r = if r < c then z.getLsbD r else x.getLsbD (r - c) := by
  rw [BitVec.getLsbD_or, BitVec.getLsbD_shiftLeft]
  by_cases h : r < c
  · simp [h]
  · rw [hz (by omega)]; simp [h, hr]

theorem lane_shl256 (a : V256) (c l : Nat) (hl : l < 4) :
    (shl256 a c).lane l = a.lane l <<< c ||| (if l = 0 then 0#64 else a.lane (l - 1) >>> (64 - c)) :=
  match l, hl with
  | 0, _ => rfl
  | 1, _ => rfl
  | 2, _ => rfl
  | 3, _ => rfl

theorem toBV_shl256 (a : V256) (c : Nat) (hc : c ≤ 64) : (shl256 a c).toBV = a.toBV <<< c := by
  apply toBV_eq
  intro l r hl hr
  have hz : c ≤ r → (if l = 0 then 0#64 else a.lane (l - 1) >>> (64 - c)).getLsbD r = false := by
    intro h
    split
    · exact BitVec.getLsbD_zero
    · rw [BitVec.getLsbD_ushiftRight]
      exact BitVec.getLsbD_of_ge _ _ (by omega)
  rw [lane_shl256 a c l hl, shl_or_bit _ _ c r hr hz, BitVec.getLsbD_shiftLeft,
    decide_eq_true (by omega : 64 * l + r < 256), Bool.true_and]
  by_cases h : r < c
  · rw [if_pos h]
    by_cases h0 : l = 0
    · rw [if_pos h0, h0, decide_eq_true (by omega : 64 * 0 + r < c), BitVec.getLsbD_zero]
      rfl
    · rw [if_neg h0, BitVec.getLsbD_ushiftRight, decide_eq_false (by omega : ¬ 64 * l + r < c),
        ← toBV_lane_bit a (l - 1) (64 - c + r) (by omega) (by omega),
        show 64 * (l - 1) + (64 - c + r) = 64 * l + r - c by omega]
      rfl
  · rw [if_neg h, decide_eq_false (by omega : ¬ 64 * l + r < c), ← toBV_lane_bit a l (r - c) hl (by omega),
      show 64 * l + (r - c) = 64 * l + r - c by omega]
    rfl

local notation "SB" => (9223372036854775808#64 : BitVec 64)
local notation "MX" => (9223372036854775807#64 : BitVec 64)

theorem SB_eq : SB = (1#64) <<< 63 := by rfl
theorem SB_toNat : (SB).toNat = 9223372036854775808 := by rfl
theorem MX_toNat : (MX).toNat = 9223372036854775807 := by rfl

theorem SB_bit (i : Nat) (hi : i < 64) : (SB).getLsbD i = decide (i = 63) := by
  rw [SB_eq, getLsbD_one_shl 64 63 i hi]

theorem xor_sb (a : BitVec 64) : a ^^^ SB = a + SB := by
  apply BitVec.eq_of_getLsbD_eq
  intro i hi
  have hc : ∀ k, k ≤ 63 → BitVec.carry k a SB false = false := by
    intro k hk
    induction k with
    | zero => exact BitVec.carry_zero
    | succ k ih =>
      rw [BitVec.carry_succ, ih (by omega), SB_bit k (by omega)]
      have : decide (k = 63) = false := by
        apply decide_eq_false; omega
      rw [this]
      cases a.getLsbD k <;> rfl
  rw [BitVec.getLsbD_xor, BitVec.getLsbD_add hi, hc i (by omega), Bool.xor_false]

/-- adding the sign bit turns the unsigned order into the signed one -/
theorem toInt_add_sb (x : BitVec 64) : (x + SB).toInt = (x.toNat : Int) - 9223372036854775808 := by
  have := x.isLt
  rw [BitVec.toInt_eq_toNat_cond, BitVec.toNat_add, SB_toNat]
  split <;> omega

theorem lane_gen (a b : BitVec 64) :
    BitVec.slt ((a ^^^ SB) + b) (a ^^^ SB) = decide (18446744073709551616 ≤ a.toNat + b.toNat) := by
  have ha := a.isLt
  have hb := b.isLt
  rw [xor_sb, BitVec.add_assoc, BitVec.add_comm SB b, ← BitVec.add_assoc, BitVec.slt_eq_decide, toInt_add_sb,
    toInt_add_sb, BitVec.toNat_add]
  congr 1
  apply propext
  omega

theorem lane_prop (a b : BitVec 64) :
    (((a ^^^ SB) + b) == MX) = decide ((a.toNat + b.toNat) % 18446744073709551616 = 18446744073709551615) := by
  rw [xor_sb]
  have ha := a.isLt
  have hb := b.isLt
  have h : (((a + SB) + b) = MX) ↔ ((a.toNat + b.toNat) % 18446744073709551616 = 18446744073709551615) := by
    rw [← BitVec.toNat_inj, BitVec.toNat_add, BitVec.toNat_add, SB_toNat, MX_toNat]
    omega
  by_cases hh : (a + SB) + b = MX
  · rw [decide_eq_true (h.1 hh)]
    exact beq_iff_eq.2 hh
  · rw [decide_eq_false (fun x => hh (h.2 x))]
    exact beq_eq_false_iff_ne.2 hh

theorem lane_res (a b : BitVec 64) (cin : Bool) :
    (((a ^^^ SB) + b) + (SB + (if cin then 1#64 else 0#64))).toNat
      = (a.toNat + b.toNat + (if cin then 1 else 0)) % 18446744073709551616 := by
  rw [xor_sb, BitVec.toNat_add, BitVec.toNat_add, BitVec.toNat_add, BitVec.toNat_add SB, SB_toNat]
  have ha := a.isLt
  have hb := b.isLt
  cases cin
  · rw [if_neg (by decide), if_neg (by decide)]
    have : (0#64).toNat = 0 := rfl
    rw [this]; omega
  · rw [if_pos rfl, if_pos rfl]
    have : (1#64).toNat = 1 := rfl
    rw [this]; omega

/-- the 4-bit mask that selects the entry of `BROADCAST_MASK`, from the generate (`g`) and propagate (`p`) bits of the
four lane sums -/
def carryMask (g0 g1 g2 g3 p0 p1 p2 p3 : Bool) : Nat :=
  let c : Nat := (if g0 then 1 else 0) + (if g1 then 2 else 0) + (if g2 then 4 else 0) + (if g3 then 8 else 0)
  let m : Nat := (if p0 then 1 else 0) + (if p1 then 2 else 0) + (if p2 then 4 else 0) + (if p3 then 8 else 0)
  (m ^^^ (0 + (m + 2 * c))) % 16

theorem carry4 : ∀ g0 g1 g2 g3 p0 p1 p2 p3 : Bool,
    (g0 && p0) = false → (g1 && p1) = false → (g2 && p2) = false → (g3 && p3) = false →
    (carryMask g0 g1 g2 g3 p0 p1 p2 p3).testBit 0 = false ∧ (carryMask g0 g1 g2 g3 p0 p1 p2 p3).testBit 1 = g0 ∧
    (carryMask g0 g1 g2 g3 p0 p1 p2 p3).testBit 2 = (g1 || (p1 && g0)) ∧
    (carryMask g0 g1 g2 g3 p0 p1 p2 p3).testBit 3 = (g2 || (p2 && (g1 || (p1 && g0)))) := by
  decide

theorem limb_step (B M x X : Nat) (hB : 0 < B) : (x + B * X) % (B * M) = x % B + B * ((X + x / B) % M) := by
  rw [Nat.mod_mul, Nat.add_mul_mod_self_left, Nat.add_mul_div_left _ _ hB, Nat.add_comm X]

theorem sum4 (B : Nat) (hB : 0 < B) (a0 a1 a2 a3 b0 b1 b2 b3 c1 c2 c3 : Nat)
    (h1 : c1 = (a0 + b0) / B) (h2 : c2 = (a1 + b1 + c1) / B) (h3 : c3 = (a2 + b2 + c2) / B) :
    ((a0 + B * (a1 + B * (a2 + B * a3))) + (b0 + B * (b1 + B * (b2 + B * b3)))) % (B * (B * (B * B))) =
      (a0 + b0) % B + B * ((a1 + b1 + c1) % B + B * ((a2 + b2 + c2) % B + B * ((a3 + b3 + c3) % B))) := by
  rw [Nat.add_add_add_comm a0, ← Nat.mul_add, Nat.add_add_add_comm a1, ← Nat.mul_add, Nat.add_add_add_comm a2,
    ← Nat.mul_add, limb_step _ _ _ _ hB, ← h1, Nat.add_right_comm (a1 + b1), limb_step _ _ _ _ hB, ← h2,
    Nat.add_right_comm (a2 + b2), limb_step _ _ _ _ hB, ← h3]

theorem toBV_toNat (a : V256) :
    a.toBV.toNat = a.l0.toNat + 18446744073709551616 * (a.l1.toNat + 18446744073709551616 *
      (a.l2.toNat + 18446744073709551616 * a.l3.toNat)) := by
  have h0 := a.l0.isLt
  have h1 := a.l1.isLt
  have h2 := a.l2.isLt
  unfold V256.toBV
  rw [BitVec.toNat_append, BitVec.toNat_append, BitVec.toNat_append]
  rw [← Nat.shiftLeft_add_eq_or_of_lt h0, ← Nat.shiftLeft_add_eq_or_of_lt h1, ← Nat.shiftLeft_add_eq_or_of_lt h2]
  simp only [Nat.shiftLeft_eq]
  omega

theorem msb_ite' (c : Bool) : (if c = true then V256.ones64 else 0#64).msb = c := by
  cases c <;> rfl

def genB (a b : BitVec 64) : Bool := decide (18446744073709551616 ≤ a.toNat + b.toNat)
def propB (a b : BitVec 64) : Bool := decide ((a.toNat + b.toNat) % 18446744073709551616 = 18446744073709551615)

theorem genB_propB (a b : BitVec 64) : (genB a b && propB a b) = false := by
  have ha := a.isLt
  have hb := b.isLt
  unfold genB propB
  rw [Bool.and_eq_false_imp]
  intro h
  have := of_decide_eq_true h
  exact decide_eq_false (by omega)

theorem carry_step (a b : BitVec 64) (cin : Bool) :
    (if (genB a b || (propB a b && cin)) = true then 1 else 0) =
      (a.toNat + b.toNat + (if cin = true then 1 else 0)) / 18446744073709551616 := by
  have ha := a.isLt
  have hb := b.isLt
  unfold genB propB
  cases cin <;> simp <;> split <;> omega

abbrev addMask (A B : V256) : Nat :=
  carryMask (genB A.l0 B.l0) (genB A.l1 B.l1) (genB A.l2 B.l2) (genB A.l3 B.l3)
    (propB A.l0 B.l0) (propB A.l1 B.l1) (propB A.l2 B.l2) (propB A.l3 B.l3)

theorem add256_lanes (A B : V256) :
    add256 0 A B =
      ⟨((A.l0 ^^^ SB) + B.l0) + (SB + (if (addMask A B).testBit 0 then 1#64 else 0#64)),
       ((A.l1 ^^^ SB) + B.l1) + (SB + (if (addMask A B).testBit 1 then 1#64 else 0#64)),
       ((A.l2 ^^^ SB) + B.l2) + (SB + (if (addMask A B).testBit 2 then 1#64 else 0#64)),
       ((A.l3 ^^^ SB) + B.l3) + (SB + (if (addMask A B).testBit 3 then 1#64 else 0#64))⟩ := by
  unfold add256 addMask carryMask genB propB
  simp only [V256.movemask, V256.cmpgt, V256.cmpeq, V256.map2, V256.add64, V256.xor, V256.set1, msb_ite', lane_gen,
    lane_prop]
  rfl

theorem toBV_add256 (A B : V256) : (add256 0 A B).toBV = A.toBV + B.toBV := by
  apply BitVec.eq_of_toNat_eq
  rw [BitVec.toNat_add, toBV_toNat, toBV_toNat, toBV_toNat, add256_lanes]
  dsimp only
  rw [lane_res, lane_res, lane_res, lane_res]
  obtain ⟨t0, t1, t2, t3⟩ := carry4 _ _ _ _ _ _ _ _ (genB_propB A.l0 B.l0) (genB_propB A.l1 B.l1)
    (genB_propB A.l2 B.l2) (genB_propB A.l3 B.l3)
  rw [t0, t1, t2, t3]
  have c1 : (if genB A.l0 B.l0 = true then 1 else 0) = (A.l0.toNat + B.l0.toNat) / 18446744073709551616 := by
    simpa using carry_step A.l0 B.l0 false
  rw [if_neg (by decide : ¬ (false = true)), Nat.add_zero]
  exact (sum4 18446744073709551616 (by decide) _ _ _ _ _ _ _ _ _ _ _ c1 (carry_step A.l1 B.l1 _) (carry_step A.l2 B.l2 _)).symm

theorem toBV_eq_zero (x : V256) : x.toBV = 0#256 ↔ (x.l0 = 0#64 ∧ x.l1 = 0#64 ∧ x.l2 = 0#64 ∧ x.l3 = 0#64) := by
  rw [← BitVec.toNat_inj, toBV_toNat, ← BitVec.toNat_inj, ← BitVec.toNat_inj, ← BitVec.toNat_inj, ← BitVec.toNat_inj]
  show _ = 0 ↔ _ = 0 ∧ _ = 0 ∧ _ = 0 ∧ _ = 0
  simp only [Nat.add_eq_zero_iff, Nat.mul_eq_zero, show ¬ (18446744073709551616 = 0) by decide, false_or]

theorem one_sub_ite (P : Prop) [Decidable P] :
    ((1 : Int) - (if decide P = true then 1 else 0)) = (if ¬ P then 1 else 0) := by
  by_cases h : P
  · rw [decide_eq_true h, if_pos rfl, if_neg (fun hn => hn h)]; rfl
  · rw [decide_eq_false h, if_neg (by decide), if_pos h]; rfl

theorem testz_eq (a b : V256) : V256.testz a b = decide (a.toBV &&& b.toBV = 0#256) := by
  rw [← toBV_and, Bool.eq_iff_iff, decide_eq_true_iff, toBV_eq_zero]
  simp only [V256.testz, Bool.and_eq_true, beq_iff_eq, and_assoc]
  rfl

theorem lane_bpm256B (p : List Nat) (m c l : Nat) (hl : l < 4) :
    (bpm256B p m c).lane l = bitsToBV 64 (fun i => decide (l * 64 + i < m) && (p.getD (l * 64 + i) 0 == c)) 64 :=
  match l, hl with
  | 0, _ => rfl
  | 1, _ => rfl
  | 2, _ => rfl
  | 3, _ => rfl

theorem toBV_bpm256B (p : List Nat) (m c : Nat) (hm : m ≤ 256) : (bpm256B p m c).toBV = bpmB 256 p m c := by
  apply toBV_eq
  intro l r hl hr
  rw [lane_bpm256B p m c l hl, bitsToBV_bit 64 _ 64 r (Nat.le_refl _) hr, bpmB_bit 256 p m c _ hm (by omega),
    decide_eq_true hr, Bool.true_and, Nat.mul_comm l 64]

theorem toBV_one : (⟨1#64, 0#64, 0#64, 0#64⟩ : V256).toBV = 1#256 := by
  apply BitVec.eq_of_toNat_eq
  rw [toBV_toNat]
  rfl

theorem toBV_bpm256Mask (m : Nat) : (bpm256Mask m).toBV = rowMask 256 m := by
  unfold bpm256Mask rowMask
  by_cases h0 : m = 0
  · rw [if_pos h0, if_pos h0, toBV_zero]
  · rw [if_neg h0, if_neg h0]
    dsimp only
    have hfold : ∀ q, ((List.range q).foldl (fun x _ => shl256 x 64) (⟨1#64, 0#64, 0#64, 0#64⟩ : V256)).toBV
        = (1#256) <<< (64 * q) := by
      intro q
      induction q with
      | zero => rw [List.range_zero, List.foldl_nil, toBV_one]; rfl
      | succ q ih =>
        rw [List.range_succ, List.foldl_append, List.foldl_cons, List.foldl_nil, toBV_shl256 _ 64 (Nat.le_refl _), ih,
          ← BitVec.shiftLeft_add]
        congr 1
    rw [toBV_shl256 _ _ (by omega), hfold, ← BitVec.shiftLeft_add]
    congr 1
    omega

/-- `bpm_256`, the empty pattern included (its mask is 0, so `diff` and `k` stay 0) -/
theorem bpm256_eq_sellers (t p : List Nat) (ht : ∀ c ∈ t, c < 13) (hp : ∀ c ∈ p, c < 13) :
    bpm256 t p = some (sellers (p.take 255) t) := by
  rw [show List.take 255 p = List.take (min p.length 255) p by rw [List.take_eq_take_min, Nat.min_comm]]
  generalize hm : min p.length 255 = m
  unfold bpm256
  dsimp only
  rw [hm, any_sigma_false _ (fun c hc => hp c (List.mem_of_mem_take hc)), any_sigma_false t ht]
  simp only [Bool.or_self, Bool.false_eq_true, if_false]
  have h := wordLoop_eq_sellers (w := 256) (·.VP.toBV) (·.VN.toBV) (·.diff) (·.k) id
    (bpm256Step (fun c => (((List.range SIGMA).map fun c => bpm256B p m c).toArray).getD c V256.zero) (bpm256Mask m))
    (fun c => ((((List.range SIGMA).map fun c => bpm256B p m c).toArray).getD c V256.zero).toBV)
    p t m (by omega) (by omega) (by omega) (fun _ _ _ => rfl)
    (fun c hc i hi => by
      rw [tab_getD _ SIGMA _ _ (ht c hc), toBV_bpm256B p m c (by omega), bpmB_bit 256 p m _ i (by omega) hi])
    (fun s c => by
      -- every lane operation of `bpm256Step` is the wide operation of `bpmCore`
      unfold bpm256Step bpmCore
      simp only [toBV_or, toBV_and, toBV_xor, toBV_add256, toBV_andnot_ones, toBV_shl256 _ 1 (by omega : 1 ≤ 64),
        testz_eq, one_sub_ite, toBV_bpm256Mask, id, and_self])
    id id_tri (fun _ _ => rfl)
    { VP := V256.set1 V256.ones64, VN := V256.zero, diff := (m : Int), k := (m : Int) }
    (by rw [toBV_ones, toBV_zero]; exact Enc.ones _ (fun i _ => by simp only [id]; omega)) rfl rfl
  rw [h]

end Kalign

import KalignModel.Lemmas.Cut
import KalignModel.Lemmas.KernelVsST
import KalignModel.Lemmas.ScoreST
import KalignModel.Lemmas.PathCols
import KalignModel.Lemmas.Walk
/-!
# One Hirschberg level's reading of a complete alignment versus the reference score

A complete column list `Y = Y1 ++ Y2` of the problem `w`, cut after `Y1`; the forward kernel (`aln_seqseq_foward`) reads
`Y1` from the near corner, the backward kernel (`aln_seqseq_backward`) reads `Y2` from the far corner (`w.mirror`), the
meetup (`aln_seqseq_meetup`) subtracts `J` for the edge between the two parts.  `levelRead_eq`:

    reading = S_T(Y) − (J + stE(edge)) − gpo·(tclose Y1 + tclose' Y2)

i.e. the reading differs from the reference score by the meetup's deviation on the joining edge and by `gpo` for the
leading run closed inside `Y1` and for the trailing run opened inside `Y2`.
-/
namespace Kalign

def STW.levelRead (w : STW) (Y1 Y2 : List Col) (J : Int) : Int :=
  walkSc w.kcfg 0 0 .A Y1 + walkSc w.mirror.kcfg 0 0 .A Y2.reverse - J

theorem STW.levelRead_eq (w : STW) (Y1 Y2 : List Col) (J : Int)
    (hadj : adjOK .A (Y1 ++ Y2) = true) (hA : consA (Y1 ++ Y2) = w.lenA) (hB : consB (Y1 ++ Y2) = w.lenB)
    (hokF : walkOK w.kcfg 0 0 .A Y1 = true) (hokB : walkOK w.mirror.kcfg 0 0 .A Y2.reverse = true)
    (hrowF : consA Y1 < w.lenA) (hrowB : noGapAAt w.lenA 0 Y2.reverse = true) :
    w.levelRead Y1 Y2 J =
      w.walk 0 0 .A (Y1 ++ Y2) - (J + w.stE (lastKind .A Y1) (firstKind .A Y2) (consA Y1) (consB Y1)) -
        w.gpo * ((w.tclose 0 0 .A Y1 : Int) + (w.mirror.tclose 0 0 .A Y2.reverse : Int)) := by
  rw [adjOK_append, Bool.and_eq_true] at hadj
  rw [consA_append] at hA
  rw [consB_append] at hB
  have h1 := STW.walkSc_kcfg w Y1 0 0 .A hokF (noGapAAt_of_lt _ _ _ (by omega))
  have h2 := STW.walkSc_kcfg w.mirror Y2.reverse 0 0 .A hokB hrowB
  have h3 := STW.walk_mirror w Y2 (consA Y1) (consB Y1) (lastKind .A Y1) hadj.2 hA hB
  rw [STW.levelRead, h1, h2, STW.walk_append, Nat.zero_add, Nat.zero_add, h3, Int.mul_add, STW.mirror_gpo]
  omega

theorem startsGap_of_no_both (X : List Col) (hne : X ≠ []) (hs : Col.skip ∉ X) (hb : Col.both ∉ X) :
    startsGap X = true := by
  cases X with
  | nil => exact absurd rfl hne
  | cons c cs =>
    cases c with
    | skip => exact absurd (by simp) hs
    | both => exact absurd (by simp) hb
    | gapA => rfl
    | gapB => rfl

theorem startsGap_append_left (X Y : List Col) (hne : X ≠ []) : startsGap (X ++ Y) = startsGap X := by
  cases X with
  | nil => exact absurd rfl hne
  | cons c cs => rfl

theorem startsGap_of_firstKind (bk : Kind) (X : List Col) (hs : Col.skip ∉ X) (h : firstKind bk X ≠ .A) (hne : X ≠ []) :
    startsGap X = true := by
  cases X with
  | nil => exact absurd rfl hne
  | cons c cs =>
    cases c with
    | skip => exact absurd (by simp) hs
    | both => simp [firstKind, colKind] at h
    | gapA => rfl
    | gapB => rfl

theorem nterm_eq (Y : List Col) :
    nterm Y = (if startsGap Y then 1 else 0) + (if startsGap Y.reverse then 1 else 0) := by
  unfold nterm
  congr 1
  · cases Y with
    | nil => rfl
    | cons c cs => rfl
  · rw [← List.head?_reverse]
    cases Y.reverse with
    | nil => rfl
    | cons c cs => rfl

/-- what the meetup subtracts on the joining edge `(x, y)` at node `(i,j)`: nothing between two aligned columns, `gpo`
between an aligned and a gap column, `gpe` or `tgpe` inside a gap-in-b run — `tgpe` at least when the run is terminal -/
def STW.JoinOK (w : STW) (x y : Kind) (i j : Nat) (J : Int) : Prop :=
  (x = .A ∧ y = .A ∧ J = 0) ∨ (x = .A ∧ (y = .GA ∨ y = .GB) ∧ J = w.gpo) ∨
  ((x = .GA ∨ x = .GB) ∧ y = .A ∧ J = w.gpo) ∨
  (x = .GB ∧ y = .GB ∧ (J = w.gpe ∨ J = w.tgpe) ∧ (w.termK .GB i j = true → J = w.tgpe))

def STW.slackLo (w : STW) : Int := max 0 (max (w.tgpe - w.gpe) (w.tgpe - w.gpo))
def STW.slackHi (w : STW) : Int := max 0 (w.gpe - w.tgpe)

theorem STW.slack_eq (w : STW) : w.slackLo + w.slackHi = slackST w.gpo w.gpe w.tgpe := rfl

theorem STW.slackLo_ge (w : STW) : 0 ≤ w.slackLo ∧ w.tgpe - w.gpe ≤ w.slackLo ∧ w.tgpe - w.gpo ≤ w.slackLo :=
  ⟨Int.le_max_left _ _, Int.le_trans (Int.le_max_left _ _) (Int.le_max_right _ _),
    Int.le_trans (Int.le_max_right _ _) (Int.le_max_right _ _)⟩
theorem STW.slackHi_ge (w : STW) : 0 ≤ w.slackHi ∧ w.gpe - w.tgpe ≤ w.slackHi :=
  ⟨Int.le_max_left _ _, Int.le_max_right _ _⟩

theorem ite_le_one (b : Bool) : (if b then 1 else 0 : Nat) ≤ 1 := by cases b <;> simp

theorem startsGap_le_append (X Y : List Col) :
    (if startsGap X then 1 else 0 : Nat) ≤ (if startsGap (X ++ Y) then 1 else 0) := by
  cases X with
  | nil => exact Nat.zero_le _
  | cons c cs => exact Nat.le_refl _

/-- The budget of the lower bound.  Of the `S + T` terminal runs, `lc + tc` are charged `gpo` by the kernels; the
deviation `dev` on the joining edge stays below `slo`, or below `gpo + slo` where a terminal run crosses the cut and
is therefore not charged. -/
theorem lo_bound (gpo slo dev : Int) (lc tc S T : Nat) (hg : 0 ≤ gpo) (hlc : lc ≤ S) (htc : tc ≤ T)
    (hdev : dev ≤ slo ∨ (dev ≤ gpo + slo ∧ ((lc = 0 ∧ S = 1) ∨ (tc = 0 ∧ T = 1)))) :
    dev + gpo * ((lc : Int) + (tc : Int)) ≤ gpo * ((S : Int) + (T : Int)) + slo := by
  rcases hdev with h | ⟨h, hcut⟩
  · have := Int.mul_le_mul_of_nonneg_left (show (lc : Int) + tc ≤ S + T by omega) hg
    omega
  · have := Int.mul_le_mul_of_nonneg_left (show (lc : Int) + tc + 1 ≤ S + T by omega) hg
    rw [Int.mul_add _ _ 1, Int.mul_one] at this
    omega

/-- A terminal gap run across the cut (the joining edge at node `(consA Y1, consB Y1)` touches a gap column of kind `g`
that is terminal there) is a leading run that `Y1` does not close, or a trailing run that `Y2` does not open. -/
theorem STW.term_cut (w : STW) (Y1 Y2 : List Col) (g : Kind) (hs : Col.skip ∉ Y1 ++ Y2) (hY2 : Y2 ≠ [])
    (hB : consB Y1 + consB Y2 = w.lenB) (hrowF : consA Y1 < w.lenA)
    (hedge : lastKind .A Y1 ≠ .A ∨ firstKind .A Y2 ≠ .A) (hterm : w.termK g (consA Y1) (consB Y1) = true) :
    (w.tclose 0 0 .A Y1 = 0 ∧ (if startsGap (Y1 ++ Y2) then 1 else 0) = 1) ∨
      (w.mirror.tclose 0 0 .A Y2.reverse = 0 ∧ (if startsGap Y2.reverse then 1 else 0) = 1) := by
  have hs1 : Col.skip ∉ Y1 := fun h => hs (List.mem_append_left _ h)
  have hs2 : Col.skip ∉ Y2 := fun h => hs (List.mem_append_right _ h)
  by_cases h0 : consA Y1 = 0 ∨ consB Y1 = 0
  · left
    have hb := both_notin_of_cons_zero Y1 h0
    refine ⟨STW.tclose_zero_of_no_both w Y1 0 0 .A hb, if_pos ?_⟩
    by_cases hne : Y1 = []
    · subst hne
      exact startsGap_of_firstKind .A Y2 hs2 (hedge.resolve_left (fun h => h rfl)) hY2
    · rw [startsGap_append_left _ _ hne]
      exact startsGap_of_no_both Y1 hne hs1 hb
  · right
    have hend : consB Y2 = 0 := by
      cases g with
      | A => simp [STW.termK] at hterm
      | GA =>
        have : consA Y1 = 0 ∨ consA Y1 = w.lenA := by simpa [STW.termK] using hterm
        omega
      | GB =>
        have : consB Y1 = 0 ∨ consB Y1 = w.lenB := by simpa [STW.termK] using hterm
        omega
    have hb : Col.both ∉ Y2.reverse := fun h => both_notin_of_cons_zero Y2 (Or.inr hend) (List.mem_reverse.mp h)
    exact ⟨STW.tclose_zero_of_no_both w.mirror _ 0 0 .A hb,
      if_pos (startsGap_of_no_both _ (by simpa using hY2) (fun h => hs2 (List.mem_reverse.mp h)) hb)⟩

/-- The deviation on the joining edge: what the meetup subtracts there plus what `S_T` pays for the edge.  It lies
within the slacks, except that it may reach `gpo + slackLo` where the edge touches a gap column of a terminal run. -/
theorem STW.JoinOK.dev {w : STW} {x y : Kind} {i j : Nat} {J : Int} (h : w.JoinOK x y i j J)
    (hgpo : 0 ≤ w.gpo) (hgpe : 0 ≤ w.gpe) :
    -w.slackHi ≤ J + w.stE x y i j ∧
      (J + w.stE x y i j ≤ w.slackLo ∨
        (J + w.stE x y i j ≤ w.gpo + w.slackLo ∧ (x ≠ .A ∨ y ≠ .A) ∧ ∃ g, w.termK g i j = true)) := by
  obtain ⟨hs0, hs1, hs2⟩ := w.slackLo_ge
  obtain ⟨hh0, hh1⟩ := w.slackHi_ge
  rcases h with ⟨rfl, rfl, rfl⟩ | ⟨rfl, hy, rfl⟩ | ⟨hx, rfl, rfl⟩ | ⟨rfl, rfl, hJ, hJt⟩
  · exact ⟨by simp only [STW.stE]; omega, Or.inl (by simp only [STW.stE]; omega)⟩
  · have hst : w.stE .A y i j = if w.termK y i j then 0 else - w.gpo := by
      rcases hy with rfl | rfl <;> rfl
    rw [hst]
    by_cases hterm : w.termK y i j = true
    · rw [if_pos hterm]
      exact ⟨by omega, Or.inr ⟨by omega, Or.inr (by rcases hy with rfl | rfl <;> simp), y, hterm⟩⟩
    · rw [if_neg hterm]
      exact ⟨by omega, Or.inl (by omega)⟩
  · have hst : w.stE x .A i j = if w.termK x i j then 0 else - w.gpo := by
      rcases hx with rfl | rfl <;> rfl
    rw [hst]
    by_cases hterm : w.termK x i j = true
    · rw [if_pos hterm]
      exact ⟨by omega, Or.inr ⟨by omega, Or.inl (by rcases hx with rfl | rfl <;> simp), x, hterm⟩⟩
    · rw [if_neg hterm]
      exact ⟨by omega, Or.inl (by omega)⟩
  · have hst : w.stE .GB .GB i j = if w.termK .GB i j then 0 else - w.gpe := by
      simp [STW.stE]
    rw [hst]
    by_cases hterm : w.termK .GB i j = true
    · rw [if_pos hterm, hJt hterm]
      exact ⟨by omega, Or.inr ⟨by omega, Or.inl (by simp), .GB, hterm⟩⟩
    · rw [if_neg hterm]
      rcases hJ with rfl | rfl
      · exact ⟨by omega, Or.inl (by omega)⟩
      · exact ⟨by omega, Or.inl (by omega)⟩

/-- the level's reading of a complete alignment lies in
`[S_T − gpo·nterm − slackLo, S_T + slackHi]` -/
theorem STW.level_bounds (w : STW) (hgpo : 0 ≤ w.gpo) (hgpe : 0 ≤ w.gpe)
    (Y1 Y2 : List Col) (J : Int) (hY2 : Y2 ≠ [])
    (hadj : adjOK .A (Y1 ++ Y2) = true) (hA : consA (Y1 ++ Y2) = w.lenA) (hB : consB (Y1 ++ Y2) = w.lenB)
    (hokF : walkOK w.kcfg 0 0 .A Y1 = true) (hokB : walkOK w.mirror.kcfg 0 0 .A Y2.reverse = true)
    (hrowF : consA Y1 < w.lenA) (hrowB : noGapAAt w.lenA 0 Y2.reverse = true)
    (hJ : w.JoinOK (lastKind .A Y1) (firstKind .A Y2) (consA Y1) (consB Y1) J) :
    w.walk 0 0 .A (Y1 ++ Y2) - w.gpo * (nterm (Y1 ++ Y2) : Int) - w.slackLo ≤ w.levelRead Y1 Y2 J ∧
      w.levelRead Y1 Y2 J ≤ w.walk 0 0 .A (Y1 ++ Y2) + w.slackHi := by
  rw [STW.levelRead_eq w Y1 Y2 J hadj hA hB hokF hokB hrowF hrowB, nterm_eq, List.reverse_append,
    startsGap_append_left Y2.reverse _ (by simpa using hY2)]
  rw [consA_append] at hA
  rw [consB_append] at hB
  have hlc := Nat.le_trans (STW.tclose_corner w Y1 hokF (by omega)) (startsGap_le_append Y1 Y2)
  have htc := STW.tclose_corner w.mirror Y2.reverse hokB (by rw [consA_reverse]; simp; omega)
  obtain ⟨hlo, hhi⟩ := hJ.dev hgpo hgpe
  have hhi' := hhi.imp_right fun ⟨hd, hedge, g, hterm⟩ =>
    And.intro hd (w.term_cut Y1 Y2 g (adjOK_noskip _ _ hadj) hY2 hB hrowF hedge hterm)
  have hnn : 0 ≤ w.gpo * ((w.tclose 0 0 .A Y1 : Int) + (w.mirror.tclose 0 0 .A Y2.reverse : Int)) :=
    Int.mul_nonneg hgpo (Int.add_nonneg (Int.natCast_nonneg _) (Int.natCast_nonneg _))
  have := lo_bound _ _ _ _ _ _ _ hgpo hlc htc hhi'
  simp only [Int.natCast_add]
  constructor <;> omega

end Kalign

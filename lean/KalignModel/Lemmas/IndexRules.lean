import KalignModel.Model.Checked
import KalignModel.Lemmas.Basic.ArrayGetD
import KalignModel.Lemmas.RealKernels
/-!
# Checked twins: the agreement rules, the combinators, the profile accessors and the row loop of the kernels

A checked function `fC` of `Model/Checked.lean` agrees with the totalised `f` when `fC … = some (f …)`: `Agrees (fC …) (f …)`.
The agreement lemmas of the `Index*` files are stated with `Agrees`; the theorems of Props/C05Index.lean write the equation out.
All combinators are here: those of `Option` (`foldlC`, `foldrC`, `mapC`, `filterC`, `anyC`), those of `Chk` (`foldlChk`, `mapChk`,
`iterChk`) and what `chk` / `mdl` do on `some` and `none`.
-/
namespace Kalign

theorem range_map_toArray {γ : Type} (f : Nat → γ) (n : Nat) : ((List.range n).map f).toArray = (Array.range n).map f := by
  apply Array.ext'
  simp [Array.toList_range]

/-- The checked computation `c` leaves no array and returns what the totalised one returns.

The rules below take only the checked side apart, one construct at a time, each continuing with the value the totalised
side has at that point; the two sides are compared once, at the end (`Agrees.pure`), and that comparison also finds the
default values of the `getD`s passed on the way.  A proof from the rules has the shape of the twin, and its arguments are
the index bounds.  `Agrees` is reducible, so an agreement lemma also rewrites (`rw [h, Option.bind_some]`); the `Index*` files
use both idioms. -/
abbrev Agrees {γ : Type} (c : Option γ) (t : γ) : Prop := c = some t

-- the rules shadow `pure`, `bind`, `map`, `ite`, `chk`: hence `Pure.pure` and `Kalign.chk` inside the namespace
namespace Agrees
variable {β γ : Type}

/-- the end of a chain; it also ends a `Chk` (`(pure t).run` is `some (some t)`) -/
theorem pure (t : γ) : Agrees (some t) t := rfl

theorem bind {x : Option β} {a : β} {k : β → Option γ} {t : γ} (hx : Agrees x a) (hk : Agrees (k a) t) :
    Agrees (x.bind k) t := by
  rw [hx, Option.bind_some]
  exact hk

theorem map {x : Option β} {a : β} {g : β → γ} (hx : Agrees x a) : Agrees (x.map g) (g a) := by
  rw [hx, Option.map_some]

/-- also for a branch in `Chk` (`.run` of an `if` unfolds to the `if`) -/
theorem ite {c : Prop} [Decidable c] {A B : Option γ} {a b : γ} (ha : c → Agrees A a) (hb : ¬c → Agrees B b) :
    Agrees (if c then A else B) (if c then a else b) := by
  split
  · exact ha ‹_›
  · exact hb ‹_›

theorem read {a : Array γ} {i : Nat} {d : γ} (h : i < a.size) : Agrees a[i]? (a.getD i d) := by
  simp [Array.getD, h]

theorem read! [Inhabited γ] {a : Array γ} {i : Nat} (h : i < a.size) : Agrees a[i]? a[i]! := by
  simp [h]

theorem readL {l : List γ} {i : Nat} {d : γ} (h : i < l.length) : Agrees l[i]? (l.getD i d) := by
  simp [List.getD, h]

theorem write {a : Array γ} {i : Nat} {v : γ} (h : i < a.size) : Agrees (asetC a i v) (a.set! i v) := by
  simp [asetC, h]

theorem writeL {l : List γ} {i : Nat} {v : γ} (h : i < l.length) : Agrees (lsetC l i v) (l.set i v) := by
  simp [lsetC, h]

end Agrees

theorem foldlC_eq_inv {σ γ : Type} (I : σ → Prop) (fC : σ → γ → Option σ) (f : σ → γ → σ) (l : List γ) (s : σ)
    (hs : I s) (h : ∀ s x, x ∈ l → I s → Agrees (fC s x) (f s x) ∧ I (f s x)) :
    Agrees (foldlC fC s l) (l.foldl f s) ∧ I (l.foldl f s) := by
  induction l generalizing s with
  | nil => exact ⟨rfl, hs⟩
  | cons x xs ih =>
    obtain ⟨h1, h2⟩ := h s x (by simp) hs
    rw [foldlC, h1, Option.bind_some, List.foldl_cons]
    exact ih _ h2 (fun s y hy => h s y (by simp [hy]))

theorem foldlC_eq {σ γ : Type} (fC : σ → γ → Option σ) (f : σ → γ → σ) (l : List γ) (s : σ)
    (h : ∀ s x, x ∈ l → Agrees (fC s x) (f s x)) : Agrees (foldlC fC s l) (l.foldl f s) :=
  (foldlC_eq_inv (fun _ => True) fC f l s trivial (fun s x hx _ => ⟨h s x hx, trivial⟩)).1

theorem foldrC_eq_inv {σ γ : Type} (I : σ → Prop) (fC : γ → σ → Option σ) (f : γ → σ → σ) (l : List γ) (s : σ)
    (hs : I s) (h : ∀ s x, x ∈ l → I s → Agrees (fC x s) (f x s) ∧ I (f x s)) :
    Agrees (foldrC fC s l) (l.foldr f s) ∧ I (l.foldr f s) := by
  induction l with
  | nil => exact ⟨rfl, hs⟩
  | cons x xs ih =>
    obtain ⟨h1, h2⟩ := ih (fun s y hy => h s y (by simp [hy]))
    obtain ⟨h3, h4⟩ := h _ x (by simp) h2
    rw [foldrC, h1, Option.bind_some, List.foldr_cons]
    exact ⟨h3, h4⟩

theorem mapC_eq {β γ : Type} (fC : β → Option γ) (f : β → γ) (l : List β) (h : ∀ x ∈ l, Agrees (fC x) (f x)) :
    Agrees (mapC fC l) (l.map f) := by
  induction l with
  | nil => rfl
  | cons x xs ih =>
    rw [mapC, h x (by simp), Option.bind_some, ih (fun y hy => h y (by simp [hy]))]
    rfl

theorem filterC_eq {γ : Type} (fC : γ → Option Bool) (f : γ → Bool) (l : List γ) (h : ∀ x ∈ l, Agrees (fC x) (f x)) :
    Agrees (filterC fC l) (l.filter f) := by
  induction l with
  | nil => rfl
  | cons x xs ih =>
    rw [filterC, h x (by simp), Option.bind_some, ih (fun y hy => h y (by simp [hy])), Option.bind_some, List.filter_cons]

namespace Agrees
variable {β γ : Type}

/-- sequencing in `Chk`: the outer `some` says that no index left its range, the inner option is the model's own fault -/
theorem bindM {x : Chk β} {o : Option β} {f : β → Chk γ} {g : β → Option γ} (hx : Agrees x.run o)
    (hf : ∀ a, o = some a → Agrees (f a).run (g a)) : Agrees (x >>= f).run (o.bind g) := by
  rw [OptionT.run_bind, hx]
  cases o with
  | none => rfl
  | some a => exact hf a rfl

theorem mapM {x : Chk β} {o : Option β} {g : β → γ} (hx : Agrees x.run o) :
    Agrees (x >>= fun a => Pure.pure (g a)).run (o.map g) := by
  rw [OptionT.run_bind, hx]
  cases o <;> rfl

theorem chk {c : Option β} {a : β} {k : β → Chk γ} {t : Option γ} (hc : Agrees c a) (hk : Agrees (k a).run t) :
    Agrees (Kalign.chk c >>= k).run t := by
  rw [hc]
  exact hk

theorem lift {c : Option γ} {t : γ} (h : Agrees c t) : Agrees (Kalign.chk c).run (some t) := by
  rw [h]
  rfl

theorem fail : Agrees (mdl none : Chk γ).run none := rfl

end Agrees

@[simp] theorem run_chk_some {γ : Type} (x : γ) : (chk (some x) : Chk γ) = pure x := rfl
@[simp] theorem run_mdl_some {γ : Type} (x : γ) : (mdl (some x) : Chk γ) = pure x := rfl
theorem mdl_none_bind {γ δ : Type} (f : γ → Chk δ) : (mdl (none : Option γ) >>= f) = mdl none := rfl
@[simp] theorem run_mdl_none {γ : Type} : (mdl (none : Option γ) : Chk γ).run = some none := rfl

theorem foldlChk_eq {σ γ : Type} (f : σ → γ → Chk σ) (g : σ → γ → Option σ) (h : ∀ s x, Agrees (f s x).run (g s x))
    (l : List γ) (s : σ) : Agrees (foldlChk f s l).run (l.foldlM g s) := by
  induction l generalizing s with
  | nil => rfl
  | cons x xs ih => exact Agrees.bindM (h s x) (fun s' _ => ih s')

theorem mapChk_eq {β γ : Type} (fC : β → Chk γ) (f : β → Option γ) (l : List β)
    (h : ∀ x ∈ l, Agrees (fC x).run (f x)) : Agrees (mapChk fC l).run (l.mapM f) := by
  induction l with
  | nil => rfl
  | cons x xs ih =>
    rw [mapChk, List.mapM_cons]
    exact Agrees.bindM (h x List.mem_cons_self) fun y _ =>
      Agrees.bindM (ih fun z hz => h z (List.mem_cons_of_mem x hz)) fun ys _ => rfl

theorem iterChk_eq {σ : Type} (I : σ → Prop) (fC : σ → Chk σ) (f : σ → Option σ)
    (h : ∀ s, I s → Agrees (fC s).run (f s) ∧ ∀ s', f s = some s' → I s') (k : Nat) (s : σ) (hs : I s) :
    Agrees (iterChk fC k s).run (iterOpt f k s) ∧ ∀ s', iterOpt f k s = some s' → I s' := by
  induction k generalizing s with
  | zero => exact ⟨rfl, fun s' e => by cases e; exact hs⟩
  | succ k ih =>
    obtain ⟨e, hI⟩ := h s hs
    rw [iterChk, iterOpt, OptionT.run_bind, e]
    cases hf : f s with
    | none => exact ⟨rfl, fun s' e => by cases e⟩
    | some s1 => exact ih s1 (hI s1 hf)

theorem Kmeans.anyC_eq {γ : Type} (fC : γ → Option Bool) (f : γ → Bool) (l : List γ) (h : ∀ x ∈ l, Agrees (fC x) (f x)) :
    Agrees (anyC fC l) (l.any f) := by
  induction l with
  | nil => rfl
  | cons x xs ih =>
    rw [Kmeans.anyC, h x (by simp), Option.bind_some, List.any_cons]
    cases f x
    · simpa using ih (fun y hy => h y (by simp [hy]))
    · rfl

section
variable {α : Type} [Score α]

theorem pgetC_eq (p : Array α) (col k : Nat) (h : 64 * col + k < p.size) : Agrees (pgetC p col k) (pget p col k) :=
  Agrees.read h

def ColOK (p : Array α) (col : Nat) : Prop := 64 * col + 64 ≤ p.size

theorem pgetC_col (p : Array α) (col k : Nat) (h : ColOK p col) (hk : k < 64 := by omega) :
    Agrees (pgetC p col k) (pget p col k) :=
  pgetC_eq p col k (by unfold ColOK at h; omega)

theorem addProfEntryC_eq (p : Array α) (col k : Nat) (x : α) (h : ColOK p col) (hk : k < 64 := by omega) :
    Agrees ((pgetC p col k).bind fun y => some (Score.add x y)) (Score.add x (pget p col k)) := by
  rw [pgetC_col p col k h, Option.bind_some]

/-- the gap-extension entry 28, or the terminal one 29 -/
theorem addGapEntryC_eq (p : Array α) (col : Nat) (term : Bool) (x : α) (h : ColOK p col) :
    Agrees (if term then (pgetC p col 29).bind fun y => some (Score.add x y)
        else (pgetC p col 28).bind fun y => some (Score.add x y))
      (if term then Score.add x (pget p col 29) else Score.add x (pget p col 28)) := by
  cases term
  · exact addProfEntryC_eq p col 28 x h
  · exact addProfEntryC_eq p col 29 x h

theorem subC_eq (ap : AlnParam α) (hw : ap.wf) (i j : Nat) (hi : i < 23) (hj : j < 23) :
    Agrees (ap.subC i j) (ap.sub i j) :=
  have hrow := hw.2 i hi
  Agrees.bind (.read (by have := hw.1; omega)) (.read (by omega))

theorem profGbC_eq (p : Array α) (col : Nat) (term : Bool) (h : ColOK p col) (gb ca : α) :
    Agrees (profGbC p col term gb ca) (profGb p col term gb ca) :=
  Agrees.ite (fun _ => .bind (pgetC_col p col 29 h) (.pure _)) fun _ =>
    .bind (pgetC_col p col 28 h) (.bind (pgetC_col p col 27 h) (.pure _))

theorem mem_freqOf_lt (p : Array α) (col c : Nat) (h : c ∈ freqOf p col) : c < 23 := by
  unfold freqOf at h
  have := (List.mem_filter.mp h).1
  simpa using this

theorem freqOfC_eq (p : Array α) (col : Nat) (h : ColOK p col) : Agrees (freqOfC p col) (freqOf p col) :=
  filterC_eq _ _ _ fun j hj =>
    have : j < 23 := by simpa using hj
    Agrees.map (pgetC_col p col j h)

theorem dotAddC_eq (p1 : Array α) (c1 : Nat) (p2 : Array α) (c2 : Nat) (fr : List Nat) (pa : α)
    (h1 : ColOK p1 c1) (h2 : ColOK p2 c2) (hfr : ∀ c ∈ fr, c < 23) :
    Agrees (dotAddC p1 c1 p2 c2 fr pa) (dotAdd p1 c1 p2 c2 fr pa) :=
  foldlC_eq _ _ _ _ fun s c hc =>
    have := hfr c hc
    Agrees.bind (pgetC_col p1 c1 c h1) (.bind (pgetC_col p2 c2 (32 + c) h2) (.pure _))

/-- the checked cell formulas answer with the totalised ones on the cells a row of `n+1` cells evaluates -/
structure RowAgree (n : Nat) (oc : RowOpsC α) (o : RowOps α) : Prop where
  gbFirst : ∀ x y, Agrees (oc.gbFirst x y) (o.gbFirst x y)
  aCell : ∀ k, 1 ≤ k → k ≤ n → ∀ x y z, Agrees (oc.aCell k x y z) (o.aCell k x y z)
  gaCell : ∀ k, 1 ≤ k → k < n → ∀ x y, Agrees (oc.gaCell k x y) (o.gaCell k x y)
  gbMid : ∀ x y, Agrees (oc.gbMid x y) (o.gbMid x y)
  gbLast : ∀ x y, Agrees (oc.gbLast x y) (o.gbLast x y)

theorem initRowGoC_eq (gC : Nat → α → α → Option α) (g : Nat → α → α → α) (n : Nat)
    (hg : ∀ k, 1 ≤ k → k < n → ∀ x y, Agrees (gC k x y) (g k x y)) :
    ∀ (r k : Nat) (prev : States α), 1 ≤ k → k + r = n + 1 →
      Agrees (initRowGoC gC r k prev) (initRowGo g r k prev) := by
  intro r
  induction r using Nat.strongRecOn with
  | _ r ih =>
    intro k prev hk hkr
    match r with
    | 0 => rfl
    | 1 => rfl
    | r + 2 =>
      rw [initRowGoC, initRowGo, hg k hk (by omega), Option.bind_some]
      simp only
      rw [ih (r + 1) (by omega) (k + 1) _ (by omega) (by omega), Option.bind_some]

theorem initRowC_eq (gC : Nat → α → α → Option α) (g : Nat → α → α → α) (n : Nat)
    (hg : ∀ k, 1 ≤ k → k < n → ∀ x y, Agrees (gC k x y) (g k x y)) (start : States α) :
    Agrees (initRowC gC n start) (initRow g n start) := by
  unfold initRowC initRow
  rw [initRowGoC_eq gC g n hg n 1 start (by omega) (by omega), Option.bind_some]

theorem rowGoC_eq (n : Nat) (oc : RowOpsC α) (o : RowOps α) (h : RowAgree n oc o) (cells : List (States α)) :
    ∀ (k : Nat) (pa pga pgb xa xga : α), 1 ≤ k → k + cells.length = n + 1 →
      Agrees (rowGoC oc k pa pga pgb xa xga cells) (rowGo o k pa pga pgb xa xga cells) := by
  induction cells with
  | nil => intro k pa pga pgb xa xga _ _; rfl
  | cons c rest ih =>
    intro k pa pga pgb xa xga hk hlen
    cases rest with
    | nil =>
      simp only [List.length_cons, List.length_nil] at hlen
      rw [rowGoC, rowGo, h.aCell k hk (by omega), Option.bind_some, h.gbLast, Option.bind_some]
    | cons d ds =>
      simp only [List.length_cons] at hlen
      rw [rowGoC, rowGo, h.aCell k hk (by omega), Option.bind_some, h.gaCell k hk (by omega), Option.bind_some,
        h.gbMid, Option.bind_some]
      rw [ih (k + 1) _ _ _ _ _ (by omega) (by simp only [List.length_cons]; omega), Option.bind_some]
      all_goals (intro hh; cases hh)

theorem rowStepC_eq (n : Nat) (oc : RowOpsC α) (o : RowOps α) (h : RowAgree n oc o) (cells : List (States α))
    (hlen : cells.length = n + 1) : Agrees (rowStepC oc cells) (rowStep o cells) := by
  cases cells with
  | nil => rfl
  | cons c rest =>
    simp only [List.length_cons] at hlen
    rw [rowStepC, rowStep, h.gbFirst, Option.bind_some,
      rowGoC_eq n oc o h rest 1 _ _ _ _ _ (by omega) (by omega), Option.bind_some]

theorem runKernelC_eq {ι : Type} (gC : Nat → α → α → Option α) (g : Nat → α → α → α) (n : Nat)
    (hg : ∀ k, 1 ≤ k → k < n → ∀ x y, Agrees (gC k x y) (g k x y)) (start : States α)
    (idx : List ι) (mkC : ι → Option (RowOpsC α)) (mk : ι → RowOps α)
    (hrow : ∀ i ∈ idx, ∃ oc, Agrees (mkC i) oc ∧ RowAgree n oc (mk i)) :
    Agrees (runKernelC gC n start (idx.map mkC)) (runKernel g n start (idx.map mk)) := by
  unfold runKernelC runKernel
  rw [initRowC_eq gC g n hg, Option.bind_some]
  have key : ∀ (idx : List ι) (cells : List (States α)), cells.length = n + 1 →
      (∀ i ∈ idx, ∃ oc, Agrees (mkC i) oc ∧ RowAgree n oc (mk i)) →
      Agrees (foldlC (fun cells o => o.bind fun ops => rowStepC ops cells) cells (idx.map mkC))
        ((idx.map mk).foldl (fun cells ops => rowStep ops cells) cells) := by
    intro idx
    induction idx with
    | nil => intro _ _ _; rfl
    | cons i is ih =>
      intro cells hlen hrow
      obtain ⟨oc, e, ha⟩ := hrow i (by simp)
      rw [List.map_cons, List.map_cons, foldlC, e, Option.bind_some, rowStepC_eq n oc _ ha cells hlen, Option.bind_some,
        List.foldl_cons]
      exact ih _ (by rw [length_rowStep]; exact hlen) (fun j hj => hrow j (by simp [hj]))
  exact key idx _ (length_initRow g n start) hrow

theorem all_lt_getD (s : Array Nat) (h : s.all (· < 23) = true) (i : Nat) : s.getD i 0 < 23 :=
  of_decide_eq_true (getD_of_all h 0 (by decide) i)

omit [Score α] in
theorem colOK_of_size (p : Array α) (len col : Nat) (hp : p.size = 64 * (len + 2)) (h : col ≤ len + 1) : ColOK p col := by
  unfold ColOK; omega

end
end Kalign

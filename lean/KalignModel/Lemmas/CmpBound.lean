import KalignModel.Lemmas.CmpMsa
/-! # identical ≤ total for every run of `kalign_msa_compare` that does not fault (no hypothesis
on the two alignments) -/
namespace Kalign
open List

/-- per counter, not only for the totals -/
theorem comparePair_le (a1 a2 b1 b2 : Row) (c : CmpStats) (h : comparePair a1 a2 b1 b2 = some c) :
    c.identAligned ≤ c.refAligned ∧ c.identGap ≤ c.refGap := by
  rw [comparePair_eq] at h
  split at h
  · cases h
  · split at h
    · cases h; exact ⟨Nat.le_refl _, Nat.le_refl _⟩
    · split at h
      · cases h
        exact ⟨Nat.add_le_add (agree_le _ _ _) (agree_le _ _ _), Nat.add_le_add (agree_le _ _ _) (agree_le _ _ _)⟩
      · cases h

theorem comparePair_bound (a1 a2 b1 b2 : Row) (c : CmpStats) (h : comparePair a1 a2 b1 b2 = some c) :
    identTot c ≤ refTot c :=
  Nat.add_le_add (comparePair_le a1 a2 b1 b2 c h).1 (comparePair_le a1 a2 b1 b2 c h).2

theorem bound_add {x y : Option CmpStats} {c : CmpStats}
    (h : (match x, y with | some a, some b => some (a + b) | _, _ => none) = some c)
    (hx : ∀ a, x = some a → identTot a ≤ refTot a) (hy : ∀ b, y = some b → identTot b ≤ refTot b) :
    identTot c ≤ refTot c := by
  cases x with
  | none => simp at h
  | some a =>
    cases y with
    | none => simp at h
    | some b =>
      simp only [Option.some.injEq] at h
      subst h
      rw [identTot_add, refTot_add]
      exact Nat.add_le_add (hx a rfl) (hy b rfl)

theorem cmpInner_bound (r t : Row) (rs ts : List Row) (c : CmpStats) (h : cmpInner r t rs ts = some c) :
    identTot c ≤ refTot c := by
  induction rs generalizing ts c with
  | nil => simp [cmpInner] at h; subst h; exact Nat.le_refl _
  | cons r' rs ih =>
    cases ts with
    | nil => simp [cmpInner] at h
    | cons t' ts => exact bound_add h (comparePair_bound _ _ _ _) (ih ts)

theorem msaCompareCounts_bound (R T : List Row) (c : CmpStats) (h : msaCompareCounts R T = some c) :
    identTot c ≤ refTot c := by
  induction R generalizing T c with
  | nil => simp [msaCompareCounts] at h; subst h; exact Nat.le_refl _
  | cons r R ih =>
    cases R with
    | nil => simp [msaCompareCounts] at h; subst h; exact Nat.le_refl _
    | cons r' rs =>
      cases T with
      | nil => simp [msaCompareCounts] at h
      | cons t ts => exact bound_add h (cmpInner_bound _ _ _ _) (ih ts)

theorem msaCompare_bound (R T : List NRow) (c : CmpStats) (h : msaCompare R T = .ok c) :
    (scoreQ c).1 ≤ 100 * (scoreQ c).2 := by
  unfold msaCompare at h
  split at h
  · cases h
  · split at h
    · cases h
    · split at h
      · cases h
      · rename_i c' hc
        cases h
        rw [scoreQ_eq]
        exact Nat.mul_le_mul_left _ (msaCompareCounts_bound _ _ _ hc)

end Kalign

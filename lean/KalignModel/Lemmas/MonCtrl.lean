import KalignModel.Lemmas.NoFaultRun
/-!
# The monitor of the Hirschberg controller stays `true` (Model/Hirschberg.lean), generically in the kernels

`runnerSerial_mon`: for kernels whose every answer on a rectangle satisfying `Q` (with one-hot boundary states) satisfies
the meetup contract and re-establishes `Q` for the rectangles of both recursive calls (`StepMon`), a run of
`aln_runner_serial` from a memory with `mon = true` ends with `mon = true`, i.e. every meetup result of the run satisfied
`meetupContract`, the hypothesis of H1 (`Run.h1`).  Same induction over the run as `Run.no_fault` (Lemmas/NoFaultRun.lean), which
provides the `MemCore` part for the intermediate memories; both take the step from `CallOK.kstep`.
-/
namespace Kalign
variable {φ α : Type}

/-- what the controller needs from the kernels for the monitor; `Q` is an invariant of (boundary kinds, rectangle) -/
structure StepMon (K : Kernels φ α) (S : φ → Prop) (Q : Kind → Kind → Int → Int → Int → Int → Prop) (lenA lenB : Nat) : Prop where
  safe : StepSafe K S lenA lenB
  get_set : ∀ f s, S f → K.get0 (K.set0 f s) = s
  step : ∀ f b (fk bk : Kind) (sa ea sb eb : Int), S f → S b → K.get0 f = K.st fk → K.get0 b = K.st bk →
    0 ≤ sa → sa < ea → ea ≤ lenA → 0 ≤ sb → sb < eb → eb ≤ lenB → Q fk bk sa ea sb eb →
    ∀ r, K.step f b sa ((ea - sa) / 2 + sa) ea sb eb = some r →
      meetupContract fk bk sa ea sb eb ((ea - sa) / 2 + sa) r.meet r.transition = true ∧
      ChildrenQ Q fk bk sa ea sb eb ((ea - sa) / 2 + sa) r.meet r.transition

/-- precondition of a call for the monitor -/
structure MonOK (K : Kernels φ α) (Q : Kind → Kind → Int → Int → Int → Int → Prop) (m : Mem φ α) : Prop where
  mon : m.mon = true
  f0 : K.get0 m.f = K.st m.fk
  b0 : K.get0 m.b = K.st m.bk
  q : Q m.fk m.bk m.starta m.enda m.startb m.endb

/-- `StepMon.step` at a call of a run -/
theorem StepMon.at {K : Kernels φ α} {S : φ → Prop} {Q : Kind → Kind → Int → Int → Int → Int → Prop} {lenA lenB n : Nat}
    (hK : StepMon K S Q lenA lenB) {x : Mem φ α} (c : CallOK S lenA lenB n x) (hm : MonOK K Q x) (hs : ¬ x.Stops)
    {r : KStep φ α} (hstep : x.kstep K = some r) :
    meetupContract x.fk x.bk x.starta x.enda x.startb x.endb x.mid r.meet r.transition = true ∧
      ChildrenQ Q x.fk x.bk x.starta x.enda x.startb x.endb x.mid r.meet r.transition :=
  have ⟨_, ha, hb, _, _⟩ := x.not_stops hs
  hK.step x.f x.b x.fk x.bk x.starta x.enda x.startb x.endb c.core.f c.core.b hm.f0 hm.b0 c.sa ha c.ea c.sb hb c.eb hm.q r hstep

theorem Run.mon_ok {K : Kernels φ α} {S : φ → Prop} {Q : Kind → Kind → Int → Int → Int → Int → Prop} {lenA lenB : Nat}
    (hK : StepMon K S Q lenA lenB) {s : RunMode} {n : Nat} {x y : Mem φ α} (h : Run K s n x y) :
    CallOK S lenA lenB n x → MonOK K Q x → y.mon = true := by
  induction h with
  | out x => exact fun c => absurd c.fuel (by omega)
  | stop n x hs => exact fun _ hm => hm.mon
  | kfault n x hs hstep => exact fun _ hm => hm.mon
  | skip n x r _ hs hstep ht =>
    exact fun c hm => absurd (contract_generic _ _ _ _ _ _ _ _ _ (hK.at c hm hs hstep).1).1 ht
  | node n x r L y hs hstep ht h1 _ ih1 ih2 =>
    intro c hm
    obtain ⟨_, hch⟩ := (c.kstep hK.safe hs).2 r hstep
    obtain ⟨hc, hq⟩ := hK.at c hm hs hstep
    obtain ⟨qL, qR⟩ := (ChildrenQ.iff ht).mp hq
    obtain ⟨cutCore, cL, cR⟩ := hch ht
    have mL := ih1 cL ⟨by rw [fwdCall_mon, cutMem_mon, hm.mon, hc]; rfl,
      by rw [fwdCall_f, fwdCall_fk, hK.get_set _ _ cutCore.f, hm.f0], by rw [fwdCall_b, fwdCall_bk, hK.get_set _ _ cutCore.b], qL⟩
    have coreL := h1.no_fault hK.safe cL
    exact ih2 (cR L coreL) ⟨mL, by rw [bwdCall_f, bwdCall_fk, hK.get_set _ _ coreL.f],
      by rw [bwdCall_b, bwdCall_bk, hK.get_set _ _ coreL.b, hm.b0], qR⟩

theorem runnerSerial_mon {K : Kernels φ α} {S : φ → Prop} {Q : Kind → Kind → Int → Int → Int → Int → Prop} {lenA lenB : Nat}
    (hK : StepMon K S Q lenA lenB) (n : Nat) (m : Mem φ α) (h : CallOK S lenA lenB n m) (hm : MonOK K Q m) :
    (runnerSerial K false n m).mon = true :=
  (runnerSerial_run K n m).mon_ok hK h hm

/-- with the fuel `alnRun` gives (`alnRun .serial` is `runnerSerial K false m.fuel m`) -/
theorem runnerSerial_mon_fuel {K : Kernels φ α} {S : φ → Prop} {Q : Kind → Kind → Int → Int → Int → Int → Prop} {lenA lenB : Nat}
    (hK : StepMon K S Q lenA lenB) (m : Mem φ α) (hcore : MemCore S lenA m) (hsa : 0 ≤ m.starta) (hea : m.enda ≤ lenA)
    (hsb : 0 ≤ m.startb) (heb : m.endb ≤ lenB) (hm : MonOK K Q m) : (runnerSerial K false m.fuel m).mon = true :=
  runnerSerial_mon hK m.fuel m ⟨hcore, hsa, hea, hsb, heb, m.meas_lt_fuel⟩ hm

/-! ## non-vacuity: a toy instance of the hypotheses (1 x 1 operands) -/

/-- toy kernels: always cut at `startb` with transition 1 -/
def MonCtrl.toyK : Kernels (States Unit) Unit :=
  { get0 := id, set0 := fun _ s => s, step := fun f b _ _ _ sb _ => some ⟨f, b, sb, 1, ()⟩,
    stA := ⟨(), (), ()⟩, stGA := ⟨(), (), ()⟩, stGB := ⟨(), (), ()⟩ }

def MonCtrl.toyQ (fk _bk : Kind) (sa ea sb eb : Int) : Prop := ea ≤ sa + 1 ∧ eb ≤ sb + 1 ∧ (sa < ea → sb < eb → fk = .A)

theorem MonCtrl.toy_stepMon : StepMon MonCtrl.toyK (fun _ => True) MonCtrl.toyQ 1 1 where
  safe := ⟨fun _ _ _ => trivial, fun f b sa mid ea sb eb _ _ _ _ _ _ _ _ _ =>
    ⟨_, rfl, trivial, trivial, fun _ => ⟨Int.le_refl _, by show sb ≤ eb; omega⟩⟩⟩
  get_set := fun _ _ _ => rfl
  step := by
    intro f b fk bk sa ea sb eb _ _ _ _ h0 h1 h2 h3 h4 h5 hq r hr
    obtain ⟨q1, q2, q3⟩ := hq
    have e1 : ea = sa + 1 := by omega
    have e2 : eb = sb + 1 := by omega
    have e3 := q3 h1 h4
    subst e1 e2 e3
    have hmid : (sa + 1 - sa) / 2 + sa = sa := by omega
    rw [hmid]
    simp only [MonCtrl.toyK, Option.some.injEq] at hr
    subst hr
    refine ⟨?_, ?_⟩
    · cases bk <;> simp [meetupContract, childOK, segEnd, Kind.compat] <;> omega
    · unfold ChildrenQ MonCtrl.toyQ
      dsimp only
      refine ⟨fun _ => ⟨⟨by omega, by omega, fun _ _ => rfl⟩, ⟨by omega, by omega, fun h _ => by omega⟩⟩, ?_, ?_, ?_, ?_, ?_⟩ <;>
        intro h <;> exact absurd h (by decide)

def MonCtrl.toyMem : Mem (States Unit) Unit :=
  ⟨⟨(), (), ()⟩, ⟨(), (), ()⟩, #[-1, -1, -1], 0, 1, 0, 1, 0, 0, none, .A, .A, true, false, []⟩

/-- the hypotheses of `runnerSerial_mon_fuel` hold for the toy kernels on the full 1 x 1 rectangle -/
example : (runnerSerial MonCtrl.toyK false MonCtrl.toyMem.fuel MonCtrl.toyMem).mon = true :=
  runnerSerial_mon_fuel MonCtrl.toy_stepMon _ ⟨rfl, trivial, trivial, by decide⟩ (by decide) (by decide) (by decide) (by decide)
    ⟨rfl, rfl, rfl, by decide, by decide, fun _ _ => rfl⟩

end Kalign

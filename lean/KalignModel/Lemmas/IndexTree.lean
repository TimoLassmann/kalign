import KalignModel.Lemmas.IndexRules
import KalignModel.Lemmas.NoFaultUpgma
import KalignModel.Lemmas.NoFaultTree
import KalignModel.Lemmas.IndexBpm
/-!
# The checked `upgma`, `distMatrix`, `smallTree`, `anchorMatrix` agree with the totalised ones
-/
namespace Kalign

def SquareOfSide (n : Nat) (dm : FMat) : Prop := dm.size = n ∧ ∀ i, i < n → (dm.getD i #[]).size = n

theorem FMat.getC_eq (n : Nat) (dm : FMat) (h : SquareOfSide n dm) (i j : Nat) (hi : i < n) (hj : j < n) :
    Agrees (dm.getC i j) (dm.get i j) :=
  have hi' : i < dm.size := h.1 ▸ hi
  have hj' : j < (dm.getD i #[]).size := h.2 i hi ▸ hj
  Agrees.bind (.read hi') (.read hj')

theorem FMat.setC_eq (n : Nat) (dm : FMat) (h : SquareOfSide n dm) (i j : Nat) (v : Float32) (hi : i < n) (hj : j < n) :
    Agrees (dm.setC i j v) (dm.set i j v) ∧ SquareOfSide n (dm.set i j v) := by
  unfold FMat.setC FMat.set
  have hi' : i < dm.size := h.1 ▸ hi
  have hj' : j < (dm.getD i #[]).size := h.2 i hi ▸ hj
  refine ⟨Agrees.bind (.read hi') (.bind (.write hj') (.write hi')), by simp [h.1], ?_⟩
  intro k hk
  rw [getD_setIfInBounds_of_lt _ _ _ _ _ hi']
  split
  · have := h.2 i hi
    simpa [Array.getD, hi'] using this
  · exact h.2 k hk

theorem scanMinC_eq (n : Nat) (dm : FMat) (act : Array Bool) (hd : SquareOfSide n dm) (ha : act.size = n) :
    Agrees (scanMinC n dm act) (scanMin n dm act) := by
  unfold scanMinC scanMin
  apply foldlC_eq
  intro s i hi
  have hi' : i < n - 1 := by simpa using hi
  refine Agrees.bind (.read (d := false) (by omega)) ?_
  cases act.getD i false
  · rfl
  · apply foldlC_eq
    intro s' j hj
    rw [List.mem_range'_1] at hj
    refine Agrees.bind (.read (d := false) (by omega)) ?_
    cases act.getD j false
    · rfl
    · rw [if_pos rfl, if_pos rfl, FMat.getC_eq n dm hd i j (by omega) (by omega), Option.bind_some]
      split
      · rfl
      · rfl

structure UpgmaSizes (n : Nat) (s : UpgmaSt) : Prop where
  dm : SquareOfSide n s.dm
  act : s.act.size = n
  tree : s.tree.size = n
  last : s.last < n

theorem upgmaRoundC_eq (n : Nat) (s : UpgmaSt) (h : UpgmaSizes n s) :
    Agrees (upgmaRoundC n s).run (upgmaRound n s) ∧ ∀ s', upgmaRound n s = some s' → UpgmaSizes n s' := by
  have hscan := scanMinC_eq n s.dm s.act h.dm h.act
  unfold upgmaRoundC upgmaRound
  simp only [hscan, run_chk_some, pure_bind]
  by_cases hfound : (scanMin n s.dm s.act).found = true
  · obtain ⟨hab, hbn, _, _⟩ := (scan_inv n s.dm s.act).2 hfound
    have han : (scanMin n s.dm s.act).a < n := by omega
    generalize (scanMin n s.dm s.act).a = a at *
    generalize (scanMin n s.dm s.act).b = b at *
    have ta : Agrees s.tree[a]? (s.tree.getD a none) := .read (h.tree ▸ han)
    have tb : Agrees s.tree[b]? (s.tree.getD b none) := .read (h.tree ▸ hbn)
    simp only [hfound, Bool.not_true, Bool.false_eq_true, if_false, ta, tb, run_chk_some, pure_bind]
    cases hta : s.tree.getD a none with
    | none => exact ⟨rfl, fun s' e => by cases e⟩
    | some x =>
      cases htb : s.tree.getD b none with
      | none => exact ⟨rfl, fun s' e => by cases e⟩
      | some y =>
        dsimp only
        obtain ⟨l1, q1⟩ := foldrC_eq_inv (SquareOfSide n)
          (fun j dm => if j ≠ b then
              (dm.getC a j).bind fun x => (dm.getC b j).bind fun y => dm.setC a j ((x + y) * f0_5 + f0_001)
            else some dm)
          (fun j dm => if j ≠ b then dm.set a j ((dm.get a j + dm.get b j) * f0_5 + f0_001) else dm)
          (List.range n) s.dm h.dm (by
            intro dm j hj hdm
            have hj' : j < n := by simpa using hj
            split
            · rw [FMat.getC_eq n dm hdm a j han hj', Option.bind_some, FMat.getC_eq n dm hdm b j hbn hj', Option.bind_some]
              exact FMat.setC_eq n dm hdm a j _ han hj'
            · exact ⟨rfl, hdm⟩)
        obtain ⟨l2, q2⟩ := FMat.setC_eq n _ q1 a a 0 han han
        obtain ⟨l3, q3⟩ := foldrC_eq_inv (SquareOfSide n)
          (fun j dm => (dm.getC a j).bind fun v => dm.setC j a v) (fun j dm => dm.set j a (dm.get a j))
          (List.range n) _ q2 (by
            intro dm j hj hdm
            have hj' : j < n := by simpa using hj
            rw [FMat.getC_eq n dm hdm a j han hj', Option.bind_some]
            exact FMat.setC_eq n dm hdm j a _ hj' han)
        refine ⟨?_, ?_⟩
        · exact Agrees.chk (.write (h.tree ▸ han)) (.chk (.write (by simp [h.tree]; exact hbn))
            (.chk (.write (h.act ▸ hbn)) (.chk l1 (.chk l2 (.chk l3 (.pure _))))))
        · intro s' e
          simp only [Option.some.injEq] at e
          subst e
          exact ⟨q3, by simp [h.act], by simp [h.tree], han⟩
  · simp only [hfound, Bool.not_false, if_true]
    exact ⟨rfl, fun s' e => by cases e⟩

theorem upgmaC_unfold (dm : List (List Float32)) (samples : List Nat) (hn : samples.length ≠ 0) :
    upgmaC dm samples = (do
      let st ← iterChk (upgmaRoundC samples.length) (samples.length - 1) (upgmaInit dm samples)
      let t ← chk st.tree[st.last]?
      mdl t) := by
  unfold upgmaC upgmaInit
  simp only [hn, if_false]

theorem upgmaC_eq (dm : List (List Float32)) (samples : List Nat) (hlen : dm.length = samples.length)
    (hrow : ∀ row ∈ dm, row.length = samples.length) : Agrees (upgmaC dm samples).run (upgma dm samples) := by
  by_cases hn : samples.length = 0
  · unfold upgmaC upgma
    simp only [hn, if_true]; rfl
  rw [upgma_eq dm samples hn, upgmaC_unfold dm samples hn]
  have h0 : UpgmaSizes samples.length (upgmaInit dm samples) := by
    refine ⟨⟨by simp [upgmaInit, hlen], ?_⟩, by simp [upgmaInit], by simp [upgmaInit], by simp [upgmaInit]; omega⟩
    intro i hi
    have hi' : i < dm.length := by omega
    simp [upgmaInit, Array.getD, hi', hrow _ (List.getElem_mem hi')]
  obtain ⟨e, hI⟩ := iterChk_eq (UpgmaSizes samples.length) (upgmaRoundC samples.length) (upgmaRound samples.length)
    (fun s hs => upgmaRoundC_eq samples.length s hs) (samples.length - 1) _ h0
  refine Agrees.bindM e fun st hit => ?_
  have hs := hI st hit
  refine Agrees.chk (.read (d := none) (hs.tree ▸ hs.last)) ?_
  cases st.tree.getD st.last none <;> rfl

theorem distMatrixC_eq (seqs : List (List Nat)) : Agrees (distMatrixC seqs).run (distMatrix seqs) := by
  unfold distMatrixC distMatrix
  refine mapChk_eq _ _ _ fun x hx => mapChk_eq _ _ _ fun y hy => ?_
  have hx' : x < seqs.length := by simpa using hx
  have hy' : y < seqs.length := by simpa using hy
  exact Agrees.chk (.readL (by omega)) (.chk (.readL (by omega)) (distEntryC_eq _ _))

open Kalign.Pipeline Kalign.Kmeans in
theorem smallTreeC_eq (codes : Array (List Nat)) (samples : List Nat) (hs : ∀ s ∈ samples, s < codes.size) :
    Agrees (smallTreeC codes samples).run (smallTree codes samples) := by
  unfold smallTreeC smallTree
  refine Agrees.chk (mapC_eq _ _ _ fun s hs' => Agrees.read (hs s hs'))
    (.bindM (distMatrixC_eq _) fun dm hd => ?_)
  obtain ⟨d1, d2⟩ := distMatrix_shape _ dm hd
  simp only [List.length_map] at d1 d2
  exact Agrees.mapM (upgmaC_eq dm samples d1 d2)

open Kalign.Pipeline Kalign.Kmeans in
theorem anchorMatrixC_eq (codes : Array (List Nat)) (anchors : List Nat) (ha : ∀ a ∈ anchors, a < codes.size) :
    Agrees (anchorMatrixC codes anchors).run (anchorMatrix codes anchors) := by
  unfold anchorMatrixC anchorMatrix
  refine Agrees.mapM (mapChk_eq _ _ _ fun s _ => ?_)
  refine Agrees.mapM (mapChk_eq _ _ _ fun a ham => ?_)
  exact Agrees.chk (.read (ha a ham)) (distEntryC_eq _ _)

end Kalign

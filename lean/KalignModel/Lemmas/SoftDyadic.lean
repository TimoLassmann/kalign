import KalignModel.Lemmas.ExactAlg
import KalignModel.Lemmas.SoftClass
/-!
# Dyadic scores on the software binary32 are computed exactly

`half h` is the binary32 value `h/2` (canonical `+0` for `h = 0`).  For `|h| < 2²⁴` it is represented exactly, and sums,
differences and comparisons of such values are the sums, differences and comparisons of the integers (`add_half`, `sub_half`,
`gt_half`).  `Emb N x e` relates a `SoftF32` score `x` to an exact score `e` (`Option Int`, units of 1/2000): `e = none` and `x`
sentinel-like (`-FLT_MAX` or `-∞`), or `e = some (1000·h)`, `|h| ≤ N` and `x = half h`.  The operations of the DP kernels
(lib/src/aln_seqseq.c: `float` subtraction and addition of a penalty or matrix entry, `MAX`) respect `Emb` (`emb_sub`, `emb_add`,
`emb_smax`) as long as the magnitudes stay below 2²⁴ half units.
-/
set_option exponentiation.threshold 512
namespace Kalign.SoftF32

def half (h : Int) : SoftF32 := packZ false (h * ((2 ^ 148 : Nat) : Int))

theorem half_zero : half 0 = zero := by decide

theorem natAbs_mul148 (h : Int) : (h * ((2 ^ 148 : Nat) : Int)).natAbs = h.natAbs * 2 ^ 148 := by
  rw [Int.natAbs_mul, Int.natAbs_natCast]

theorem p148_pos : (0 : Int) < ((2 ^ 148 : Nat) : Int) := by decide

theorem c149 : ((2 ^ 149 : Nat) : Int) = 2 * ((2 ^ 148 : Nat) : Int) := by decide

theorem mul148_eq_zero {h : Int} : h * ((2 ^ 148 : Nat) : Int) = 0 ↔ h = 0 := by
  constructor
  · intro e
    rcases Int.mul_eq_zero.1 e with e | e
    · exact e
    · have := p148_pos; omega
  · intro e; subst e; simp

theorem mul148_le {a b : Int} : a * ((2 ^ 148 : Nat) : Int) ≤ b * ((2 ^ 148 : Nat) : Int) ↔ a ≤ b := by
  constructor
  · intro e; exact Int.le_of_mul_le_mul_right e p148_pos
  · intro e; exact Int.mul_le_mul_of_nonneg_right e (Int.le_of_lt p148_pos)

theorem mul148_lt {a b : Int} : a * ((2 ^ 148 : Nat) : Int) < b * ((2 ^ 148 : Nat) : Int) ↔ a < b := by
  have := @mul148_le b a
  omega

theorem half_fin {h : Int} (hh : h.natAbs < 16777216) :
    (half h).mag < 2139095040 ∧ toInt (half h) = h * ((2 ^ 148 : Nat) : Int) ∧ (half h).sign = decide (h < 0) := by
  obtain ⟨h1, h2⟩ := toInt_packZ_grid (s0 := false) (z := h * ((2 ^ 148 : Nat) : Int)) (c := h.natAbs) (t := 148)
    (natAbs_mul148 h) hh (by decide)
  refine ⟨h1, h2, ?_⟩
  unfold half
  rw [packZ_scale]
  split
  · rename_i h0
    subst h0
    exact sign_pack _ _ (by decide)
  · exact sign_pack _ _ (roundNat_lt _ _)

theorem half_finite {h : Int} (hh : h.natAbs < 16777216) : (half h).isFinite = true :=
  isFinite_of_mag (half_fin hh).1

theorem half_not_nan {h : Int} (hh : h.natAbs < 16777216) : (half h).isNaN = false :=
  isNaN_of_finite (half_finite hh)

theorem packZ_half {s0 : Bool} {h : Int} (h0 : h = 0 → s0 = false) : packZ s0 (h * ((2 ^ 148 : Nat) : Int)) = half h := by
  unfold half
  rw [packZ_scale, packZ_scale]
  split
  · rename_i hz
    rw [h0 hz]
  · rfl

theorem add_half {a b : Int} (ha : a.natAbs < 16777216) (hb : b.natAbs < 16777216) :
    add (half a) (half b) = half (a + b) := by
  obtain ⟨_, a2, a3⟩ := half_fin ha
  obtain ⟨_, b2, b3⟩ := half_fin hb
  rw [add_eq_packZ (half_finite ha) (half_finite hb), a2, b2, ← Int.add_mul]
  apply packZ_half
  intro h0
  rw [a3, b3]
  by_cases h : a < 0
  · have : ¬ b < 0 := by omega
    simp [this]
  · simp [h]

theorem sub_half {a b : Int} (ha : a.natAbs < 16777216) (hb : b.natAbs < 16777216) :
    sub (half a) (half b) = half (a - b) := by
  obtain ⟨_, a2, a3⟩ := half_fin ha
  obtain ⟨_, b2, b3⟩ := half_fin hb
  rw [sub_eq_packZ (half_finite ha) (half_finite hb), a2, b2, ← Int.sub_mul]
  apply packZ_half
  intro h0
  rw [a3, b3]
  by_cases h : a < 0
  · have : b < 0 := by omega
    simp [this]
  · simp [h]

theorem gt_half {a b : Int} (ha : a.natAbs < 16777216) (hb : b.natAbs < 16777216) :
    gt (half a) (half b) = decide (b < a) := by
  show lt (half b) (half a) = decide (b < a)
  have := lt_iff_toInt (half_not_nan hb) (half_not_nan ha)
  rw [(half_fin ha).2.1, (half_fin hb).2.1, mul148_lt] at this
  by_cases h : b < a
  · rw [this.2 h]; simp [h]
  · have h2 : lt (half b) (half a) = false := by
      rw [← Bool.not_eq_true]; exact fun e => h (this.1 e)
    rw [h2]; simp [h]

theorem le_half {a b : Int} (ha : a.natAbs < 16777216) (hb : b.natAbs < 16777216) :
    le (half a) (half b) = true ↔ a ≤ b := by
  rw [le_iff_toInt (half_not_nan ha) (half_not_nan hb), (half_fin ha).2.1, (half_fin hb).2.1, mul148_le]

/-- a dyadic value below 2²³ in magnitude is bounded by `8·2²⁰` (the unit of `Cls`) -/
theorem half_absLe {h : Int} (hh : h.natAbs < 16777216) : absLe (half h) (8 * 1048576) := by
  obtain ⟨h1, h2, _⟩ := half_fin hh
  refine ⟨h1, ?_⟩
  have := natAbs_toInt (half h)
  rw [h2, natAbs_mul148] at this
  rw [← this]
  have e : (8 * 1048576 : Nat) * 2 ^ 149 = 16777216 * 2 ^ 148 := by decide
  rw [e]
  exact Nat.mul_le_mul_right _ (Nat.le_of_lt hh)

theorem gt_half_sent {h : Int} (hh : h.natAbs < 16777216) {y : SoftF32} (hy : Sent y) : gt (half h) y = true :=
  gt_fin_sent (half_absLe hh) (by decide) hy

theorem gt_sent_half {h : Int} (hh : h.natAbs < 16777216) {x : SoftF32} (hx : Sent x) : gt x (half h) = false :=
  gt_sent_fin hx (half_absLe hh) (by decide)

theorem sent_add_half {h : Int} (hh : h.natAbs < 16777216) {x : SoftF32} (hx : Sent x) : Sent (add x (half h)) :=
  sent_add_fin hx (half_absLe hh) (by decide)

theorem half_add_sent {h : Int} (hh : h.natAbs < 16777216) {x : SoftF32} (hx : Sent x) : Sent (add (half h) x) :=
  fin_add_sent (half_absLe hh) hx (by decide)

theorem sent_sub_half {h : Int} (hh : h.natAbs < 16777216) {x : SoftF32} (hx : Sent x) : Sent (sub x (half h)) := by
  rw [sub_of_not_nan (half_not_nan hh)]
  exact sent_add_fin hx (neg_absLe (half_absLe hh)) (by decide)

theorem sent_sub_fin {x y : SoftF32} {B : Nat} (hx : Sent x) (hy : absLe y (B * 1048576)) (hB : B < 16777216) :
    Sent (sub x y) := by
  rw [sub_of_not_nan (isNaN_of_finite hy.finite)]
  exact sent_add_fin hx (neg_absLe hy) (unitU_lt (u := 20) (by decide) hB)

end Kalign.SoftF32

namespace Kalign
open SoftF32

def Emb (N : Nat) (x : SoftF32) : ExactScore → Prop
  | none => Sent x
  | some v => ∃ h : Int, v = 1000 * h ∧ h.natAbs ≤ N ∧ x = half h

theorem Emb.mono {N N' : Nat} {x : SoftF32} {e : ExactScore} (h : Emb N x e) (hN : N ≤ N') : Emb N' x e := by
  cases e with
  | none => exact h
  | some v =>
    obtain ⟨k, h1, h2, h3⟩ := h
    exact ⟨k, h1, by omega, h3⟩

theorem emb_negInf (N : Nat) : Emb N (Score.negInf : SoftF32) (Score.negInf : ExactScore) := Or.inl rfl

theorem emb_zero (N : Nat) : Emb N (Score.zero : SoftF32) (Score.zero : ExactScore) :=
  ⟨0, rfl, by simp, half_zero.symm⟩

/-- a dyadic parameter (penalty or substitution score): `U` bounds its magnitude in half score units -/
def DyVal (U : Nat) (x : SoftF32) (e : ExactScore) : Prop := ∃ g : Int, g.natAbs ≤ U ∧ x = half g ∧ e = some (1000 * g)

theorem DyVal.emb {U : Nat} {x : SoftF32} {e : ExactScore} (h : DyVal U x e) : Emb U x e := by
  obtain ⟨g, b, rfl, rfl⟩ := h
  exact ⟨g, rfl, b, rfl⟩

theorem DyVal.mono {U U' : Nat} {x : SoftF32} {e : ExactScore} (h : DyVal U x e) (hU : U ≤ U') : DyVal U' x e := by
  obtain ⟨g, g1, g2, g3⟩ := h
  exact ⟨g, by omega, g2, g3⟩

theorem dyVal_half {U : Nat} {x : SoftF32} {e : ExactScore} {v : Int} (h : DyVal U x e) (he : e = some v) :
    x = half (v / 1000) ∧ (v / 1000).natAbs ≤ U ∧ v = 1000 * (v / 1000) := by
  obtain ⟨g, b, rfl, f⟩ := h
  rw [he] at f
  injection f with f
  subst f
  rw [Int.mul_ediv_cancel_left g (by decide)]
  exact ⟨rfl, b, rfl⟩

theorem emb_sub {N U : Nat} {x p : SoftF32} {e pe : ExactScore} (hx : Emb N x e) (hp : DyVal U p pe)
    (hN : N + U < 16777216) : Emb (N + U) (Score.sub x p) (Score.sub e pe) := by
  obtain ⟨g, g1, rfl, rfl⟩ := hp
  rw [ex_sub_some]
  show Emb (N + U) (sub x (half g)) (osub e (1000 * g))
  cases e with
  | none => exact sent_sub_half (by omega) hx
  | some v =>
    obtain ⟨h, rfl, h2, rfl⟩ := hx
    refine ⟨h - g, by show 1000 * h - 1000 * g = 1000 * (h - g); omega, by omega, ?_⟩
    exact sub_half (by omega) (by omega)

theorem emb_smax {N : Nat} {x y : SoftF32} {e f : ExactScore} (hx : Emb N x e) (hy : Emb N y f) (hN : N < 16777216) :
    Emb N (smax x y) (smax e f) := by
  rw [ex_smax]
  unfold smax
  show Emb N (if gt x y = true then x else y) (omax e f)
  cases e with
  | none =>
    cases f with
    | none =>
      simp only [omax_none_left]
      split
      · exact hx
      · exact hy
    | some w =>
      obtain ⟨k, rfl, k2, rfl⟩ := hy
      rw [gt_sent_half (by omega) hx]
      simp only [omax_none_left, Bool.false_eq_true, if_false]
      exact ⟨k, rfl, k2, rfl⟩
  | some v =>
    obtain ⟨h, rfl, h2, rfl⟩ := hx
    cases f with
    | none =>
      rw [gt_half_sent (by omega) hy]
      simp only [omax_none_right, if_true]
      exact ⟨h, rfl, h2, rfl⟩
    | some w =>
      obtain ⟨k, rfl, k2, rfl⟩ := hy
      rw [gt_half (by omega) (by omega)]
      simp only [omax_some_some]
      by_cases hc : k < h
      · simp only [hc, decide_true, if_true]
        exact ⟨h, by omega, h2, rfl⟩
      · simp only [hc, decide_false, Bool.false_eq_true, if_false]
        exact ⟨k, by omega, k2, rfl⟩

theorem emb_smax3 {N : Nat} {x y z : SoftF32} {e f g : ExactScore} (hx : Emb N x e) (hy : Emb N y f) (hz : Emb N z g)
    (hN : N < 16777216) : Emb N (smax3 x y z) (smax3 e f g) :=
  emb_smax (emb_smax hx hy hN) hz hN

/-- the meetup adds a forward and a backward cell -/
theorem emb_add2 {N M : Nat} {x y : SoftF32} {e f : ExactScore} (hx : Emb N x e) (hy : Emb M y f)
    (hN : N + M < 16777216) : Emb (N + M) (Score.add x y) (Score.add e f) := by
  show Emb (N + M) (add x y) (Score.add e f)
  cases e with
  | none =>
    cases f with
    | none => exact sent_add_sent hx hy
    | some w =>
      obtain ⟨k, rfl, k2, rfl⟩ := hy
      exact sent_add_half (by omega) hx
  | some v =>
    obtain ⟨h, rfl, h2, rfl⟩ := hx
    cases f with
    | none => exact half_add_sent (by omega) hy
    | some w =>
      obtain ⟨k, rfl, k2, rfl⟩ := hy
      refine ⟨h + k, ?_, by omega, add_half (by omega) (by omega)⟩
      show 1000 * h + 1000 * k = 1000 * (h + k)
      omega

theorem emb_add {N U : Nat} {x p : SoftF32} {e pe : ExactScore} (hx : Emb N x e) (hp : DyVal U p pe)
    (hN : N + U < 16777216) : Emb (N + U) (Score.add x p) (Score.add e pe) :=
  emb_add2 hx hp.emb hN

end Kalign

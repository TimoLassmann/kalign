import KalignModel.Lemmas.PathSeg
import KalignModel.Lemmas.PathCols
/-!
# H1: the serial controller writes a consistent path whenever every meetup result satisfied `meetupContract`

`Run.h1`: on a run that ended without fault and with the monitor on, every call leaves in the rows of its rectangle a segment
that the automaton accepts between its boundary kinds (`PathPost`).  `C07_hirschberg_path_ok` (Props/C07.lean) reads it at the
top call (`runnerSerial_seg`).
`pathOKAux_of_segOKf`: what the automaton accepts from kind `A` or `GB` on is accepted by the test `pathOK` of Lemmas/PathCols.lean.
-/
namespace Kalign
variable {φ α : Type}

/-- what a call on the rectangle `sa..ea × sb..eb` with boundary kinds `fk`, `bk`, entries `pe` before and `pe'` after it, guarantees
about the path once it has ended without fault and with the monitor on (degenerate rectangles
included: there `childOK` is the whole claim).  The rows of the rectangle are `sa + 1 … ea`, but a call whose middle row is
`sa` and whose forward part ends in an aligned pair also writes `path[sa]` — with `sb`, which is what the caller's
write behind its own cut has put there (`atSa`).  This is why `Run.frame` leaves row `starta` out. -/
structure PathPost (pe pe' : Int → Int) (fk bk : Kind) (sa ea sb eb : Int) : Prop where
  atSa : pe' sa = pe sa ∨ (fk = .A ∧ pe' sa = sb)
  seg : childOK fk bk sa ea sb eb = true → segOKf pe' eb bk (ea - sa).toNat sa sb fk = true

/-- the frame bookkeeping of two consecutive calls (no contract, no entries at the cut): what the first call left (`pL`) is still
there after the second (`pR`); `p2` are the entries before the writes of the case, `p3` after them -/
theorem alnCase (p2 p3 pL pR : Int → Int) (fk bkL fkR : Kind) (sa eaL sb ebL saR ea sbR : Int)
    (h0 : 0 ≤ sa) (hsa : sa ≤ saR) (hle : eaL < saR) (heaL' : sa - 1 ≤ eaL)
    (hsaR : saR = sa → fkR ≠ .A)
    (hWsa : p3 sa = p2 sa ∨ (fk = .A ∧ p3 sa = sb))
    (hLframe : ∀ i, 0 ≤ i → (i < sa ∨ eaL < i) → pL i = p3 i)
    (hL : PathPost p3 pL fk bkL sa eaL sb ebL)
    (hRframe : ∀ i, 0 ≤ i → (i < saR ∨ ea < i) → pR i = pL i)
    (hRsa : pR saR = pL saR ∨ (fkR = .A ∧ pR saR = sbR)) :
    PathPost p2 pR fk bkL sa eaL sb ebL ∧
    (∀ j, eaL < j → j < saR → pR j = p3 j) ∧
    (pR saR = p3 saR ∨ (fkR = .A ∧ pR saR = sbR)) := by
  have hPL : ∀ i, 0 ≤ i → i < saR → pR i = pL i := fun i hi h => hRframe i hi (Or.inl h)
  refine ⟨⟨?_, ?_⟩, ?_, ?_⟩
  · have hPsa : pR sa = pL sa := by
      by_cases hlt : sa < saR
      · exact hPL sa h0 hlt
      · have hEq : saR = sa := by omega
        rcases hRsa with h | ⟨h, _⟩
        · rw [hEq] at h; exact h
        · exact absurd h (hsaR hEq)
    rw [hPsa]
    rcases hL.atSa with h | ⟨h1, h2⟩
    · rw [h]; exact hWsa
    · exact Or.inr ⟨h1, h2⟩
  · intro hc
    rw [segOKf_congr pR _ ebL bkL _ sa sb fk (fun j hj1 hj2 => hPL j (by omega) (by omega))]
    exact hL.seg hc
  · intro j h1 h2
    exact (hPL j (by omega) h2).trans (hLframe j (by omega) (Or.inr h1))
  · rcases hRsa with h | h
    · exact Or.inl (h.trans (hLframe saR (by omega) (Or.inr hle)))
    · exact Or.inr h

/-- One case of `aln_continue` seen from the final path `pR`; `u`, `v` are the kinds of the columns in front of and behind the
cut at `(mid, c)`, `p2` are the entries before the path writes of the case, `p3` after them (`cutMem_ok`). -/
theorem caseFrame (p2 p3 pL pR : Int → Int) (fk bk u v : Kind) (sa ea sb eb mid c : Int)
    (hpe : ∀ j, 0 ≤ j → p3 j = if v = .A ∧ j = mid + 1 then c + 1 else if u = .A ∧ j = mid then c else p2 j)
    (h0 : 0 ≤ sa) (hm1 : sa ≤ mid) (hm2 : mid < ea) (huv : u = .GA → v = .A) (hL : LeftOf u fk sa sb mid c)
    (hpre : ∀ i, sa < i → i ≤ ea → p2 i = -1)
    (hLframe : ∀ i, 0 ≤ i → (i < sa ∨ mid - da u < i) →
      pL i = p3 i)
    (hLpost : (∀ i, sa < i → i ≤ mid - da u → p3 i = -1) → PathPost p3 pL fk u sa (mid - da u) sb (c - db u))
    (hRframe : ∀ i, 0 ≤ i → (i < mid + da v ∨ ea < i) → pR i = pL i)
    (hRpost : (∀ i, mid + da v < i → i ≤ ea → pL i = -1) → PathPost pL pR v bk (mid + da v) ea (c + db v) eb) :
    PathPost p2 pR fk u sa (mid - da u) sb (c - db u) ∧
    (childOK v bk (mid + da v) ea (c + db v) eb = true →
      segOKf pR eb bk (ea - (mid + da v)).toNat (mid + da v) (c + db v) v = true) ∧
    (mid ≠ sa → u ≠ .GA → pR mid = if u = .A then c else -1) ∧
    (v ≠ .GA → pR (mid + 1) = if v = .A then c + 1 else -1) := by
  have du := da_cases u
  have dv := da_cases v
  have duA : u = .A → da u = 1 := fun e => by subst e; rfl
  have dvA : v = .A → da v = 1 := fun e => by subst e; rfl
  have hsum : 1 ≤ da u + da v := by
    rcases du with ⟨e, _⟩ | ⟨_, e⟩
    · have := dvA (huv e); omega
    · have := da_nonneg v; omega
  have hLp := hLpost fun i h1 h2 => by
    rw [hpe i (by omega), if_neg (fun e => by omega), if_neg (fun e => by have := duA e.1; omega)]
    exact hpre i h1 (by omega)
  obtain ⟨hRsa, hRseg⟩ := hRpost fun i h1 h2 => by
    rw [hLframe i (by omega) (Or.inr (by omega)), hpe i (by omega), if_neg (fun e => by have := dvA e.1; omega),
      if_neg (fun e => by omega)]
    exact hpre i (by omega) h2
  obtain ⟨hP, hmids, hsaR⟩ :=
    alnCase p2 p3 pL pR fk u v sa (mid - da u) sb (c - db u) (mid + da v) ea (c + db v)
      h0 (by omega) (by omega) (by omega) (fun h e => by have := dvA e; omega)
      (by
        rw [hpe sa h0, if_neg (fun e => by omega)]
        by_cases e : u = .A ∧ sa = mid
        · rw [if_pos e]
          obtain ⟨e1, e2⟩ := e
          subst e1
          exact Or.inr ⟨(hL.1 e2.symm).2, (hL.1 e2.symm).1⟩
        · rw [if_neg e]; exact Or.inl rfl)
      hLframe hLp hRframe hRsa
  refine ⟨hP, hRseg, ?_, ?_⟩
  · intro hne hu
    have d1 : da u = 1 := du.elim (fun h => absurd h.1 hu) (fun h => h.2)
    have hPm : pR mid = p3 mid := by
      rcases dv with ⟨e, d0⟩ | ⟨_, d1'⟩
      · have e0 : mid + da v = mid := by omega
        rw [e0] at hsaR
        rcases hsaR with h | ⟨h, _⟩
        · exact h
        · rw [e] at h; exact absurd h (by decide)
      · exact hmids mid (by omega) (by omega)
    rw [hPm, hpe mid (by omega), if_neg (fun e => by omega)]
    by_cases e : u = .A
    · rw [if_pos ⟨e, rfl⟩, if_pos e]
    · rw [if_neg (fun e' => e e'.1), if_neg e]; exact hpre mid (by omega) (by omega)
  · intro hv
    have e1 : mid + da v = mid + 1 := by rw [dv.elim (fun h => absurd h.1 hv) (fun h => h.2)]
    rw [e1] at hsaR
    rcases hsaR with h | ⟨e, h⟩
    · rw [h, hpe (mid + 1) (by omega)]
      by_cases e : v = .A
      · rw [if_pos ⟨e, rfl⟩, if_pos e]
      · rw [if_neg (fun e' => e e'.1), if_neg (fun e' => by omega), if_neg e]; exact hpre (mid + 1) (by omega) (by omega)
    · rw [h, if_pos e]; subst e; rfl

/-- H1 as a postcondition of every call; `mon = true` at the end says that every meetup result of the run satisfied
`meetupContract` (`afterStep`). -/
theorem Run.h1 {K : Kernels φ α} {n : Nat} {x y : Mem φ α} (h : Run K .strict n x y) :
    y.fault = false → y.mon = true → 0 ≤ x.starta → 0 ≤ x.startb →
      (∀ i, x.starta < i → i ≤ x.enda → x.pe i = -1) →
        PathPost x.pe y.pe x.fk x.bk x.starta x.enda x.startb x.endb := by
  induction h with
  | out x => exact nofun
  | kfault n x hs hstep => exact nofun
  | skip n x r h => cases h
  | stop n x hs =>
    intro hf _ _ _ hpre
    have hd : ¬ (x.starta < x.enda ∧ x.startb < x.endb) := by
      have := hs.resolve_left (by simp [hf]); unfold Mem.Deg at this; omega
    exact ⟨Or.inl rfl, fun hc => (childOK_seg x.pe x.fk x.bk _ _ _ _ hc hd hpre).2.2⟩
  | node n x r L y hs hstep ht h1 h2 ih1 ih2 =>
    intro hf hm h0 h0b hpre
    have hLf : L.fault = false := h2.mono.1 hf
    have hLm : L.mon = true := h2.mono.2 hm
    obtain ⟨_, hpe⟩ := cutMem_ok x r (h1.mono.1 hLf)
    have hc := (Bool.and_eq_true_iff.mp (cutMem_mon x r ▸ h1.mono.2 hLm)).2
    obtain ⟨_, hcb, hce, hLo, hR⟩ := contract_generic _ _ _ _ _ _ _ _ _ hc
    obtain ⟨_, _, _, hm1, hm2⟩ := x.not_stops hs
    have hdv := da_nonneg (bkOf r.transition)
    have hbv := db_nonneg (bkOf r.transition)
    obtain ⟨hP, hsegR, hPmid, hPmid1⟩ := caseFrame x.pe (cutMem x r).pe L.pe y.pe x.fk x.bk (fkOf r.transition)
      (bkOf r.transition) x.starta x.enda x.startb x.endb x.mid r.meet hpe h0 hm1 hm2 (fkOf_GA ht) hLo hpre
      (h1.frame h0) (ih1 hLf hLm h0 h0b)
      (h2.frame (by rw [bwdCall_starta]; omega))
      (ih2 hf hm (by rw [bwdCall_starta]; omega) (by rw [bwdCall_startb]; omega))
    exact ⟨hP.atSa, fun _ => caseJoin _ x.fk x.bk _ _ x.starta x.enda x.startb x.endb _ r.meet
      h0b hm1 hm2 hcb hce (fkOf_GA ht) (bkOf_GA ht) hLo hP.seg (hsegR hR) hPmid hPmid1⟩

/-- H1 at the level of the automaton: what `C07_hirschberg_path_ok` (Props/C07.lean) reads at the top call -/
theorem runnerSerial_seg (K : Kernels φ α) (n : Nat) (m : Mem φ α) (hf : (runnerSerial K false n m).fault = false)
    (hm : (runnerSerial K false n m).mon = true) (h0 : 0 ≤ m.starta) (h0b : 0 ≤ m.startb) (ha : m.starta < m.enda)
    (hb : m.startb < m.endb) (hpre : ∀ i, m.starta < i → i ≤ m.enda → m.pe i = -1) :
    segOKf (runnerSerial K false n m).pe m.endb m.bk (m.enda - m.starta).toNat m.starta m.startb m.fk = true :=
  (((runnerSerial_run K n m).strict_of_mon hf hm).h1 hf hm h0 h0b hpre).seg (by simp [childOK, ha, hb])

theorem pathOKAux_of_segOKf (p : Int → Int) (lenB : Nat) (n : Nat) (i : Nat) (last : Int) (k : Kind)
    (hk : k ≠ .GA) (h : segOKf p (lenB : Int) .A n (i : Int) last k = true) :
    pathOKAux lenB last (k == .GB) ((List.range' (i + 1) n).map fun (j : Nat) => p (j : Int)) = true := by
  induction n generalizing i last k with
  | zero =>
    simp only [segOKf, segRun] at h
    rw [segEnd_true] at h
    simp only [List.range'_zero, List.map_nil, pathOKAux]
    rcases h with ⟨h1, _⟩ | ⟨h1, h2, _⟩
    · cases k <;> simp_all
    · cases k <;> simp_all <;> omega
  | succ n ih =>
    simp only [segOKf, segRun] at h
    cases hs : segStep (lenB : Int) last k (p ((i : Int) + 1)) with
    | none => simp [hs] at h
    | some x =>
      simp only [hs] at h
      have hcast : ((i + 1 : Nat) : Int) = (i : Int) + 1 := by omega
      rw [List.range'_succ, List.map_cons, hcast]
      unfold pathOKAux
      rw [segStep_some] at hs
      have ih' := fun (l : Int) (k' : Kind) (hk' : k' ≠ .GA) hh => ih (i + 1) l k' hk' (by rw [hcast]; exact hh)
      rcases hs with ⟨h1, _, h3⟩ | ⟨h1, h2, h3, h4⟩ | ⟨h1, h2, h3, h4, h5⟩
      · subst h3
        simp only [h1, beq_self_eq_true, if_true]
        exact ih' last .GB (by decide) h
      · subst h4
        have hne : (p ((i : Int) + 1) == -1) = false := by simpa using h1
        simp only [hne, Bool.false_eq_true, if_false, Bool.and_eq_true, decide_eq_true_eq]
        refine ⟨⟨?_, h3⟩, ih' _ .A (by decide) h⟩
        cases k <;> simp_all <;> omega
      · subst h5
        have hne : (p ((i : Int) + 1) == -1) = false := by simpa using h1
        simp only [hne, Bool.false_eq_true, if_false, Bool.and_eq_true, decide_eq_true_eq]
        refine ⟨⟨?_, h4⟩, ih' _ .A (by decide) h⟩
        cases k <;> simp_all <;> omega

end Kalign

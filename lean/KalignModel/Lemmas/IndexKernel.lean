import KalignModel.Lemmas.IndexRules
/-!
# The nine checked kernels agree with the totalised kernels
-/
namespace Kalign
section
variable {α : Type} [Score α]

theorem mem_rows {r : Rect} {i : Nat} (h : i ∈ List.range' r.starta (r.enda - r.starta)) :
    r.starta ≤ i ∧ i < r.enda := by
  have := List.mem_range'_1.mp h
  omega

theorem mem_rows_rev {r : Rect} {i : Nat} (h : i ∈ (List.range' r.starta (r.enda - r.starta)).reverse) :
    r.starta ≤ i ∧ i < r.enda :=
  mem_rows (List.mem_reverse.mp h)

/-- the checked penalty terms answer with the totalised ones for every column `i ≤ lim` -/
structure MeetAgree (lim : Nat) (oc : MeetOpsC α) (o : MeetOps α) : Prop where
  g2 : ∀ i, i ≤ lim → ∀ x, Agrees (oc.g2 i x) (o.g2 i x)
  g3 : ∀ x, Agrees (oc.g3 x) (o.g3 x)
  g5 : ∀ i, i ≤ lim → ∀ x, Agrees (oc.g5 i x) (o.g5 i x)
  g6 : ∀ x, Agrees (oc.g6 x) (o.g6 x)
  g7 : ∀ x, Agrees (oc.g7 x) (o.g7 x)
  g6e : ∀ x, Agrees (oc.g6e x) (o.g6e x)

theorem meetupLoopC_eq (lim : Nat) (oc : MeetOpsC α) (o : MeetOps α) (h : MeetAgree lim oc o) (sb eb : Nat)
    (fs bs : List (States α)) (i : Nat) (acc : MeetAcc α) (hlen : i + fs.length ≤ lim + 1) :
    Agrees (meetupLoopC oc sb eb i fs bs acc) (meetupLoop o sb eb i fs bs acc) := by
  induction fs generalizing bs i acc with
  | nil =>
    rw [meetupLoop.eq_3 _ _ _ _ _ _ _ (by simp) (by simp), meetupLoopC.eq_3 _ _ _ _ _ _ _ (by simp) (by simp)]
  | cons f fs ih =>
    cases bs with
    | nil =>
      rw [meetupLoop.eq_3 _ _ _ _ _ _ _ (by simp) (by simp), meetupLoopC.eq_3 _ _ _ _ _ _ _ (by simp) (by simp)]
    | cons b bs =>
      simp only [List.length_cons] at hlen
      by_cases hone : fs = [] ∧ bs = []
      · obtain ⟨e1, e2⟩ := hone
        subst e1; subst e2
        simp only [meetupLoop, meetupLoopC, h.g3, h.g6e, Option.bind_some]
      · rw [meetupLoop.eq_2 _ _ _ _ _ _ _ _ _ (fun a b => hone ⟨a, b⟩),
          meetupLoopC.eq_2 _ _ _ _ _ _ _ _ _ (fun a b => hone ⟨a, b⟩)]
        simp only [h.g2 i (by omega), h.g3, h.g5 i (by omega), h.g6, h.g7, Option.bind_some]
        exact ih bs (i + 1) _ (by omega)

theorem meetupRunC_eq (lim : Nat) (oc : MeetOpsC α) (o : MeetOps α) (h : MeetAgree lim oc o) (sb eb : Nat)
    (fs bs : List (States α)) (hlen : sb + fs.length ≤ lim + 1) :
    Agrees (meetupRunC oc sb eb fs bs) (meetupRun o sb eb fs bs) := by
  unfold meetupRunC meetupRun
  rw [meetupLoopC_eq lim oc o h sb eb fs bs sb _ hlen]
  rfl

theorem ssMeetAgree (ap : AlnParam α) (r : Rect) (lim : Nat) : MeetAgree lim (ssMeetOpsC ap r) (ssMeetOps ap r) :=
  ⟨fun _ _ _ => rfl, fun _ => rfl, fun _ _ _ => rfl, fun _ => rfl, fun _ => rfl, fun _ => rfl⟩

theorem spMeetAgree (ap : AlnParam α) (p : Array α) (sip : Nat) (r : Rect) (mid lenA lim : Nat)
    (hp : p.size = 64 * (lenA + 2)) (hmid : mid ≤ lenA) :
    MeetAgree lim (spMeetOpsC ap p sip r mid) (spMeetOps ap p sip r mid) :=
  have c0 : ColOK p mid := colOK_of_size p lenA _ hp (by omega)
  have c1 : ColOK p (mid + 1) := colOK_of_size p lenA _ hp (by omega)
  ⟨fun _ _ _ => rfl, fun x => addProfEntryC_eq p _ 27 x c1, fun _ _ _ => rfl, fun x => addGapEntryC_eq p _ _ x c1,
    fun x => addProfEntryC_eq p _ 27 x c0, fun x => addGapEntryC_eq p _ _ x c1⟩

theorem ppMeetAgree (p1 p2 : Array α) (r : Rect) (mid lenA lenB : Nat)
    (hp1 : p1.size = 64 * (lenA + 2)) (hp2 : p2.size = 64 * (lenB + 2)) (hmid : mid ≤ lenA) :
    MeetAgree lenB (ppMeetOpsC p1 p2 r mid) (ppMeetOps p1 p2 r mid) :=
  have c0 : ColOK p1 mid := colOK_of_size p1 lenA _ hp1 (by omega)
  have c1 : ColOK p1 (mid + 1) := colOK_of_size p1 lenA _ hp1 (by omega)
  ⟨fun i hi x => addProfEntryC_eq p2 _ 27 x (colOK_of_size p2 lenB _ hp2 (by omega)), fun x => addProfEntryC_eq p1 _ 27 x c1,
    fun i hi x => addProfEntryC_eq p2 _ 27 x (colOK_of_size p2 lenB _ hp2 (by omega)), fun x => addGapEntryC_eq p1 _ _ x c1,
    fun x => addProfEntryC_eq p1 _ 27 x c0, fun x => addGapEntryC_eq p1 _ _ x c1⟩

/-! Every row is an instance of `RowAgree`.  In the profile–profile kernels the first row and the `ga` cells add the gap
entries of a column of `prof2` exactly as `profGb` does. -/

theorem kForwardC_eq (ap : AlnParam α) (hw : ap.wf) (ops : Operands α) (r : Rect) (lenA lenB : Nat)
    (hl : ops.lens? = some (lenA, lenB)) (hr : r.valid lenA lenB = true) (start : States α) :
    Agrees (kForwardC ap ops r start) (kForward ap ops r start) := by
  obtain ⟨-, rb, rc, rd, re⟩ := (Rect.valid_iff r lenA lenB).mp hr
  cases ops with
  | seqseq s1 s2 =>
    obtain ⟨h1, h2, hs1, hs2⟩ := lens?_seqseq.mp hl
    refine runKernelC_eq _ _ _ (fun _ _ _ _ _ => rfl) _ _ _ _ (fun i hi => ?_)
    obtain ⟨i1, i2⟩ := mem_rows hi
    exact ⟨_, Agrees.bind (.read (by omega)) (.pure _), fun _ _ => rfl, fun k k1 k2 x y z =>
      Agrees.bind (.read (by omega)) <| .bind
        (subC_eq ap hw _ _ (all_lt_getD s1 h1 i) (all_lt_getD s2 h2 _)) (.pure _),
      fun _ _ _ _ _ => rfl, fun _ _ => rfl, fun _ _ => rfl⟩
  | seqprof p s2 sip =>
    obtain ⟨h2, hp, hs2⟩ := lens?_seqprof.mp hl
    refine runKernelC_eq _ _ _ (fun _ _ _ _ _ => rfl) _ _ _ _ (fun i hi => ?_)
    obtain ⟨i1, i2⟩ := mem_rows hi
    have c0 : ColOK p i := colOK_of_size p lenA _ hp (by omega)
    have c1 : ColOK p (i + 1) := colOK_of_size p lenA _ hp (by omega)
    refine ⟨_, rfl, profGbC_eq p _ (r.startb == 0) c1, ?_, fun _ _ _ _ _ => rfl, profGbC_eq p _ false c1,
      profGbC_eq p _ (r.endb == r.lenB) c1⟩
    intro k k1 k2 x y z
    dsimp only
    have hc := all_lt_getD s2 h2 (r.startb + k - 1)
    exact Agrees.bind (pgetC_col p i 27 c0) <| .bind (.read (by omega)) <| .bind (pgetC_col p (i + 1) _ c1) (.pure _)
  | profprof p1 p2 =>
    obtain ⟨hp1, hp2⟩ := lens?_profprof.mp hl
    have q : ∀ j, j ≤ lenB + 1 → ColOK p2 j := fun j hj => colOK_of_size p2 lenB j hp2 hj
    refine runKernelC_eq _ _ _ (fun k k1 k2 => profGbC_eq p2 _ (r.startb == 0) (q (r.startb + k) (by omega)))
      _ _ _ _ (fun i hi => ?_)
    obtain ⟨i1, i2⟩ := mem_rows hi
    have c0 : ColOK p1 i := colOK_of_size p1 lenA _ hp1 (by omega)
    have c1 : ColOK p1 (i + 1) := colOK_of_size p1 lenA _ hp1 (by omega)
    refine ⟨_, by rw [freqOfC_eq p1 (i + 1) c1, Option.bind_some], profGbC_eq p1 _ (r.startb == 0) c1, ?_,
      fun k k1 k2 => profGbC_eq p2 _ false (q (r.startb + k) (by omega)), profGbC_eq p1 _ false c1,
      profGbC_eq p1 _ (r.endb == r.lenB) c1⟩
    intro k k1 k2 x y z
    dsimp only
    rw [pgetC_col p2 _ 27 (q (r.startb + k - 1) (by omega)), Option.bind_some, pgetC_col p1 i 27 c0, Option.bind_some]
    exact dotAddC_eq p1 (i + 1) p2 (r.startb + k) _ _ c1 (q _ (by omega))
      (fun c hc => mem_freqOf_lt p1 (i + 1) c (List.mem_reverse.mp hc))

theorem kBackwardC_eq (ap : AlnParam α) (hw : ap.wf) (ops : Operands α) (r : Rect) (lenA lenB : Nat)
    (hl : ops.lens? = some (lenA, lenB)) (hr : r.valid lenA lenB = true) (start : States α) :
    Agrees (kBackwardC ap ops r start) (kBackward ap ops r start) := by
  obtain ⟨-, rb, rc, rd, re⟩ := (Rect.valid_iff r lenA lenB).mp hr
  cases ops with
  | seqseq s1 s2 =>
    obtain ⟨h1, h2, hs1, hs2⟩ := lens?_seqseq.mp hl
    refine Agrees.map (runKernelC_eq _ _ _ (fun _ _ _ _ _ => rfl) _ _ _ _ (fun i hi => ?_))
    obtain ⟨i1, i2⟩ := mem_rows_rev hi
    exact ⟨_, Agrees.bind (.read (by omega)) (.pure _), fun _ _ => rfl, fun k k1 k2 x y z =>
      Agrees.bind (.read (by omega)) <| .bind
        (subC_eq ap hw _ _ (all_lt_getD s1 h1 i) (all_lt_getD s2 h2 _)) (.pure _),
      fun _ _ _ _ _ => rfl, fun _ _ => rfl, fun _ _ => rfl⟩
  | seqprof p s2 sip =>
    obtain ⟨h2, hp, hs2⟩ := lens?_seqprof.mp hl
    refine Agrees.map (runKernelC_eq _ _ _ (fun _ _ _ _ _ => rfl) _ _ _ _ (fun i hi => ?_))
    obtain ⟨i1, i2⟩ := mem_rows_rev hi
    have c1 : ColOK p (i + 1) := colOK_of_size p lenA _ hp (by omega)
    have c2 : ColOK p (i + 2) := colOK_of_size p lenA _ hp (by omega)
    refine ⟨_, rfl, profGbC_eq p _ (r.endb == r.lenB) c1, ?_, fun _ _ _ _ _ => rfl, profGbC_eq p _ false c1,
      profGbC_eq p _ (r.startb == 0) c1⟩
    intro k k1 k2 x y z
    dsimp only
    have hc := all_lt_getD s2 h2 (r.endb - k)
    exact Agrees.bind (pgetC_col p (i + 2) 27 c2) <| .bind (.read (by omega)) <| .bind (pgetC_col p (i + 1) _ c1) (.pure _)
  | profprof p1 p2 =>
    obtain ⟨hp1, hp2⟩ := lens?_profprof.mp hl
    have q : ∀ j, j ≤ lenB + 1 → ColOK p2 j := fun j hj => colOK_of_size p2 lenB j hp2 hj
    refine Agrees.map (runKernelC_eq _ _ _
      (fun k k1 k2 => profGbC_eq p2 _ (r.endb == r.lenB) (q (r.endb - k + 1) (by omega))) _ _ _ _ (fun i hi => ?_))
    obtain ⟨i1, i2⟩ := mem_rows_rev hi
    have c1 : ColOK p1 (i + 1) := colOK_of_size p1 lenA _ hp1 (by omega)
    have c2 : ColOK p1 (i + 2) := colOK_of_size p1 lenA _ hp1 (by omega)
    refine ⟨_, by rw [freqOfC_eq p1 (i + 1) c1, Option.bind_some], profGbC_eq p1 _ (r.endb == r.lenB) c1, ?_,
      fun k k1 k2 => profGbC_eq p2 _ false (q (r.endb - k + 1) (by omega)), profGbC_eq p1 _ false c1,
      profGbC_eq p1 _ (r.startb == 0) c1⟩
    intro k k1 k2 x y z
    dsimp only
    rw [pgetC_col p2 _ 27 (q (r.endb - k + 2) (by omega)), Option.bind_some, pgetC_col p1 (i + 2) 27 c2,
      Option.bind_some]
    exact dotAddC_eq p1 (i + 1) p2 (r.endb - k + 1) _ _ c1 (q _ (by omega))
      (fun c hc => mem_freqOf_lt p1 (i + 1) c (List.mem_reverse.mp hc))

/-- the loop stops with the shorter of `fs`, `bs` and its column counter starts at `startb`: a bound on `fs` alone (the
rectangle's `endb - startb + 1` cells) keeps the counter `≤ lenB` -/
theorem kMeetupC_eq (ap : AlnParam α) (ops : Operands α) (r : Rect) (lenA lenB mid : Nat)
    (hl : ops.lens? = some (lenA, lenB)) (hr : r.valid lenA lenB = true) (hmid : mid ≤ lenA)
    (fs bs : List (States α)) (hlen : fs.length ≤ r.endb - r.startb + 1) :
    Agrees (kMeetupC ap ops r mid fs bs) (kMeetup ap ops r mid fs bs) := by
  obtain ⟨-, rb, rc, rd, re⟩ := (Rect.valid_iff r lenA lenB).mp hr
  cases ops with
  | seqseq s1 s2 => exact meetupRunC_eq lenB _ _ (ssMeetAgree ap r lenB) _ _ _ _ (by omega)
  | seqprof p s2 sip =>
    obtain ⟨a, b, c⟩ := lens?_seqprof.mp hl
    exact meetupRunC_eq lenB _ _ (spMeetAgree ap p sip r mid lenA lenB b hmid) _ _ _ _ (by omega)
  | profprof p1 p2 =>
    obtain ⟨a, b⟩ := lens?_profprof.mp hl
    exact meetupRunC_eq lenB _ _ (ppMeetAgree p1 p2 r mid lenA lenB a b hmid) _ _ _ _ (by omega)

end
end Kalign

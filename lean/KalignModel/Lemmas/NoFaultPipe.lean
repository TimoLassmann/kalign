import KalignModel.Lemmas.NoFaultRecC
import KalignModel.Lemmas.NoFaultTree
import KalignModel.Lemmas.Canon
import KalignModel.Model.TreeSoft
import KalignModel.Lemmas.Pipeline
import KalignModel.Lemmas.Basic.OptionMapM
/-!
# The composed pipeline never takes a fault path: the case analysis

`NoFault U M r`: the result `r` of a pipeline stage is not `.fuel`, not `.tree` under `U`, neither `.fault` nor `.monitor` under `M`.  `kalignRunWithCB_cases_det`: any score
carrier, any detection function, any task-table builder that answers as `BuildOK` says; `kalignRunWithCB_buildTasks_cases`: the builder `buildTasks`.
-/
namespace Kalign.Pipeline
open Kalign Kalign.Kmeans Kalign.Sched

/-- `U`, `M`: the hypotheses about the values in `upgma` and about the Hirschberg monitor (see `BuildOK`) -/
def NoFault {β : Type} (U M : Prop) (r : Except PipeErr β) : Prop :=
  r ≠ .error .fuel ∧ (U → r ≠ .error .tree) ∧ (M → r ≠ .error .fault ∧ r ≠ .error .monitor)

theorem NoFault.of_error {β γ : Type} {U M : Prop} {r : Except PipeErr β} {r' : Except PipeErr γ} (h : NoFault U M r)
    (he : ∀ e, r' = .error e → r = .error e) : NoFault U M r' :=
  ⟨fun h' => h.1 (he _ h'), fun hU h' => h.2.1 hU (he _ h'),
    fun hM => ⟨fun h' => (h.2.2 hM).1 (he _ h'), fun h' => (h.2.2 hM).2 (he _ h')⟩⟩

theorem NoFault.map {β γ : Type} {U M : Prop} {r : Except PipeErr β} (f : β → γ) (h : NoFault U M r) :
    NoFault U M (r.map f) :=
  h.of_error fun e he => by
    cases r with
    | ok b => cases he
    | error e' => cases he; rfl

/-- `r` is the answer of the task-table builder for `n` sequences.  `U` is the hypothesis about the values in `upgma` under which
the builder does not fail (`UpgmaHyp`, or `True` where it is proved), `M` the hypothesis about the Hirschberg monitor the caller is
given (a `MonHyp…`, or `True`), `mon T` what the recursion needs of it on the tree `T` (`MonHypL` on the leaves of `T`).  The second
disjunct says `U → r ≠ .error .tree` in the form the case analysis uses -/
def BuildOK (U M : Prop) (r : Except PipeErr (Array (Nat × Nat × Nat))) (n : Nat) (mon : Tree → Prop) : Prop :=
  (∃ T : Tree, r = .ok (Kmeans.sortTasks (treeTasks T n)).toArray ∧ (∀ x, x ∈ T.leaves ↔ x < n) ∧ (M → mon T)) ∨
  (r = .error .tree ∧ ¬ U)

theorem buildTasks_buildOK (avx : Bool) (codes : Array (List Nat)) (hn : codes.size ≠ 0)
    (h13 : ∀ s ∈ codes.toList, ∀ c ∈ s, c < 13) (M : Prop) (mon : Tree → Prop)
    (hmon : M → ∀ T : Tree, buildTasks avx codes = .ok (Kmeans.sortTasks (treeTasks T codes.size)).toArray →
      (∀ x, x ∈ T.leaves ↔ x < codes.size) → mon T) :
    BuildOK (UpgmaHyp codes) M (buildTasks avx codes) codes.size mon :=
  (buildTasks_cases avx codes hn h13).imp (fun ⟨T, hT, hl⟩ => ⟨T, hT, hl, fun hM => hmon hM T hT hl⟩) id

theorem finalGaps_of_member {g : Group Nat} {i : Nat} (h : ∃ m ∈ g, m.idx = i) : ∃ gp, finalGaps g i = some gp := by
  obtain ⟨m, hm, hidx⟩ := h
  unfold finalGaps
  cases hf : g.find? (·.idx = i) with
  | none =>
    rw [List.find?_eq_none] at hf
    exact absurd (by simpa using hidx) (hf m hm)
  | some m' => exact ⟨_, rfl⟩

section
variable {α : Type} [Score α]

theorem recAlnC_root (ap : AlnParam α) (T : Tree) (codes : Array (List Nat)) (n : Nat) (hn : 2 ≤ n)
    (hleaves : ∀ x, x ∈ T.leaves ↔ x < n) :
    recAlnC ap (Kmeans.sortTasks (treeTasks T n)).toArray codes n (Kmeans.sortTasks (treeTasks T n)).toArray.size
        ((Kmeans.sortTasks (treeTasks T n)).toArray.size - 1) =
      childOfC ap (Kmeans.sortTasks (treeTasks T n)).toArray codes n (Kmeans.Tree.nint T) (label T n).id := by
  obtain ⟨hid, _⟩ := label_root T n hn hleaves
  have hsize : (Kmeans.sortTasks (treeTasks T n)).toArray.size = Kmeans.Tree.nint T := by simp [length_sortTasks]
  rw [hid, ← hsize]
  exact (childOfC_add ap _ codes n _ _).symm

/-- **the core never takes a fault path**: `c1` = codes in the tree alphabet, `c2` = codes in the alignment alphabet -/
theorem coreCB_cases (build : Array (List Nat) → Except PipeErr (Array (Nat × Nat × Nat))) (pm : Option (AlnParam α))
    (c1 c2 : List (List Nat)) (U M : Prop) (h23 : ∀ s ∈ c2, s ≠ [] ∧ ∀ c ∈ s, c < 23)
    (hb : 2 ≤ c2.length → BuildOK U M (build c1.toArray) c2.length
      fun T => ∀ ap, pm = some ap → MonHypL ap c2.toArray T.leaves) :
    NoFault U M (coreCB build pm c1 c2) := by
  unfold coreCB
  simp only
  by_cases hn : c2.length < 2
  · simp [hn, NoFault]
  rw [if_neg hn]
  rcases hb (by omega) with ⟨T, hT, hleaves, hmon⟩ | ⟨hE, hnU⟩
  · rw [hT]
    simp only
    cases hp : pm with
    | none => simp [NoFault]
    | some ap =>
      simp only
      rw [recAlnC_root ap T c2.toArray c2.length (by omega) hleaves]
      have hleaves' : ∀ i ∈ T.leaves, i < c2.toArray.size := fun i hi => (hleaves i).1 hi
      have hnint : Kmeans.LTree.nint (label T c2.toArray.size) ≤ Kmeans.Tree.nint T := by
        unfold label; rw [(labelFrom_iids T c2.toArray.size).2.2]; exact Nat.le_refl _
      have hfuel := recAlnC_tree_no_fuel ap T c2.toArray hleaves' _ (.refl _) (Kmeans.Tree.nint T) hnint
      have hne : ∀ i, i < c2.toArray.size → c2.toArray.getD i [] ≠ [] ∧ ∀ c ∈ c2.toArray.getD i [], c < 23 := by
        intro i hi
        have hi' : i < c2.length := hi
        have : c2.toArray.getD i [] = c2[i] := by simp [Array.getD, hi']
        rw [this]
        exact h23 _ (List.getElem_mem hi')
      have hok := fun hM => recAlnC_treeL ap T c2.toArray hleaves' hne (hmon hM ap hp) _ (.refl _) (Kmeans.Tree.nint T) hnint
      simp only [List.size_toArray] at hfuel hok
      cases hc : childOfC ap (Kmeans.sortTasks (treeTasks T c2.length)).toArray c2.toArray c2.length (Kmeans.Tree.nint T)
          (label T c2.length).id with
      | error e =>
        have he := childOfC_error ap _ _ _ _ _ e hc
        rw [hc] at hfuel hok
        refine ⟨by simpa using hfuel, fun _ => ?_, fun hM => ?_⟩
        · rcases he with rfl | rfl | rfl <;> simp
        · obtain ⟨N, hN, _⟩ := hok hM
          cases hN
      | ok root =>
        simp only
        refine ⟨by split <;> simp, fun _ => by split <;> simp, fun hM => ?_⟩
        obtain ⟨N, hN, hmem, _⟩ := hok hM
        rw [hc] at hN
        cases hN
        obtain ⟨gs, hgs, _⟩ := mapM_option_spec (finalGaps root.group) (fun _ => True) (List.range c2.length) (by
          intro i hi
          obtain ⟨g, hg⟩ := finalGaps_of_member (hmem i (by
            rw [label_leaves]
            exact (hleaves i).2 (List.mem_range.1 hi)))
          exact ⟨g, hg, trivial⟩)
        rw [hgs]
        simp
  · rw [hE]
    simp [NoFault, hnU]

end

/-- codes of the canonical sequences in the guide-tree alphabet / in the alignment alphabet (as `stagesG` computes them) -/
def treeCodes (bio : Bio) (c : List RSeq) : Array (List Nat) :=
  (((view c).map fun x => bytesOf x.2).map (convertN (treeAlphabet bio))).toArray
def alnCodes (bio : Bio) (c : List RSeq) : Array (List Nat) :=
  (((view c).map fun x => bytesOf x.2).map (convertN (alnAlphabet bio))).toArray

theorem size_treeCodes (bio : Bio) (c : List RSeq) : (treeCodes bio c).size = (view c).length := by simp [treeCodes]
theorem size_alnCodes (bio : Bio) (c : List RSeq) : (alnCodes bio c).size = (view c).length := by simp [alnCodes]

theorem treeCodes_lt13 (bio : Bio) (V : List (Name × List Char)) :
    ∀ s ∈ (V.map fun x => bytesOf x.2).map (convertN (treeAlphabet bio)), ∀ c ∈ s, c < 13 := by
  intro s hs
  simp only [List.map_map, List.mem_map, Function.comp_apply] at hs
  obtain ⟨x, _, rfl⟩ := hs
  intro c hc
  rcases treeAlphabet_cases bio with h | h
  · have := convertN_lt 5 (Or.inl rfl) (bytesOf x.2) c (by rw [← h]; exact hc); omega
  · exact convertN_lt 13 (Or.inr (Or.inl rfl)) (bytesOf x.2) c (by rw [← h]; exact hc)

theorem alnCodes_lt23 (bio : Bio) (V : List (Name × List Char)) (hV : ∀ x ∈ V, x.2 ≠ []) :
    ∀ s ∈ (V.map fun x => bytesOf x.2).map (convertN (alnAlphabet bio)), s ≠ [] ∧ ∀ c ∈ s, c < 23 := by
  intro s hs
  simp only [List.map_map, List.mem_map, Function.comp_apply] at hs
  obtain ⟨x, hx, rfl⟩ := hs
  refine ⟨?_, ?_⟩
  · intro h0
    have := congrArg List.length h0
    rw [length_convertN] at this
    simp only [bytesOf, List.length_map, List.length_nil] at this
    exact hV x hx (List.length_eq_zero_iff.1 this)
  · intro c hc
    rcases alnAlphabet_cases bio with h | h
    · have := convertN_lt 5 (Or.inl rfl) (bytesOf x.2) c (by rw [← h]; exact hc); omega
    · exact convertN_lt 23 (Or.inr (Or.inr rfl)) (bytesOf x.2) c (by rw [← h]; exact hc)

section
variable {α : Type} [Score α]

theorem stagesCB_cases (build : Array (List Nat) → Except PipeErr (Array (Nat × Nat × Nat))) (bio : Bio)
    (pm : Bio → Option (AlnParam α)) (V : List (Name × List Char)) (U M : Prop) (hV : ∀ x ∈ V, x.2 ≠ [])
    (hb : 2 ≤ V.length →
      BuildOK U M (build ((V.map fun x => bytesOf x.2).map (convertN (treeAlphabet bio))).toArray) V.length fun T =>
        ∀ ap, pm bio = some ap →
          MonHypL ap ((V.map fun x => bytesOf x.2).map (convertN (alnAlphabet bio))).toArray T.leaves) :
    NoFault U M (stagesCB build bio pm V) := by
  have hcore := coreCB_cases build (pm bio) ((V.map fun x => bytesOf x.2).map (convertN (treeAlphabet bio)))
    ((V.map fun x => bytesOf x.2).map (convertN (alnAlphabet bio))) U M (alnCodes_lt23 bio V hV) (by simpa using hb)
  unfold stagesCB
  split
  · simp [NoFault]
  · refine hcore.of_error fun e h => ?_
    simp only at h
    split at h
    · cases h; assumption
    · cases h

theorem kalignRunWithCB_cases_det (det : List Nat → Bio)
    (build : Array (List Nat) → Except PipeErr (Array (Nat × Nat × Nat))) (pm : Bio → Option (AlnParam α))
    (inp : List InSeq) (U M : Prop)
    (hb : ∀ c, canon inp = some c → 2 ≤ (view c).length →
      BuildOK U M (build (treeCodes (bioOf det inp) c)) (view c).length fun T =>
        ∀ ap, pm (bioOf det inp) = some ap → MonHypL ap (alnCodes (bioOf det inp) c) T.leaves) :
    NoFault U M (kalignRunWithCB det build pm inp) := by
  unfold kalignRunWithCB
  by_cases hbad : hasBadByte inp = true
  · simp [hbad, NoFault]
  simp only [hbad, Bool.false_eq_true, if_false]
  cases hc : canon inp with
  | none => simp [NoFault]
  | some c =>
    refine (stagesCB_cases build _ pm (view c) U M (canon_nonempty inp c hc) (hb c hc)).of_error fun e h => ?_
    simp only at h
    split at h
    · cases h; assumption
    · cases h

theorem kalignRunWithCB_cases (det : List Nat → Bio) (build : Array (List Nat) → Except PipeErr (Array (Nat × Nat × Nat)))
    (pm : Bio → Option (AlnParam α)) (inp : List InSeq)
    (hb : ∀ c, canon inp = some c → 2 ≤ (view c).length → ∃ T : Tree,
      build (treeCodes (bioOf det inp) c) = .ok (Kmeans.sortTasks (treeTasks T (view c).length)).toArray ∧
      (∀ x, x ∈ T.leaves ↔ x < (view c).length) ∧
      ∀ ap, pm (bioOf det inp) = some ap → MonHypL ap (alnCodes (bioOf det inp) c) T.leaves) :
    kalignRunWithCB det build pm inp ≠ .error .fuel ∧ kalignRunWithCB det build pm inp ≠ .error .tree ∧
    kalignRunWithCB det build pm inp ≠ .error .fault ∧ kalignRunWithCB det build pm inp ≠ .error .monitor :=
  have h := kalignRunWithCB_cases_det det build pm inp True True fun c hc h2 =>
    (hb c hc h2).elim fun T hT => Or.inl ⟨T, hT.1, hT.2.1, fun _ => hT.2.2⟩
  ⟨h.1, h.2.1 trivial, (h.2.2 trivial).1, (h.2.2 trivial).2⟩

end

theorem kalignRunWithCB_buildTasks_cases {α : Type} [Score α] (det : List Nat → Bio) (avx : Bool)
    (pm : Bio → Option (AlnParam α)) (inp : List InSeq) (M : Prop)
    (hM : M → ∀ c ap T, canon inp = some c → pm (bioOf det inp) = some ap →
      buildTasks avx (treeCodes (bioOf det inp) c) =
        .ok (Kmeans.sortTasks (treeTasks T (treeCodes (bioOf det inp) c).size)).toArray →
      (∀ x, x ∈ T.leaves ↔ x < (treeCodes (bioOf det inp) c).size) → MonHypL ap (alnCodes (bioOf det inp) c) T.leaves) :
    NoFault (∀ c, canon inp = some c → UpgmaHyp (treeCodes (bioOf det inp) c)) M
      (kalignRunWithCB det (buildTasks avx) pm inp) := by
  refine kalignRunWithCB_cases_det det (buildTasks avx) pm inp _ _ fun c hc h2 => ?_
  have hsz := size_treeCodes (bioOf det inp) c
  have hB := buildTasks_buildOK avx (treeCodes (bioOf det inp) c) (by omega)
    (by simpa [treeCodes] using treeCodes_lt13 (bioOf det inp) (view c)) M
    (fun T => ∀ ap, pm (bioOf det inp) = some ap → MonHypL ap (alnCodes (bioOf det inp) c) T.leaves)
    (fun h T hT hl ap hp => hM h c ap T hc hp hT hl)
  rw [hsz] at hB
  exact hB.imp id (fun ⟨h, hU⟩ => ⟨h, fun hP => hU (hP c hc)⟩)

end Kalign.Pipeline

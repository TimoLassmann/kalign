import KalignModel.Lemmas.Basic.ListWalk
import KalignModel.Lemmas.MeetSpec
import KalignModel.Lemmas.Walk
/-!
# The meetup of one Hirschberg level in terms of readings

`absMeet` is the meetup over the tables of two abstract kernels (forward `cF` with `m1` rows, backward `cB` with `m2`
rows, both with cells `0..n`); forward + backward + meetup of the real sequence–sequence kernels is `absMeet` (`ssMeet_eq`).
Its score dominates the value of every admissible cut `(k, t)` of every pair of walks (`absMeet_sound`) and, when finite, is the
value of the returned cut for some pair (`absMeet_attained`).

With one-hot start states (what the controller of `aln_controller.c` passes to the kernels) the pairs are walks that meet in a
cell of the middle row (`MeetWalk`), and what a meetup answers is said once for every score carrier: `MeetAns M sb τ S meet trans` —
no cell is finite, or `(meet, trans)` is an admissible cell whose exact value is a maximum of value − `τ` up to the slack `S`
(`absMeet_ans`: the exact meetup, with `τ` the tie-break term and `S = 0`).  `Meet.CutOf`: the answer is a cut of given columns `X`,
what Lemmas/OptCut.lean and Lemmas/DiagCut.lean conclude.
-/
namespace Kalign

def absF (cF : KCfg) (startF : States ExactScore) (m1 : Nat) : Nat → States ExactScore :=
  fun k => absTab cF startF m1 k
def absB (cB : KCfg) (startB : States ExactScore) (m2 : Nat) : Nat → States ExactScore :=
  fun k => absTab cB startB m2 (cB.n - k)

def absMeet (cF cB : KCfg) (m1 m2 : Nat) (startF startB : States ExactScore) (sb eb : Nat) : MeetResult ExactScore :=
  let r := tryAll ⟨none, -1, -1⟩ (candList cF sb eb (absF cF startF m1) (absB cB startB m2) 0 cF.n)
  ⟨r.c, r.transition, r.max⟩

theorem ssMeet_eq {ap : AlnParam ExactScore} {gpo gpe tgpe : Int} {s : Nat → Nat → Int}
    (h : ApOK ap gpo gpe tgpe s) (seq1 seq2 : Array Nat) (sa mid ea sb eb lenB : Nat)
    (hb : sb < eb) (ha : mid ≤ ea) (startF startB : States ExactScore) :
    let rF : Rect := ⟨sa, mid, sb, eb, lenB⟩
    let rB : Rect := ⟨mid, ea, sb, eb, lenB⟩
    meetupRun (ssMeetOps ap rF) sb eb (ssForward ap seq1 seq2 rF startF) (ssBackward ap seq1 seq2 rB startB) =
      absMeet (cfgF gpo gpe tgpe s seq1 seq2 rF) (cfgB gpo gpe tgpe s seq1 seq2 rB) (mid - sa) (ea - mid)
        startF startB sb eb := by
  intro rF rB
  rw [ssForward_eq_absTab ap gpo gpe tgpe s h seq1 seq2 rF hb startF,
    ssBackward_eq_absTab ap gpo gpe tgpe s h seq1 seq2 rB hb ha startB, map_range_reverse]
  have := meetupRun_eq (ssMeetOps ap rF) sb eb (eb - sb)
    (absTab (cfgF gpo gpe tgpe s seq1 seq2 rF) startF (mid - sa))
    (fun k => absTab (cfgB gpo gpe tgpe s seq1 seq2 rB) startB (ea - mid) (eb - sb - k))
  rw [this]
  have hc := ssCands_eq ap gpo gpe tgpe s h seq1 seq2 rF
    (absTab (cfgF gpo gpe tgpe s seq1 seq2 rF) startF (mid - sa))
    (fun k => absTab (cfgB gpo gpe tgpe s seq1 seq2 rB) startB (ea - mid) (eb - sb - k)) (eb - sb) 0 (by simp [rF])
  simp only [rF] at hc ⊢
  rw [hc]
  rfl

theorem meetVal_mono (cF : KCfg) (sb eb : Nat) (t : Int) (k : Nat) {x x' y y' : Option Int}
    (h1 : ole x x') (h2 : ole y y') : ole (meetVal cF sb eb t k x y) (meetVal cF sb eb t k x' y') :=
  osub_mono _ (osub_mono _ (oplus_mono h1 h2))

theorem mem_candList_adm (cF : KCfg) (sb eb : Nat) (F B : Nat → States ExactScore) (n k : Nat) (t : Int)
    (h : Adm n k t) : mkCand cF sb eb F B k t ∈ candList cF sb eb F B 0 n :=
  (mem_candList_zero cF sb eb F B n _).mpr ⟨k, t, h, rfl⟩

theorem absMeet_ge (cF cB : KCfg) (m1 m2 : Nat) (startF startB : States ExactScore) (sb eb : Nat) {k : Nat} {t : Int}
    (hadm : Adm cF.n k t) :
    ole (mkCand cF sb eb (absF cF startF m1) (absB cB startB m2) k t).1 (absMeet cF cB m1 m2 startF startB sb eb).score :=
  tryAll_ge _ ⟨none, -1, -1⟩ _ (mem_candList_adm cF sb eb (absF cF startF m1) (absB cB startB m2) cF.n k t hadm)

theorem absMeet_sound (cF cB : KCfg) (hn : 1 ≤ cF.n) (hnn : cB.n = cF.n) (m1 m2 : Nat)
    (startF startB : States ExactScore) (sb eb : Nat) (k : Nat) (t : Int) (hadm : Adm cF.n k t)
    (k0F k0B : Kind) (X1 X2r : List Col) (v1 v2 : Option Int)
    (h1 : runF cF (initP startF k0F) X1 = ⟨m1, k, fkOf t, v1⟩)
    (h2 : runF cB (initP startB k0B) X2r = ⟨m2, cF.n - k, bkOf t, v2⟩) :
    ole (meetVal cF sb eb t k v1 v2) (absMeet cF cB m1 m2 startF startB sb eb).score := by
  have hF : ole v1 ((absF cF startF m1 k).get (fkOf t)) := by
    have := abs_sound cF hn startF k0F X1
    rw [readAbs, h1] at this
    exact this
  have hB : ole v2 ((absB cB startB m2 k).get (bkOf t)) := by
    have := abs_sound cB (by omega) startB k0B X2r
    rw [readAbs, h2] at this
    simpa [absB, hnn] using this
  exact ole_trans (meetVal_mono cF sb eb t k hF hB) (absMeet_ge cF cB m1 m2 startF startB sb eb hadm)

theorem meetVal_some {cF : KCfg} {sb eb : Nat} {t : Int} {k : Nat} {x y : Option Int}
    (h : meetVal cF sb eb t k x y ≠ none) : x ≠ none ∧ y ≠ none := by
  cases x <;> cases y <;> simp_all [meetVal]

theorem absMeet_none (cF cB : KCfg) (m1 m2 : Nat) (startF startB : States ExactScore) (sb eb : Nat)
    (h : (absMeet cF cB m1 m2 startF startB sb eb).score = none) :
    (absMeet cF cB m1 m2 startF startB sb eb).transition = -1 ∧
      (absMeet cF cB m1 m2 startF startB sb eb).meet = -1 := by
  unfold absMeet at h ⊢
  simp only at h ⊢
  rcases tryAll_spec (candList cF sb eb (absF cF startF m1) (absB cB startB m2) 0 cF.n) ⟨none, -1, -1⟩
    with ⟨h1, _⟩ | ⟨pre, c, post, _, h2, h3, _, _⟩
  · rw [h1]; exact ⟨rfl, rfl⟩
  · rw [h2] at h
    exact absurd (by rw [show c.1 = none from h]; exact ole_none _) h3

/-- scan order: by column, then by transition code -/
def candLt (a b : ExactScore × Int × Nat) : Prop := a.2.2 < b.2.2 ∨ (a.2.2 = b.2.2 ∧ a.2.1 < b.2.1)

theorem candList_pairwise (cF : KCfg) (sb eb : Nat) (F B : Nat → States ExactScore) :
    ∀ d k, (candList cF sb eb F B k d).Pairwise candLt := by
  intro d
  induction d with
  | zero =>
    intro k
    simp only [candList, List.map_cons, List.map_nil, List.pairwise_cons, List.mem_cons, List.not_mem_nil, or_false,
      forall_eq, List.Pairwise.nil, and_true, false_imp_iff, implies_true]
    right; exact ⟨rfl, by simp [mkCand]⟩
  | succ d ih =>
    intro k
    rw [candList, List.pairwise_append]
    refine ⟨?_, ih (k + 1), ?_⟩
    · simp only [List.map_cons, List.map_nil, List.pairwise_cons, List.mem_cons, List.not_mem_nil, or_false,
        List.Pairwise.nil, and_true, forall_eq_or_imp, forall_eq, false_imp_iff, implies_true]
      simp [candLt, mkCand]
    · intro a ha b hb
      rw [candList_eq_cellList, mem_cellList] at hb
      obtain ⟨j, t', _, hb'⟩ := hb
      simp only [List.map_cons, List.map_nil, List.mem_cons, List.not_mem_nil, or_false] at ha
      left
      rw [hb']
      rcases ha with h | h | h | h | h | h <;> rw [h] <;> simp only [mkCand] <;> omega

theorem not_candLt_self (a : ExactScore × Int × Nat) : ¬ candLt a a := by
  unfold candLt; omega

theorem candLt_asymm {a b : ExactScore × Int × Nat} (h : candLt a b) : ¬ candLt b a := by
  unfold candLt at *; omega

theorem absMeet_first (cF cB : KCfg) (m1 m2 : Nat) (startF startB : States ExactScore) (sb eb : Nat)
    (hfin : (absMeet cF cB m1 m2 startF startB sb eb).score ≠ none) :
    ∃ k t, Adm cF.n k t ∧ (absMeet cF cB m1 m2 startF startB sb eb).meet = ((sb + k : Nat) : Int) ∧
      (absMeet cF cB m1 m2 startF startB sb eb).transition = t ∧
      (absMeet cF cB m1 m2 startF startB sb eb).score =
        (mkCand cF sb eb (absF cF startF m1) (absB cB startB m2) k t).1 ∧
      (∀ k' t', Adm cF.n k' t' → (k' < k ∨ (k' = k ∧ t' < t)) →
        ¬ ole (absMeet cF cB m1 m2 startF startB sb eb).score
          (mkCand cF sb eb (absF cF startF m1) (absB cB startB m2) k' t').1) ∧
      (∀ k' t', Adm cF.n k' t' →
        ole (mkCand cF sb eb (absF cF startF m1) (absB cB startB m2) k' t').1
          (absMeet cF cB m1 m2 startF startB sb eb).score) := by
  unfold absMeet at hfin ⊢
  simp only at hfin ⊢
  rcases tryAll_spec (candList cF sb eb (absF cF startF m1) (absB cB startB m2) 0 cF.n) ⟨none, -1, -1⟩
    with ⟨h1, _⟩ | ⟨pre, c, post, h1, h2, _, h4, _⟩
  · rw [h1] at hfin; exact absurd rfl hfin
  · have hmem : c ∈ candList cF sb eb (absF cF startF m1) (absB cB startB m2) 0 cF.n := by rw [h1]; simp
    obtain ⟨k, t, hadm, hc⟩ := (mem_candList_zero _ _ _ _ _ _ c).mp hmem
    have hpw := candList_pairwise cF sb eb (absF cF startF m1) (absB cB startB m2) cF.n 0
    rw [h1, List.pairwise_append] at hpw
    obtain ⟨_, hpw2, _⟩ := hpw
    rw [List.pairwise_cons] at hpw2
    rw [h2]
    refine ⟨k, t, hadm, by rw [hc]; rfl, by rw [hc]; rfl, by rw [hc]; rfl, ?_, ?_⟩
    · intro k' t' hadm' hlt
      have hmem2 := mem_candList_adm cF sb eb (absF cF startF m1) (absB cB startB m2) cF.n k' t' hadm'
      have hltc : candLt (mkCand cF sb eb (absF cF startF m1) (absB cB startB m2) k' t') c := by
        rw [hc]; unfold candLt; simp only [mkCand]; omega
      rw [h1] at hmem2
      rcases List.mem_append.mp hmem2 with h | h
      · exact h4 _ h
      · rcases List.mem_cons.mp h with h | h
        · rw [h] at hltc; exact absurd hltc (not_candLt_self c)
        · exact absurd (hpw2.1 _ h) (candLt_asymm hltc)
    · intro k' t' hadm'
      have := absMeet_ge cF cB m1 m2 startF startB sb eb hadm'
      unfold absMeet at this
      rw [h2] at this
      exact this

theorem absMeet_attained (cF cB : KCfg) (hn : 1 ≤ cF.n) (hnn : cB.n = cF.n) (m1 m2 : Nat)
    (startF startB : States ExactScore) (sb eb : Nat)
    (hfin : (absMeet cF cB m1 m2 startF startB sb eb).score ≠ none) :
    ∃ k t, Adm cF.n k t ∧ (absMeet cF cB m1 m2 startF startB sb eb).meet = ((sb + k : Nat) : Int) ∧
      (absMeet cF cB m1 m2 startF startB sb eb).transition = t ∧
      ∃ k0F k0B X1 X2r v1 v2,
        runF cF (initP startF k0F) X1 = ⟨m1, k, fkOf t, some v1⟩ ∧
        runF cB (initP startB k0B) X2r = ⟨m2, cF.n - k, bkOf t, some v2⟩ ∧
        (absMeet cF cB m1 m2 startF startB sb eb).score = meetVal cF sb eb t k (some v1) (some v2) := by
  obtain ⟨k, t, hadm, hmeet, htr, hsc, _, _⟩ := absMeet_first cF cB m1 m2 startF startB sb eb hfin
  refine ⟨k, t, hadm, hmeet, htr, ?_⟩
  rw [hsc] at hfin ⊢
  simp only [mkCand] at hfin ⊢
  obtain ⟨hx, hy⟩ := meetVal_some hfin
  have hk := hadm.le
  rcases abs_attained cF hn startF m1 k hk (fkOf t) with hF | ⟨k0F, X1, hF⟩
  · exact absurd hF hx
  · rcases abs_attained cB (by omega) startB m2 (cB.n - k) (by omega) (bkOf t) with hB | ⟨k0B, X2r, hB⟩
    · exact absurd hB hy
    · cases hv1 : (absF cF startF m1 k).get (fkOf t) with
      | none => exact absurd hv1 hx
      | some v1 =>
        cases hv2 : (absB cB startB m2 k).get (bkOf t) with
        | none => exact absurd hv2 hy
        | some v2 =>
          refine ⟨k0F, k0B, X1, X2r, v1, v2, ?_, ?_, rfl⟩
          · rw [hF]; congr 1
          · rw [hB, hnn]; congr 1
            rw [← hv2, absB, hnn]

/-- the level's reading of a complete column list `X = X1 ++ X2` cut at `(consB X1, t)`, one-hot start states -/
def levelRead (cF cB : KCfg) (fk bk : Kind) (X1 X2 : List Col) (t : Int) : Int :=
  walkSc cF 0 0 fk X1 + walkSc cB 0 0 bk X2.reverse - joinCost cF t (consB X1)

def hot (k : Kind) : States ExactScore :=
  match k with
  | .A => ⟨some 0, none, none⟩
  | .GA => ⟨none, some 0, none⟩
  | .GB => ⟨none, none, some 0⟩

/-- the start states the controller hands the real kernels (on the soft carrier: `hotS_eq_st`, Lemmas/SoftOptCut.lean) -/
theorem hot_eq_st (ap : AlnParam ExactScore) (ops : Operands ExactScore) (lenA lenB : Nat) (k : Kind) :
    (realKernels ap ops lenA lenB).st k = hot k := by
  cases k <;> rfl

theorem hot_get_self (k : Kind) : (hot k).get k = some 0 := by cases k <;> rfl

theorem hot_get_ne (fk k0 : Kind) (h : k0 ≠ fk) : (hot fk).get k0 = none := by
  cases fk <;> cases k0 <;> simp_all [hot, States.get]

theorem runF_hot (c : KCfg) (fk k0 : Kind) (X : List Col) (m k : Nat) (st : Kind) (v : Int)
    (h : runF c (initP (hot fk) k0) X = ⟨m, k, st, some v⟩) :
    walkOK c 0 0 fk X = true ∧ v = walkSc c 0 0 fk X ∧ consA X = m ∧ consB X = k ∧ lastKind fk X = st := by
  by_cases hk : k0 = fk
  · subst hk
    rw [initP, hot_get_self, runF_some] at h
    have hv := congrArg PSt.v h
    have hp := congrArg PSt.p h
    have hkk := congrArg PSt.k h
    have hs := congrArg PSt.st h
    simp only [Nat.zero_add] at hp hkk hs hv
    by_cases hok : walkOK c 0 0 k0 X = true
    · rw [if_pos hok] at hv
      exact ⟨hok, by simpa using hv.symm, hp, hkk, hs⟩
    · rw [if_neg hok] at hv; exact absurd hv (by simp)
  · rw [initP, hot_get_ne fk k0 hk, runF_none] at h
    have hv := congrArg PSt.v h
    exact absurd hv (by simp)

theorem runF_hot_walk (c : KCfg) (fk : Kind) (X : List Col) (h : walkOK c 0 0 fk X = true) :
    runF c (initP (hot fk) fk) X = ⟨consA X, consB X, lastKind fk X, some (walkSc c 0 0 fk X)⟩ := by
  rw [initP, hot_get_self, runF_some, h]
  simp

theorem abs_attained_some (c : KCfg) (hn : 1 ≤ c.n) (start : States ExactScore) (m k : Nat) (hk : k ≤ c.n) (st : Kind)
    (a : Int) (h : (absTab c start m k).get st = some a) :
    ∃ k0 X, runF c (initP start k0) X = ⟨m, k, st, some a⟩ := by
  rcases abs_attained c hn start m k hk st with h0 | ⟨k0, X, hX⟩
  · rw [h] at h0; cases h0
  · exact ⟨k0, X, by rw [hX, h]⟩

/-- the two kernels of one level: configurations with the same cells `0..n`, the kinds the two walks start in, and the rows above
and below the middle row -/
structure Meet where
  cF : KCfg
  cB : KCfg
  hn : cB.n = cF.n
  fk : Kind
  bk : Kind
  m1 : Nat
  m2 : Nat

abbrev Meet.n (M : Meet) : Nat := M.cF.n

/-- the level's reading of two walks (`X2r`: the second as the backward kernel reads it, from the far corner) joined by transition `t` -/
def Meet.read (M : Meet) (X1 X2r : List Col) (t : Int) : Int := levelRead M.cF M.cB M.fk M.bk X1 X2r.reverse t

theorem Meet.read_eq (M : Meet) (X1 X2r : List Col) (t : Int) :
    M.read X1 X2r t = walkSc M.cF 0 0 M.fk X1 + walkSc M.cB 0 0 M.bk X2r - joinCost M.cF t (consB X1) := by
  rw [Meet.read, levelRead, List.reverse_reverse]

/-- a pair of walks of the two kernels from one-hot start states that meets in cell `k` of the middle row in the kinds of
transition `t` -/
structure MeetWalk (M : Meet) (k : Nat) (t : Int) (X1 X2r : List Col) : Prop where
  w1 : walkOK M.cF 0 0 M.fk X1 = true
  a1 : consA X1 = M.m1
  b1 : consB X1 = k
  l1 : lastKind M.fk X1 = fkOf t
  w2 : walkOK M.cB 0 0 M.bk X2r = true
  a2 : consA X2r = M.m2
  b2 : consB X2r = M.n - k
  l2 : lastKind M.bk X2r = bkOf t

/-- `(meet, trans)` is a cut of the columns `X` of the level, from cell `sb` on: `X` is made of a pair of walks that meets in the
cell and in the transition named -/
def Meet.CutOf (M : Meet) (X : List Col) (sb : Nat) (meet trans : Int) : Prop :=
  ∃ X1 X2r k t, X = X1 ++ X2r.reverse ∧ meet = ((sb + k : Nat) : Int) ∧ trans = t ∧ Adm M.n k t ∧ MeetWalk M k t X1 X2r

/-- the exact value of candidate `(k, t)` from a forward cell `ef` and a backward cell `eb`, before the tie-break term -/
def evC (cF : KCfg) (ef eb : States ExactScore) (k : Nat) (t : Int) : Option Int :=
  osub (oplus (ef.get (fkOf t)) (eb.get (bkOf t))) (joinCost cF t k)

/-- the same for cell `k` of the two tables of a level with one-hot start states -/
def evHot (M : Meet) (k : Nat) (t : Int) : Option Int :=
  evC M.cF (absTab M.cF (hot M.fk) M.m1 k) (absTab M.cB (hot M.bk) M.m2 (M.n - k)) k t

section
variable {M : Meet} {k : Nat} {t : Int} {X1 X2r : List Col}

theorem MeetWalk.le_ev (h : MeetWalk M k t X1 X2r) (hn : 1 ≤ M.n) : ∃ v, evHot M k t = some v ∧ M.read X1 X2r t ≤ v := by
  have r1 := runF_hot_walk M.cF M.fk X1 h.w1
  have r2 := runF_hot_walk M.cB M.bk X2r h.w2
  rw [h.a1, h.b1, h.l1] at r1
  rw [h.a2, h.b2, h.l2] at r2
  have s1 := abs_sound M.cF hn (hot M.fk) M.fk X1
  have s2 := abs_sound M.cB (M.hn ▸ hn) (hot M.bk) M.bk X2r
  rw [readAbs, r1] at s1
  rw [readAbs, r2] at s2
  obtain ⟨a, ha, ha2⟩ := ole_some_left s1
  obtain ⟨b, hb, hb2⟩ := ole_some_left s2
  refine ⟨a + b - joinCost M.cF t k, ?_, ?_⟩
  · unfold evHot evC
    rw [ha, hb]
    rfl
  · rw [Meet.read_eq, h.b1]
    omega

theorem MeetWalk.of_ev {v : Int} (hn : 1 ≤ M.n) (hk : k ≤ M.n) (hev : evHot M k t = some v) :
    ∃ X1 X2r, MeetWalk M k t X1 X2r ∧ v = M.read X1 X2r t := by
  obtain ⟨a, b, ha, hb, hv⟩ := osub_oplus_some hev
  obtain ⟨k0F, X1, hrun1⟩ := abs_attained_some M.cF hn (hot M.fk) M.m1 k hk (fkOf t) a ha
  obtain ⟨k0B, X2r, hrun2⟩ := abs_attained_some M.cB (M.hn ▸ hn) (hot M.bk) M.m2 (M.n - k)
    (M.hn ▸ Nat.sub_le _ _) (bkOf t) b hb
  obtain ⟨hw1, hv1, hA1, hB1, hl1⟩ := runF_hot M.cF M.fk k0F X1 _ _ _ _ hrun1
  obtain ⟨hw2, hv2, hA2, hB2, hl2⟩ := runF_hot M.cB M.bk k0B X2r _ _ _ _ hrun2
  refine ⟨X1, X2r, ⟨hw1, hA1, hB1, hl1, hw2, hA2, hB2, hl2⟩, ?_⟩
  rw [Meet.read_eq, hB1, ← hv1, ← hv2]
  exact hv

end

/-- **what a meetup answers**, whatever the score carrier: no candidate is finite, or `(meet, trans)` is an admissible cell whose
exact value is, up to the slack `S`, a maximum of value − `τ` -/
def MeetAns (M : Meet) (sb : Nat) (τ : Nat → Int) (S : Int) (meet trans : Int) : Prop :=
  (∀ k t, Adm M.n k t → evHot M k t = none) ∨
  ∃ k t v, Adm M.n k t ∧ meet = ((sb + k : Nat) : Int) ∧ trans = t ∧ evHot M k t = some v ∧
    ∀ k' t' v', Adm M.n k' t' → evHot M k' t' = some v' → v' - τ k' - S ≤ v - τ k

/-- `(k, t)` is answered by the pair of walks `X1`, `X2r`, which no other pair beats by more than `S` in reading − `τ` -/
def Winner (M : Meet) (τ : Nat → Int) (S : Int) (k : Nat) (t : Int) (X1 X2r : List Col) : Prop :=
  Adm M.n k t ∧ MeetWalk M k t X1 X2r ∧
    ∀ k' t' Y1 Y2r, Adm M.n k' t' → MeetWalk M k' t' Y1 Y2r → M.read Y1 Y2r t' - τ k' - S ≤ M.read X1 X2r t - τ k

/-- as soon as one pair of walks meets in the middle row, the answer is a winner -/
theorem MeetAns.winner {M : Meet} {sb : Nat} {τ : Nat → Int} {S meet trans : Int} (h : MeetAns M sb τ S meet trans)
    (hn : 1 ≤ M.n) {k0 : Nat} {t0 : Int} {Y1 Y2r : List Col} (hadm0 : Adm M.n k0 t0) (h0 : MeetWalk M k0 t0 Y1 Y2r) :
    ∃ k t X1 X2r, meet = ((sb + k : Nat) : Int) ∧ trans = t ∧ Winner M τ S k t X1 X2r := by
  rcases h with hnone | ⟨k, t, v, hadm, hmeet, htrans, hev, hdom⟩
  · obtain ⟨v0, hv0, _⟩ := h0.le_ev hn
    rw [hnone k0 t0 hadm0] at hv0
    cases hv0
  · obtain ⟨X1, X2r, hw, hv⟩ := MeetWalk.of_ev hn hadm.le hev
    refine ⟨k, t, X1, X2r, hmeet, htrans, hadm, hw, fun k' t' Z1 Z2r hadm' hw' => ?_⟩
    obtain ⟨v', hv', hle⟩ := hw'.le_ev hn
    have := hdom k' t' v' hadm' hv'
    omega

theorem mkCand_evHot (M : Meet) (sb eb k : Nat) (t : Int) :
    (mkCand M.cF sb eb (absF M.cF (hot M.fk) M.m1) (absB M.cB (hot M.bk) M.m2) k t).1 =
      osub (evHot M k t) (tieOf sb eb k) := by
  simp only [mkCand, meetVal, evHot, evC, absF, absB, M.hn]

/-- the exact meetup of the level, from cell `sb` on, started in the one-hot states of its kinds -/
abbrev Meet.exact (M : Meet) (sb eb : Nat) : MeetResult ExactScore := absMeet M.cF M.cB M.m1 M.m2 (hot M.fk) (hot M.bk) sb eb

/-- the exact meetup: the first maximum of value − tie-break term is a maximum of it -/
theorem absMeet_ans (M : Meet) (sb eb : Nat) :
    MeetAns M sb (tieOf sb eb) 0 (M.exact sb eb).meet (M.exact sb eb).transition := by
  by_cases hfin : (M.exact sb eb).score = none
  · left
    intro k t hadm
    have hge := absMeet_ge M.cF M.cB M.m1 M.m2 (hot M.fk) (hot M.bk) sb eb hadm
    rw [hfin, mkCand_evHot] at hge
    cases hv : evHot M k t with
    | none => rfl
    | some v => rw [hv] at hge; simp at hge
  · right
    obtain ⟨k, t, hadm, hmeet, htr, hsc, _, hall⟩ := absMeet_first M.cF M.cB M.m1 M.m2 (hot M.fk) (hot M.bk) sb eb hfin
    rw [mkCand_evHot] at hsc
    cases hv : evHot M k t with
    | none => rw [hv] at hsc; exact absurd hsc hfin
    | some v =>
      refine ⟨k, t, v, hadm, hmeet, htr, hv, fun k' t' v' hadm' hv' => ?_⟩
      have := hall k' t' hadm'
      rw [mkCand_evHot, hv', hsc, hv] at this
      simp only [osub_some, ole_some_some] at this
      omega

end Kalign

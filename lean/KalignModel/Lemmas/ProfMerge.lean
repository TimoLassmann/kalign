import KalignModel.Lemmas.ProfBuild
import KalignModel.Lemmas.ProfKernel
/-!
`update_n` along an all-aligned path adds two profiles entry by entry.
`built_profOK` (exact carrier): every profile obtained from `makeProfile ap seq` by diagonal `updateN` merges (`Built`: in any
order, with any `setGapPenalties` in between, as `do_align` does) and a final `setGapPenalties · m` satisfies `ProfOK · seq k m`.
-/
namespace Kalign

section
variable {α : Type} [Score α]

def SumUpTo (pa pb out : Array α) (j : Nat) : Prop :=
  out.size = 64 * j ∧ ∀ col e, col < j → e < 64 → pget out col e = Score.add (pget pa col e) (pget pb col e)

theorem sumUpTo_snoc (pa pb out : Array α) (j : Nat) (h : SumUpTo pa pb out j) (ha : 64 * j + 64 ≤ pa.size)
    (hb : 64 * j + 64 ≤ pb.size) : SumUpTo pa pb (out ++ addCols (colAt pa j) (colAt pb j)) (j + 1) := by
  obtain ⟨hs, hg⟩ := h
  refine ⟨by rw [Array.size_append, hs, size_addCols]; omega, fun col e hc he => ?_⟩
  by_cases hlt : col < j
  · rw [pget_append_left _ _ _ _ (by omega), hg col e hlt he]
  · have : col = j := by omega
    subst this
    rw [pget_append_right _ _ col e hs, addCols_getD _ _ e he, getD_colAt _ _ _ ha he, getD_colAt _ _ _ hb he]

theorem updateN_fold (ap : AlnParam α) (pa pb : Array α) (sa sb ncol : Nat)
    (hpa : pa.size = 64 * ncol) (hpb : pb.size = 64 * ncol) :
    ∀ n j out, j + n ≤ ncol → SumUpTo pa pb out j →
      ∃ out', (List.replicate n 0).foldlM (updateStep ap pa pb sa sb) { pa := j, pb := j, out := out } =
        some { pa := j + n, pb := j + n, out := out' } ∧ SumUpTo pa pb out' (j + n) := by
  intro n
  induction n with
  | zero => intro j out _ h; exact ⟨out, rfl, h⟩
  | succ n ih =>
    intro j out hj h
    have ha : 64 * j + 64 ≤ pa.size := by omega
    have hb : 64 * j + 64 ≤ pb.size := by omega
    have hstep : updateStep ap pa pb sa sb { pa := j, pb := j, out := out } 0 =
        some { pa := j + 1, pb := j + 1, out := out ++ addCols (colAt pa j) (colAt pb j) } := by
      rw [updateStep_zero, colOf?_of_le pa j ha, colOf?_of_le pb j hb]; rfl
    obtain ⟨out', h1, h2⟩ := ih (j + 1) _ (by omega) (sumUpTo_snoc pa pb out j h ha hb)
    refine ⟨out', ?_, by rw [show j + (n + 1) = j + 1 + n by omega]; exact h2⟩
    rw [List.replicate_succ, List.foldlM_cons, hstep]
    simp only [Option.bind_eq_bind, Option.bind]
    rw [h1, show j + (n + 1) = j + 1 + n by omega]

theorem updateN_diag (ap : AlnParam α) (pa pb : Array α) (sa sb len : Nat)
    (hpa : pa.size = 64 * (len + 2)) (hpb : pb.size = 64 * (len + 2)) :
    ∃ p, updateN ap pa pb (List.replicate len 0) sa sb = some p ∧ p.size = 64 * (len + 2) ∧
      ∀ col e, col < len + 2 → e < 64 → pget p col e = Score.add (pget pa col e) (pget pb col e) := by
  have hinit : SumUpTo pa pb (addCols (colAt pa 0) (colAt pb 0)) 1 := by
    have := sumUpTo_snoc pa pb #[] 0 ⟨rfl, fun _ _ h => absurd h (by omega)⟩ (by omega) (by omega)
    simpa using this
  obtain ⟨out', hf, hsum⟩ := updateN_fold ap pa pb sa sb (len + 2) hpa hpb len 1 _ (by omega) hinit
  have hfin := sumUpTo_snoc pa pb out' (1 + len) hsum (by omega) (by omega)
  refine ⟨_, ?_, by rw [hfin.1]; omega, fun col e hc he => hfin.2 col e (by omega) he⟩
  have e0a := colOf?_of_le pa 0 (by omega)
  have e0b := colOf?_of_le pb 0 (by omega)
  have ela := colOf?_of_le pa (1 + len) (by omega)
  have elb := colOf?_of_le pb (1 + len) (by omega)
  unfold updateN
  rw [List.takeWhile_replicate, if_pos (by decide)]
  simp only [e0a, e0b, Option.bind_eq_bind, Option.bind, hf, ela, elb]
  rfl

/-- the shape `make_profile_n` produces and `set_gap_penalties_n` and diagonal `update_n` keep: slots 55–57 hold `o`, `e`, `t` in
every column; the column of residue `x` holds `sub x c` in slot `32+c`, `one` in count slot `x` and `zero` in the other count slots.
(Slots 27–29 are left out: `set_gap_penalties_n` overwrites them.) -/
structure RawProf (p : Array α) (seq : Array Nat) (o e t : α) (sub : Nat → Nat → α) (one zero : α) : Prop where
  size : p.size = 64 * (seq.size + 2)
  e55 : ∀ col, col ≤ seq.size + 1 → pget p col 55 = o
  e56 : ∀ col, col ≤ seq.size + 1 → pget p col 56 = e
  e57 : ∀ col, col ≤ seq.size + 1 → pget p col 57 = t
  subE : ∀ i, i < seq.size → ∀ c, c < 23 → pget p (i + 1) (32 + c) = sub (seq.getD i 0) c
  cnt : ∀ i, i < seq.size → ∀ c, c < 23 → pget p (i + 1) c = if c = seq.getD i 0 then one else zero

variable {p : Array α} {seq : Array Nat} {o e t : α} {sub : Nat → Nat → α} {one zero : α}

theorem RawProf.of_eq (h : RawProf p seq o e t sub one zero) {o' e' t' : α} {sub' : Nat → Nat → α} {one' zero' : α}
    (ho : o = o') (he : e = e') (ht : t = t') (hs : ∀ x c, sub x c = sub' x c) (h1 : one = one') (h0 : zero = zero') :
    RawProf p seq o' e' t' sub' one' zero' := by
  obtain rfl : sub = sub' := funext fun x => funext (hs x)
  subst ho he ht h1 h0
  exact h

theorem makeProfile_raw (ap : AlnParam α) (seq : Array Nat) :
    RawProf (makeProfile ap seq) seq (Score.neg ap.gpo) (Score.neg ap.gpe) (Score.neg ap.tgpe) ap.sub
      (Score.add Score.zero Score.one) Score.zero := by
  obtain ⟨hs, h0, hl, hi⟩ := makeProfile_spec ap seq
  have hcol : ∀ col, col ≤ seq.size + 1 → ∀ e, e = 55 ∨ e = 56 ∨ e = 57 →
      pget (makeProfile ap seq) col e =
        if e = 57 then Score.neg ap.tgpe else if e = 56 then Score.neg ap.gpe else Score.neg ap.gpo := by
    intro col hc e he
    have he64 : e < 64 := by omega
    by_cases hc0 : col = 0
    · subst hc0
      rw [h0 e he64, sentinelCol_getD]
      rcases he with h | h | h <;> subst h <;> simp
    · by_cases hcl : col = seq.size + 1
      · subst hcl
        rw [hl e he64, sentinelCol_getD]
        rcases he with h | h | h <;> subst h <;> simp
      · obtain ⟨i, rfl⟩ : ∃ i, col = i + 1 := ⟨col - 1, by omega⟩
        rw [hi i (by omega) e he64, residueCol_getD ap _ e he64]
        rcases he with h | h | h <;> subst h <;> simp
  refine ⟨hs, ?_, ?_, ?_, ?_, ?_⟩
  · intro col hc; rw [hcol col hc 55 (Or.inl rfl)]; simp
  · intro col hc; rw [hcol col hc 56 (Or.inr (Or.inl rfl))]; simp
  · intro col hc; rw [hcol col hc 57 (Or.inr (Or.inr rfl))]; simp
  · intro i hi' c hc
    rw [hi i hi' (32 + c) (by omega), residueCol_getD ap _ (32 + c) (by omega)]
    rw [if_neg (by omega), if_neg (by omega), if_neg (by omega), if_pos ⟨by omega, by omega⟩, Nat.add_sub_cancel_left]
  · intro i hi' c hc
    rw [hi i hi' c (by omega), residueCol_getD ap _ c (by omega)]
    rw [if_neg (by omega), if_neg (by omega), if_neg (by omega), if_neg (by omega)]

theorem RawProf.setGapPenalties (h : RawProf p seq o e t sub one zero) (n : Nat) :
    RawProf (setGapPenalties p n) seq o e t sub one zero := by
  obtain ⟨hs, hg⟩ := setGapPenalties_spec p n (seq.size + 2) h.size
  have hkeep : ∀ col e, col ≤ seq.size + 1 → e < 64 → ¬ (e = 27 ∨ e = 28 ∨ e = 29) →
      pget (Kalign.setGapPenalties p n) col e = pget p col e := fun col e hc he hne => by
    rw [hg col e (by omega) he, if_neg hne]
  refine ⟨by rw [hs]; exact h.size, ?_, ?_, ?_, ?_, ?_⟩
  · intro col hc; rw [hkeep col 55 hc (by omega) (by omega)]; exact h.e55 col hc
  · intro col hc; rw [hkeep col 56 hc (by omega) (by omega)]; exact h.e56 col hc
  · intro col hc; rw [hkeep col 57 hc (by omega) (by omega)]; exact h.e57 col hc
  · intro i hi c hc; rw [hkeep (i + 1) (32 + c) (by omega) (by omega) (by omega)]; exact h.subE i hi c hc
  · intro i hi c hc; rw [hkeep (i + 1) c (by omega) (by omega) (by omega)]; exact h.cnt i hi c hc

theorem RawProf.gapSlots (h : RawProf p seq o e t sub one zero) (m col : Nat) (hc : col ≤ seq.size + 1) :
    pget (Kalign.setGapPenalties p m) col 27 = Score.mul o (Score.ofNat m) ∧
      pget (Kalign.setGapPenalties p m) col 28 = Score.mul e (Score.ofNat m) ∧
      pget (Kalign.setGapPenalties p m) col 29 = Score.mul t (Score.ofNat m) := by
  obtain ⟨_, hg⟩ := setGapPenalties_spec p m (seq.size + 2) h.size
  refine ⟨?_, ?_, ?_⟩
  · rw [hg col 27 (by omega) (by omega), if_pos (Or.inl rfl), h.e55 col hc]
  · rw [hg col 28 (by omega) (by omega), if_pos (Or.inr (Or.inl rfl)), h.e56 col hc]
  · rw [hg col 29 (by omega) (by omega), if_pos (Or.inr (Or.inr rfl)), h.e57 col hc]

theorem RawProf.updateN (ap : AlnParam α) {p1 p2 : Array α} {o1 e1 t1 o2 e2 t2 : α} {s1 s2 : Nat → Nat → α}
    {n1 z1 n2 z2 : α} (sa sb : Nat) (h1 : RawProf p1 seq o1 e1 t1 s1 n1 z1) (h2 : RawProf p2 seq o2 e2 t2 s2 n2 z2) :
    ∃ p, Kalign.updateN ap p1 p2 (List.replicate seq.size 0) sa sb = some p ∧
      RawProf p seq (Score.add o1 o2) (Score.add e1 e2) (Score.add t1 t2) (fun x c => Score.add (s1 x c) (s2 x c))
        (Score.add n1 n2) (Score.add z1 z2) := by
  obtain ⟨p, hp, hs, hg⟩ := updateN_diag ap p1 p2 sa sb seq.size h1.size h2.size
  refine ⟨p, hp, hs, ?_, ?_, ?_, ?_, ?_⟩
  · intro col hc; rw [hg col 55 (by omega) (by omega), h1.e55 col hc, h2.e55 col hc]
  · intro col hc; rw [hg col 56 (by omega) (by omega), h1.e56 col hc, h2.e56 col hc]
  · intro col hc; rw [hg col 57 (by omega) (by omega), h1.e57 col hc, h2.e57 col hc]
  · intro i hi c hc; rw [hg (i + 1) (32 + c) (by omega) (by omega), h1.subE i hi c hc, h2.subE i hi c hc]
  · intro i hi c hc
    rw [hg (i + 1) c (by omega) (by omega), h1.cnt i hi c hc, h2.cnt i hi c hc]
    by_cases hcc : c = seq.getD i 0
    · simp only [if_pos hcc]
    · simp only [if_neg hcc]

end

def CopiesRaw (p : Array ExactScore) (seq : Array Nat) (k : Nat) (gpo gpe tgpe : Int) (s : Nat → Nat → Int) : Prop :=
  RawProf p seq (some (-((k : Int) * gpo))) (some (-((k : Int) * gpe))) (some (-((k : Int) * tgpe)))
    (fun x c => some ((k : Int) * s x c)) (some (2000 * (k : Int))) (some 0)

section
variable (ap : AlnParam ExactScore) (gpo gpe tgpe : Int) (s : Nat → Nat → Int) (hap : ApOK ap gpo gpe tgpe s)
  (seq : Array Nat)

theorem updateN_raw (p1 p2 : Array ExactScore) (k1 k2 sa sb : Nat)
    (h1 : CopiesRaw p1 seq k1 gpo gpe tgpe s) (h2 : CopiesRaw p2 seq k2 gpo gpe tgpe s) :
    ∃ p, updateN ap p1 p2 (List.replicate seq.size 0) sa sb = some p ∧ CopiesRaw p seq (k1 + k2) gpo gpe tgpe s := by
  obtain ⟨p, hp, hraw⟩ := RawProf.updateN ap sa sb h1 h2
  have hpen : ∀ g : Int, Score.add (some (-((k1 : Int) * g)) : ExactScore) (some (-((k2 : Int) * g))) =
      some (-(((k1 + k2 : Nat) : Int) * g)) := by
    intro g
    show some _ = some _
    congr 1; push_cast; rw [Int.add_mul]; omega
  refine ⟨p, hp, hraw.of_eq (hpen gpo) (hpen gpe) (hpen tgpe) (fun x c => ?_) ?_ rfl⟩
  · show some _ = some _
    congr 1; push_cast; rw [Int.add_mul]
  · show some _ = some _
    congr 1; push_cast; omega

theorem profOK_of_raw (p : Array ExactScore) (k m : Nat) (h : CopiesRaw p seq k gpo gpe tgpe s) :
    ProfOK (setGapPenalties p m) seq k m gpo gpe tgpe s := by
  have hraw := RawProf.setGapPenalties h m
  have hscale : ∀ x : Int, Score.mul (some (-((k : Int) * x)) : ExactScore) (Score.ofNat m) =
      some (-(((k * m : Nat) : Int) * x)) := by
    intro x
    rw [ex_mul_ofNat]
    congr 1
    push_cast
    rw [Int.neg_mul, Int.mul_right_comm]
  refine ⟨?_, ?_, ?_, hraw.subE, fun i hi c hc => (hraw.cnt i hi c hc).trans (apply_ite some _ _ _).symm⟩
  · intro col hc; rw [(h.gapSlots m col hc).1, hscale]
  · intro col hc; rw [(h.gapSlots m col hc).2.1, hscale]
  · intro col hc; rw [(h.gapSlots m col hc).2.2, hscale]

end

/-- the profiles `do_align` can build for copies of `seq` along all-aligned merges: a single sequence, any
`set_gap_penalties_n`, and the `update_n` of two such profiles along the diagonal path -/
inductive Built (ap : AlnParam ExactScore) (seq : Array Nat) : Array ExactScore → Nat → Prop
  | leaf : Built ap seq (makeProfile ap seq) 1
  | prep (p : Array ExactScore) (k n : Nat) : Built ap seq p k → Built ap seq (setGapPenalties p n) k
  | merge (p1 p2 p : Array ExactScore) (k1 k2 sa sb : Nat) : Built ap seq p1 k1 → Built ap seq p2 k2 →
      updateN ap p1 p2 (List.replicate seq.size 0) sa sb = some p → Built ap seq p (k1 + k2)

theorem built_raw (ap : AlnParam ExactScore) (gpo gpe tgpe : Int) (s : Nat → Nat → Int) (hap : ApOK ap gpo gpe tgpe s)
    (seq : Array Nat) (p : Array ExactScore) (k : Nat) (h : Built ap seq p k) :
    CopiesRaw p seq k gpo gpe tgpe s := by
  induction h with
  | leaf =>
    refine (makeProfile_raw ap seq).of_eq ?_ ?_ ?_ (fun x c => ?_) rfl rfl
    · rw [hap.gpo, Int.natCast_one, Int.one_mul]; rfl
    · rw [hap.gpe, Int.natCast_one, Int.one_mul]; rfl
    · rw [hap.tgpe, Int.natCast_one, Int.one_mul]; rfl
    · rw [hap.sub, Int.natCast_one, Int.one_mul]
  | prep p k n _ ih => exact RawProf.setGapPenalties ih n
  | merge p1 p2 p k1 k2 sa sb _ _ hu ih1 ih2 =>
    obtain ⟨p', hp', hraw⟩ := updateN_raw ap gpo gpe tgpe s seq p1 p2 k1 k2 sa sb ih1 ih2
    rw [hu] at hp'
    injection hp' with hp'
    rw [hp']; exact hraw

/-- behind `C07_profile_of_copies` -/
theorem built_profOK (ap : AlnParam ExactScore) (gpo gpe tgpe : Int) (s : Nat → Nat → Int) (hap : ApOK ap gpo gpe tgpe s)
    (seq : Array Nat) (p : Array ExactScore) (k m : Nat) (h : Built ap seq p k) :
    ProfOK (setGapPenalties p m) seq k m gpo gpe tgpe s :=
  profOK_of_raw gpo gpe tgpe s seq p k m (built_raw ap gpo gpe tgpe s hap seq p k h)

theorem Built.size {ap : AlnParam ExactScore} {seq : Array Nat} {p : Array ExactScore} {k : Nat} (h : Built ap seq p k) :
    p.size = 64 * (seq.size + 2) := by
  induction h with
  | leaf => exact size_makeProfile ap seq
  | prep p k n _ ih => rw [size_setGapPenalties, ih]
  | merge p1 p2 p k1 k2 sa sb _ _ hu ih1 ih2 =>
    obtain ⟨p', hp', hs, _⟩ := updateN_diag ap p1 p2 sa sb seq.size ih1 ih2
    rw [hu] at hp'; cases hp'; exact hs

/-- the diagonal merge of two built profiles exists: only their sizes matter -/
theorem built_merge_exists (ap : AlnParam ExactScore) (seq : Array Nat)
    (p1 p2 : Array ExactScore) (k1 k2 sa sb : Nat) (h1 : Built ap seq p1 k1) (h2 : Built ap seq p2 k2) :
    ∃ p, updateN ap p1 p2 (List.replicate seq.size 0) sa sb = some p ∧ Built ap seq p (k1 + k2) := by
  obtain ⟨p, hp, _⟩ := updateN_diag ap p1 p2 sa sb seq.size h1.size h2.size
  exact ⟨p, hp, .merge p1 p2 p k1 k2 sa sb h1 h2 hp⟩

/-- two copies, as `do_align` builds them for two identical sequences: one diagonal `update_n` of two `make_profile_n` profiles -/
theorem built_pair (ap : AlnParam ExactScore) (seq : Array Nat) :
    Built ap seq ((updateN ap (makeProfile ap seq) (makeProfile ap seq) (List.replicate seq.size 0) 1 1).getD #[]) (1 + 1) := by
  obtain ⟨p, hp, hb⟩ := built_merge_exists ap seq _ _ 1 1 1 1 Built.leaf Built.leaf
  rw [hp]; exact hb

end Kalign

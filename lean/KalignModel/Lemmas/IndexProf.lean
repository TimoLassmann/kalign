import KalignModel.Lemmas.IndexRules
import KalignModel.Lemmas.ProfBuild
/-!
# The checked profile functions agree with the totalised ones
-/
namespace Kalign
section
variable {β : Type} [Score β]

theorem sentinelColC_eq (ap : AlnParam β) : Agrees (sentinelColC ap) (sentinelCol ap) :=
  Agrees.bind (.write (by simp)) (.bind (.write (by simp)) (.write (by simp)))

theorem residueColC_eq (ap : AlnParam β) (hw : ap.wf) (c : Nat) (hc : c < 23) : Agrees (residueColC ap c) (residueCol ap c) := by
  unfold residueColC residueCol
  dsimp only
  obtain ⟨e, hs⟩ := foldlC_eq_inv (fun col : Array β => col.size = 64)
    (fun col j => (ap.subC c j).bind fun s => asetC col (32 + j) s) (fun col j => col.set! (32 + j) (ap.sub c j))
    (List.range 23) ((Array.replicate 64 (Score.zero : β)).set! c (Score.add (Score.zero : β) Score.one)) (by simp)
    fun col j hj hcol =>
      have hj' : j < 23 := by simpa using hj
      ⟨Agrees.bind (subC_eq ap hw c j hc hj') (.write (by omega)), by simpa using hcol⟩
  refine Agrees.bind (.write (by simp; omega)) (.bind e ?_)
  generalize List.foldl _ _ (List.range 23) = col' at hs ⊢
  exact .bind (.write (by omega)) (.bind (.write (by simp; omega)) (.write (by simp; omega)))

theorem makeProfileC_eq (ap : AlnParam β) (hw : ap.wf) (seq : Array Nat) (hs : seq.all (· < 23) = true) :
    Agrees (makeProfileC ap seq) (makeProfile ap seq) := by
  have h23 : ∀ c ∈ seq.toList, c < 23 := fun c hc => by
    simpa using Array.all_eq_true_iff_forall_mem.mp hs c (by simpa using hc)
  unfold makeProfileC makeProfile
  rw [← Array.foldl_toList]
  exact Agrees.bind (sentinelColC_eq ap) <|
    .bind (foldlC_eq _ _ _ _ fun p c hc => Agrees.map (residueColC_eq ap hw c (h23 c hc))) (.map (sentinelColC_eq ap))

theorem setGapPenaltiesC_eq (prof : Array β) (nsip : Nat) : Agrees (setGapPenaltiesC prof nsip) (setGapPenalties prof nsip) := by
  unfold setGapPenaltiesC setGapPenalties
  refine (foldlC_eq_inv (fun p : Array β => p.size = prof.size) _ _ _ prof rfl fun p col hcol hp => ?_).1
  have hc : col < prof.size / 64 := by simpa using hcol
  exact ⟨Agrees.bind (.read (by omega)) <| .bind (.read (by omega)) <| .bind (.read (by omega)) <|
    .bind (.write (by omega)) <| .bind (.write (by simp; omega)) (.write (by simp; omega)), by simpa using hp⟩

theorem addColsC_eq (x y : Array β) (hx : x.size = 64) (hy : y.size = 64) : Agrees (addColsC x y) (addCols x y) := by
  unfold addColsC addCols
  rw [← range_map_toArray]
  exact Agrees.map <| mapC_eq _ _ _ fun i hi =>
    have : i < 64 := by simpa using hi
    Agrees.bind (.read (by omega)) (.bind (.read (by omega)) (.pure _))

theorem subRangeC_eq (col : Array β) (gp : β) (h : 55 ≤ col.size) : Agrees (subRangeC col gp) (subRange col gp) := by
  unfold subRangeC subRange
  refine (foldlC_eq_inv (fun c : Array β => c.size = col.size) _ _ _ col rfl fun c j hj hc => ?_).1
  have := List.mem_range'_1.mp hj
  exact ⟨Agrees.bind (.read (by omega)) (.write (by omega)), by simpa using hc⟩

theorem bumpAtC_eq (col : Array β) (k : Nat) (s : β) (h : k < col.size) : Agrees (bumpAtC col k s) (bumpAt col k s) :=
  Agrees.bind (.read h) (.write h)

attribute [local simp] size_bumpAt size_subRange in
theorem gapColC_eq (ap : AlnParam β) (col : Array β) (code sip : Nat) (h : 55 ≤ col.size) :
    Agrees (gapColC ap col code sip) (gapCol ap col code sip) := by
  -- one bump below entry 55, then `subRange`
  have bs : ∀ {c : Array β} {k : Nat} {s gp : β}, 55 ≤ c.size → k < 55 →
      Agrees ((bumpAtC c k s).bind fun c => subRangeC c gp) (subRange (bumpAt c k s) gp) :=
    fun hc hk => .bind (bumpAtC_eq _ _ _ (by omega)) (subRangeC_eq _ _ (by simpa using hc))
  unfold gapColC gapCol
  extract_lets s gp gp2 obC ob
  -- the "gap open" block of the model (`obC` checked, `ob` totalised) keeps the size of the column
  have hob : ∀ c : Array β, 55 ≤ c.size → Agrees (obC c) (ob c) ∧ 55 ≤ (ob c).size := fun c hc =>
    ⟨.ite (fun _ => .bind (bumpAtC_eq _ _ _ (by omega)) (bs (by simpa using hc) (by omega))) fun _ => bs hc (by omega), by
      simp only [ob]
      split <;> simpa using hc⟩
  exact Agrees.ite (fun _ => .ite (fun _ => bs h (by omega)) fun _ => bs h (by omega)) fun _ =>
    .bind (.ite (fun _ => (hob col h).1) fun _ => .pure _)
      (.ite (fun _ => (hob _ (by split; exact (hob col h).2; exact h)).1) fun _ => .pure _)

theorem updateStepC_eq (ap : AlnParam β) (pa pb : Array β) (sa sb : Nat) (st : UpdState β) (code : Nat) :
    Agrees (updateStepC ap pa pb sa sb st code).run (updateStep ap pa pb sa sb st code) := by
  unfold updateStepC updateStep
  by_cases h0 : code = 0
  · subst h0
    have b1 : bit 0 1 = false := by decide
    have b2 : bit 0 2 = false := by decide
    cases hA : colOf? pa st.pa with
    | none => simp [hA, b1, b2, mdl_none_bind]
    | some ca =>
      cases hB : colOf? pb st.pb with
      | none => simp [hA, hB, b1, b2, mdl_none_bind]
      | some cb =>
        simp [hA, hB, b1, b2, addColsC_eq ca cb (colOf?_size _ _ _ hA) (colOf?_size _ _ _ hB)]
  · have h0' : (code == 0) = false := by simpa using h0
    by_cases h1 : bit code 1 = true
    · cases hB : colOf? pb st.pb with
      | none => simp [h0', h1, hB, mdl_none_bind]
      | some cb =>
        have g1 := gapColC_eq ap cb code sa (by rw [colOf?_size _ _ _ hB]; omega)
        by_cases h2 : bit code 2 = true
        · cases hA : colOf? pa st.pa with
          | none => simp [h0', h1, h2, hA, hB, g1, mdl_none_bind]
          | some ca =>
            have g2 := gapColC_eq ap ca code sb (by rw [colOf?_size _ _ _ hA]; omega)
            simp [h0', h1, h2, hA, hB, g1, g2]
        · simp [h0', h1, h2, hB, g1]
    · by_cases h2 : bit code 2 = true
      · cases hA : colOf? pa st.pa with
        | none => simp [h0', h1, h2, hA, mdl_none_bind]
        | some ca =>
          have g2 := gapColC_eq ap ca code sb (by rw [colOf?_size _ _ _ hA]; omega)
          simp [h0', h1, h2, hA, g2]
      · simp [h0', h1, h2]

theorem updateNC_eq (ap : AlnParam β) (pa pb : Array β) (codes : List Nat) (sa sb : Nat) :
    Agrees (updateNC ap pa pb codes sa sb).run (updateN ap pa pb codes sa sb) :=
  Agrees.bindM rfl fun c0a hA =>
  .bindM rfl fun c0b hB =>
  .chk (addColsC_eq c0a c0b (colOf?_size _ _ _ hA) (colOf?_size _ _ _ hB)) <|
  .bindM (foldlChk_eq _ _ (updateStepC_eq ap pa pb sa sb) _ _) fun _ _ =>
  .bindM rfl fun ca hA' =>
  .bindM rfl fun cb hB' =>
  .chk (addColsC_eq ca cb (colOf?_size _ _ _ hA') (colOf?_size _ _ _ hB')) (.pure _)

end
end Kalign

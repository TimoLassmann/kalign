import KalignModel.Lemmas.Lev
import KalignModel.Lemmas.Basic.ListWalk
/-!
# Sellers' recurrence computes the minimum over substrings of the Levenshtein distance

`gD init eq j i` : generic column DP (cell `(i,j)`: row `i`, column `j`, value of the empty pattern prefix carried
along the top row), used for the plain DP and for all bit-parallel variants.
-/
set_option linter.unusedSectionVars false
namespace Kalign
variable {α : Type} [DecidableEq α]

def IsMinOver {β : Type} (S : β → Prop) (f : β → Nat) (x : Nat) : Prop :=
  (∀ s, S s → x ≤ f s) ∧ ∃ s, S s ∧ x = f s

theorem IsMinOver.unique {β : Type} {S : β → Prop} {f : β → Nat} {x y : Nat}
    (hx : IsMinOver S f x) (hy : IsMinOver S f y) : x = y := by
  obtain ⟨s, hs, rfl⟩ := hx.2
  obtain ⟨u, hu, rfl⟩ := hy.2
  exact Nat.le_antisymm (hx.1 u hu) (hy.1 s hs)

theorem mem_suffixes (s t : List α) : s ∈ suffixes t ↔ s <:+ t := by
  induction t with
  | nil => simp [suffixes]
  | cons x t ih => simp [suffixes, ih, List.suffix_cons_iff]

theorem mem_prefixes (s t : List α) : s ∈ prefixes t ↔ s <+: t := by
  induction t generalizing s with
  | nil => simp [prefixes]
  | cons x t ih =>
    cases s with
    | nil => simp [prefixes]
    | cons y s =>
      constructor
      · intro h
        simp only [prefixes, List.mem_cons, List.mem_map] at h
        rcases h with h | ⟨a, ha, h⟩
        · cases h
        · injection h with h1 h2
          subst h1 h2
          exact List.cons_prefix_cons.2 ⟨rfl, (ih a).1 ha⟩
      · intro h
        obtain ⟨rfl, h'⟩ := List.cons_prefix_cons.1 h
        simp only [prefixes, List.mem_cons, List.mem_map]
        exact Or.inr ⟨s, (ih s).2 h', rfl⟩

theorem mem_substrings (s t : List α) : s ∈ substrings t ↔ s <:+: t := by
  simp only [substrings, List.mem_flatMap, mem_suffixes, mem_prefixes, List.infix_iff_prefix_suffix]
  exact exists_congr fun a => and_comm

theorem levSub_isMin (p t : List α) : IsMinOver (· <:+: t) (lev p) (levSub p t) := by
  constructor
  · intro s hs
    apply foldl_min_le_mem
    exact List.mem_map.2 ⟨s, (mem_substrings s t).2 hs, rfl⟩
  · rcases foldl_min_attained ((substrings t).map (lev p)) p.length with h | h
    · exact ⟨[], List.nil_infix, by rw [lev_nil_right]; exact h⟩
    · obtain ⟨s, hs, he⟩ := List.mem_map.1 h
      exact ⟨s, (mem_substrings s t).1 hs, he.symm⟩

def minSuf (f : List α → Nat) : List α → Nat
  | [] => f []
  | x :: l => min (f (x :: l)) (minSuf f l)

theorem minSuf_le (f : List α → Nat) (u s : List α) (h : s <:+ u) : minSuf f u ≤ f s := by
  induction u with
  | nil => rw [List.suffix_nil.1 h]; exact Nat.le_refl _
  | cons x u ih =>
    rcases List.suffix_cons_iff.1 h with rfl | h
    · exact Nat.min_le_left _ _
    · exact Nat.le_trans (Nat.min_le_right _ _) (ih h)

theorem minSuf_attained (f : List α → Nat) (u : List α) : ∃ s, s <:+ u ∧ minSuf f u = f s := by
  induction u with
  | nil => exact ⟨[], List.suffix_refl _, rfl⟩
  | cons x u ih =>
    obtain ⟨s, hs, he⟩ := ih
    rcases Nat.le_total (f (x :: u)) (minSuf f u) with h | h
    · exact ⟨x :: u, List.suffix_refl _, Nat.min_eq_left h⟩
    · exact ⟨s, List.suffix_cons_iff.2 (Or.inr hs), by simp only [minSuf]; rw [Nat.min_eq_right h, he]⟩

theorem minSuf_snoc (f : List α → Nat) (u : List α) (c : α) :
    minSuf f (u ++ [c]) = min (minSuf (fun s => f (s ++ [c])) u) (f []) := by
  induction u with
  | nil => simp [minSuf]
  | cons x u ih => simp only [List.cons_append, minSuf, ih, Nat.min_assoc]

theorem minSuf_min (f g : List α → Nat) (u : List α) :
    minSuf (fun s => min (f s) (g s)) u = min (minSuf f u) (minSuf g u) := by
  induction u with
  | nil => rfl
  | cons x u ih => simp only [minSuf, ih]; ac_rfl

theorem minSuf_add (f : List α → Nat) (k : Nat) (u : List α) :
    minSuf (fun s => f s + k) u = minSuf f u + k := by
  induction u with
  | nil => rfl
  | cons x u ih => simp only [minSuf, ih]; omega

theorem minSuf_lev_nil (u : List α) : minSuf (lev ([] : List α)) u = 0 := by
  induction u with
  | nil => simp [minSuf, lev_nil_left]
  | cons x u ih => simp [minSuf, ih]

def gD (init : Nat → Nat) (eq : Nat → Nat → Bool) : Nat → Nat → Nat
  | 0, i => init i
  | j + 1, 0 => gD init eq j 0
  | j + 1, i + 1 =>
    min3 (gD init eq (j + 1) i + 1) (gD init eq j (i + 1) + 1) (gD init eq j i + if eq i j then 0 else 1)

def eqPT (p t : List α) (i j : Nat) : Bool := decide (p[i]? = t[j]?)

theorem eqPT_cost (p t : List α) (i j : Nat) (hi : i < p.length) (hj : j < t.length) :
    (if eqPT p t i j = true then 0 else 1) = cost p[i] t[j] := by
  simp [eqPT, cost, List.getElem?_eq_getElem hi, List.getElem?_eq_getElem hj]

theorem gD_eq_minSuf (p t : List α) (j i : Nat) (hj : j ≤ t.length) (hi : i ≤ p.length) :
    gD id (eqPT p t) j i = minSuf (lev (p.take i)) (t.take j) := by
  induction j generalizing i with
  | zero => simp [gD, minSuf, lev_nil_right, Nat.min_eq_left hi]
  | succ j ihj =>
    induction i with
    | zero => rw [gD, ihj 0 (by omega) (by omega)]; simp [minSuf_lev_nil]
    | succ i ihi =>
      have hj' : j < t.length := by omega
      have hi' : i < p.length := by omega
      rw [gD, ihi (by omega), ihj (i + 1) (by omega) hi, ihj i (by omega) (by omega)]
      rw [← List.take_append_getElem hj', ← List.take_append_getElem hi']
      rw [minSuf_snoc (lev (List.take i p ++ [p[i]])), minSuf_snoc (lev (List.take i p))]
      have h1 : (fun s => lev (List.take i p ++ [p[i]]) (s ++ [t[j]])) = fun s =>
          min (min (lev (List.take i p) (s ++ [t[j]]) + 1) (lev (List.take i p ++ [p[i]]) s + 1))
            (lev (List.take i p) s + cost p[i] t[j]) := by
        funext s; exact lev_snoc_snoc _ _ _ _
      rw [h1, minSuf_min, minSuf_min, minSuf_add, minSuf_add, minSuf_add]
      simp only [lev_nil_right, List.length_append, List.length_take, List.length_cons, List.length_nil,
        Nat.min_eq_left (Nat.le_of_lt hi')]
      rw [eqPT_cost p t i j hi' hj']
      simp only [min3, ← Nat.add_min_add_right, Nat.zero_add]
      ac_rfl

theorem sellersColAux_eq (c : α) (p' : List α) (i : Nat) (f g : Nat → Nat)
    (h : ∀ k (hk : k < p'.length), g (i + k + 1) = min3 (g (i + k) + 1) (f (i + k + 1) + 1) (f (i + k) + cost p'[k] c)) :
    sellersColAux c p' (f i) (g i) ((List.range' (i + 1) p'.length).map f) = (List.range' (i + 1) p'.length).map g := by
  induction p' generalizing i with
  | nil => simp [sellersColAux]
  | cons x p' ih =>
    simp only [List.length_cons, List.range'_succ, List.map_cons, sellersColAux]
    have h0 := h 0 (by simp)
    simp only [Nat.add_zero, List.getElem_cons_zero] at h0
    have hc : (if x = c then 0 else 1) = cost x c := rfl
    rw [hc, ← h0]
    congr 1
    apply ih (i + 1)
    intro k hk
    have := h (k + 1) (by simp; omega)
    simp only [List.getElem_cons_succ] at this
    rw [show i + 1 + k = i + (k + 1) by omega]
    exact this

theorem sellersStep_eq (p t : List α) (j : Nat) (hj : j < t.length) (init : Nat → Nat) :
    sellersStep p t[j] ((List.range (p.length + 1)).map (gD init (eqPT p t) j)) =
      (List.range (p.length + 1)).map (gD init (eqPT p t) (j + 1)) := by
  rw [range_succ_eq_cons]
  simp only [List.map_cons, sellersStep]
  have h := sellersColAux_eq t[j] p 0 (gD init (eqPT p t) j) (gD init (eqPT p t) (j + 1)) (by
    intro k hk
    simp only [Nat.zero_add]
    rw [gD, eqPT_cost p t k j hk hj])
  simp only [Nat.zero_add] at h
  rw [show gD init (eqPT p t) (j + 1) 0 = gD init (eqPT p t) j 0 by rw [gD]] at h ⊢
  rw [h]

theorem sellersCols_eq (p t : List α) (init : Nat → Nat) (j : Nat) (hj : j ≤ t.length) :
    sellersCols p (t.drop j) ((List.range (p.length + 1)).map (gD init (eqPT p t) j)) =
      (List.range' j (t.length - j + 1)).map fun k => (List.range (p.length + 1)).map (gD init (eqPT p t) k) := by
  generalize hd : t.length - j = d
  induction d generalizing j with
  | zero =>
    have : t.drop j = [] := List.drop_eq_nil_of_le (by omega)
    simp [this, sellersCols]
  | succ d ih =>
    have hj' : j < t.length := by omega
    rw [List.drop_eq_getElem_cons hj', sellersCols, sellersStep_eq p t j hj', ih (j + 1) (by omega) (by omega)]
    simp only [List.range'_succ, List.map_cons]

theorem getLastD_map_range (f : Nat → Nat) (m : Nat) : ((List.range (m + 1)).map f).getLastD 0 = f m := by
  rw [List.range_succ, List.map_append]
  simp

theorem sellers_eq (p t : List α) :
    sellers p t = ((List.range (t.length + 1)).map fun j => gD id (eqPT p t) j p.length).foldl min p.length := by
  unfold sellers
  have h0 : List.range (p.length + 1) = (List.range (p.length + 1)).map (gD id (eqPT p t) 0) := by
    apply List.ext_getElem <;> simp [gD]
  have h := sellersCols_eq p t id 0 (Nat.zero_le _)
  rw [List.drop_zero, ← h0] at h
  rw [h, List.map_map, Nat.sub_zero, ← List.range_eq_range']
  congr 1
  apply List.map_congr_left
  intro j _
  exact getLastD_map_range _ _

theorem sellers_le (p t : List α) : sellers p t ≤ p.length := foldl_min_le_init _ _

theorem sellers_isMin (p t : List α) : IsMinOver (· <:+: t) (lev p) (sellers p t) := by
  rw [sellers_eq]
  have hcell : ∀ j, j ≤ t.length → gD id (eqPT p t) j p.length = minSuf (lev p) (t.take j) := by
    intro j hj
    rw [gD_eq_minSuf p t j p.length hj (Nat.le_refl _), List.take_length]
  constructor
  · intro s hs
    obtain ⟨u, hsu, hut⟩ := List.infix_iff_suffix_prefix.1 hs
    obtain ⟨j, hj, rfl⟩ : ∃ j, j ≤ t.length ∧ u = t.take j :=
      ⟨u.length, hut.length_le, (List.prefix_iff_eq_take.1 hut)⟩
    refine Nat.le_trans (foldl_min_le_mem _ _ (minSuf (lev p) (t.take j)) ?_) (minSuf_le _ _ _ hsu)
    exact List.mem_map.2 ⟨j, List.mem_range.2 (by omega), hcell j hj⟩
  · rcases foldl_min_attained ((List.range (t.length + 1)).map fun j => gD id (eqPT p t) j p.length) p.length
      with h | h
    · exact ⟨[], List.nil_infix, by rw [lev_nil_right]; exact h⟩
    · obtain ⟨j, hj, he⟩ := List.mem_map.1 h
      have hj' : j ≤ t.length := by have := List.mem_range.1 hj; omega
      obtain ⟨s, hs, hm⟩ := minSuf_attained (lev p) (t.take j)
      refine ⟨s, List.infix_iff_suffix_prefix.2 ⟨_, hs, List.take_prefix _ _⟩, ?_⟩
      rw [← he, hcell j hj', hm]

theorem sellers_spec (p t : List α) : sellers p t = levSub p t :=
  (sellers_isMin p t).unique (levSub_isMin p t)

end Kalign

import KalignModel.Lemmas.KernelSpec
import KalignModel.Lemmas.View
/-!
# `ssForward` / `ssBackward`: both are tables, and on the exact carrier the abstract kernel

On any carrier the two kernels of `aln_seqseq.c` are `genTab` with the rows of the sequence–sequence view, numbered from the first row of
the rectangle (`ssOpsF`) resp. from its last (`ssOpsB`): `ssForward_eq_genTab`, `ssBackward_eq_genTab`; with finite parameters (`ApOK`) on
the exact carrier they are `absTab` on `cfgF` / `cfgB` (`ssForward_eq_absTab`, `ssBackward_eq_absTab`), so `abs_sound` / `abs_attained`
speak of them.
-/
namespace Kalign

section
variable {α : Type} [Score α]

abbrev ssOpsF (ap : AlnParam α) (seq1 seq2 : Array Nat) (r : Rect) (p : Nat) : RowOps α :=
  (ssView ap seq1 seq2).rowF r (r.starta + p)

/-- rows counted from the far end -/
abbrev ssOpsB (ap : AlnParam α) (seq1 seq2 : Array Nat) (r : Rect) (p : Nat) : RowOps α :=
  (ssView ap seq1 seq2).rowB r (r.starta + (r.enda - r.starta) - 1 - p)

theorem ssForward_eq_genTab (ap : AlnParam α) (seq1 seq2 : Array Nat) (r : Rect) (hb : r.startb < r.endb)
    (start : States α) :
    ssForward ap seq1 seq2 r start =
      (List.range (r.endb - r.startb + 1)).map
        (genTab (ssGaInit ap (r.startb == 0)) (r.endb - r.startb) start (ssOpsF ap seq1 seq2 r) (r.enda - r.starta)) :=
  (ssView ap seq1 seq2).forward_eq_genTab r hb start

theorem ssBackward_eq_genTab (ap : AlnParam α) (seq1 seq2 : Array Nat) (r : Rect) (hb : r.startb < r.endb)
    (start : States α) :
    ssBackward ap seq1 seq2 r start =
      ((List.range (r.endb - r.startb + 1)).map
        (genTab (ssGaInit ap (r.endb == r.lenB)) (r.endb - r.startb) start (ssOpsB ap seq1 seq2 r)
          (r.enda - r.starta))).reverse :=
  (ssView ap seq1 seq2).backward_eq_genTab r hb start

end


/-- the parameters are finite: penalties `gpo gpe tgpe`, matrix `s` (all in units of 1/2000) -/
structure ApOK (ap : AlnParam ExactScore) (gpo gpe tgpe : Int) (s : Nat → Nat → Int) : Prop where
  gpo : ap.gpo = some gpo
  gpe : ap.gpe = some gpe
  tgpe : ap.tgpe = some tgpe
  sub : ∀ i j, ap.sub i j = some (s i j)

def cfgF (gpo gpe tgpe : Int) (s : Nat → Nat → Int) (seq1 seq2 : Array Nat) (r : Rect) : KCfg :=
  { n := r.endb - r.startb, tF := r.startb == 0, tL := r.endb == r.lenB, gpo := gpo, gpe := gpe, tgpe := tgpe
    sc := fun p k => s (seq1.getD (r.starta + p) 0) (seq2.getD (r.startb + k) 0) }

/-- rows and cells counted from the far corner -/
def cfgB (gpo gpe tgpe : Int) (s : Nat → Nat → Int) (seq1 seq2 : Array Nat) (r : Rect) : KCfg :=
  { n := r.endb - r.startb, tF := r.endb == r.lenB, tL := r.startb == 0, gpo := gpo, gpe := gpe, tgpe := tgpe
    sc := fun p k => s (seq1.getD (r.enda - 1 - p) 0) (seq2.getD (r.endb - 1 - k) 0) }

theorem ssGb_eq (ap : AlnParam ExactScore) (gpo gpe tgpe : Int) (s : Nat → Nat → Int) (h : ApOK ap gpo gpe tgpe s)
    (t : Bool) : ssGb ap t = gGap t gpo gpe tgpe := by
  funext gb ca
  unfold ssGb gGap
  rw [h.gpo, h.gpe, h.tgpe]
  simp only [ex_sub_some, ex_smax]

theorem ssGaInit_eq (ap : AlnParam ExactScore) (gpo gpe tgpe : Int) (s : Nat → Nat → Int) (h : ApOK ap gpo gpe tgpe s)
    (t : Bool) : ssGaInit ap t = fun _ pga pa => gGap t gpo gpe tgpe pga pa := by
  funext _ pga pa
  unfold ssGaInit gGap
  rw [h.gpo, h.gpe, h.tgpe]
  simp only [ex_sub_some, ex_smax]

theorem ssAl_eq (ap : AlnParam ExactScore) (gpo gpe tgpe : Int) (s : Nat → Nat → Int) (h : ApOK ap gpo gpe tgpe s)
    (x y : Nat) (pa pga pgb : ExactScore) :
    Score.add (smax3 pa (Score.sub pga ap.gpo) (Score.sub pgb ap.gpo)) (ap.sub x y) =
      gAl gpo (s x y) pa pga pgb := by
  unfold gAl
  rw [h.gpo, h.sub]
  simp only [ex_sub_some, ex_smax3, ex_add_some]

theorem ssForward_eq_absTab (ap : AlnParam ExactScore) (gpo gpe tgpe : Int) (s : Nat → Nat → Int)
    (h : ApOK ap gpo gpe tgpe s) (seq1 seq2 : Array Nat) (r : Rect) (hb : r.startb < r.endb)
    (start : States ExactScore) :
    ssForward ap seq1 seq2 r start =
      (List.range (r.endb - r.startb + 1)).map
        (absTab (cfgF gpo gpe tgpe s seq1 seq2 r) start (r.enda - r.starta)) := by
  rw [ssForward_eq_genTab ap seq1 seq2 r hb start]
  apply List.map_congr_left
  intro k hk
  refine genTab_congrN _ _ (r.endb - r.startb) start _ _ (r.enda - r.starta)
    (fun k _ => congrFun (ssGaInit_eq ap gpo gpe tgpe s h _) (k + 1)) (fun p _ => ?_) _ (Nat.le_refl _) k
    (by have := List.mem_range.mp hk; omega)
  refine ⟨ssGb_eq ap gpo gpe tgpe s h _, fun k _ => ?_, fun _ _ => ?_, ssGb_eq ap gpo gpe tgpe s h false, ssGb_eq ap gpo gpe tgpe s h _⟩
  · funext pa pga pgb
    simp only [View.rowF, ssView, absOps, cfgF, Nat.add_sub_cancel]
    exact ssAl_eq ap gpo gpe tgpe s h _ _ pa pga pgb
  · funext xga xa
    exact congrFun (congrFun (ssGb_eq ap gpo gpe tgpe s h false) xga) xa

theorem ssBackward_eq_absTab (ap : AlnParam ExactScore) (gpo gpe tgpe : Int) (s : Nat → Nat → Int)
    (h : ApOK ap gpo gpe tgpe s) (seq1 seq2 : Array Nat) (r : Rect) (hb : r.startb < r.endb)
    (ha : r.starta ≤ r.enda) (start : States ExactScore) :
    ssBackward ap seq1 seq2 r start =
      ((List.range (r.endb - r.startb + 1)).map
        (absTab (cfgB gpo gpe tgpe s seq1 seq2 r) start (r.enda - r.starta))).reverse := by
  rw [ssBackward_eq_genTab ap seq1 seq2 r hb start]
  congr 1
  apply List.map_congr_left
  intro k hk
  refine genTab_congrN _ _ (r.endb - r.startb) start _ _ (r.enda - r.starta)
    (fun k _ => congrFun (ssGaInit_eq ap gpo gpe tgpe s h _) (k + 1)) (fun p _ => ?_) _ (Nat.le_refl _) k
    (by have := List.mem_range.mp hk; omega)
  refine ⟨ssGb_eq ap gpo gpe tgpe s h _, fun k _ => ?_, fun _ _ => ?_, ssGb_eq ap gpo gpe tgpe s h false, ssGb_eq ap gpo gpe tgpe s h _⟩
  · funext pa pga pgb
    simp only [View.rowB, ssView, absOps, cfgB, Nat.add_sub_cancel]
    have e1 : r.starta + (r.enda - r.starta) - 1 - p = r.enda - 1 - p := by omega
    have e2 : r.endb - (k + 1) = r.endb - 1 - k := by omega
    rw [e1, e2]
    exact ssAl_eq ap gpo gpe tgpe s h _ _ pa pga pgb
  · funext xga xa
    exact congrFun (congrFun (ssGb_eq ap gpo gpe tgpe s h false) xga) xa

end Kalign

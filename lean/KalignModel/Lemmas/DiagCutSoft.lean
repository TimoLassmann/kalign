import KalignModel.Lemmas.DiagCut
import KalignModel.Lemmas.SoftOptCut
import KalignModel.Lemmas.DiagOpt
/-!
# The diagonal of identical operands on the `SoftF32` kernels (dyadic parameters)

The `SoftF32` meetup (`aln_seqseq_meetup` in binary32) returns a *robust* maximum of the exact candidate values (`ssMeet_ans`:
every admissible candidate is at most `1000·(n/1000 + 1) ≤ n + 1000` units above the returned one; the slack pays for the rounded
tie-break term `fabsf(middle − i)/1000`).  On a square rectangle of the diagonal every candidate other than the diagonal's has at
least two gap columns, each of which loses at least `E/2` units against the self-scores, so the diagonal's candidate is returned as
soon as `n + 1000 < E`, where `E ≤ s x x + 2·min(gpo, gpe, tgpe)` for all residues `x` (`MeetAns.diag` of Lemmas/DiagMeet.lean;
`diag_meet_robust` is its form for a given candidate); hence, by `Level.cut_of_diag` of Lemmas/DiagCut.lean, `soft_diag_cutHyp`.
-/
namespace Kalign
open SoftF32

theorem diag_meet_robust (cF cB : KCfg) (dF dB : Nat → Int) (g E S : Int) (HF : DiagCfg cF dF g E) (HB : DiagCfg cB dB g E)
    (hnn : cB.n = cF.n) (hgpe : 0 ≤ cF.gpe) (htgpe : 0 ≤ cF.tgpe) (N : Nat) (hN : cF.n = N)
    (m1 m2 : Nat) (hm : m1 + m2 = N) (hm2 : 1 ≤ m2)
    (T : Int) (hsum : ∀ k, k ≤ N → psum dF k + psum dB (N - k) = T)
    (hS : 0 ≤ S) (hES : S < E)
    (k : Nat) (t : Int) (v : Int) (hadm : Adm N k t)
    (hev : evC cF (absTab cF (hot .A) m1 k) (absTab cB (hot .A) m2 (N - k)) k t = some v)
    (hdom : ∀ k' t' v', Adm N k' t' →
      evC cF (absTab cF (hot .A) m1 k') (absTab cB (hot .A) m2 (N - k')) k' t' = some v' → v' - S ≤ v) :
    k = m1 ∧ t = 1 := by
  subst hN
  have := MeetAns.diag HF HB hgpe htgpe hnn hm hm2 hsum (τ := fun _ => 0) (fun _ _ => Int.le_refl _) hS hES
    (sb := 0) (meet := ((0 + k : Nat) : Int)) (trans := t)
    (Or.inr ⟨k, t, v, hadm, rfl, rfl, hev, fun k' t' v' ha hv => by
      have := hdom k' t' v' ha hv
      show v' - 0 - _ ≤ v - 0
      omega⟩)
  exact ⟨by omega, this.2⟩

theorem soft_diag_cutHyp {U : Nat} {ap : AlnParam SoftF32} {apE : AlnParam ExactScore} (hd : DyadicParam U ap apE)
    (gpo gpe tgpe : Int) (s : Nat → Nat → Int) (hap : ApOK apE gpo gpe tgpe s) (seq : Array Nat)
    (hgpo : 0 ≤ gpo) (hgpe : 0 ≤ gpe) (htgpe : 0 ≤ tgpe)
    (hsize : U * (seq.size + seq.size + 1) + seq.size / 1000 + 1 < 16777216) (hlenB : seq.size < 4194304)
    (hself : ∀ x ∈ seq.toList, (seq.size : Int) + 1000 < s x x + 2 * min gpo (min gpe tgpe))
    (hdom : ∀ x ∈ seq.toList, ∀ y ∈ seq.toList, 2 * s x y ≤ s x x + s y y) :
    CutHypM ap gpo gpe tgpe s seq seq seq.size seq.size (diagCols seq.size) := by
  refine ⟨adjOK_diag _ _, consA_diag _, consB_diag _, fun L X hP hmid res hres => ?_⟩
  rw [hotS_eq_st, hotS_eq_st] at hres
  have hta := tie_arith L.n seq.size (Nat.le_trans (Nat.sub_le _ _) L.eb_le)
  exact L.cut_of_diag hP hmid hgpo hgpe htgpe (fun x hx => Int.add_one_le_of_lt (hself x hx)) hdom
    (fun _ _ => Int.le_refl _) (Int.mul_nonneg (by decide) (Int.natCast_nonneg _))
    (Int.lt_of_le_of_lt (Int.le_trans hta.1 hta.2) (Int.lt_succ _)) (ssMeet_ans hd hap seq seq hsize hlenB L res hres)

end Kalign

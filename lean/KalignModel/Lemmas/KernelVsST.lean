import KalignModel.Lemmas.Walk
import KalignModel.Model.ScoreST
/-!
# The forward kernel on the whole problem versus the reference score

`STW.kcfg w` is the configuration of the forward kernel on the full rectangle of the problem `w` (and, for `w.mirror`,
of the backward kernel).  Its reading of a walkable column list is the reference score of that list minus `gpo` for
every terminal gap run that is *closed* inside the list (`tclose`): the kernel charges `gpo` for the aligned column that
follows a leading gap run, the reference charges nothing (`walkSc_kcfg`).  At most one such close exists, and only
when the walk starts in a gap run at the corner (`tclose_le_one`, `tclose_corner`).
-/
namespace Kalign

def STW.kcfg (w : STW) : KCfg :=
  { n := w.lenB, tF := true, tL := true, gpo := w.gpo, gpe := w.gpe, tgpe := w.tgpe, sc := w.sc }

/-- number of aligned columns that directly follow a terminal gap column -/
def STW.tclose (w : STW) : Nat → Nat → Kind → List Col → Nat
  | _, _, _, [] => 0
  | i, j, u, c :: cs =>
    (if c = .both ∧ u ≠ .A ∧ w.termK u i j = true then 1 else 0) +
      w.tclose (stepP i c) (stepK j c) (colKind u c) cs

/-- no gap-in-a column stands in row `L`.  Needed with `L = len_a` wherever a kernel's reading is compared with the reference score: the
kernel of the whole problem treats a gap-in-a column as terminal in row 0 only (`KCfg.termA`), the reference also in row `len_a`
(`STW.termK .GA`), so the two charge such a column differently -/
def noGapAAt (L : Nat) : Nat → List Col → Bool
  | _, [] => true
  | i, c :: cs => (c != .gapA || i != L) && noGapAAt L (stepP i c) cs

theorem noGapAAt_of_lt (L : Nat) (X : List Col) (i : Nat) (h : i + consA X < L) : noGapAAt L i X = true := by
  induction X generalizing i with
  | nil => rfl
  | cons c cs ih =>
    have h' : stepP i c + consA cs < L := by rw [stepP_add_consA]; exact h
    simp only [noGapAAt, Bool.and_eq_true, Bool.or_eq_true, bne_iff_ne, ne_eq]
    refine ⟨Or.inr ?_, ih _ h'⟩
    rw [consA_cons] at h; omega

theorem STW.termA_kcfg (w : STW) (i : Nat) : w.kcfg.termA i = decide (i = 0) := by
  simp [KCfg.termA, STW.kcfg]
theorem STW.termB_kcfg (w : STW) (j : Nat) : w.kcfg.termB j = (decide (j = 0) || decide (j = w.lenB)) := by
  show ((decide (j = 0) && true) || (decide (j = w.lenB) && true)) = _
  simp only [Bool.and_true]

theorem STW.walkSc_kcfg (w : STW) (X : List Col) (i j : Nat) (u : Kind)
    (hok : walkOK w.kcfg i j u X = true) (hrow : noGapAAt w.lenA i X = true) :
    walkSc w.kcfg i j u X = w.walk i j u X - w.gpo * (w.tclose i j u X : Int) := by
  induction X generalizing i j u with
  | nil => simp [walkSc, STW.walk, STW.tclose]
  | cons c cs ih =>
    simp only [walkOK, Bool.and_eq_true] at hok
    simp only [noGapAAt, Bool.and_eq_true, Bool.or_eq_true, bne_iff_ne, ne_eq] at hrow
    rw [walkSc, STW.walk, STW.tclose, ih _ _ _ hok.2 hrow.2]
    have hstep : stepSc w.kcfg i j u c =
        w.stCol c i j + w.stE u (colKind u c) i j -
          w.gpo * ((if c = .both ∧ u ≠ .A ∧ w.termK u i j = true then 1 else 0 : Nat) : Int) := by
      cases c with
      | skip => simp [stepOK] at hok
      | both =>
        simp only [stepSc, STW.stCol, colKind, true_and]
        cases u with
        | A => simp [STW.stE]; rfl
        | GA => simp only [STW.stE, STW.kcfg]; cases w.termK .GA i j <;> simp <;> omega
        | GB => simp only [STW.stE, STW.kcfg]; cases w.termK .GB i j <;> simp <;> omega
      | gapA =>
        have hne : i ≠ w.lenA := by
          rcases hrow.1 with h | h
          · exact absurd rfl h
          · exact h
        have hu : u ≠ .GB := by
          have := hok.1; simp only [stepOK, Bool.and_eq_true, bne_iff_ne, ne_eq] at this; exact this.2
        simp only [stepSc, STW.stCol, colKind, STW.termA_kcfg, reduceCtorEq, false_and, if_false]
        have ht : w.termK .GA i j = decide (i = 0) := by simp [STW.termK, hne]
        cases u with
        | GB => exact absurd rfl hu
        | A => simp only [STW.stE, ht, STW.kcfg]; by_cases h0 : i = 0 <;> simp [h0]
        | GA => simp only [STW.stE, ht, STW.kcfg]; by_cases h0 : i = 0 <;> simp [h0]
      | gapB =>
        have hu : u ≠ .GA := by
          have := hok.1; simp only [stepOK, Bool.and_eq_true, bne_iff_ne, ne_eq] at this; exact this.2
        simp only [stepSc, STW.stCol, colKind, STW.termB_kcfg, reduceCtorEq, false_and, if_false]
        have ht : w.termK .GB i j = (decide (j = 0) || decide (j = w.lenB)) := rfl
        cases u with
        | GA => exact absurd rfl hu
        | A => simp only [STW.stE, ht, STW.kcfg]; split <;> simp
        | GB => simp only [STW.stE, ht, STW.kcfg]; split <;> simp
    rw [hstep]
    simp only [Int.natCast_add, Int.mul_add]
    omega

theorem STW.tclose_zero_of_pos (w : STW) (X : List Col) (i j : Nat) (u : Kind)
    (hok : walkOK w.kcfg i j u X = true) (hA : i + consA X ≤ w.lenA) (hi : 1 ≤ i) (hj : 1 ≤ j) :
    w.tclose i j u X = 0 := by
  induction X generalizing i j u with
  | nil => rfl
  | cons c cs ih =>
    simp only [walkOK, Bool.and_eq_true] at hok
    have hA' : stepP i c + consA cs ≤ w.lenA := by rw [stepP_add_consA]; exact hA
    have hi' : 1 ≤ stepP i c := by rw [stepP_eq i]; omega
    have hj' : 1 ≤ stepK j c := by rw [stepK_eq j]; omega
    rw [STW.tclose, ih _ _ _ hok.2 hA' hi' hj', Nat.add_zero]
    rw [if_neg]
    rintro ⟨hc, hu, ht⟩
    subst hc
    have h1 : j + 1 ≤ w.lenB := by
      have := hok.1
      simp only [stepOK, decide_eq_true_eq] at this
      exact this
    have h2 : i + 1 ≤ w.lenA := by
      rw [consA_cons] at hA
      simp only [stepP] at hA
      omega
    cases u with
    | A => exact hu rfl
    | GA =>
      have : i = 0 ∨ i = w.lenA := by simpa [STW.termK] using ht
      omega
    | GB =>
      have : j = 0 ∨ j = w.lenB := by simpa [STW.termK] using ht
      omega

theorem STW.tclose_le_one (w : STW) (X : List Col) (i j : Nat) (u : Kind)
    (hok : walkOK w.kcfg i j u X = true) (hA : i + consA X ≤ w.lenA) : w.tclose i j u X ≤ 1 := by
  induction X generalizing i j u with
  | nil => simp [STW.tclose]
  | cons c cs ih =>
    simp only [walkOK, Bool.and_eq_true] at hok
    have hA' : stepP i c + consA cs ≤ w.lenA := by rw [stepP_add_consA]; exact hA
    rw [STW.tclose]
    by_cases hc : c = .both
    · subst hc
      rw [STW.tclose_zero_of_pos w cs _ _ _ hok.2 hA' (by simp [stepP]) (by simp [stepK])]
      split <;> omega
    · rw [if_neg (fun h => hc h.1)]
      have := ih _ _ _ hok.2 hA'
      omega

theorem STW.tclose_zero_of_no_both (w : STW) (X : List Col) (i j : Nat) (u : Kind) (h : Col.both ∉ X) :
    w.tclose i j u X = 0 := by
  induction X generalizing i j u with
  | nil => rfl
  | cons c cs ih =>
    rw [STW.tclose, ih _ _ _ (fun hm => h (List.mem_cons_of_mem _ hm)), if_neg]
    exact fun hc => h (by rw [hc.1]; simp)

def startsGap (X : List Col) : Bool :=
  match X with
  | [] => false
  | c :: _ => c.isGap

theorem STW.tclose_corner (w : STW) (X : List Col) (hok : walkOK w.kcfg 0 0 .A X = true) (hA : consA X ≤ w.lenA) :
    w.tclose 0 0 .A X ≤ (if startsGap X then 1 else 0) := by
  cases X with
  | nil => simp [STW.tclose]
  | cons c cs =>
    by_cases hg : c.isGap = true
    · simp only [startsGap, hg, if_true]
      exact STW.tclose_le_one w _ 0 0 .A hok (by simpa using hA)
    · simp only [startsGap, hg]
      simp only [walkOK, Bool.and_eq_true] at hok
      have hA' : stepP 0 c + consA cs ≤ w.lenA := by rw [stepP_add_consA, Nat.zero_add]; exact hA
      rw [STW.tclose]
      cases c with
      | gapA => simp [Col.isGap] at hg
      | gapB => simp [Col.isGap] at hg
      | skip => simp [stepOK] at hok
      | both =>
        rw [STW.tclose_zero_of_pos w cs _ _ _ hok.2 hA' (by simp [stepP]) (by simp [stepK])]
        simp

end Kalign

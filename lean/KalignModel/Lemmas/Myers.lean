import KalignModel.Lemmas.Sellers
/-!
# Myers/Hyyrö bit-parallel step: delta encoding of a DP column

`block_step`  : `advanceBlock` maps the encoding of the vertical differences of a column to that of the next
column and returns the horizontal difference below the block (width-generic: no `bv_decide`, the carry chain of
the addition is followed bit by bit with `BitVec.carry`).
-/
namespace Kalign

def cellMin (dv dh : Int) (e : Bool) : Int := min (min (dh + 1) (dv + 1)) (if e then 0 else 1)
/-- new vertical difference `D(i+1,j+1) - D(i,j+1)` -/
def cellV (dv dh : Int) (e : Bool) : Int := cellMin dv dh e - dh
/-- horizontal difference one row further down `D(i+1,j+1) - D(i+1,j)` -/
def cellH (dv dh : Int) (e : Bool) : Int := cellMin dv dh e - dv

def dV (init : Nat → Nat) (eq : Nat → Nat → Bool) (j i : Nat) : Int := (gD init eq j (i + 1) : Int) - gD init eq j i
def dH (init : Nat → Nat) (eq : Nat → Nat → Bool) (j i : Nat) : Int := (gD init eq (j + 1) i : Int) - gD init eq j i

theorem min3_sub_diag (A B D c : Nat) :
    ((min3 (A + 1) (B + 1) (D + c) : Nat) : Int) = D + min (min ((A : Int) - D + 1) ((B : Int) - D + 1)) c := by
  simp only [min3]
  omega

theorem cell_rule (init : Nat → Nat) (eq : Nat → Nat → Bool) (j i : Nat) :
    dV init eq (j + 1) i = cellV (dV init eq j i) (dH init eq j i) (eq i j) ∧
    dH init eq j (i + 1) = cellH (dV init eq j i) (dH init eq j i) (eq i j) := by
  have hc : ((if eq i j = true then 0 else 1 : Nat) : Int) = if eq i j = true then 0 else 1 := by split <;> rfl
  simp only [dV, dH, cellV, cellH, cellMin]
  rw [show gD init eq (j + 1) (i + 1) = min3 (gD init eq (j + 1) i + 1) (gD init eq j (i + 1) + 1)
        (gD init eq j i + if eq i j then 0 else 1) by rw [gD], min3_sub_diag, hc]
  omega

theorem dH_zero (init : Nat → Nat) (eq : Nat → Nat → Bool) (j : Nat) : dH init eq j 0 = 0 := by
  simp [dH, gD]

def Tri (x : Int) : Prop := x = -1 ∨ x = 0 ∨ x = 1

theorem cellV_eq_cellH (dv dh : Int) (e : Bool) : cellV dv dh e = cellH dh dv e := by
  simp only [cellV, cellH, cellMin, Int.min_comm (dh + 1)]

theorem cellH_tri {dv dh : Int} (e : Bool) (hv : Tri dv) (hh : Tri dh) : Tri (cellH dv dh e) := by
  rcases hv with rfl | rfl | rfl <;> rcases hh with rfl | rfl | rfl <;> cases e <;> (simp only [cellH, cellMin, Tri]; decide)

theorem cellV_tri {dv dh : Int} (e : Bool) (hv : Tri dv) (hh : Tri dh) : Tri (cellV dv dh e) :=
  cellV_eq_cellH dv dh e ▸ cellH_tri e hh hv

theorem deltas_tri (init : Nat → Nat) (eq : Nat → Nat → Bool)
    (h0 : ∀ i, Tri ((init (i + 1) : Int) - init i)) (j i : Nat) :
    Tri (dV init eq j i) ∧ Tri (dH init eq j i) := by
  induction j generalizing i with
  | zero =>
    have hv : ∀ i, Tri (dV init eq 0 i) := fun i => by simpa [dV, gD] using h0 i
    induction i with
    | zero => exact ⟨hv 0, by rw [dH_zero]; exact Or.inr (Or.inl rfl)⟩
    | succ i ih => exact ⟨hv _, by rw [(cell_rule init eq 0 i).2]; exact cellH_tri _ ih.1 ih.2⟩
  | succ j ihj =>
    induction i with
    | zero =>
      exact ⟨by rw [(cell_rule init eq j 0).1]; exact cellV_tri _ (ihj 0).1 (ihj 0).2,
             by rw [dH_zero]; exact Or.inr (Or.inl rfl)⟩
    | succ i ih =>
      exact ⟨by rw [(cell_rule init eq j (i + 1)).1]; exact cellV_tri _ (ihj _).1 (ihj _).2,
             by rw [(cell_rule init eq (j + 1) i).2]; exact cellH_tri _ ih.1 ih.2⟩

def Enc {w : Nat} (P M : BitVec w) (v : Nat → Int) : Prop :=
  ∀ i, i < w → Tri (v i) ∧ P.getLsbD i = decide (v i = 1) ∧ M.getLsbD i = decide (v i = -1)

theorem Enc.of_pos {w : Nat} (P : BitVec w) (v : Nat → Int) (b : Nat → Bool) (hP : ∀ i, i < w → P.getLsbD i = b i)
    (hv : ∀ i, i < w → v i = if b i then 1 else 0) : Enc P 0#w v := by
  intro i hi
  rw [hv i hi, hP i hi]
  cases b i <;> simp [Tri]

theorem Enc.ones {w : Nat} (v : Nat → Int) (hv : ∀ i, i < w → v i = 1) : Enc (BitVec.allOnes w) 0#w v :=
  Enc.of_pos _ v (fun _ => true) (fun i hi => by rw [BitVec.getLsbD_allOnes]; exact decide_eq_true hi) hv

/-- horizontal differences down a block: `hIn` above it, `refH (i+1)` below row `i` -/
def refH (v : Nat → Int) (e : Nat → Bool) (hIn : Int) : Nat → Int
  | 0 => hIn
  | i + 1 => cellH (v i) (refH v e hIn i) (e i)

/-- vertical differences of the next column -/
def refV (v : Nat → Int) (e : Nat → Bool) (hIn : Int) (i : Nat) : Int := cellV (v i) (refH v e hIn i) (e i)

theorem refH_tri (v : Nat → Int) (e : Nat → Bool) (hIn : Int) (w : Nat) (hv : ∀ i, i < w → Tri (v i)) (hh : Tri hIn)
    (i : Nat) (hi : i ≤ w) : Tri (refH v e hIn i) := by
  induction i with
  | zero => exact hh
  | succ i ih => exact cellH_tri _ (hv i (by omega)) (ih (by omega))

/-- the two bits of the horizontal difference below a cell.  With `x = true` the match bit may also be set in the rows whose
vertical difference is `-1` (`bpm` feeds `B[c] | VN` into the carry chain, `bpm_block` feeds `Eq`): the extra disjunct is
absorbed, `dv = 1` excludes it in the first formula and `dv = -1 ∨ …` contains it in the second -/
theorem cellH_bits_x {dv dh : Int} (e x : Bool) (hv : Tri dv) (hh : Tri dh) :
    decide (cellH dv dh e = -1) = (decide (dv = 1) && ((e || (x && decide (dv = -1))) || decide (dh = -1))) ∧
    decide (cellH dv dh e = 1) =
      (decide (dv = -1) || !(((e || (x && decide (dv = -1))) || decide (dh = -1)) || decide (dv = 1))) := by
  rcases hv with rfl | rfl | rfl <;> rcases hh with rfl | rfl | rfl <;> cases e <;> cases x <;>
    (simp only [cellH, cellMin]; decide)

theorem cellH_bits {dv dh : Int} (e : Bool) (hv : Tri dv) (hh : Tri dh) :
    decide (cellH dv dh e = -1) = (decide (dv = 1) && (e || decide (dh = -1))) ∧
    decide (cellH dv dh e = 1) = (decide (dv = -1) || !((e || decide (dh = -1)) || decide (dv = 1))) := by
  simpa only [Bool.false_and, Bool.or_false] using cellH_bits_x e false hv hh

theorem cellV_bits {dv dh : Int} (e : Bool) (hv : Tri dv) (hh : Tri dh) :
    decide (cellV dv dh e = -1) = (decide (dh = 1) && (e || decide (dv = -1))) ∧
    decide (cellV dv dh e = 1) = (decide (dh = -1) || !((e || decide (dv = -1)) || decide (dh = 1))) :=
  cellV_eq_cellH dv dh e ▸ cellH_bits e hh hv

section block
variable {w : Nat} (Pv Mv Eq : BitVec w) (hIn : Int) (v : Nat → Int) (e : Nat → Bool)

def eqIn : BitVec w := if hIn < 0 then Eq ||| 1#w else Eq
def xhWord : BitVec w := (((eqIn Eq hIn &&& Pv) + Pv) ^^^ Pv) ||| eqIn Eq hIn

theorem getLsbD_one' (i : Nat) (hi : i < w) : (1#w).getLsbD i = decide (i = 0) := by
  simp [BitVec.getLsbD_one]; omega

theorem getLsbD_shl1_succ (x : BitVec w) (i : Nat) (hi : i + 1 < w) : (x <<< 1).getLsbD (i + 1) = x.getLsbD i := by
  rw [BitVec.getLsbD_shiftLeft]; simp [hi]

theorem getLsbD_shl1_zero (x : BitVec w) : (x <<< 1).getLsbD 0 = false := by
  rw [BitVec.getLsbD_shiftLeft]; simp

theorem getLsbD_or_one_succ (x : BitVec w) (i : Nat) (hi : i + 1 < w) :
    (x ||| 1#w).getLsbD (i + 1) = x.getLsbD (i + 1) := by
  rw [BitVec.getLsbD_or, getLsbD_one' _ hi]; simp

theorem getLsbD_or_one_zero (x : BitVec w) (hw : 0 < w) : (x ||| 1#w).getLsbD 0 = true := by
  rw [BitVec.getLsbD_or, getLsbD_one' _ hw]; simp

theorem eqIn_bit (hE : ∀ i, i < w → Eq.getLsbD i = e i) (i : Nat) (hi : i < w) :
    (eqIn Eq hIn).getLsbD i = (e i || (decide (i = 0) && decide (hIn < 0))) := by
  unfold eqIn
  split
  · rename_i h; simp [getLsbD_one' i hi, hE i hi, h]
  · rename_i h; simp [hE i hi, h]

theorem xh_bit (i : Nat) (hi : i < w) :
    (xhWord Pv Eq hIn).getLsbD i =
      ((eqIn Eq hIn).getLsbD i || BitVec.carry i (eqIn Eq hIn &&& Pv) Pv false) := by
  simp only [xhWord, BitVec.getLsbD_or, BitVec.getLsbD_xor, BitVec.getLsbD_add hi, BitVec.getLsbD_and]
  cases (eqIn Eq hIn).getLsbD i <;> cases Pv.getLsbD i <;> cases BitVec.carry i (eqIn Eq hIn &&& Pv) Pv false <;> rfl

theorem carry_succ_eq (i : Nat) (hi : i < w) :
    BitVec.carry (i + 1) (eqIn Eq hIn &&& Pv) Pv false = (Pv.getLsbD i && (xhWord Pv Eq hIn).getLsbD i) := by
  rw [BitVec.carry_succ, xh_bit Pv Eq hIn i hi, BitVec.getLsbD_and]
  cases (eqIn Eq hIn).getLsbD i <;> cases Pv.getLsbD i <;> cases BitVec.carry i (eqIn Eq hIn &&& Pv) Pv false <;> rfl

/-- the bits of `Xh`, `Ph = Mv | ~(Xh | Pv)`, `Mh = Pv & Xh` in terms of the reference differences -/
theorem xh_ph_mh (x : Bool) (hEnc : Enc Pv Mv v)
    (hE : ∀ i, i < w → Eq.getLsbD i = (e i || (x && decide (v i = -1)))) (hh : Tri hIn) (i : Nat) (hi : i < w) :
    (xhWord Pv Eq hIn).getLsbD i = ((e i || (x && decide (v i = -1))) || decide (refH v e hIn i = -1)) ∧
    (Pv &&& xhWord Pv Eq hIn).getLsbD i = decide (refH v e hIn (i + 1) = -1) ∧
    (Mv ||| ~~~(xhWord Pv Eq hIn ||| Pv)).getLsbD i = decide (refH v e hIn (i + 1) = 1) := by
  have htri := refH_tri v e hIn w (fun k hk => (hEnc k hk).1) hh
  have hx : (xhWord Pv Eq hIn).getLsbD i = ((e i || (x && decide (v i = -1))) || decide (refH v e hIn i = -1)) := by
    induction i with
    | zero =>
      rw [xh_bit Pv Eq hIn 0 hi, eqIn_bit Eq hIn _ hE 0 hi, BitVec.carry_zero]
      rcases hh with rfl | rfl | rfl <;> simp [refH]
    | succ i ih =>
      have hi' : i < w := by omega
      rw [xh_bit Pv Eq hIn (i + 1) hi, eqIn_bit Eq hIn _ hE (i + 1) hi, carry_succ_eq Pv Eq hIn i hi', ih hi']
      obtain ⟨hv, hP, _⟩ := hEnc i hi'
      rw [show refH v e hIn (i + 1) = cellH (v i) (refH v e hIn i) (e i) from rfl,
        (cellH_bits_x (e i) x hv (htri i (by omega))).1, hP]
      simp
  obtain ⟨hv, hP, hM⟩ := hEnc i hi
  have hb := cellH_bits_x (e i) x hv (htri i (by omega))
  refine ⟨hx, ?_, ?_⟩
  · simp only [BitVec.getLsbD_and, hx, hP]
    exact hb.1.symm
  · simp only [BitVec.getLsbD_or, BitVec.getLsbD_not, hi, hx, hP, hM, decide_true, Bool.true_and]
    exact hb.2.symm

/-- `advanceBlock` is the loop body of `bpm_block`; `hIn` is the horizontal difference above the block, the third component
the one below it.  `Pv &&& Mv = 0` is part of `Enc`. -/
theorem block_step (hw : 0 < w) (hEnc : Enc Pv Mv v) (hE : ∀ i, i < w → Eq.getLsbD i = e i) (hh : Tri hIn) :
    Enc (advanceBlock Pv Mv Eq hIn).1 (advanceBlock Pv Mv Eq hIn).2.1 (refV v e hIn) ∧
    (advanceBlock Pv Mv Eq hIn).2.2 = refH v e hIn w := by
  have key := xh_ph_mh Pv Mv Eq hIn v e false hEnc
    (fun i hi => by rw [hE i hi, Bool.false_and, Bool.or_false]) hh
  have htri := refH_tri v e hIn w (fun k hk => (hEnc k hk).1) hh
  have hMh' : ∀ i, i < w →
      (if hIn < 0 then ((Pv &&& xhWord Pv Eq hIn) <<< 1) ||| 1#w else (Pv &&& xhWord Pv Eq hIn) <<< 1).getLsbD i
        = decide (refH v e hIn i = -1) := by
    intro i hi
    cases i with
    | zero => rcases hh with rfl | rfl | rfl <;> simp [refH, hw]
    | succ i =>
      have h := (key i (by omega)).2.1
      split
      · rw [getLsbD_or_one_succ _ _ hi, getLsbD_shl1_succ _ _ hi, h]
      · rw [getLsbD_shl1_succ _ _ hi, h]
  have hPh' : ∀ i, i < w →
      (if hIn < 0 then (Mv ||| ~~~(xhWord Pv Eq hIn ||| Pv)) <<< 1
        else if hIn > 0 then ((Mv ||| ~~~(xhWord Pv Eq hIn ||| Pv)) <<< 1) ||| 1#w
        else (Mv ||| ~~~(xhWord Pv Eq hIn ||| Pv)) <<< 1).getLsbD i
        = decide (refH v e hIn i = 1) := by
    intro i hi
    cases i with
    | zero => rcases hh with rfl | rfl | rfl <;> simp [refH, hw]
    | succ i =>
      have h := (key i (by omega)).2.2
      split
      · rw [getLsbD_shl1_succ _ _ hi, h]
      · split
        · rw [getLsbD_or_one_succ _ _ hi, getLsbD_shl1_succ _ _ hi, h]
        · rw [getLsbD_shl1_succ _ _ hi, h]
  constructor
  · intro i hi
    obtain ⟨hv, hP, hM⟩ := hEnc i hi
    have hb := cellV_bits (e i) hv (htri i (by omega))
    refine ⟨cellV_tri _ hv (htri i (by omega)), ?_, ?_⟩
    · show (_ ||| ~~~((Eq ||| Mv) ||| _)).getLsbD i = _
      simp only [BitVec.getLsbD_or, BitVec.getLsbD_not, hi, decide_true, Bool.true_and]
      have h1 := hMh' i hi
      have h2 := hPh' i hi
      simp only [xhWord, eqIn] at h1 h2
      rw [h1, h2, hE i hi, hM, refV, hb.2]
    · show (_ &&& (Eq ||| Mv)).getLsbD i = _
      simp only [BitVec.getLsbD_and, BitVec.getLsbD_or]
      have h2 := hPh' i hi
      simp only [xhWord, eqIn] at h2
      rw [h2, hE i hi, hM, refV, hb.1]
  · show ((if (Mv ||| ~~~(_ ||| Pv)).getLsbD (w - 1) then (1 : Int) else 0) -
        (if (Pv &&& _).getLsbD (w - 1) then 1 else 0)) = _
    have h := key (w - 1) (by omega)
    simp only [xhWord, eqIn] at h
    rw [h.2.1, h.2.2, show w - 1 + 1 = w by omega]
    rcases htri w (Nat.le_refl _) with h | h | h <;> simp [h]

end block

end Kalign

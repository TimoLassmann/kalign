import KalignModel.Lemmas.RealKernels
import KalignModel.Model.DoAlign
/-!
# `aln_runner_serial` never faults (Model/Hirschberg.lean), whatever the comparisons answer

`fault` is the model's flag for what is undefined behaviour in aln_controller.c: a path write outside `m->path`, a kernel call
outside the operands or the state arrays, the fuel running out.  `Run.no_fault`: for kernels that are `StepSafe` (they return a cut
column inside the rectangle *whenever the transition is one of the six*), a run from a memory whose rectangle lies inside the
operands, with more fuel than `Mem.meas` (`CallOK`), ends with `fault = false`.  The real kernels are `StepSafe` for **every** score
carrier (`Score.gt` may answer anything); hence `alnRun_serial_no_fault`: the serial run from the memory `do_align` sets up
(`initMem`) never faults.  For `aln_runner`, which `do_align` calls, this carries over where `Run.runner_eq` applies.
-/
namespace Kalign
variable {φ α : Type}

/-- what the controller needs from the kernels; `S` = "state array large enough" -/
structure StepSafe (K : Kernels φ α) (S : φ → Prop) (lenA lenB : Nat) : Prop where
  set0 : ∀ f s, S f → S (K.set0 f s)
  step : ∀ f b (sa mid ea sb eb : Int), S f → S b → 0 ≤ sa → sa ≤ mid → mid ≤ ea → ea ≤ lenA → 0 ≤ sb → sb < eb →
    eb ≤ lenB → ∃ r, K.step f b sa mid ea sb eb = some r ∧ S r.f ∧ S r.b ∧
      (ValidT r.transition → sb ≤ r.meet ∧ r.meet ≤ eb)

structure MemCore (S : φ → Prop) (lenA : Nat) (m : Mem φ α) : Prop where
  fault : m.fault = false
  f : S m.f
  b : S m.b
  path : lenA < m.path.size

def Mem.meas (m : Mem φ α) : Nat := (m.enda - m.starta).toNat + (m.endb - m.startb).toNat

/-- the fuel `alnRun` gives (`Mem.fuel`, Model/Hirschberg.lean) is `meas + 2` -/
theorem Mem.meas_lt_fuel (m : Mem φ α) : m.meas < m.fuel := by
  unfold Mem.fuel Mem.meas; omega

structure CallOK (S : φ → Prop) (lenA lenB : Nat) (n : Nat) (m : Mem φ α) : Prop where
  core : MemCore S lenA m
  sa : 0 ≤ m.starta
  ea : m.enda ≤ lenA
  sb : 0 ≤ m.startb
  eb : m.endb ≤ lenB
  fuel : m.meas < n

theorem afterStep_core {S : φ → Prop} {lenA : Nat} {m : Mem φ α} (h : MemCore S lenA m) (mid : Int) {r : KStep φ α}
    (hf : S r.f) (hb : S r.b) : MemCore S lenA (afterStep m mid r) :=
  ⟨h.fault, hf, hb, h.path⟩

theorem cutMem_core {S : φ → Prop} {lenA : Nat} {x : Mem φ α} {r : KStep φ α} (h : MemCore S lenA (afterStep x x.mid r))
    (h0 : 0 ≤ x.mid) (h1 : x.mid + 1 ≤ lenA) : MemCore S lenA (cutMem x r) :=
  have hp : lenA < x.path.size := h.path
  ⟨(cutMem_fault x r h0 (by omega)).trans h.fault, (cutMem_f x r).symm ▸ h.f, (cutMem_b x r).symm ▸ h.b,
    (cutMem_path_size x r).symm ▸ hp⟩

def RectOK (lenA lenB n : Nat) (a b c d : Int) : Prop :=
  0 ≤ a ∧ b ≤ lenA ∧ 0 ≤ c ∧ d ≤ lenB ∧ (b - a).toNat + (d - c).toNat < n

/-- the arithmetic of `aln_continue`: cut a non-degenerate rectangle inside the operands at row `mid`, column `meet`;
the left child leaves out `p` rows and `q` columns in front of the cut, the right child `p'` rows and `q'` columns
(not both 0) behind it. -/
theorem children_rectOK {lenA lenB n : Nat} {sa ea sb eb mid meet p q p' q' : Int}
    (h0 : 0 ≤ sa) (h1 : sa ≤ mid) (h2 : mid < ea) (h3 : ea ≤ lenA) (h4 : 0 ≤ sb) (h5 : sb < eb) (h6 : eb ≤ lenB)
    (hfuel : (ea - sa).toNat + (eb - sb).toNat ≤ n) (hm1 : sb ≤ meet) (hm2 : meet ≤ eb)
    (hp : 0 ≤ p) (hq : 0 ≤ q) (hp' : 0 ≤ p') (hq' : 0 ≤ q') (hpq : 1 ≤ p' + q') :
    (0 ≤ mid ∧ mid + 1 ≤ lenA) ∧ RectOK lenA lenB n sa (mid - p) sb (meet - q) ∧
      RectOK lenA lenB n (mid + p') ea (meet + q') eb := by
  unfold RectOK; omega

/-- the memory of a recursive call: slot 0 of both state arrays rewritten, a new rectangle, nothing else changed -/
theorem CallOK.child {K : Kernels φ α} {S : φ → Prop} {lenA lenB n : Nat} (hK : StepSafe K S lenA lenB) {m y : Mem φ α}
    (h : MemCore S lenA m) {s t : States α}
    (hy : y.fault = m.fault ∧ y.f = K.set0 m.f s ∧ y.b = K.set0 m.b t ∧ y.path = m.path)
    (hr : RectOK lenA lenB n y.starta y.enda y.startb y.endb) : CallOK S lenA lenB n y :=
  { core := ⟨hy.1.trans h.fault, hy.2.1 ▸ hK.set0 _ _ h.f, hy.2.2.1 ▸ hK.set0 _ _ h.b, hy.2.2.2 ▸ h.path⟩
    sa := hr.1, ea := hr.2.1, sb := hr.2.2.1, eb := hr.2.2.2.1, fuel := hr.2.2.2.2 }

theorem CallOK.kstep {K : Kernels φ α} {S : φ → Prop} {lenA lenB n : Nat} (hK : StepSafe K S lenA lenB) {x : Mem φ α}
    (c : CallOK S lenA lenB (n + 1) x) (hs : ¬ x.Stops) :
    x.kstep K ≠ none ∧ ∀ r, x.kstep K = some r → MemCore S lenA (afterStep x x.mid r) ∧ (ValidT r.transition →
      MemCore S lenA (cutMem x r) ∧ CallOK S lenA lenB n (fwdCall K x r) ∧
        ∀ L, MemCore S lenA L → CallOK S lenA lenB n (bwdCall K x r L)) := by
  obtain ⟨_, ha, hb, hm1, hm2⟩ := x.not_stops hs
  have hfu := c.fuel
  unfold Mem.meas at hfu
  obtain ⟨r, hr, hrf, hrb, hmeet⟩ := hK.step x.f x.b x.starta x.mid x.enda x.startb x.endb c.core.f c.core.b c.sa
    hm1 (by omega) c.ea c.sb (by omega) c.eb
  refine ⟨(fun h => nomatch hr.symm.trans h), fun r' hr' => ?_⟩
  cases hr.symm.trans hr'
  refine ⟨afterStep_core c.core _ hrf hrb, fun ht => ?_⟩
  obtain ⟨⟨i0, i1⟩, cL, cR⟩ := children_rectOK (n := n) c.sa hm1 hm2 c.ea c.sb (by omega) c.eb (by omega) (hmeet ht).1
    (hmeet ht).2 (da_nonneg (fkOf r.transition)) (db_nonneg (fkOf r.transition)) (da_nonneg (bkOf r.transition))
    (db_nonneg (bkOf r.transition)) (da_add_db (bkOf r.transition))
  have hcut := cutMem_core (afterStep_core c.core x.mid hrf hrb) i0 i1
  exact ⟨hcut, .child hK hcut ⟨fwdCall_fault K x r, fwdCall_f K x r, fwdCall_b K x r, fwdCall_path K x r⟩ cL,
    fun L hL => .child hK hL ⟨bwdCall_fault K x r L, bwdCall_f K x r L, bwdCall_b K x r L, bwdCall_path K x r L⟩ cR⟩

theorem Run.no_fault {K : Kernels φ α} {S : φ → Prop} {lenA lenB : Nat} (hK : StepSafe K S lenA lenB) {s : RunMode} {n : Nat}
    {x y : Mem φ α} (h : Run K s n x y) : CallOK S lenA lenB n x → MemCore S lenA y := by
  induction h with
  | out x => exact fun c => absurd c.fuel (by omega)
  | stop n x hs => exact fun c => c.core
  | kfault n x hs hstep =>
    exact fun c => absurd hstep (c.kstep hK hs).1
  | skip n x r _ hs hstep ht => exact fun c => ((c.kstep hK hs).2 r hstep).1
  | node n x r L y hs hstep ht _ _ ih1 ih2 =>
    intro c
    obtain ⟨_, hch⟩ := (c.kstep hK hs).2 r hstep
    exact ih2 ((hch ht).2.2 L (ih1 (hch ht).2.1))

theorem runnerSerial_core {K : Kernels φ α} {S : φ → Prop} {lenA lenB : Nat} (hK : StepSafe K S lenA lenB)
    (n : Nat) (m : Mem φ α) : CallOK S lenA lenB n m → MemCore S lenA (runnerSerial K false n m) :=
  (runnerSerial_run K n m).no_fault hK

section real
variable {β : Type} [Score β]

theorem realKernels_stepSafe (ap : AlnParam β) (ops : Operands β) (lenA lenB : Nat) :
    StepSafe (realKernels ap ops lenA lenB) (fun a : Array (States β) => lenB + 1 ≤ a.size) lenA lenB where
  set0 := by intro f s h; simpa [realKernels] using h
  step := by
    intro f b sa mid ea sb eb hf hb h0 h1 h2 h3 h4 h5 h6
    obtain ⟨f', b', r, hfs, hbs, hr, hstep⟩ := realStep_inside ap ops lenA lenB f b sa mid ea sb eb h0 h1 h2 h3 h4 h5 h6 hf hb
    refine ⟨_, hstep, by simpa [hfs] using hf, by simpa [hbs] using hb, fun hv => ?_⟩
    subst hr
    have := kMeetup_range ap ops ⟨sa.toNat, mid.toNat, sb.toNat, eb.toNat, lenB⟩ mid.toNat _
      (kBackward ap ops ⟨mid.toNat, ea.toNat, sb.toNat, eb.toNat, lenB⟩ (b.getD 0 States.negInf))
      (length_kForward ap ops _ _) (by simp only; omega) hv
    simp only at this
    dsimp only
    omega

theorem initMem_callOK (lenA lenB : Nat) :
    CallOK (fun a : Array (States β) => lenB + 1 ≤ a.size) lenA lenB (initMem lenA lenB : Mem (Array (States β)) β).fuel
      (initMem lenA lenB) := by
  refine ⟨⟨rfl, ?_, ?_, ?_⟩, ?_, ?_, ?_, ?_, Mem.meas_lt_fuel _⟩ <;> simp [initMem] <;> omega

theorem initMem_core (lenA lenB : Nat) :
    MemCore (fun a : Array (States β) => lenB + 1 ≤ a.size) lenA (initMem lenA lenB : Mem (Array (States β)) β) :=
  (initMem_callOK lenA lenB).core

theorem alnRun_serial_no_fault (ap : AlnParam β) (ops : Operands β) (lenA lenB : Nat) :
    (alnRun .serial ap ops lenA lenB (initMem lenA lenB)).fault = false :=
  (runnerSerial_core (realKernels_stepSafe ap ops lenA lenB) _ _ (initMem_callOK lenA lenB)).fault

theorem alnRun_path_size (entry : Entry) (ap : AlnParam β) (ops : Operands β) (lenA lenB : Nat)
    (m : Mem (Array (States β)) β) : (alnRun entry ap ops lenA lenB m).path.size = m.path.size := by
  unfold alnRun
  cases entry with
  | parallel => exact runner_path_size _ _ m
  | serial => exact runnerSerial_path_size _ _ m

theorem initMem_path_size (la lb : Nat) : (initMem la lb : Mem (Array (States β)) β).path.size = max la lb + 2 := by
  simp [initMem]

/-- the callers read `path[1..len_a]`: inside the path array the run leaves behind -/
theorem alnRun_path_lt (entry : Entry) (ap : AlnParam β) (ops : Operands β) (lenA lenB : Nat) :
    lenA < (alnRun entry ap ops lenA lenB (initMem lenA lenB)).path.size := by
  rw [alnRun_path_size, initMem_path_size]; omega

theorem alnRun_serial_path_size (ap : AlnParam β) (ops : Operands β) (lenA lenB : Nat) :
    lenA < (alnRun .serial ap ops lenA lenB (initMem lenA lenB)).path.size :=
  alnRun_path_lt .serial ap ops lenA lenB

end real
end Kalign

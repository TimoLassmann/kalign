import KalignModel.Lemmas.ScoreRuns
import KalignModel.Lemmas.Score
/-!
# The diagonal of a sequence with itself against the reference score

The reference score `scoreST` charges every gap column at least `c = min(2·gpo, gpe, tgpe)` (`scoreST_le_upper`), and a valid column
list for `(s, s)` other than the diagonal has at least two gap columns.  So if `sub x x + 2·c > M` for every residue of `s` and
`2·sub x y ≤ sub x x + sub y y`, the diagonal beats every other valid column list without adjacent gap-in-a / gap-in-b runs by more
than `M` (`diag_margin`).  With `M` the safe margin of C07's optimality theorems this is what makes kalign's Hirschberg controller
return the diagonal on `(s, s)` (`Props/C08Opt.lean`).
-/
namespace Kalign

theorem gapCols_eq (cs : List Col) (hs : Col.skip ∉ cs) : gapCols cs + 2 * (cs.filter (· == .both)).length = consA cs + consB cs := by
  induction cs with
  | nil => rfl
  | cons c cs ih =>
    have := ih (fun h => hs (List.mem_cons_of_mem _ h))
    cases c with
    | skip => exact absurd List.mem_cons_self hs
    | both => simp; omega
    | gapA => simp; omega
    | gapB => simp; omega

/-- a valid column list for two sequences of equal length has an even number of gap columns (`gapCols_eq`) -/
theorem gapCols_ge_two (cs : List Col) (n : Nat) (hv : ValidCols cs n n) (hne : cs ≠ diagCols n) : 2 ≤ gapCols cs := by
  have h0 := gapCols_ne_zero hv hne
  obtain ⟨hs, ha, hb⟩ := hv
  have := gapCols_eq cs hs
  omega

theorem gapCols_append (xs ys : List Col) : gapCols (xs ++ ys) = gapCols xs + gapCols ys := by
  simp [gapCols, List.filter_append]

theorem gapCols_replicate (n : Nat) (c : Col) : gapCols (List.replicate n c) = if c.isGap then n else 0 := by
  induction n with
  | zero => simp
  | succ n ih =>
    rw [List.replicate_succ]
    cases c <;> simp_all [Col.isGap]

/-- why `2·gpo` and not `gpo`: an internal run of `n ≥ 1` columns costs `2·gpo + (n−1)·gpe` (a one-column run can be cheaper than
`gpe`), a terminal one `n·tgpe` -/
theorem runsCost_ge (gpo gpe tgpe c : Int) (h1 : c ≤ 2 * gpo) (h2 : c ≤ gpe) (h3 : c ≤ tgpe) :
    ∀ (k : Nat) (cs : List Col) (first : Bool), cs.length ≤ k →
      c * (gapCols cs : Int) ≤ runsCost gpo gpe tgpe first (rle cs) := by
  intro k
  induction k with
  | zero =>
    intro cs first hlen
    have : cs = [] := List.eq_nil_of_length_eq_zero (by omega)
    subst this; simp [rle, runsCost]
  | succ k ih =>
    intro cs first hlen
    cases cs with
    | nil => simp [rle, runsCost]
    | cons d cs0 =>
      obtain ⟨n, cs', hn, hsplit, hrle, _⟩ := rle_cons d cs0
      have hlen' : cs'.length ≤ k := by
        have := congrArg List.length hsplit
        simp only [List.length_cons, List.length_append, List.length_replicate] at this hlen
        omega
      rw [hrle, hsplit, gapCols_append, gapCols_replicate]
      have ih' := ih cs' false hlen'
      simp only [runsCost]
      by_cases hg : d.isGap = true
      · simp only [hg, if_true, Int.natCast_add, Int.mul_add]
        have hrun : c * (n : Int) ≤ gapRunCost gpo gpe tgpe (first || (rle cs').isEmpty) n := by
          unfold gapRunCost
          have hn' : (1 : Int) ≤ n := by omega
          split
          · exact Int.mul_comm c n ▸ Int.mul_le_mul_of_nonneg_left h3 (by omega)
          · have e : (n : Int) = ((n : Int) - 1) + 1 := by omega
            have h4 : c * ((n : Int) - 1) ≤ ((n : Int) - 1) * gpe := by
              rw [Int.mul_comm]; exact Int.mul_le_mul_of_nonneg_left h2 (by omega)
            rw [e, Int.mul_add, Int.mul_one]
            have e2 : (n : Int) - 1 + 1 - 1 = (n : Int) - 1 := by omega
            rw [e2]
            omega
        omega
      · simp only [hg, Bool.false_eq_true, if_false, Nat.zero_add, Int.zero_add]
        omega

theorem scoreST_le_upper (sub : Nat → Nat → Int) (gpo gpe tgpe c : Int) (h1 : c ≤ 2 * gpo) (h2 : c ≤ gpe) (h3 : c ≤ tgpe)
    (cs : List Col) (a b : List Nat) (hV : ValidCols cs a.length b.length) (hadj : adjOK .A cs = true) :
    scoreST sub gpo gpe tgpe cs a b ≤ upperScore sub c cs a b := by
  rw [scoreST_eq_runs sub gpo gpe tgpe cs a b hV hadj]
  unfold scoreSTruns upperScore
  have := runsCost_ge gpo gpe tgpe c h1 h2 h3 cs.length cs true (Nat.le_refl _)
  omega

theorem diagCols_succ (m : Nat) : diagCols (m + 1) = .both :: diagCols m := by
  simp [diagCols, List.replicate_succ]

theorem consA_diag (m : Nat) : consA (diagCols m) = m := consA_replicate_both m

theorem consB_diag (m : Nat) : consB (diagCols m) = m := consB_replicate_both m

theorem diagCols_reverse (m : Nat) : (diagCols m).reverse = diagCols m := by
  simp [diagCols]

theorem diagCols_add (a b : Nat) : diagCols (a + b) = diagCols a ++ diagCols b := by
  simp [diagCols, List.replicate_append_replicate]

theorem diagCols_swap (n : Nat) : (diagCols n).map Col.swap = diagCols n := by
  simp [diagCols, Col.swap]

theorem adjOK_diag (n : Nat) (st : Kind) : adjOK st (diagCols n) = true := by
  induction n generalizing st with
  | zero => rfl
  | succ n ih =>
    rw [diagCols, List.replicate_succ]
    simp only [adjOK, colKind, Kind.compat_A_right, Bool.and_true]
    exact ih .A

theorem validCols_diag (n : Nat) : ValidCols (diagCols n) n n := by
  refine ⟨?_, ?_, ?_⟩
  · unfold diagCols; intro h; have := List.eq_of_mem_replicate h; simp at this
  · exact consA_diag n
  · exact consB_diag n

theorem rle_diag (n : Nat) : rle (diagCols (n + 1)) = [(.both, n + 1)] := by
  induction n with
  | zero => rfl
  | succ n ih =>
    rw [diagCols_succ]
    show (match rle (diagCols (n + 1)) with
      | (d, m) :: rest => if Col.both = d then (d, m + 1) :: rest else (Col.both, 1) :: (d, m) :: rest
      | [] => [(Col.both, 1)]) = _
    rw [ih]; rfl

theorem scoreST_diag (sub : Nat → Nat → Int) (gpo gpe tgpe : Int) (s : List Nat) :
    scoreST sub gpo gpe tgpe (diagCols s.length) s s = dSum sub s := by
  rw [scoreST_eq_runs sub gpo gpe tgpe _ s s (validCols_diag _) (adjOK_diag _ _)]
  unfold scoreSTruns
  rw [subSum_diag]
  cases s with
  | nil => simp [diagCols, rle, runsCost]
  | cons x s => rw [List.length_cons, rle_diag]; simp [runsCost, Col.isGap]

theorem nterm_diag (n : Nat) : nterm (diagCols n) = 0 := by
  cases n with
  | zero => rfl
  | succ n =>
    unfold nterm diagCols
    rw [List.getLast?_replicate]
    simp [List.replicate_succ, Col.isGap]

theorem diag_margin (sub : Nat → Nat → Int) (gpo gpe tgpe c M : Int)
    (hc1 : c ≤ 2 * gpo) (hc2 : c ≤ gpe) (hc3 : c ≤ tgpe) (hM : 0 ≤ M)
    (s : List Nat) (h1 : ∀ x ∈ s, M < sub x x + 2 * c)
    (h2 : ∀ x ∈ s, ∀ y ∈ s, 2 * sub x y ≤ sub x x + sub y y)
    (Q : List Col) (hV : ValidCols Q s.length s.length) (hadj : adjOK .A Q = true) (hne : Q ≠ diagCols s.length) :
    scoreST sub gpo gpe tgpe Q s s + M < scoreST sub gpo gpe tgpe (diagCols s.length) s s := by
  have hup := scoreST_le_upper sub gpo gpe tgpe c hc1 hc2 hc3 Q s s hV hadj
  rw [scoreST_diag]
  have key := two_subSum_le_margin sub c (M + 1) Q s s hV.1 hV.2.1 hV.2.2 (fun x hx => by have := h1 x hx; omega)
    (fun x hx => by have := h1 x hx; omega) h2
  have hg := gapCols_ge_two Q s.length hV hne
  unfold upperScore at hup
  have hg' : (2 : Int) ≤ (gapCols Q : Int) := by omega
  have hmul : (M + 1) * 2 ≤ (M + 1) * (gapCols Q : Int) := Int.mul_le_mul_of_nonneg_left hg' (by omega)
  omega

end Kalign

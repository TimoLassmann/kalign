import KalignModel.Model.PipelineSoft
import KalignModel.Lemmas.NoFaultRec
/-!
# `recursive_aln` on the sorted task table of a guide tree: no fault under the monitor hypothesis, never out of fuel (any score carrier)

`recAlnC_tree_inv`: if the monitor passes on every pair of operands the recursion forms, every merge succeeds and
`recAlnC` on the sorted task table of a tree returns a node holding every leaf of the tree; that hypothesis (`MonHypC`, or one
of the weaker ones below) is the only fact about score values used.  `recAlnC_tree_no_fuel`: with no hypothesis on score values
the recursion never returns `.fuel` when given as much fuel as the tree has internal nodes.
`childOfC` (the closure `child` of `recAlnC`) is taken apart by `childOfC_leaf`, `childOfC_node`, `childOfC_ok_cases` and the induction
`childOfC_ok_ind` over successful calls.
`ReachC` over-approximates the operands of `recursive_aln` (a node may be merged with itself, so `nsip` and `len` are unbounded);
`ReachL` tracks the leaves of a reachable node, and `MonHypL ap codes Ls` asks the monitor only for pairs whose leaves together
form a sublist of `Ls` (`recAlnC_treeL`).
-/
namespace Kalign.Pipeline
open Kalign Kalign.Kmeans Kalign.Sched

variable {α : Type} [Score α]

structure NodeInvC (N : NodeC α) : Prop where
  len : 1 ≤ N.len
  nsip : 1 ≤ N.nsip
  leaf : N.nsip = 1 → N.seq.size = N.len ∧ N.seq.all (· < 23) = true
  prof : N.nsip ≠ 1 → ∃ p, N.prof = some p ∧ p.size = 64 * (N.len + 2)

/-- the profile `do_align` prepares for node `N` when the other operand has `other` sequences -/
def nodeProfC (ap : AlnParam α) (N : NodeC α) (other : Nat) : Array α :=
  if N.nsip = 1 then makeProfile ap N.seq else setGapPenalties (N.prof.getD #[]) other

def mergeRunC (entry : Entry) (ap : AlnParam α) (A B : NodeC α) : Mem (Array (States α)) α :=
  orientRun entry ap A.nsip B.nsip A.len B.len A.seq B.seq (nodeProfC ap A B.nsip) (nodeProfC ap B A.nsip)

inductive ReachC (ap : AlnParam α) (codes : Array (List Nat)) : NodeC α → Prop
  | leaf (i : Nat) : i < codes.size → ReachC ap codes (leafNodeC codes i)
  | merge (A B N : NodeC α) : ReachC ap codes A → ReachC ap codes B → mergeNodesC .parallel ap A B false = .ok N →
      ReachC ap codes N

/-- **the hypothesis about score values**: every Hirschberg run on two nodes of `ReachC` passes the run-time monitor (the meetup
contract of Props/C07 holds at every meetup).  `ReachC` holds the operands the progressive alignment can form and more: the two
operands of a merge need not be disjoint -/
def MonHypC (ap : AlnParam α) (codes : Array (List Nat)) : Prop :=
  ∀ A B : NodeC α, ReachC ap codes A → ReachC ap codes B → (mergeRunC .serial ap A B).mon = true

def MonHypInvC (ap : AlnParam α) (codes : Array (List Nat)) : Prop :=
  ∀ A B : NodeC α, ReachC ap codes A → ReachC ap codes B → NodeInvC A → NodeInvC B →
    (mergeRunC .serial ap A B).mon = true

theorem MonHypC.toInv {ap : AlnParam α} {codes : Array (List Nat)} (h : MonHypC ap codes) : MonHypInvC ap codes :=
  fun A B rA rB _ _ => h A B rA rB

def mergeStateC (A B : NodeC α) : AlnState α :=
  { seqs := #[A.seq, B.seq], profile := #[A.prof, B.prof, none], plen := #[A.len, B.len, 0],
    nsip := #[A.nsip, B.nsip, 0] }

theorem mergeNodesC_ok_iff {entry : Entry} {ap : AlnParam α} {A B N : NodeC α} {isLast : Bool} :
    mergeNodesC entry ap A B isLast = .ok N ↔
      ∃ st' out, doAlign entry ap (mergeStateC A B) 0 1 2 isLast = some (st', out) ∧ out.mon = true ∧
        ValidCols (out.codes.map Col.ofCode) A.len B.len ∧
        N = { len := out.codes.length, nsip := A.nsip + B.nsip, seq := #[], prof := st'.profile.getD 2 none,
              group := mergeGroups out.codes A.group B.group } := by
  unfold mergeNodesC mergeStateC
  dsimp only
  generalize doAlign entry ap _ 0 1 2 isLast = r
  cases r with
  | none => simp
  | some r =>
    obtain ⟨st', out⟩ := r
    cases hm : out.mon with
    | false => simp [hm]
    | true =>
      cases hv : validColsB (out.codes.map Col.ofCode) A.len B.len with
      | false =>
        have : ¬ ValidCols (out.codes.map Col.ofCode) A.len B.len := fun h => by
          rw [validColsB_iff.2 h] at hv; cases hv
        simp [hm, hv, this]
      | true =>
        simp only [hm, hv, Bool.not_true, Bool.false_eq_true, if_false, Except.ok.injEq, Option.some.injEq, Prod.mk.injEq]
        exact ⟨fun h => ⟨st', out, ⟨rfl, rfl⟩, hm, validColsB_iff.1 hv, h.symm⟩,
          fun ⟨_, _, ⟨rfl, rfl⟩, _, _, h⟩ => h.symm⟩

theorem mergeNodesC_error {entry : Entry} {ap : AlnParam α} {A B : NodeC α} {isLast : Bool} {e : PipeErr}
    (h : mergeNodesC entry ap A B isLast = .error e) : e = .fault ∨ e = .monitor := by
  unfold mergeNodesC at h
  simp only at h
  split at h
  · cases h; exact Or.inl rfl
  · split at h
    · cases h; exact Or.inr rfl
    · split at h
      · cases h; exact Or.inr rfl
      · cases h

theorem prepOperand_node (ap : AlnParam α) (st : AlnState α) (x o other : Nat) (N : NodeC α) (hN : NodeInvC N)
    (h1 : st.nsip.getD x 0 = N.nsip) (h2 : st.seqs[x]? = some N.seq) (h3 : st.profile.getD x none = N.prof)
    (h4 : st.plen.getD x 0 = N.len) (h5 : st.nsip.getD o 0 = other) :
    prepOperand ap st x o = some (N.len, nodeProfC ap N other) ∧ (nodeProfC ap N other).size = 64 * (N.len + 2) := by
  unfold prepOperand nodeProfC
  rw [h1, h2, h3, h4, h5]
  by_cases h : N.nsip = 1
  · obtain ⟨e, hall⟩ := hN.leaf h
    rw [← e]
    simp [h, hall, size_makeProfile]
  · obtain ⟨p, hp, hs⟩ := hN.prof h
    simp [h, hp, hs, size_setGapPenalties]

def HasMembersC (N : NodeC α) (l : List Nat) : Prop := ∀ i ∈ l, ∃ m ∈ N.group, m.idx = i

theorem mergeNodesC_some (ap : AlnParam α) (A B : NodeC α) (isLast : Bool) (hA : NodeInvC A) (hB : NodeInvC B)
    (hmon : (mergeRunC .serial ap A B).mon = true) :
    ∃ N, mergeNodesC .parallel ap A B isLast = .ok N ∧ (isLast = false → NodeInvC N) ∧
      (∀ l₁ l₂, HasMembersC A l₁ → HasMembersC B l₂ → HasMembersC N (l₁ ++ l₂)) := by
  obtain ⟨pA, sA⟩ := prepOperand_node ap (mergeStateC A B) 0 1 B.nsip A hA rfl rfl rfl rfl rfl
  obtain ⟨pB, sB⟩ := prepOperand_node ap (mergeStateC A B) 1 0 A.nsip B hB rfl rfl rfl rfl rfl
  obtain ⟨st', out, hd, hm, hV, hp1, hp2⟩ := doAlign_some ap (mergeStateC A B) 0 1 2 isLast A.len B.len _ _
    (by decide) (by simp [mergeStateC]) (by simp [mergeStateC]) (by simp [mergeStateC]) (by simp [mergeStateC])
    pA pB sA sB hA.len hB.len (by simpa [mergeRunC, mergeStateC] using hmon)
  refine ⟨_, mergeNodesC_ok_iff.2 ⟨st', out, hd, hm, hV, rfl⟩, ?_, ?_⟩
  · intro hl
    obtain ⟨p, hp, hs⟩ := hp1 hl
    have hlen : 1 ≤ out.codes.length := by
      have := consA_le_length (out.codes.map Col.ofCode)
      rw [hV.2.1, List.length_map] at this
      have := hA.len
      omega
    refine ⟨hlen, by simp only; have := hA.nsip; omega, ?_, ?_⟩
    · intro h; simp only at h; have := hA.nsip; have := hB.nsip; omega
    · intro _; exact ⟨p, hp, hs⟩
  · intro l₁ l₂ h1 h2 i hi
    rcases List.mem_append.1 hi with h | h
    · obtain ⟨m, hm1, hm2⟩ := h1 i h
      exact ⟨_, (mem_mergeGroups _ _ _ _).2 (Or.inl ⟨m, hm1, rfl⟩), hm2⟩
    · obtain ⟨m, hm1, hm2⟩ := h2 i h
      exact ⟨_, (mem_mergeGroups _ _ _ _).2 (Or.inr ⟨m, hm1, rfl⟩), hm2⟩

omit [Score α] in
theorem leafNodeC_inv (codes : Array (List Nat)) (i : Nat) (h1 : (codes.getD i []) ≠ [])
    (h2 : ∀ c ∈ codes.getD i [], c < 23) : NodeInvC (leafNodeC codes i : NodeC α) := by
  refine ⟨?_, by simp [leafNodeC], ?_, ?_⟩
  · simp only [leafNodeC]; exact List.length_pos_iff.2 h1
  · intro _
    refine ⟨by simp [leafNodeC], ?_⟩
    show (codes.getD i []).toArray.all _ = true
    rw [List.all_toArray, List.all_eq_true]
    intro c hc
    simpa using h2 c hc
  · intro h; simp [leafNodeC] at h

theorem prepOperand_eq (ap : AlnParam α) (st : AlnState α) (x o other : Nat) (N : NodeC α) (l : Nat) (p : Array α)
    (h1 : st.nsip.getD x 0 = N.nsip) (h2 : st.seqs[x]? = some N.seq) (h3 : st.profile.getD x none = N.prof)
    (h5 : st.nsip.getD o 0 = other) (h : prepOperand ap st x o = some (l, p)) : p = nodeProfC ap N other := by
  unfold prepOperand at h
  rw [h1, h2, h3, h5] at h
  unfold nodeProfC
  by_cases hN : N.nsip = 1
  · simp [hN] at h
    rw [if_pos hN]
    exact h.2.2.symm
  · simp [hN] at h
    rw [if_neg hN]
    split at h
    · rename_i q hq
      simp at h
      rw [hq]
      exact h.2.2.symm
    · cases h

theorem mergeNodesC_prof (ap : AlnParam α) (A B N : NodeC α) (h : mergeNodesC .parallel ap A B false = .ok N) :
    N.nsip = A.nsip + B.nsip ∧ ∃ codes p, (∀ x ∈ codes, CodeOK x) ∧
      updateN ap (nodeProfC ap A B.nsip) (nodeProfC ap B A.nsip) codes A.nsip B.nsip = some p ∧ N.prof = some p := by
  obtain ⟨st', out, hd, _, _, rfl⟩ := mergeNodesC_ok_iff.1 h
  refine ⟨rfl, ?_⟩
  obtain ⟨lenA, pa, lenB, pb, codes, p, hA, hB, hck, hup, hp⟩ :=
    doAlign_prof .parallel ap (mergeStateC A B) st' out 0 1 2 (by simp [mergeStateC]) hd
  rw [prepOperand_eq ap _ 0 1 B.nsip A lenA pa rfl rfl rfl rfl hA, prepOperand_eq ap _ 1 0 A.nsip B lenB pb rfl rfl rfl rfl hB] at hup
  exact ⟨codes, p, hck, by simpa [mergeStateC] using hup, hp⟩

theorem reachC_nsip_pos' (ap : AlnParam α) (codes : Array (List Nat)) (N : NodeC α) (h : ReachC ap codes N) :
    1 ≤ N.nsip := by
  induction h with
  | leaf i hi => simp [leafNodeC]
  | merge A B N _ _ hm ihA _ => rw [(mergeNodesC_prof ap A B N hm).1]; omega

theorem reachC_leaf_of_nsip_one {ap : AlnParam α} {codes : Array (List Nat)} {N : NodeC α} (h : ReachC ap codes N)
    (h1 : N.nsip = 1) : ∃ i, i < codes.size ∧ N = leafNodeC codes i := by
  cases h with
  | leaf i hi => exact ⟨i, hi, rfl⟩
  | merge A B N rA rB hm =>
    have := (mergeNodesC_prof ap A B N hm).1
    have := reachC_nsip_pos' ap codes A rA
    have := reachC_nsip_pos' ap codes B rB
    omega

/-- the recursion of `recursive_aln` on the node numbered `x` (the closure `child` of `recAlnC`) -/
def childOfC (ap : AlnParam α) (tasks : Array (Nat × Nat × Nat)) (codes : Array (List Nat)) (n fuel x : Nat) :
    Except PipeErr (NodeC α) :=
  if x ≥ n then recAlnC ap tasks codes n fuel (x - n)
  else if x < codes.size then .ok (leafNodeC codes x) else .error .fault

theorem childOfC_add (ap : AlnParam α) (tasks : Array (Nat × Nat × Nat)) (codes : Array (List Nat)) (n fuel k : Nat) :
    childOfC ap tasks codes n fuel (k + n) = recAlnC ap tasks codes n fuel k := by
  unfold childOfC
  rw [if_pos (Nat.le_add_left n k), Nat.add_sub_cancel]

theorem recAlnC_succ (ap : AlnParam α) (tasks : Array (Nat × Nat × Nat)) (codes : Array (List Nat)) (n fuel k : Nat)
    (a b c : Nat) (h : tasks[k]? = some (a, b, c)) :
    recAlnC ap tasks codes n (fuel + 1) k =
      match childOfC ap tasks codes n fuel a with
      | .error e => .error e
      | .ok A =>
        match childOfC ap tasks codes n fuel b with
        | .error e => .error e
        | .ok B => mergeNodesC .parallel ap A B (k + 1 == tasks.size) := by
  rw [recAlnC]
  simp only [h]
  rfl

theorem childOfC_leaf (ap : AlnParam α) (tasks : Array (Nat × Nat × Nat)) (codes : Array (List Nat)) {n x : Nat} (fuel : Nat)
    (hx : x < n) :
    childOfC ap tasks codes n fuel x = if x < codes.size then .ok (leafNodeC codes x) else .error .fault := by
  unfold childOfC
  rw [if_neg (by omega)]

theorem childOfC_node (ap : AlnParam α) (tasks : Array (Nat × Nat × Nat)) (codes : Array (List Nat)) {n x a b c : Nat} (fuel : Nat)
    (hx : n ≤ x) (ht : tasks[x - n]? = some (a, b, c)) :
    childOfC ap tasks codes n (fuel + 1) x =
      match childOfC ap tasks codes n fuel a with
      | .error e => .error e
      | .ok A =>
        match childOfC ap tasks codes n fuel b with
        | .error e => .error e
        | .ok B => mergeNodesC .parallel ap A B (x - n + 1 == tasks.size) := by
  unfold childOfC
  rw [if_pos hx]
  exact recAlnC_succ ap tasks codes n fuel (x - n) a b c ht

/-- what a successful call is: a leaf, or one merge of two successful calls with one unit of budget less -/
theorem childOfC_ok_cases {ap : AlnParam α} {tasks : Array (Nat × Nat × Nat)} {codes : Array (List Nat)} {n fuel x : Nat}
    {N : NodeC α} (h : childOfC ap tasks codes n fuel x = .ok N) :
    (x < n ∧ x < codes.size ∧ N = leafNodeC codes x) ∨
    ∃ f a b c A B, fuel = f + 1 ∧ n ≤ x ∧ tasks[x - n]? = some (a, b, c) ∧ childOfC ap tasks codes n f a = .ok A ∧
      childOfC ap tasks codes n f b = .ok B ∧ mergeNodesC .parallel ap A B (x - n + 1 == tasks.size) = .ok N := by
  unfold childOfC at h
  split at h
  · rename_i hx
    cases fuel with
    | zero => rw [recAlnC] at h; cases h
    | succ f =>
      cases ht : tasks[x - n]? with
      | none => rw [recAlnC] at h; simp only [ht] at h; cases h
      | some t =>
        obtain ⟨a, b, c⟩ := t
        rw [recAlnC_succ ap tasks codes n f (x - n) a b c ht] at h
        split at h
        · cases h
        · rename_i A hA
          split at h
          · cases h
          · rename_i B hB
            exact Or.inr ⟨f, a, b, c, A, B, rfl, hx, rfl, hA, hB, h⟩
  · rename_i hx
    split at h
    · rename_i hs
      cases h
      exact Or.inl ⟨by omega, hs, rfl⟩
    · cases h

theorem childOfC_ok_ind {ap : AlnParam α} {tasks : Array (Nat × Nat × Nat)} {codes : Array (List Nat)} {n : Nat}
    (P : NodeC α → Prop) (leaf : ∀ i, i < codes.size → P (leafNodeC codes i))
    (merge : ∀ A B N isLast, P A → P B → mergeNodesC .parallel ap A B isLast = .ok N → P N) :
    ∀ fuel x N, childOfC ap tasks codes n fuel x = .ok N → P N := by
  intro fuel
  induction fuel with
  | zero =>
    intro x N h
    rcases childOfC_ok_cases h with ⟨_, hs, rfl⟩ | ⟨f, _, _, _, _, _, hf, _⟩
    · exact leaf x hs
    · cases hf
  | succ f ih =>
    intro x N h
    rcases childOfC_ok_cases h with ⟨_, hs, rfl⟩ | ⟨f', a, b, c, A, B, hf, _, _, hA, hB, hm⟩
    · exact leaf x hs
    · cases hf
      exact merge A B N _ (ih a A hA) (ih b B hB) hm

theorem childOfC_error (ap : AlnParam α) (tasks : Array (Nat × Nat × Nat)) (codes : Array (List Nat)) (n : Nat) :
    ∀ (fuel x : Nat) (e : PipeErr), childOfC ap tasks codes n fuel x = .error e → e = .fault ∨ e = .monitor ∨ e = .fuel := by
  have leafCase : ∀ (x : Nat) (e : PipeErr),
      (if x < codes.size then Except.ok (leafNodeC (α := α) codes x) else .error .fault) = .error e → e = .fault ∨ e = .monitor ∨ e = .fuel := by
    intro x e h
    split at h
    · cases h
    · cases h; exact Or.inl rfl
  intro fuel
  induction fuel with
  | zero =>
    intro x e h
    unfold childOfC at h
    split at h
    · cases h; exact Or.inr (Or.inr rfl)
    · exact leafCase x e h
  | succ f ih =>
    intro x e h
    unfold childOfC at h
    split at h
    · cases ht : tasks[x - n]? with
      | none =>
        rw [recAlnC] at h
        simp only [ht] at h
        cases h; exact Or.inl rfl
      | some t =>
        obtain ⟨a, b, c⟩ := t
        rw [recAlnC_succ ap tasks codes n f (x - n) a b c ht] at h
        cases hA : childOfC ap tasks codes n f a with
        | error e' => rw [hA] at h; cases h; exact ih a _ hA
        | ok A =>
          cases hB : childOfC ap tasks codes n f b with
          | error e' => rw [hA, hB] at h; cases h; exact ih b _ hB
          | ok B =>
            rw [hA, hB] at h
            exact (mergeNodesC_error h).imp id Or.inl
    · exact leafCase x e h

/-- The condition `v.id + 1 < codes.size + nint T` says that `v` is not the root (the root carries the largest number,
`codes.size + nint T - 1`): the root is completed with `isLast = true`, without a profile, so `NodeInvC` is not claimed for it -/
theorem recAlnC_tree_inv (ap : AlnParam α) (T : Tree) (codes : Array (List Nat))
    (hleaves : ∀ i ∈ T.leaves, i < codes.size)
    (hne : ∀ i, i < codes.size → codes.getD i [] ≠ [] ∧ ∀ c ∈ codes.getD i [], c < 23)
    (P : NodeC α → List Nat → Prop) (hleaf : ∀ i, i < codes.size → P (leafNodeC codes i) [i])
    (hmerge : ∀ A B N la lb, P A la → P B lb → mergeNodesC .parallel ap A B false = .ok N → P N (la ++ lb))
    (hmon : ∀ A B la lb, P A la → P B lb → NodeInvC A → NodeInvC B → List.Sublist (la ++ lb) T.leaves →
      (mergeRunC .serial ap A B).mon = true) :
    ∀ v : Sched.LTree, Sched.LTree.Sub v (label T codes.size) → ∀ fuel, Kmeans.LTree.nint v ≤ fuel →
      ∃ N, childOfC ap (Kmeans.sortTasks (treeTasks T codes.size)).toArray codes codes.size fuel v.id = .ok N ∧
        HasMembersC N v.leaves ∧ (v.id + 1 < codes.size + Kmeans.Tree.nint T → NodeInvC N ∧ P N v.leaves) := by
  intro v
  induction v with
  | leaf i =>
    intro hsub fuel _
    have hi : i < codes.size := sub_leaf_lt hleaves hsub
    refine ⟨leafNodeC codes i, ?_, ?_, fun _ => ⟨leafNodeC_inv codes i (hne i hi).1 (hne i hi).2, hleaf i hi⟩⟩
    · show childOfC _ _ _ _ _ i = _
      rw [childOfC_leaf _ _ _ _ (by omega), if_pos hi]
    · intro j hj
      simp only [Sched.LTree.leaves, List.mem_singleton] at hj
      subst hj
      simp [leafNodeC]
  | node c l r ihl ihr =>
    intro hsub fuel hfuel
    obtain ⟨hc1, hget, hlast⟩ := sortedTasks_toArray_get T codes.size hsub
    simp only [Kmeans.LTree.nint] at hfuel
    obtain ⟨f, rfl⟩ : ∃ f, fuel = f + 1 := ⟨fuel - 1, by omega⟩
    obtain ⟨A, hA, mA, iA⟩ := ihl (Sched.LTree.Sub.trans (.left (.refl l)) hsub) f (by omega)
    obtain ⟨B, hB, mB, iB⟩ := ihr (Sched.LTree.Sub.trans (.right (.refl r)) hsub) f (by omega)
    obtain ⟨invA, pA⟩ := iA (sub_child_id_lt hleaves hsub (Or.inl rfl))
    obtain ⟨invB, pB⟩ := iB (sub_child_id_lt hleaves hsub (Or.inr rfl))
    have hsl : List.Sublist (l.leaves ++ r.leaves) T.leaves := by
      have := hsub.leaves_sublist
      rwa [label_leaves] at this
    obtain ⟨N, hN, hNinv, hNmem⟩ := mergeNodesC_some ap A B
      (c - codes.size + 1 == (Kmeans.sortTasks (treeTasks T codes.size)).toArray.size) invA invB
      (hmon A B _ _ pA pB invA invB hsl)
    refine ⟨N, ?_, hNmem _ _ mA mB, fun hlt => ?_⟩
    · show childOfC _ _ _ _ _ c = _
      rw [childOfC_node _ _ _ f hc1 hget, hA, hB]
      exact hN
    · have hl := hlast hlt
      rw [hl] at hN
      exact ⟨hNinv hl, hmerge A B N _ _ pA pB hN⟩

theorem recAlnC_tree' (ap : AlnParam α) (T : Tree) (codes : Array (List Nat))
    (hleaves : ∀ i ∈ T.leaves, i < codes.size)
    (hne : ∀ i, i < codes.size → codes.getD i [] ≠ [] ∧ ∀ c ∈ codes.getD i [], c < 23)
    (hmon : ∀ A B : NodeC α, ReachC ap codes A → ReachC ap codes B → NodeInvC A → NodeInvC B →
      (mergeRunC .serial ap A B).mon = true) :
    ∀ v : Sched.LTree, Sched.LTree.Sub v (label T codes.size) → ∀ fuel, Kmeans.LTree.nint v ≤ fuel →
      ∃ N, childOfC ap (Kmeans.sortTasks (treeTasks T codes.size)).toArray codes codes.size fuel v.id = .ok N ∧
        HasMembersC N v.leaves ∧ (v.id + 1 < codes.size + Kmeans.Tree.nint T → NodeInvC N ∧ ReachC ap codes N) :=
  recAlnC_tree_inv ap T codes hleaves hne (fun N _ => ReachC ap codes N) (fun i hi => .leaf i hi)
    (fun A B N _ _ rA rB hN => .merge A B N rA rB hN) (fun A B _ _ rA rB iA iB _ => hmon A B rA rB iA iB)

theorem recAlnC_tree (ap : AlnParam α) (T : Tree) (codes : Array (List Nat))
    (hleaves : ∀ i ∈ T.leaves, i < codes.size)
    (hne : ∀ i, i < codes.size → codes.getD i [] ≠ [] ∧ ∀ c ∈ codes.getD i [], c < 23)
    (hmon : MonHypC ap codes) :
    ∀ v : Sched.LTree, Sched.LTree.Sub v (label T codes.size) → ∀ fuel, Kmeans.LTree.nint v ≤ fuel →
      ∃ N, childOfC ap (Kmeans.sortTasks (treeTasks T codes.size)).toArray codes codes.size fuel v.id = .ok N ∧
        HasMembersC N v.leaves ∧ (v.id + 1 < codes.size + Kmeans.Tree.nint T → NodeInvC N ∧ ReachC ap codes N) :=
  recAlnC_tree' ap T codes hleaves hne hmon.toInv

theorem mergeNodesC_ne_fuel (ap : AlnParam α) (A B : NodeC α) (isLast : Bool) :
    mergeNodesC .parallel ap A B isLast ≠ .error .fuel := by
  intro h
  cases mergeNodesC_error h <;> contradiction

theorem recAlnC_tree_no_fuel (ap : AlnParam α) (T : Tree) (codes : Array (List Nat))
    (hleaves : ∀ i ∈ T.leaves, i < codes.size) :
    ∀ v : Sched.LTree, Sched.LTree.Sub v (label T codes.size) → ∀ fuel, Kmeans.LTree.nint v ≤ fuel →
      childOfC ap (Kmeans.sortTasks (treeTasks T codes.size)).toArray codes codes.size fuel v.id ≠ .error .fuel := by
  intro v
  induction v with
  | leaf i =>
    intro hsub fuel _
    have hi : i < codes.size := sub_leaf_lt hleaves hsub
    show childOfC _ _ _ _ _ i ≠ _
    rw [childOfC_leaf _ _ _ _ (by omega), if_pos hi]
    simp
  | node c l r ihl ihr =>
    intro hsub fuel hfuel
    obtain ⟨hc1, hget, _⟩ := sortedTasks_toArray_get T codes.size hsub
    simp only [Kmeans.LTree.nint] at hfuel
    obtain ⟨f, rfl⟩ : ∃ f, fuel = f + 1 := ⟨fuel - 1, by omega⟩
    have hA := ihl (Sched.LTree.Sub.trans (.left (.refl l)) hsub) f (by omega)
    have hB := ihr (Sched.LTree.Sub.trans (.right (.refl r)) hsub) f (by omega)
    show childOfC _ _ _ _ _ c ≠ _
    rw [childOfC_node _ _ _ f hc1 hget]
    cases hAe : childOfC ap (Kmeans.sortTasks (treeTasks T codes.size)).toArray codes codes.size f l.id with
    | error e => exact fun h => hA (hAe.trans h)
    | ok A =>
      cases hBe : childOfC ap (Kmeans.sortTasks (treeTasks T codes.size)).toArray codes codes.size f r.id with
      | error e => exact fun h => hB (hBe.trans h)
      | ok B => exact mergeNodesC_ne_fuel ap A B _

inductive ReachL (ap : AlnParam α) (codes : Array (List Nat)) : NodeC α → List Nat → Prop
  | leaf (i : Nat) : i < codes.size → ReachL ap codes (leafNodeC codes i) [i]
  | merge (A B N : NodeC α) (la lb : List Nat) : ReachL ap codes A la → ReachL ap codes B lb →
      mergeNodesC .parallel ap A B false = .ok N → ReachL ap codes N (la ++ lb)

theorem ReachL.reach {ap : AlnParam α} {codes : Array (List Nat)} {N : NodeC α} {l : List Nat}
    (h : ReachL ap codes N l) : ReachC ap codes N := by
  induction h with
  | leaf i hi => exact .leaf i hi
  | merge A B N la lb _ _ hN ihA ihB => exact .merge A B N ihA ihB hN

theorem mergeNodesC_ok (entry : Entry) (ap : AlnParam α) (A B N : NodeC α) (isLast : Bool)
    (h : mergeNodesC entry ap A B isLast = .ok N) :
    N.nsip = A.nsip + B.nsip ∧
      ∃ cs : List Nat, N.len = cs.length ∧ validColsB (cs.map Col.ofCode) A.len B.len = true := by
  obtain ⟨_, out, _, _, hv, rfl⟩ := mergeNodesC_ok_iff.1 h
  exact ⟨rfl, out.codes, rfl, validColsB_iff.2 hv⟩

theorem validColsB_length_le {cs : List Col} {la lb : Nat} (h : validColsB cs la lb = true) : cs.length ≤ la + lb := by
  obtain ⟨hs, ha, hb⟩ := validColsB_iff.1 h
  have := length_le_cons cs hs
  omega

theorem ReachL.nsip {ap : AlnParam α} {codes : Array (List Nat)} {N : NodeC α} {l : List Nat}
    (h : ReachL ap codes N l) : N.nsip = l.length := by
  induction h with
  | leaf i hi => simp [leafNodeC]
  | merge A B N la lb _ _ hN ihA ihB =>
    rw [(mergeNodesC_ok _ ap A B N false hN).1, ihA, ihB, List.length_append]

theorem ReachL.len_le {ap : AlnParam α} {codes : Array (List Nat)} {N : NodeC α} {l : List Nat}
    (h : ReachL ap codes N l) : N.len ≤ (l.map fun i => (codes.getD i []).length).sum := by
  induction h with
  | leaf i hi => simp [leafNodeC]
  | merge A B N la lb _ _ hN ihA ihB =>
    obtain ⟨_, cs, h1, h2⟩ := mergeNodesC_ok _ ap A B N false hN
    have := validColsB_length_le h2
    rw [List.length_map] at this
    rw [List.map_append, List.sum_append]
    omega

def MonHypL (ap : AlnParam α) (codes : Array (List Nat)) (Ls : List Nat) : Prop :=
  ∀ (A B : NodeC α) (la lb : List Nat), ReachL ap codes A la → ReachL ap codes B lb → NodeInvC A → NodeInvC B →
    List.Sublist (la ++ lb) Ls → (mergeRunC .serial ap A B).mon = true

theorem MonHypInvC.toL {ap : AlnParam α} {codes : Array (List Nat)} (h : MonHypInvC ap codes) (Ls : List Nat) :
    MonHypL ap codes Ls :=
  fun A B _ _ rA rB iA iB _ => h A B rA.reach rB.reach iA iB

theorem MonHypL.mono {ap : AlnParam α} {codes : Array (List Nat)} {Ls Ls' : List Nat} (h : MonHypL ap codes Ls')
    (hs : List.Sublist Ls Ls') : MonHypL ap codes Ls :=
  fun A B la lb rA rB iA iB hsub => h A B la lb rA rB iA iB (hsub.trans hs)

theorem recAlnC_treeL (ap : AlnParam α) (T : Tree) (codes : Array (List Nat))
    (hleaves : ∀ i ∈ T.leaves, i < codes.size)
    (hne : ∀ i, i < codes.size → codes.getD i [] ≠ [] ∧ ∀ c ∈ codes.getD i [], c < 23)
    (hmon : MonHypL ap codes T.leaves) :
    ∀ v : Sched.LTree, Sched.LTree.Sub v (label T codes.size) → ∀ fuel, Kmeans.LTree.nint v ≤ fuel →
      ∃ N, childOfC ap (Kmeans.sortTasks (treeTasks T codes.size)).toArray codes codes.size fuel v.id = .ok N ∧
        HasMembersC N v.leaves ∧ (v.id + 1 < codes.size + Kmeans.Tree.nint T →
          NodeInvC N ∧ ReachC ap codes N ∧ ReachL ap codes N v.leaves) := by
  intro v hsub fuel hfuel
  obtain ⟨N, hN, hmem, h⟩ := recAlnC_tree_inv ap T codes hleaves hne (ReachL ap codes) (fun i hi => .leaf i hi)
    (fun A B N la lb rA rB hN => .merge A B N la lb rA rB hN) hmon v hsub fuel hfuel
  exact ⟨N, hN, hmem, fun hlt => ⟨(h hlt).1, (h hlt).2.reach, (h hlt).2⟩⟩

end Kalign.Pipeline

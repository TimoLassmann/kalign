import KalignModel.Lemmas.CmpMsa
import KalignModel.Lemmas.Sort
import KalignModel.Lemmas.Strncmp
/-! # `kalign_check_msa` / `kalign_sort_msa` on uniquely named alignments, and the assembly of
`kalign_msa_compare` -/
namespace Kalign
open List

/-- the hypothesis "uniquely named": the names are pairwise distinct and are C strings (the
comparators use `strcmp` on the full names since commit 0022995 of the C sources) -/
structure NamesOK (A : List NRow) : Prop where
  distinct : (A.map fun x => x.name).Nodup
  nulfree : ∀ x ∈ A, NulFree x.name

theorem NamesOK.perm {A A' : List NRow} (h : NamesOK A) (hp : A.Perm A') : NamesOK A' where
  distinct := ((hp.map _).nodup_iff).mp h.distinct
  nulfree := fun x hx => h.nulfree x (hp.mem_iff.mpr hx)

theorem mergeSort_byName_perm {α : Type} (name : α → Name) {l l' : List α} (hp : l.Perm l')
    (hnd : (l.map fun x => name x).Nodup) (hnul : ∀ x ∈ l, NulFree (name x)) :
    l.mergeSort (fun a b => decide (strcmp (name a) (name b) < 0))
      = l'.mergeSort (fun a b => decide (strcmp (name a) (name b) < 0)) := by
  apply mergeSort_eq_of_perm (fun x => NulFree (name x)) _ _ hp hnul
  · rw [Nodup, pairwise_map] at hnd
    refine Pairwise.imp_of_mem ?_ hnd
    intro a b ha hb hne
    simp only [Bool.or_eq_true, decide_eq_true_eq]
    exact strcmp_total _ _ (hnul a ha) (hnul b hb) hne
  · intro a b c _ hb hc h1 h2
    simp only [decide_eq_true_eq] at h1 h2 ⊢
    exact strcmp_lt_trans _ _ _ hb hc h1 h2
  · intro a b _ _ h1 h2
    simp only [decide_eq_true_eq] at h1 h2
    have := strcmp_swap (name a) (name b)
    omega

theorem leBoth_eq_leByName (a b : NRow) (ha : NulFree a.name) (hb : NulFree b.name)
    (h : a = b ∨ a.name ≠ b.name) : leBoth a b = leByName a b := by
  unfold leBoth leByName cmpBoth
  rcases h with rfl | hne
  · simp [strcmp_self]
  · have h0 : strcmp a.name b.name ≠ 0 := fun e => hne ((strcmp_eq_zero_iff _ _ ha hb).mp e)
    by_cases hlt : strcmp a.name b.name < 0
    · simp [hlt]
    · simp [hlt, h0]

theorem sortMsa_eq_byName {A : List NRow} (h : NamesOK A) : sortMsa A = A.mergeSort leByName := by
  have := map_mergeSort (r := leBoth) (s := leByName) (f := id) (l := A) (by
    intro a ha b hb
    apply leBoth_eq_leByName a b (h.nulfree a ha) (h.nulfree b hb)
    by_cases e : a.name = b.name
    · exact Or.inl (eq_of_nodup_map h.distinct ha hb e)
    · exact Or.inr e)
  simpa [sortMsa] using this

theorem sortMsa_perm {A A' : List NRow} (hp : A.Perm A') (h : NamesOK A) : sortMsa A = sortMsa A' := by
  rw [sortMsa_eq_byName h, sortMsa_eq_byName (h.perm hp)]
  exact mergeSort_byName_perm (·.name) hp h.distinct h.nulfree

theorem sortMsa_perm_self (A : List NRow) : (sortMsa A).Perm A := mergeSort_perm _ _

theorem adjDup_false {L : List NRow}
    (h : L.Pairwise fun a b => strcmp a.name b.name ≠ 0) : adjDup L = false := by
  induction L with
  | nil => rfl
  | cons a L ih =>
    cases L with
    | nil => rfl
    | cons b L =>
      have hab := rel_of_pairwise_cons h (mem_cons_self (a := b) (l := L))
      simp only [adjDup, hab, decide_false, Bool.false_or]
      exact ih h.tail

theorem checkMsaStrict_of_namesOK {A : List NRow} (h : NamesOK A) : checkMsaStrict A = true := by
  unfold checkMsaStrict
  have hp : (A.mergeSort leByName).Perm A := mergeSort_perm _ _
  have h' := h.perm hp.symm
  rw [adjDup_false]; rfl
  have hd := h'.distinct
  rw [Nodup, pairwise_map] at hd
  refine Pairwise.imp_of_mem ?_ hd
  intro a b ha hb hne e
  exact hne ((strcmp_eq_zero_iff _ _ (h'.nulfree a ha) (h'.nulfree b hb)).mp e)

theorem checkMsaStrict_perm {A A' : List NRow} (hp : A.Perm A') (h : NamesOK A) :
    checkMsaStrict A' = checkMsaStrict A := by
  rw [checkMsaStrict_of_namesOK h, checkMsaStrict_of_namesOK (h.perm hp)]

theorem nres_eq_length_residuesOf (r : Row) : nres r = (residuesOf r).length := by
  unfold nres residuesOf; exact countP_eq_length_filter

theorem namedSeqs_sortMsa {A : List NRow} (h : NamesOK A) :
    namedSeqs (sortMsa A) = (namedSeqs A).mergeSort
      (fun p q => decide (strcmp p.1 q.1 < 0)) := by
  rw [sortMsa_eq_byName h]
  unfold namedSeqs
  exact map_mergeSort (fun a _ b _ => rfl)

theorem map_fst_namedSeqs (A : List NRow) : (namedSeqs A).map (fun p => p.1) = A.map fun x => x.name := by
  simp [namedSeqs, map_map, Function.comp_def]

theorem namesOK_of_namedSeqs_perm {R T : List NRow} (h : NamesOK R)
    (hsame : (namedSeqs R).Perm (namedSeqs T)) : NamesOK T where
  distinct := by
    rw [← map_fst_namedSeqs]
    refine ((hsame.map _).nodup_iff).mp ?_
    rw [map_fst_namedSeqs]; exact h.distinct
  nulfree := by
    intro x hx
    have : (x.name, residuesOf x.row) ∈ namedSeqs R :=
      hsame.mem_iff.mpr (mem_map_of_mem (f := fun x : NRow => (x.name, residuesOf x.row)) hx)
    obtain ⟨y, hy, e⟩ := mem_map.mp this
    have : y.name = x.name := congrArg Prod.fst e
    rw [← this]; exact h.nulfree y hy

theorem namedSeqs_sorted_eq {R T : List NRow} (h : NamesOK R)
    (hsame : (namedSeqs R).Perm (namedSeqs T)) :
    namedSeqs (sortMsa R) = namedSeqs (sortMsa T) := by
  rw [namedSeqs_sortMsa h, namedSeqs_sortMsa (namesOK_of_namedSeqs_perm h hsame)]
  apply mergeSort_byName_perm (fun p : Name × List Char => p.1) hsame
  · rw [map_fst_namedSeqs]; exact h.distinct
  · intro p hp
    obtain ⟨y, hy, rfl⟩ := mem_map.mp hp
    exact h.nulfree y hy

theorem zip_of_map_eq {α β : Type} (g : α → β) :
    ∀ (l₁ l₂ : List α), l₁.map g = l₂.map g →
      (l₁.zip l₂).map (·.1) = l₁ ∧ (l₁.zip l₂).map (·.2) = l₂ ∧ ∀ z ∈ l₁.zip l₂, g z.1 = g z.2
  | [], [], _ => by simp
  | [], _ :: _, h => by simp at h
  | _ :: _, [], h => by simp at h
  | a :: l₁, b :: l₂, h => by
    simp only [map_cons, cons.injEq] at h
    obtain ⟨h1, h2, h3⟩ := zip_of_map_eq g l₁ l₂ h.2
    refine ⟨by simp [h1], by simp [h2], ?_⟩
    intro z hz
    simp only [zip_cons_cons, mem_cons] at hz
    rcases hz with rfl | hz
    · exact h.1
    · exact h3 z hz

theorem msaCompare_spec (R T : List NRow) (wR wT : Nat) (hok : NamesOK R)
    (hsame : (namedSeqs R).Perm (namedSeqs T))
    (hrR : ∀ x ∈ R, x.row.length = wR) (hrT : ∀ x ∈ T, x.row.length = wT) :
    ∃ c, msaCompare R T = .ok c ∧ scoreQ c = scoreSpec R T := by
  have hokT := namesOK_of_namedSeqs_perm hok hsame
  have hsorted := namedSeqs_sorted_eq hok hsame
  obtain ⟨z1, z2, z3⟩ := zip_of_map_eq (fun x : NRow => (x.name, residuesOf x.row)) (sortMsa R) (sortMsa T) hsorted
  have hZ : ZOK ((sortMsa R).zip (sortMsa T)) wR wT := by
    constructor
    · intro z hz; exact congrArg Prod.fst (z3 z hz)
    · intro z hz
      have e : residuesOf z.1.row = residuesOf z.2.row := congrArg Prod.snd (z3 z hz)
      rw [nres_eq_length_residuesOf, nres_eq_length_residuesOf, e]
    · intro z hz
      have : z.1 ∈ sortMsa R := by rw [← z1]; exact mem_map_of_mem (f := (·.1)) hz
      exact hrR _ ((sortMsa_perm_self R).mem_iff.mp this)
    · intro z hz
      have : z.2 ∈ sortMsa T := by rw [← z2]; exact mem_map_of_mem (f := (·.2)) hz
      exact hrT _ ((sortMsa_perm_self T).mem_iff.mp this)
    · have e := congrArg (map NRow.name) z1
      simp only [map_map, Function.comp_def] at e
      rw [e]
      exact (hok.perm (sortMsa_perm_self R).symm).distinct
  refine ⟨pairStatsSum ((sortMsa R).zip (sortMsa T)), ?_, ?_⟩
  · unfold msaCompare
    rw [checkMsaStrict_of_namesOK hok, checkMsaStrict_of_namesOK hokT]
    have hc := msaCompareCounts_spec _ wR wT hZ
    have e1 := congrArg (map NRow.row) z1
    have e2 := congrArg (map NRow.row) z2
    simp only [map_map, Function.comp_def] at e1 e2
    rw [e1, e2] at hc
    simp [hc]
  · rw [scoreQ_pairStatsSum _ hZ.name hZ.nodup, z1, z2]
    exact scoreSpec_perm (sortMsa_perm_self R) (sortMsa_perm_self T)

end Kalign

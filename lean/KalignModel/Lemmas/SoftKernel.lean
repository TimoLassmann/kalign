import KalignModel.Lemmas.ViewBnd
/-!
# The sequence–sequence kernels on the software binary32: every cell is sentinel-like or bounded

`ApBnd.view`: with parameters bounded by 2²⁰ (`ApBnd`) the sequence–sequence view is bounded with unit 2²⁰ and cost 1 (`View.Bnd`), so its
cell formulas correspond to `absOps c p` for every `c` and `genTab_clsU` applies.  `genTab_cls` is `genTab_clsU` for that unit and cost, with the bound `B₀ + 2·(p+k)`.
-/
namespace Kalign
open SoftF32

theorem genTab_cls (gS : Nat → SoftF32 → SoftF32 → SoftF32) (gE : Nat → ExactScore → ExactScore → ExactScore)
    (hg : GaRel gS gE) (n : Nat) (sS : States SoftF32) (sE : States ExactScore)
    (oS : Nat → RowOps SoftF32) (oE : Nat → RowOps ExactScore) (ho : ∀ p, OpsRel (oS p) (oE p))
    (B0 L : Nat) (hL : B0 + 2 * L + 2 < 16777216) (hs : StCls B0 sS sE) :
    ∀ p k, p + k ≤ L → StCls (B0 + 2 * (p + k)) (genTab gS n sS oS p k) (genTab gE n sE oE p k) := by
  intro p k hk
  exact (genTab_clsU 20 1 gS gE (gaRelU_of_gaRel hg) n sS sE oS oE (fun p => opsRelU_of_opsRel (ho p)) B0 L (by omega) hs p k
    hk).mono (by omega)

/-- the parameters are finite and bounded by 2²⁰ (`aln_param_init` caps the penalties at 1e6 < 2²⁰) -/
structure ApBnd (ap : AlnParam SoftF32) : Prop where
  gpo : absLe ap.gpo 1048576
  gpe : absLe ap.gpe 1048576
  tgpe : absLe ap.tgpe 1048576
  sub : ∀ i j, absLe (ap.sub i j) 1048576

theorem ApBnd.view {ap : AlnParam SoftF32} (hap : ApBnd ap) (seq1 seq2 : Array Nat) : (ssView ap seq1 seq2).Bnd 20 1 :=
  have hu : 20 ≤ 79 := by decide
  have o := penU_sub hu (absLe_unit hap.gpo (by decide))
  have e := penU_sub hu (absLe_unit hap.gpe (by decide))
  have t := penU_sub hu (absLe_unit hap.tgpe (by decide))
  ⟨hu, Nat.le_refl _, fun _ => o, fun _ => e, fun _ => t, fun _ => o, fun _ => e, fun _ => t,
    fun _ _ B x p hB hx => penU_add hu (absLe_unit (hap.sub _ _) (by decide)) (B + 1) x p (by omega) hx⟩

/-- the hypotheses of `genTab_clsU` are satisfiable: the sequence–sequence kernel with bounded parameters -/
example (ap : AlnParam SoftF32) (hap : ApBnd ap) (seq1 seq2 : Array Nat) (r : Rect) (c : KCfg) (term : Bool) (n : Nat) :
    ∀ p k, p + k ≤ 1000 → StClsU 20 (0 + 1 * (p + k))
      (genTab (ssGaInit ap term) n States.negInf (ssOpsF ap seq1 seq2 r) p k)
      (genTab (absGaInit c) n States.negInf (absOps c) p k) :=
  genTab_clsU 20 1 _ _ ((hap.view seq1 seq2).gaRel (fun _ => 0) term c) n _ _ _ _
    (fun p => (hap.view seq1 seq2).rowF r _ c p) 0 1000 (by decide) (stClsU_negInf 20 0)

end Kalign

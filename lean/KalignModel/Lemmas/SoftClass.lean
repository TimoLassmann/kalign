import KalignModel.Lemmas.SoftFloat
/-!
# Value classes of the DP scores on the software binary32

Every score the kernels and the meetup handle is either *sentinel-like* (`Sent`: `-FLT_MAX` or `-∞`, the latter arises as
`-FLT_MAX + -FLT_MAX`) or *finite and bounded*.  This file has the two kinds of value and how they meet in `add` and `gt`:
a sentinel-like value absorbs a bounded one (below `2¹⁰³`) and loses against it.  `Cls B x p` says which kind `x` is, with the
bound counted in units of 2²⁰.

`ClsU u B x p` says that `x` is bounded by `B` units of `2^u` (`p = true`) or sentinel-like (`p = false`), `u ≤ 79`.  With `B < 2²⁴` the bound `B·2^u` stays below
`2¹⁰³`, which is what the sentinel absorption (`negMax_add`) and the exactness of the bounded sums (`add_absLe`) need.  The operations respect the classes
(`clsU_add`, `clsU_sub_pen`, `clsU_smax`), which is all the Hirschberg monitor needs to know about the values.  `Cls` is the instance `u = 20`.
-/
set_option exponentiation.threshold 512
namespace Kalign.SoftF32

def negInfty : SoftF32 := ofRaw 0xff800000

def Sent (x : SoftF32) : Prop := x = negMax ∨ x = negInfty

def Cls (B : Nat) (x : SoftF32) (p : Bool) : Prop := if p then absLe x (B * 1048576) else Sent x

@[simp] theorem cls_true (B : Nat) (x : SoftF32) : Cls B x true ↔ absLe x (B * 1048576) := by simp [Cls]
@[simp] theorem cls_false (B : Nat) (x : SoftF32) : Cls B x false ↔ Sent x := by simp [Cls]

theorem absLe_zero (N : Nat) : absLe (Score.zero : SoftF32) N := by
  refine ⟨by decide, ?_⟩
  have : magVal (Score.zero : SoftF32).mag = 0 := by decide
  omega

theorem absLe_unit {u N : Nat} {x : SoftF32} (h : absLe x N) (hN : N ≤ 2 ^ u) : absLe x (1 * 2 ^ u) := by
  rw [Nat.one_mul]
  exact h.mono hN

/-- fewer than 2²⁴ units of `2^u`, `u ≤ 79`, stay below `2¹⁰³`: small enough for the sentinel to absorb them (`negMax_add`) -/
theorem unitU_lt {u B : Nat} (hu : u ≤ 79) (hB : B < 16777216) : B * 2 ^ u < 2 ^ 103 := by
  have h1 : B * 2 ^ u < 16777216 * 2 ^ u := Nat.mul_lt_mul_of_pos_right hB (Nat.pow_pos (by decide))
  have h2 : 16777216 * 2 ^ u ≤ 16777216 * 2 ^ 79 := Nat.mul_le_mul_left _ (Nat.pow_le_pow_right (by decide) hu)
  have h3 : (16777216 : Nat) * 2 ^ 79 = 2 ^ 103 := by
    rw [show (16777216 : Nat) = 2 ^ 24 by decide, ← Nat.pow_add]
  omega

theorem unitU_lt127 {u B : Nat} (hu : u ≤ 79) (hB : B < 16777216) : B * 2 ^ u < 2 ^ 127 :=
  Nat.lt_trans (unitU_lt hu hB) (Nat.pow_lt_pow_right (by decide) (by decide))

theorem negInfty_add {y : SoftF32} (hy : y.isFinite = true) : add negInfty y = negInfty := by
  have h2 : y.isNaN = false := isNaN_of_finite hy
  have h3 : y.isInf = false := by
    rw [isFinite_iff] at hy
    rw [← Bool.not_eq_true, isInf_iff]; omega
  have h4 : negInfty.isNaN = false := by decide
  have h5 : negInfty.isInf = true := by decide
  simp [add, h2, h3, h4, h5]

theorem sent_not_nan {x : SoftF32} (hx : Sent x) : x.isNaN = false := by
  rcases hx with rfl | rfl <;> decide

theorem add_comm' {a b : SoftF32} (ha : a.isNaN = false) (hb : b.isNaN = false) : add a b = add b a := by
  unfold add
  rw [ha, hb]
  simp only [Bool.false_eq_true, if_false]
  by_cases hai : a.isInf = true
  · by_cases hbi : b.isInf = true
    · rw [hai, hbi]
      simp only [if_true, Bool.true_and]
      by_cases hs : a.sign = b.sign
      · have : a = b := eq_of_sign_mag hs (by rw [(isInf_iff a).1 hai, (isInf_iff b).1 hbi])
        subst this; rfl
      · have h1 : (a.sign != b.sign) = true := by simpa using hs
        have h2 : (b.sign != a.sign) = true := by simpa using fun h => hs h.symm
        rw [h1, h2]; rfl
    · simp [hai, hbi]
  · by_cases hbi : b.isInf = true
    · simp [hai, hbi]
    · have h1 : a.isInf = false := by simpa using hai
      have h2 : b.isInf = false := by simpa using hbi
      simp only [h1, h2, Bool.false_eq_true, if_false]
      rw [addFinite_eq, addFinite_eq, Int.add_comm, Bool.and_comm]

theorem sent_add_fin {x y : SoftF32} {N : Nat} (hx : Sent x) (hy : absLe y N) (hN : N < 2 ^ 103) : Sent (add x y) := by
  rcases hx with rfl | rfl
  · left
    apply negMax_add hy.finite
    have := hy.2
    have : N * 2 ^ 149 < 2 ^ 103 * 2 ^ 149 := Nat.mul_lt_mul_of_pos_right hN (by decide)
    omega
  · right; exact negInfty_add hy.finite

theorem fin_add_sent {x y : SoftF32} {N : Nat} (hx : absLe x N) (hy : Sent y) (hN : N < 2 ^ 103) : Sent (add x y) := by
  rw [add_comm' (isNaN_of_finite hx.finite) (sent_not_nan hy)]
  exact sent_add_fin hy hx hN

theorem sent_add_sent {x y : SoftF32} (hx : Sent x) (hy : Sent y) : Sent (add x y) := by
  rcases hx with rfl | rfl <;> rcases hy with rfl | rfl
  · right; decide
  · right; decide
  · right; decide
  · right; decide

theorem key_negMax : negMax.key = -2139095039 := by decide

theorem key_of_sent {x : SoftF32} (hx : Sent x) : x.key ≤ -2139095039 := by
  rcases hx with rfl | rfl
  · exact Int.le_of_eq key_negMax
  · have : negInfty.key = -2139095040 := by decide
    omega

/-- below `2¹²⁷` in magnitude is below `FLT_MAX` -/
theorem mag_lt_of_absLe {x : SoftF32} {N : Nat} (hx : absLe x N) (hN : N < 2 ^ 127) : x.mag < 2139095039 := by
  rw [← magVal_lt_iff, magVal_fltMax]
  have := hx.2
  have : N * 2 ^ 149 < 2 ^ 127 * 2 ^ 149 := Nat.mul_lt_mul_of_pos_right hN (by decide)
  omega

theorem key_of_fin {x : SoftF32} {N : Nat} (hx : absLe x N) (hN : N < 2 ^ 127) : -2139095039 < x.key := by
  have := mag_lt_of_absLe hx hN
  have := natAbs_key x
  omega

theorem gt_fin_sent {x y : SoftF32} {N : Nat} (hx : absLe x N) (hN : N < 2 ^ 127) (hy : Sent y) : gt x y = true := by
  show lt y x = true
  rw [lt_iff_key (sent_not_nan hy) (isNaN_of_finite hx.finite)]
  have h1 := key_of_sent hy
  have h2 := key_of_fin hx hN
  omega

theorem gt_sent_fin {x y : SoftF32} {N : Nat} (hx : Sent x) (hy : absLe y N) (hN : N < 2 ^ 127) : gt x y = false := by
  show lt y x = false
  rw [← Bool.not_eq_true, lt_iff_key (isNaN_of_finite hy.finite) (sent_not_nan hx)]
  have h1 := key_of_sent hx
  have h2 := key_of_fin hy hN
  omega

theorem gt_sent_negMax {x : SoftF32} (hx : Sent x) : gt x negMax = false := by
  rcases hx with rfl | rfl <;> decide

end Kalign.SoftF32

namespace Kalign.SoftF32

def ClsU (u B : Nat) (x : SoftF32) (p : Bool) : Prop := if p then absLe x (B * 2 ^ u) else Sent x

@[simp] theorem clsU_true (u B : Nat) (x : SoftF32) : ClsU u B x true ↔ absLe x (B * 2 ^ u) := by simp [ClsU]
@[simp] theorem clsU_false (u B : Nat) (x : SoftF32) : ClsU u B x false ↔ Sent x := by simp [ClsU]

theorem ClsU.mono {u B B' : Nat} {x : SoftF32} {p : Bool} (h : ClsU u B x p) (hB : B ≤ B') : ClsU u B' x p := by
  cases p
  · simpa using h
  · simp only [clsU_true] at h ⊢
    exact h.mono (Nat.mul_le_mul_right _ hB)

theorem clsU_negInf (u B : Nat) : ClsU u B (Score.negInf : SoftF32) false := by
  simp only [clsU_false]; exact Or.inl rfl

theorem clsU_zero (u B : Nat) : ClsU u B (Score.zero : SoftF32) true :=
  (clsU_true u B _).2 (absLe_zero _)

theorem clsU_20 (B : Nat) (x : SoftF32) (p : Bool) : ClsU 20 B x p ↔ Cls B x p := Iff.rfl

theorem fin_add_finU {u : Nat} (hu : u ≤ 79) {x y : SoftF32} {B B' : Nat} (hx : absLe x (B * 2 ^ u))
    (hy : absLe y (B' * 2 ^ u)) (hB : B + B' < 16777216) : absLe (add x y) ((B + B') * 2 ^ u) := by
  have := add_absLe (c := B + B') (t := u) hx hy (by rw [Nat.add_mul]) hB (by omega)
  rwa [← Nat.add_mul] at this

theorem clsU_add {u : Nat} (hu : u ≤ 79) {x y : SoftF32} {B B' : Nat} {p q : Bool} (hx : ClsU u B x p) (hy : ClsU u B' y q)
    (hB : B + B' < 16777216) : ClsU u (B + B') (Score.add x y) (p && q) := by
  show ClsU u (B + B') (add x y) (p && q)
  cases p <;> cases q
  · simp only [clsU_false, Bool.and_self] at *; exact sent_add_sent hx hy
  · simp only [clsU_false, clsU_true, Bool.and_true] at *
    exact sent_add_fin hx hy (unitU_lt hu (by omega))
  · simp only [clsU_false, clsU_true, Bool.and_false] at *
    exact fin_add_sent hx hy (unitU_lt hu (by omega))
  · simp only [clsU_true, Bool.and_self] at *
    exact fin_add_finU hu hx hy hB

theorem clsU_sub_pen {u : Nat} (hu : u ≤ 79) {x y : SoftF32} {B B' : Nat} {p : Bool} (hx : ClsU u B x p)
    (hy : absLe y (B' * 2 ^ u)) (hB : B + B' < 16777216) : ClsU u (B + B') (Score.sub x y) p := by
  show ClsU u (B + B') (sub x y) p
  rw [sub_of_not_nan (isNaN_of_finite hy.finite)]
  have := clsU_add hu hx (show ClsU u B' (neg y) true by simpa using neg_absLe hy) hB
  rw [Bool.and_true] at this
  exact this

theorem clsU_smax {u : Nat} (hu : u ≤ 79) {x y : SoftF32} {B : Nat} {p q : Bool} (hx : ClsU u B x p) (hy : ClsU u B y q)
    (hB : B < 16777216) : ClsU u B (smax x y) (p || q) := by
  unfold smax
  show ClsU u B (if gt x y = true then x else y) (p || q)
  cases p <;> cases q
  · simp only [Bool.or_self]
    split
    · exact hx
    · exact hy
  · simp only [clsU_false, clsU_true, Bool.false_or] at *
    rw [gt_sent_fin hx hy (unitU_lt127 hu hB)]
    simpa using hy
  · simp only [clsU_false, clsU_true, Bool.or_false] at *
    rw [gt_fin_sent hx (unitU_lt127 hu hB) hy]
    simpa using hx
  · simp only [Bool.or_self]
    split
    · exact hx
    · exact hy

theorem clsU_smax3 {u : Nat} (hu : u ≤ 79) {x y z : SoftF32} {B : Nat} {p q r : Bool} (hx : ClsU u B x p) (hy : ClsU u B y q)
    (hz : ClsU u B z r) (hB : B < 16777216) : ClsU u B (smax3 x y z) (p || q || r) :=
  clsU_smax hu (clsU_smax hu hx hy hB) hz hB

end Kalign.SoftF32

import KalignModel.Lemmas.UpgmaRound
/-!
# The Float32 `upgma` (Model/Tree.lean) does not fault — up to one fact about `<` on binary32

`upgma` faults (`none`) when the scan for the minimum finds no active pair with an entry below `FLT_MAX` (the C code would
then reuse stale `node_a/node_b`), or when a joined slot holds no tree.  The combinatorics hold for arbitrary matrices
(`upgma_leaves_perm`, from Lemmas/UpgmaRound.lean).  The hypothesis `hbelow` of `upgma_some` — in every matrix the rounds reach, the
entries of active pairs are `< FLT_MAX` — is a statement about binary32 arithmetic (`(x+y)*0.5F+0.001F` of distances stays finite)
that core Lean cannot decide, because `Float32` operations are opaque to the kernel.
-/
namespace Kalign

theorem scanMin_eq (n : Nat) (dm : FMat) (act : Array Bool) :
    scanMin n dm act =
      pairScan (· < ·) dm.get act (fun v i j => { mx := v, a := i, b := j, found := true }) Scan.mx n
        { mx := FLT_MAX, a := 0, b := 0, found := false } :=
  rfl

theorem Scan.hmk : Reports (fun v i j => ({ mx := v, a := i, b := j, found := true } : Scan)) Scan.mx Scan.a Scan.b Scan.found :=
  fun _ _ _ => ⟨rfl, rfl, rfl, rfl⟩

theorem scan_inv (n : Nat) (dm : FMat) (act : Array Bool) :
    ((scanMin n dm act).found = false → (scanMin n dm act).mx = FLT_MAX) ∧
    ((scanMin n dm act).found = true →
      (scanMin n dm act).a < (scanMin n dm act).b ∧ (scanMin n dm act).b < n ∧
        act.getD (scanMin n dm act).a false = true ∧ act.getD (scanMin n dm act).b false = true) := by
  rw [scanMin_eq]
  exact ⟨pairScan_fresh Scan.a Scan.b Scan.found Scan.hmk n _,
    fun h => (pairScan_pair Scan.a Scan.b Scan.found Scan.hmk n _ rfl rfl h).2⟩

theorem scan_found (n : Nat) (dm : FMat) (act : Array Bool) (i j : Nat) (hij : i < j) (hj : j < n)
    (hai : act.getD i false = true) (haj : act.getD j false = true) (hlt : dm.get i j < FLT_MAX) :
    (scanMin n dm act).found = true := by
  rw [scanMin_eq]
  exact pairScan_found Scan.a Scan.b Scan.found Scan.hmk n _ i j hij hj hai haj hlt

def AllBelow (n : Nat) (s : UpgmaSt) : Prop :=
  ∀ i j, i < j → j < n → s.act.getD i false = true → s.act.getD j false = true → s.dm.get i j < FLT_MAX

/-- the slot invariant as `upgma_rounds_pc` states it; proofs use `SlotInv` (Lemmas/UpgmaRound.lean), which implies it -/
structure UInv (n : Nat) (samples : List Nat) (k : Nat) (s : UpgmaSt) : Prop where
  tsize : s.tree.size = n
  asize : s.act.size = n
  sync : ∀ i, i < n → s.act.getD i false = (s.tree.getD i none).isSome
  count : ((List.range n).filter fun i => s.act.getD i false).length + k = n
  leaves : ∀ x, x ∈ samples ↔ ∃ i, i < n ∧ ∃ t, s.tree.getD i none = some t ∧ x ∈ t.leaves
  last : s.last < n ∧ s.act.getD s.last false = true

theorem UInv.of_slots {n : Nat} {samples : List Nat} {k : Nat} {s : UpgmaSt} (h : SlotInv n samples k s.act s.tree s.last) :
    UInv n samples k s :=
  ⟨h.tsize, h.asize, h.sync, h.count, h.mem, h.last⟩

def upgmaRounds (n : Nat) : JoinRounds n UpgmaSt where
  act := UpgmaSt.act
  tree := UpgmaSt.tree
  last := UpgmaSt.last
  round := upgmaRound n
  below s i j := s.dm.get i j < FLT_MAX
  found s := (scanMin n s.dm s.act).found
  a s := (scanMin n s.dm s.act).a
  b s := (scanMin n s.dm s.act).b
  pair s := (scan_inv n s.dm s.act).2
  finds s := scan_found n s.dm s.act
  joins s s' hr := by
    unfold upgmaRound at hr
    cases hf : (scanMin n s.dm s.act).found with
    | false => simp [hf] at hr
    | true =>
      simp only [hf, Bool.not_true, Bool.false_eq_true, if_false] at hr
      split at hr
      · rename_i ta tb hta htb
        cases hr
        exact ⟨rfl, ta, tb, hta, htb, rfl, rfl, rfl⟩
      · cases hr
  returns s ta tb hf hta htb := by
    unfold upgmaRound
    simp only [hf, Bool.not_true, Bool.false_eq_true, if_false, hta, htb]
    exact ⟨_, rfl⟩

def upgmaInit (dm : List (List Float32)) (samples : List Nat) : UpgmaSt :=
  { dm := (dm.map List.toArray).toArray, act := Array.replicate samples.length true,
    tree := (samples.map fun i => some (GTree.leaf i)).toArray, last := 0 }

theorem upgma_eq (dm : List (List Float32)) (samples : List Nat) (hn : samples.length ≠ 0) :
    upgma dm samples = (iterOpt (upgmaRound samples.length) (samples.length - 1) (upgmaInit dm samples)).bind
      fun st => st.tree.getD st.last none := by
  unfold upgma upgmaInit
  simp only [hn, if_false]

theorem upgma_length_ne {dm : List (List Float32)} {samples : List Nat} {t : GTree} (h : upgma dm samples = some t) :
    samples.length ≠ 0 := by
  intro h0
  simp [upgma, h0] at h

theorem upgma_rounds_pc (dm : List (List Float32)) (samples : List Nat) (hn : samples.length ≠ 0) (k : Nat) (s : UpgmaSt)
    (h : iterOpt (upgmaRound samples.length) k (upgmaInit dm samples) = some s) : UInv samples.length samples k s :=
  .of_slots ((upgmaRounds samples.length).rounds_slots (SlotInv.init samples hn) k s h)

theorem upgma_leaves_perm {dm : List (List Float32)} {samples : List Nat} {t : GTree} (h : upgma dm samples = some t) :
    t.leaves.Perm samples := by
  have hn := upgma_length_ne h
  rw [upgma_eq dm samples hn] at h
  obtain ⟨s, hs, ht⟩ := Option.bind_eq_some_iff.1 h
  exact (upgmaRounds samples.length).leaves_perm (SlotInv.init samples hn) hn hs ht

theorem upgma_leaves (dm : List (List Float32)) (samples : List Nat) (t : GTree) (h : upgma dm samples = some t) :
    ∀ x, x ∈ t.leaves ↔ x ∈ samples :=
  fun _ => (upgma_leaves_perm h).mem_iff

theorem upgma_some (dm : List (List Float32)) (samples : List Nat) (hn : samples.length ≠ 0)
    (hbelow : ∀ j s, j + 1 < samples.length → iterOpt (upgmaRound samples.length) j (upgmaInit dm samples) = some s →
      AllBelow samples.length s) :
    ∃ t, upgma dm samples = some t ∧ ∀ x, x ∈ t.leaves ↔ x ∈ samples := by
  obtain ⟨s, t, hs, ht⟩ := (upgmaRounds samples.length).rounds_some (SlotInv.init samples hn) hn hbelow
  have hu : upgma dm samples = some t := by
    rw [upgma_eq dm samples hn]
    exact Option.bind_eq_some_iff.2 ⟨s, hs, ht⟩
  exact ⟨t, hu, upgma_leaves dm samples t hu⟩

end Kalign

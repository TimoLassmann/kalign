import KalignModel.Model.PipelineFileSoft
import KalignModel.Lemmas.PipelineFile
/-!
# Lemmas for the whole-program model on the software binary32 (`kalignFileSoft2`, Model/PipelineFileSoft.lean)

The stages of `kalignRunSoft2` never answer `.badByte` (it comes from the byte check in front of them only);
both run stages return rows that satisfy `RunSpec` (Lemmas/PipelineFile.lean).
-/
namespace Kalign.Pipeline
open Kalign Kalign.Kmeans Kalign.Sched List

section
variable {α : Type} [Score α]

theorem recAlnC_ne_badByte (ap : AlnParam α) (tasks : Array (Nat × Nat × Nat)) (codes : Array (List Nat)) (n : Nat)
    (fuel k : Nat) : recAlnC ap tasks codes n fuel k ≠ .error .badByte := by
  intro h
  have := childOfC_error ap tasks codes n fuel (k + n) .badByte ((childOfC_add ap tasks codes n fuel k).trans h)
  simp at this

theorem buildTasks2_ne_badByte (avx : Bool) (codes : Array (List Nat)) : buildTasks2 avx codes ≠ .error .badByte := by
  unfold buildTasks2
  simp only
  split
  · simp
  · split
    · simp
    · split <;> simp

theorem coreCB_soft2_ne_badByte (avx : Bool) (pm : Option (AlnParam α)) (c1 c2 : List (List Nat)) :
    coreCB (buildTasks2 avx) pm c1 c2 ≠ .error .badByte := by
  unfold coreCB
  simp only
  split
  · simp
  · split
    · rename_i e he
      intro h
      cases h
      exact buildTasks2_ne_badByte _ _ he
    · split
      · simp
      · split
        · rename_i e he
          intro h
          cases h
          exact recAlnC_ne_badByte _ _ _ _ _ _ he
        · split <;> simp

theorem stagesCB_soft2_ne_badByte (avx : Bool) (bio : Bio) (pm : Bio → Option (AlnParam α)) (V : List (Name × List Char)) :
    stagesCB (buildTasks2 avx) bio pm V ≠ .error .badByte := by
  unfold stagesCB
  split
  · simp
  · simp only
    split
    · rename_i e he
      intro h
      cases h
      exact coreCB_soft2_ne_badByte _ _ _ _ he
    · simp

theorem kalignRunWithCB_soft2_ne_badByte (det : List Nat → Bio) (avx : Bool) (pm : Bio → Option (AlnParam α))
    (inp : List InSeq) (hb : hasBadByte inp = false) :
    kalignRunWithCB det (buildTasks2 avx) pm inp ≠ .error .badByte := by
  unfold kalignRunWithCB
  simp only [hb, Bool.false_eq_true, if_false]
  split
  · simp
  · split
    · rename_i e he
      intro h
      cases h
      exact stagesCB_soft2_ne_badByte _ _ _ _ he
    · simp

end

end Kalign.Pipeline

namespace Kalign.PipelineFile
open Kalign Kalign.IO Kalign.Pipeline List

theorem runMsaSoft2_spec {m : Msa} {type : Int} {gpo gpe tgpe : SoftF32} {rows : List (Name × GRow)}
    (h : runMsaSoft2 m type gpo gpe tgpe = .ok rows) : RunSpec m rows := by
  unfold runMsaSoft2 at h
  simp only at h
  split at h
  · cases h
  · exact runSpec_of_CB h

theorem runMsa_runSpec {m : Msa} {type : Int} {gpo gpe tgpe : Float32} {rows : List (Name × GRow)}
    (h : runMsa m type gpo gpe tgpe = .ok rows) : RunSpec m rows := runMsa_spec h

end Kalign.PipelineFile

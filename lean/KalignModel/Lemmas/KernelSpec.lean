import KalignModel.Lemmas.KernelTab
import KalignModel.Lemmas.ExactAlg
import KalignModel.Model.Hirschberg
import KalignModel.Model.Weave
import KalignModel.Model.ScoreST
/-!
# What the sequence–sequence kernels compute (exact carrier)

`ssForward` and `ssBackward` (`aln_seqseq_foward`, `aln_seqseq_backward` in `aln_seqseq.c`) are the same abstract kernel
`absTab` run on a configuration `KCfg` (`cfgF` / `cfgB`, `Lemmas/KernelSS.lean`): the backward kernel is the forward
kernel on the reversed problem with the two terminal flags exchanged.

The abstract kernel is specified against *readings* of partial column lists: `readAbs c start k0 cs` walks the column
list `cs` from the corner of the rectangle in start kind `k0` and charges exactly what the kernel charges (`stepF`):

* an aligned column after a gap column costs `gpo` (also when that gap run is a leading terminal run);
* a gap-in-a column (`Col.gapA`, consumes a residue of b) costs `tgpe` only in the first row and when the flag `tF` is set
  (`startb == 0` forward, `endb == len_b` backward);
* a gap-in-b column (`Col.gapB`) costs `tgpe` in cell column 0 when `tF` is set and in cell column `n` when `tL` is set;
* a gap-in-a column may not follow a gap-in-b column and vice versa, and no gap-in-a column may enter the last cell
  column `n` (the kernel writes −∞ there: that case is covered by the other kernel through transition 5 resp. 2).

`abs_sound`: every reading is ≤ the cell it ends in.  `abs_attained`: every cell is −∞ or the reading of some
partial column list.
-/
namespace Kalign

def States.get {α : Type} (s : States α) : Kind → α
  | .A => s.a
  | .GA => s.ga
  | .GB => s.gb

@[simp] theorem States.get_A {α : Type} (s : States α) : s.get .A = s.a := rfl
@[simp] theorem States.get_GA {α : Type} (s : States α) : s.get .GA = s.ga := rfl
@[simp] theorem States.get_GB {α : Type} (s : States α) : s.get .GB = s.gb := rfl

@[simp] theorem Kind.beq_A_GA : (Kind.A == Kind.GA) = false := rfl
@[simp] theorem Kind.beq_A_GB : (Kind.A == Kind.GB) = false := rfl
@[simp] theorem Kind.beq_GA_A : (Kind.GA == Kind.A) = false := rfl
@[simp] theorem Kind.beq_GA_GB : (Kind.GA == Kind.GB) = false := rfl
@[simp] theorem Kind.beq_GB_A : (Kind.GB == Kind.A) = false := rfl
@[simp] theorem Kind.beq_GB_GA : (Kind.GB == Kind.GA) = false := rfl
@[simp] theorem Kind.beq_self (k : Kind) : (k == k) = true := by cases k <;> rfl

structure KCfg where
  /-- cells `0..n` -/
  n : Nat
  /-- terminal flag of the first cell column and of the first row -/
  tF : Bool
  /-- terminal flag of the last cell column -/
  tL : Bool
  gpo : Int
  gpe : Int
  tgpe : Int
  /-- `sc p k`: substitution score of the aligned column leading from node `(p,k)` to `(p+1,k+1)` -/
  sc : Nat → Nat → Int

/-- `MAX(g - gpe, a - gpo)` or `MAX(g, a) - tgpe` -/
def gGap (term : Bool) (gpo gpe tgpe : Int) (g a : Option Int) : Option Int :=
  if term then osub (omax g a) tgpe else omax (osub g gpe) (osub a gpo)

/-- `MAX3(pa, pga - gpo, pgb - gpo) + s` -/
def gAl (gpo s : Int) (a ga gb : Option Int) : Option Int :=
  oaddi (omax (omax a (osub ga gpo)) (osub gb gpo)) s

def absOps (c : KCfg) (p : Nat) : RowOps ExactScore :=
  { gbFirst := gGap c.tF c.gpo c.gpe c.tgpe
    aCell := fun k pa pga pgb => gAl c.gpo (c.sc p (k - 1)) pa pga pgb
    gaCell := fun _ xga xa => gGap false c.gpo c.gpe c.tgpe xga xa
    gbMid := gGap false c.gpo c.gpe c.tgpe
    gbLast := gGap c.tL c.gpo c.gpe c.tgpe }

def absGaInit (c : KCfg) : Nat → ExactScore → ExactScore → ExactScore :=
  fun _ pga pa => gGap c.tF c.gpo c.gpe c.tgpe pga pa

def absTab (c : KCfg) (start : States ExactScore) : Nat → Nat → States ExactScore :=
  genTab (absGaInit c) c.n start (absOps c)

theorem absTab_zero_zero (c : KCfg) (start : States ExactScore) : absTab c start 0 0 = start := rfl

theorem absTab_zero_succ (c : KCfg) (start : States ExactScore) (k : Nat) :
    absTab c start 0 (k + 1) =
      if k + 1 < c.n then
        ⟨none, gGap c.tF c.gpo c.gpe c.tgpe (absTab c start 0 k).ga (absTab c start 0 k).a, none⟩
      else ⟨none, none, none⟩ := rfl

theorem absTab_succ_zero (c : KCfg) (start : States ExactScore) (p : Nat) :
    absTab c start (p + 1) 0 =
      ⟨none, none, gGap c.tF c.gpo c.gpe c.tgpe (absTab c start p 0).gb (absTab c start p 0).a⟩ := rfl

theorem absTab_succ_succ (c : KCfg) (start : States ExactScore) (p k : Nat) :
    absTab c start (p + 1) (k + 1) =
      ⟨gAl c.gpo (c.sc p k) (absTab c start p k).a (absTab c start p k).ga (absTab c start p k).gb,
       if k + 1 < c.n then
         gGap false c.gpo c.gpe c.tgpe (absTab c start (p + 1) k).ga (absTab c start (p + 1) k).a
       else none,
       if k + 1 < c.n then
         gGap false c.gpo c.gpe c.tgpe (absTab c start p (k + 1)).gb (absTab c start p (k + 1)).a
       else gGap c.tL c.gpo c.gpe c.tgpe (absTab c start p (k + 1)).gb (absTab c start p (k + 1)).a⟩ := rfl

/-- state of a walk: node `(p,k)`, kind of the last column, value so far -/
structure PSt where
  p : Nat
  k : Nat
  st : Kind
  v : Option Int
  deriving DecidableEq, Repr

def alFrom (gpo s : Int) (st : Kind) (v : Option Int) : Option Int :=
  match st with
  | .A => oaddi v s
  | _ => oaddi (osub v gpo) s

/-- `same` = the previous column is a gap column of the same kind -/
def gapFrom (term : Bool) (gpo gpe tgpe : Int) (same : Bool) (v : Option Int) : Option Int :=
  osub v (if term then tgpe else if same then gpe else gpo)

/-- is a gap-in-a column in row `p` charged as terminal? -/
def KCfg.termA (c : KCfg) (p : Nat) : Bool := decide (p = 0) && c.tF
/-- is a gap-in-b column in cell column `k` charged as terminal? -/
def KCfg.termB (c : KCfg) (k : Nat) : Bool := (decide (k = 0) && c.tF) || (decide (k = c.n) && c.tL)

theorem KCfg.termA_zero (c : KCfg) : c.termA 0 = c.tF := by simp [KCfg.termA]
theorem KCfg.termA_succ (c : KCfg) (p : Nat) : c.termA (p + 1) = false := by simp [KCfg.termA]
theorem KCfg.termB_zero (c : KCfg) (hn : 1 ≤ c.n) : c.termB 0 = c.tF := by
  have : ¬ (0 = c.n) := by omega
  simp [KCfg.termB, this]
theorem KCfg.termB_mid (c : KCfg) (k : Nat) (h : k + 1 < c.n) : c.termB (k + 1) = false := by
  have : ¬ (k + 1 = c.n) := by omega
  simp [KCfg.termB, this]
theorem KCfg.termB_last (c : KCfg) (k : Nat) (h : k + 1 = c.n) : c.termB (k + 1) = c.tL := by
  have : c.n = k + 1 := h.symm
  simp [KCfg.termB, this]

def stepF (c : KCfg) (s : PSt) : Col → PSt
  | .both => ⟨s.p + 1, s.k + 1, .A, if s.k + 1 ≤ c.n then alFrom c.gpo (c.sc s.p s.k) s.st s.v else none⟩
  | .gapA => ⟨s.p, s.k + 1, .GA,
      if s.k + 1 < c.n ∧ s.st ≠ .GB then
        gapFrom (c.termA s.p) c.gpo c.gpe c.tgpe (s.st == .GA) s.v
      else none⟩
  | .gapB => ⟨s.p + 1, s.k, .GB,
      if s.k ≤ c.n ∧ s.st ≠ .GA then
        gapFrom (c.termB s.k) c.gpo c.gpe c.tgpe (s.st == .GB) s.v
      else none⟩
  | .skip => ⟨s.p, s.k, s.st, none⟩

def runF (c : KCfg) (s : PSt) (cs : List Col) : PSt := cs.foldl (stepF c) s

def initP (start : States ExactScore) (k0 : Kind) : PSt := ⟨0, 0, k0, start.get k0⟩

def readAbs (c : KCfg) (start : States ExactScore) (k0 : Kind) (cs : List Col) : Option Int :=
  (runF c (initP start k0) cs).v

theorem runF_append (c : KCfg) (s : PSt) (cs ds : List Col) : runF c s (cs ++ ds) = runF c (runF c s cs) ds := by
  simp [runF, List.foldl_append]

@[simp] theorem runF_nil (c : KCfg) (s : PSt) : runF c s [] = s := rfl
@[simp] theorem runF_cons (c : KCfg) (s : PSt) (x : Col) (cs : List Col) :
    runF c s (x :: cs) = runF c (stepF c s x) cs := rfl

theorem gGap_ge_g (term : Bool) (gpo gpe tgpe : Int) (g a v : Option Int) (h : ole v g) :
    ole (gapFrom term gpo gpe tgpe true v) (gGap term gpo gpe tgpe g a) := by
  unfold gapFrom gGap
  cases term
  · simp only [Bool.false_eq_true, if_false, if_true]
    exact ole_trans (osub_mono _ h) (ole_omax_left _ _)
  · simp only [if_true]
    exact osub_mono _ (ole_trans h (ole_omax_left _ _))

theorem gGap_ge_a (term : Bool) (gpo gpe tgpe : Int) (g a v : Option Int) (h : ole v a) :
    ole (gapFrom term gpo gpe tgpe false v) (gGap term gpo gpe tgpe g a) := by
  unfold gapFrom gGap
  cases term
  · simp only [Bool.false_eq_true, if_false]
    exact ole_trans (osub_mono _ h) (ole_omax_right _ _)
  · simp only [if_true]
    exact osub_mono _ (ole_trans h (ole_omax_right _ _))

theorem gGap_cases (term : Bool) (gpo gpe tgpe : Int) (g a : Option Int) :
    gGap term gpo gpe tgpe g a = gapFrom term gpo gpe tgpe true g ∨
    gGap term gpo gpe tgpe g a = gapFrom term gpo gpe tgpe false a := by
  unfold gapFrom gGap
  cases term
  · simp only [Bool.false_eq_true, if_false, if_true]
    exact omax_cases _ _
  · simp only [if_true]
    rcases omax_cases g a with h | h <;> rw [h] <;> simp

theorem gAl_ge (gpo s : Int) (a ga gb : Option Int) (st : Kind) (v : Option Int)
    (h : ole v ((⟨a, ga, gb⟩ : States ExactScore).get st)) :
    ole (alFrom gpo s st v) (gAl gpo s a ga gb) := by
  unfold alFrom gAl
  cases st
  · exact oaddi_mono _ (ole_trans (ole_trans h (ole_omax_left _ _)) (ole_omax_left _ _))
  · exact oaddi_mono _ (ole_trans (ole_trans (osub_mono _ h) (ole_omax_right _ _)) (ole_omax_left _ _))
  · exact oaddi_mono _ (ole_trans (osub_mono _ h) (ole_omax_right _ _))

theorem gAl_cases (gpo s : Int) (a ga gb : Option Int) :
    gAl gpo s a ga gb = alFrom gpo s .A a ∨ gAl gpo s a ga gb = alFrom gpo s .GA ga ∨
    gAl gpo s a ga gb = alFrom gpo s .GB gb := by
  unfold alFrom gAl
  rcases omax_cases (omax a (osub ga gpo)) (osub gb gpo) with h | h
  · rcases omax_cases a (osub ga gpo) with h' | h'
    · left; rw [h, h']
    · right; left; rw [h, h']
  · right; right; rw [h]

def Below (c : KCfg) (start : States ExactScore) (s : PSt) : Prop :=
  ole s.v ((absTab c start s.p s.k).get s.st)

theorem step_below (c : KCfg) (hn : 1 ≤ c.n) (start : States ExactScore) (s : PSt) (col : Col)
    (h : Below c start s) : Below c start (stepF c s col) := by
  obtain ⟨p, k, st, v⟩ := s
  unfold Below at h ⊢
  simp only at h
  cases col with
  | skip => simp [stepF]
  | both =>
    simp only [stepF]
    split
    · rw [absTab_succ_succ]
      exact gAl_ge _ _ _ _ _ st v h
    · simp
  | gapA =>
    simp only [stepF]
    split
    · rename_i hc
      obtain ⟨hk, hst⟩ := hc
      cases p with
      | zero =>
        rw [absTab_zero_succ, if_pos hk]
        rw [KCfg.termA_zero]
        cases st with
        | A => exact gGap_ge_a _ _ _ _ _ _ _ h
        | GA => exact gGap_ge_g _ _ _ _ _ _ _ h
        | GB => exact absurd rfl hst
      | succ p =>
        rw [absTab_succ_succ]
        rw [if_pos hk, KCfg.termA_succ]
        cases st with
        | A => exact gGap_ge_a _ _ _ _ _ _ _ h
        | GA => exact gGap_ge_g _ _ _ _ _ _ _ h
        | GB => exact absurd rfl hst
    · simp
  | gapB =>
    simp only [stepF]
    split
    · rename_i hc
      obtain ⟨hk, hst⟩ := hc
      cases k with
      | zero =>
        rw [absTab_succ_zero]
        rw [KCfg.termB_zero c hn]
        cases st with
        | A => exact gGap_ge_a _ _ _ _ _ _ _ h
        | GB => exact gGap_ge_g _ _ _ _ _ _ _ h
        | GA => exact absurd rfl hst
      | succ k =>
        rw [absTab_succ_succ]
        by_cases hlt : k + 1 < c.n
        · rw [KCfg.termB_mid c k hlt]
          simp only [hlt, ↓reduceIte, States.get]
          cases st with
          | A => exact gGap_ge_a _ _ _ _ _ _ _ h
          | GB => exact gGap_ge_g _ _ _ _ _ _ _ h
          | GA => exact absurd rfl hst
        · rw [KCfg.termB_last c k (by omega)]
          simp only [hlt, ↓reduceIte, States.get]
          cases st with
          | A => exact gGap_ge_a _ _ _ _ _ _ _ h
          | GB => exact gGap_ge_g _ _ _ _ _ _ _ h
          | GA => exact absurd rfl hst
    · simp

theorem run_below (c : KCfg) (hn : 1 ≤ c.n) (start : States ExactScore) (cs : List Col) (s : PSt)
    (h : Below c start s) : Below c start (runF c s cs) := by
  induction cs generalizing s with
  | nil => exact h
  | cons x cs ih => exact ih _ (step_below c hn start s x h)

theorem abs_sound (c : KCfg) (hn : 1 ≤ c.n) (start : States ExactScore) (k0 : Kind) (cs : List Col) :
    ole (readAbs c start k0 cs)
      ((absTab c start (runF c (initP start k0) cs).p (runF c (initP start k0) cs).k).get
        (runF c (initP start k0) cs).st) :=
  run_below c hn start cs _ (by unfold Below initP; rw [absTab_zero_zero]; exact ole_refl _)

def Reach (c : KCfg) (start : States ExactScore) (p k : Nat) (st : Kind) (v : Option Int) : Prop :=
  v = none ∨ ∃ k0 cs, runF c (initP start k0) cs = ⟨p, k, st, v⟩

theorem stepF_none' (c : KCfg) (p k : Nat) (st : Kind) (col : Col) :
    stepF c ⟨p, k, st, none⟩ col = ⟨stepP p col, stepK k col, colKind st col, none⟩ := by
  cases col with
  | skip => simp [stepF, stepP, stepK, colKind]
  | both =>
    simp only [stepF, stepP, stepK, colKind]
    congr 1
    split
    · cases st <;> rfl
    · rfl
  | gapA =>
    simp only [stepF, stepP, stepK, colKind]
    congr 1
    split <;> rfl
  | gapB =>
    simp only [stepF, stepP, stepK, colKind]
    congr 1
    split <;> rfl

theorem stepF_none (c : KCfg) (p k : Nat) (st : Kind) (col : Col) : (stepF c ⟨p, k, st, none⟩ col).v = none := by
  rw [stepF_none']

theorem reach_step (c : KCfg) (start : States ExactScore) (p k : Nat) (st : Kind) (v : Option Int) (col : Col)
    (p' k' : Nat) (st' : Kind) (v' : Option Int)
    (h : Reach c start p k st v) (hs : stepF c ⟨p, k, st, v⟩ col = ⟨p', k', st', v'⟩) :
    Reach c start p' k' st' v' := by
  rcases h with h | ⟨k0, cs, h⟩
  · left
    subst h
    have := stepF_none c p k st col
    rw [hs] at this
    exact this
  · right
    refine ⟨k0, cs ++ [col], ?_⟩
    rw [runF_append, h]
    exact hs

theorem reach_none (c : KCfg) (start : States ExactScore) (p k : Nat) (st : Kind) : Reach c start p k st none :=
  Or.inl rfl

theorem reach_gGap (c : KCfg) (start : States ExactScore) (p k p' k' : Nat) (col : Col) (gk : Kind)
    (term : Bool) (g a : Option Int)
    (hg : Reach c start p k gk g) (ha : Reach c start p k .A a)
    (sg : stepF c ⟨p, k, gk, g⟩ col = ⟨p', k', gk, gapFrom term c.gpo c.gpe c.tgpe true g⟩)
    (sa : stepF c ⟨p, k, .A, a⟩ col = ⟨p', k', gk, gapFrom term c.gpo c.gpe c.tgpe false a⟩) :
    Reach c start p' k' gk (gGap term c.gpo c.gpe c.tgpe g a) := by
  rcases gGap_cases term c.gpo c.gpe c.tgpe g a with h | h <;> rw [h]
  · exact reach_step c start _ _ _ _ _ _ _ _ _ hg sg
  · exact reach_step c start _ _ _ _ _ _ _ _ _ ha sa

theorem reach_row0 (c : KCfg) (start : States ExactScore) :
    ∀ k, k ≤ c.n → ∀ st, Reach c start 0 k st ((absTab c start 0 k).get st) := by
  intro k
  induction k with
  | zero =>
    intro _ st
    right
    exact ⟨st, [], by simp [initP, absTab_zero_zero]⟩
  | succ k ih =>
    intro hk st
    rw [absTab_zero_succ]
    split
    · rename_i hlt
      cases st with
      | A => exact reach_none _ _ _ _ _
      | GB => exact reach_none _ _ _ _ _
      | GA =>
        simp only [States.get]
        refine reach_gGap c start 0 k 0 (k + 1) .gapA .GA c.tF _ _ (ih (by omega) .GA) (ih (by omega) .A) ?_ ?_
        · simp [stepF, hlt, KCfg.termA_zero]
        · simp [stepF, hlt, KCfg.termA_zero]
    · cases st <;> exact reach_none _ _ _ _ _

theorem reach_rowS (c : KCfg) (hn : 1 ≤ c.n) (start : States ExactScore) (p : Nat)
    (ihp : ∀ k, k ≤ c.n → ∀ st, Reach c start p k st ((absTab c start p k).get st)) :
    ∀ k, k ≤ c.n → ∀ st, Reach c start (p + 1) k st ((absTab c start (p + 1) k).get st) := by
  intro k
  induction k with
  | zero =>
    intro _ st
    rw [absTab_succ_zero]
    cases st with
    | A => exact reach_none _ _ _ _ _
    | GA => exact reach_none _ _ _ _ _
    | GB =>
      simp only [States.get]
      refine reach_gGap c start p 0 (p + 1) 0 .gapB .GB c.tF _ _ (ihp 0 (by omega) .GB) (ihp 0 (by omega) .A) ?_ ?_
      · simp [stepF, KCfg.termB_zero c hn]
      · simp [stepF, KCfg.termB_zero c hn]
  | succ k ih =>
    intro hk st
    rw [absTab_succ_succ]
    cases st with
    | A =>
      simp only [States.get]
      rcases gAl_cases c.gpo (c.sc p k) (absTab c start p k).a (absTab c start p k).ga (absTab c start p k).gb
        with h | h | h <;> rw [h]
      · exact reach_step c start p k .A _ .both _ _ _ _ (ihp k (by omega) .A) (by simp [stepF, hk])
      · exact reach_step c start p k .GA _ .both _ _ _ _ (ihp k (by omega) .GA) (by simp [stepF, hk])
      · exact reach_step c start p k .GB _ .both _ _ _ _ (ihp k (by omega) .GB) (by simp [stepF, hk])
    | GA =>
      simp only [States.get]
      split
      · rename_i hlt
        refine reach_gGap c start (p + 1) k (p + 1) (k + 1) .gapA .GA false _ _
          (ih (by omega) .GA) (ih (by omega) .A) ?_ ?_
        · simp [stepF, hlt, KCfg.termA_succ]
        · simp [stepF, hlt, KCfg.termA_succ]
      · exact reach_none _ _ _ _ _
    | GB =>
      simp only [States.get]
      split
      · rename_i hlt
        refine reach_gGap c start p (k + 1) (p + 1) (k + 1) .gapB .GB false _ _
          (ihp (k + 1) hk .GB) (ihp (k + 1) hk .A) ?_ ?_
        · simp [stepF, hk, KCfg.termB_mid c k hlt]
        · simp [stepF, hk, KCfg.termB_mid c k hlt]
      · rename_i hlt
        have h1 : k + 1 = c.n := by omega
        refine reach_gGap c start p (k + 1) (p + 1) (k + 1) .gapB .GB c.tL _ _
          (ihp (k + 1) hk .GB) (ihp (k + 1) hk .A) ?_ ?_
        · simp [stepF, hk, KCfg.termB_last c k h1]
        · simp [stepF, hk, KCfg.termB_last c k h1]

theorem abs_attained (c : KCfg) (hn : 1 ≤ c.n) (start : States ExactScore) (p k : Nat) (hk : k ≤ c.n) (st : Kind) :
    Reach c start p k st ((absTab c start p k).get st) := by
  induction p generalizing k st with
  | zero => exact reach_row0 c start k hk st
  | succ p ih => exact reach_rowS c hn start p (fun k hk st => ih k hk st) k hk st

end Kalign

import KalignModel.Model.Api
/-!
# The API state machine: the ledger invariant and the congruence of a call

Two facts about `step` (Model/Api.lean), each by cases over the operations.  `step_inv`: every call keeps `Inv`
(the ledger holds exactly the blocks of the live handles, which are distinct and below the counter), because
`kalign_run` and `kalign_read_input` free their temporaries on every path (`kalignRun_spec`, `readFiles_ledger`).
`step_congr`: the output of a call and the objects it leaves depend on the objects under the handles it names
and on the handle counter only, not on the globals or the ledger.  Props/C16.lean derives the C16 theorems from
these two.
-/
namespace Kalign.Api
variable (P : Params)

@[simp] theorem alloc_g (w : World) (b : Blk) : (w.alloc b).g = w.g := rfl
@[simp] theorem free_g (w : World) (b : Blk) : (w.free b).g = w.g := rfl
@[simp] theorem setThreads_ledger (w : World) (n : Nat) : (w.setThreads n).ledger = w.ledger := rfl
@[simp] theorem setMask_ledger (w : World) : w.setMask.ledger = w.ledger := rfl
@[simp] theorem alloc_ledger (w : World) (b : Blk) : (w.alloc b).ledger = b :: w.ledger := rfl
@[simp] theorem free_ledger (w : World) (b : Blk) : (w.free b).ledger = w.ledger.erase b := rfl
@[simp] theorem setThreads_g (w : World) (n : Nat) : (w.setThreads n).g = ⟨n, w.g.maskInit⟩ := rfl
@[simp] theorem setMask_g (w : World) : w.setMask.g = ⟨w.g.ompThreads, true⟩ := rfl

theorem dEstimation0_reads (m : P.Msa) (w : World) :
    (dEstimation0 P m w).1 = P.distances m true w.g.ompThreads := rfl

theorem buildTree_fst (m : P.Msa) (w : World) :
    (buildTree P m w).1 = P.kmeans m (P.distances m true w.g.ompThreads) true w.g.ompThreads := rfl

theorem buildTree_g (m : P.Msa) (w : World) : (buildTree P m w).2.g = ⟨w.g.ompThreads, true⟩ := rfl

theorem buildTree_ledger (m : P.Msa) (w : World) : (buildTree P m w).2.ledger = w.ledger := by
  simp [buildTree, dEstimation0]

theorem kalignRun_spec (m : P.Msa) (cfg : P.Cfg) (w : World) :
    (kalignRun P m cfg w).1 = runPure P m cfg ∧
    (kalignRun P m cfg w).2.g = (if (P.prepare m).2 then ⟨P.threads cfg, true⟩ else w.g) ∧
    (kalignRun P m cfg w).2.ledger = w.ledger := by
  unfold kalignRun runPure
  rcases hp : P.prepare m with ⟨m1, ok⟩
  cases ok
  · simp
  · simp only [Bool.not_true, Bool.false_eq_true, if_false]
    cases hq : P.paramInit (P.fullAlphabet m1) cfg <;> simp [buildTree_fst, buildTree_g, buildTree_ledger]

theorem kalignRun_fst (m : P.Msa) (cfg : P.Cfg) (w : World) : (kalignRun P m cfg w).1 = runPure P m cfg :=
  (kalignRun_spec P m cfg w).1

theorem kalignRun_ledger (m : P.Msa) (cfg : P.Cfg) (w : World) : (kalignRun P m cfg w).2.ledger = w.ledger :=
  (kalignRun_spec P m cfg w).2.2

section
variable {β : Type}

theorem lookup_map_snd (g : Nat → β → β) (heap : List (Nat × β)) (k : Nat) :
    (heap.map fun e => (e.1, g e.1 e.2)).lookup k = (heap.lookup k).map (g k) := by
  induction heap with
  | nil => rfl
  | cons e t ih =>
    obtain ⟨a, b⟩ := e
    simp only [List.map_cons, List.lookup_cons, ih]
    cases hk : k == a
    · rfl
    · simp [beq_iff_eq.1 hk]

theorem lookup_filter_key (p : Nat → Bool) (heap : List (Nat × β)) (k : Nat) :
    (heap.filter fun e => p e.1).lookup k = if p k then heap.lookup k else none := by
  induction heap with
  | nil => simp
  | cons e t ih =>
    obtain ⟨a, b⟩ := e
    by_cases hk : k = a
    · subst hk
      cases hp : p k <;> simp [hp, ih]
    · have hk' : (k == a) = false := by simpa using hk
      cases hp : p a <;> simp [List.lookup_cons, hp, hk', ih]

theorem lookup_filter_contains (heap : List (Nat × β)) (hs : List Nat) (h : Nat) (hh : h ∈ hs) :
    (heap.filter fun e => hs.contains e.1).lookup h = heap.lookup h := by
  rw [lookup_filter_key hs.contains, if_pos (by simpa using hh)]

theorem lookup_isSome_of_mem (heap : List (Nat × β)) (h : Nat) (hm : h ∈ heap.map (·.1)) :
    ∃ o, heap.lookup h = some o := by
  obtain ⟨p, hp, rfl⟩ := List.mem_map.1 hm
  exact Option.isSome_iff_exists.1 (List.lookup_isSome_iff.2 ⟨p, hp, beq_self_eq_true _⟩)

end

theorem lookup_setObj (heap : List (Nat × Obj P)) (h k : Nat) (o : Obj P) :
    (setObj P heap h o).lookup k = if k = h then (heap.lookup h).map (fun _ => o) else heap.lookup k := by
  have e : setObj P heap h o = heap.map fun e => (e.1, if e.1 = h then o else e.2) :=
    List.map_congr_left fun e _ => by split <;> simp [*]
  rw [e, lookup_map_snd fun a b => if a = h then o else b]
  by_cases hk : k = h <;> simp [hk]

theorem lookup_dropObj (heap : List (Nat × Obj P)) (h k : Nat) :
    (dropObj P heap h).lookup k = if k = h then none else heap.lookup k := by
  rw [dropObj, lookup_filter_key fun a => decide (a ≠ h)]
  by_cases hk : k = h <;> simp [hk]

theorem handles_setObj (heap : List (Nat × Obj P)) (h : Nat) (o : Obj P) :
    (setObj P heap h o).map (·.1) = heap.map (·.1) := by
  rw [setObj, List.map_map]
  exact List.map_congr_left fun e _ => by simp only [Function.comp]; split <;> simp [*]

theorem handles_dropObj (heap : List (Nat × Obj P)) (h : Nat) :
    (dropObj P heap h).map (·.1) = (heap.map (·.1)).filter (· ≠ h) := by
  simp only [dropObj, List.filter_map]
  rfl

theorem lookup_none_of_not_mem (heap : List (Nat × Obj P)) (h : Nat) (hn : h ∉ heap.map (·.1)) :
    heap.lookup h = none :=
  List.lookup_eq_none_iff.2 fun p hp => bne_iff_ne.2 fun e => hn (List.mem_map.2 ⟨p, hp, e.symm⟩)

/-- `List.erase` removes one occurrence only: it drops the handle `h` because the handles are distinct -/
theorem erase_map_obj (K : List Nat) (h : Nat) (hnd : K.Nodup) :
    (K.map Blk.obj).erase (Blk.obj h) = (K.filter (· ≠ h)).map Blk.obj := by
  have hn : (K.map Blk.obj).Nodup := List.pairwise_map.2 (hnd.imp fun hab e => hab (Blk.obj.inj e))
  rw [hn.erase_eq_filter, List.filter_map]
  congr 1
  exact List.filter_congr fun k _ => by by_cases e : k = h <;> simp [e]

/-- the ledger a caller holding `cur` under handle `h` sees above the base `L` -/
def baseLedger (h : Nat) (L : List Blk) (cur : Option P.Msa) : List Blk :=
  if cur.isSome then Blk.obj h :: L else L

/-- `kalign_read_input` neither reads nor writes a global: the world only carries the ledger through -/
theorem readInput_world (h : Nat) (f : P.File) (cur : Option P.Msa) (w w' : World) :
    (readInput P h f cur w).1 = (readInput P h f cur w').1 ∧ (readInput P h f cur w).2.g = w.g := by
  unfold readInput
  cases P.parseFile f with
  | seqs m =>
    cases cur with
    | none => simp only; cases P.nonEmpty m <;> exact ⟨rfl, rfl⟩
    | some a =>
      simp only
      cases (P.mergeMsa a m).2
      · exact ⟨rfl, rfl⟩
      · cases P.nonEmpty (P.mergeMsa a m).1 <;> simp
  | _ => exact ⟨rfl, rfl⟩

/-- **every path of `kalign_read_input` frees what it allocated**: afterwards the ledger holds the object
iff `*msa` is non-NULL -/
theorem readInput_ledger (h : Nat) (L : List Blk) (f : P.File) (cur : Option P.Msa) (w : World)
    (hw : w.ledger = baseLedger P h L cur) :
    (readInput P h f cur w).2.ledger = baseLedger P h L (readInput P h f cur w).1.2 := by
  unfold readInput
  cases hp : P.parseFile f with
  | openFail => simp [hw]
  | missing => simp [hw]
  | nothing => simp [hw]
  | readerFail => simp [hw]
  | detectFail => simp [hw]
  | seqs m =>
    cases cur with
    | none =>
      have hw0 : w.ledger = L := by simpa [baseLedger] using hw
      simp only
      cases P.nonEmpty m <;> simp [hw0, baseLedger]
    | some a =>
      have hw0 : w.ledger = Blk.obj h :: L := by simpa [baseLedger] using hw
      simp only
      cases hok : (P.mergeMsa a m).2
      · simp [hw0, baseLedger]
      · simp only [Bool.not_true, Bool.false_eq_true, if_false]
        cases P.nonEmpty (P.mergeMsa a m).1 <;> simp [hw0, baseLedger]

theorem readFiles_world (h : Nat) (fs : List P.File) (acc : Option P.Msa) (w w' : World) :
    (readFiles P h fs acc w).1 = (readFiles P h fs acc w').1 ∧ (readFiles P h fs acc w).2.g = w.g := by
  induction fs generalizing acc w w' with
  | nil => exact ⟨rfl, rfl⟩
  | cons f fs ih =>
    obtain ⟨e, eg⟩ := readInput_world P h f acc w w'
    simp only [readFiles]
    generalize readInput P h f acc w = x at e eg ⊢
    generalize readInput P h f acc w' = x' at e ⊢
    obtain ⟨⟨ok, c⟩, w1⟩ := x
    obtain ⟨⟨ok', c'⟩, w2⟩ := x'
    cases e
    cases ok
    · cases c <;> exact ⟨rfl, eg⟩
    · exact eg ▸ ih c w1 w2

theorem readFiles_ledger (h : Nat) (L : List Blk) (fs : List P.File) (acc : Option P.Msa) (w : World)
    (hw : w.ledger = baseLedger P h L acc) :
    (readFiles P h fs acc w).2.ledger =
      baseLedger P h L (match (readFiles P h fs acc w).1 with | .done m => m | .failed => none) := by
  induction fs generalizing acc w with
  | nil => exact hw
  | cons f fs ih =>
    have hl := readInput_ledger P h L f acc w hw
    rcases hr : readInput P h f acc w with ⟨⟨ok, c⟩, w1⟩
    rw [hr] at hl
    simp only [readFiles, hr]
    cases ok
    · cases c with
      | none => exact hl
      | some a => simp only at hl ⊢; simp [hl, baseLedger]
    · exact ih _ _ hl

structure Inv (s : State P) : Prop where
  ledger : s.w.ledger = s.handles.map Blk.obj
  nodup : s.handles.Nodup
  lt : ∀ h ∈ s.handles, h < s.next

theorem Inv.ledger_nil {P : Params} {s : State P} (hi : Inv P s) (h : s.heap = []) : s.w.ledger = [] := by
  rw [hi.ledger, State.handles, h]; rfl

theorem inv_init (g0 : Globals) : Inv P (State.init P g0) :=
  ⟨rfl, List.nodup_nil, fun _ h => by simp [State.init, State.handles] at h⟩

theorem inv_push (s : State P) (hi : Inv P s) (o : Obj P) (w : World)
    (hw : w.ledger = Blk.obj s.next :: s.w.ledger) :
    Inv P { w := w, heap := (s.next, o) :: s.heap, next := s.next + 1 } := by
  refine ⟨?_, ?_, ?_⟩
  · simp only [State.handles, List.map_cons, hw]
    rw [hi.ledger]; rfl
  · simp only [State.handles, List.map_cons]
    refine List.nodup_cons.2 ⟨fun hm => ?_, hi.nodup⟩
    exact Nat.lt_irrefl _ (hi.lt _ hm)
  · intro h hh
    simp only [State.handles, List.map_cons, List.mem_cons] at hh
    rcases hh with e | e
    · subst e; exact Nat.lt_succ_self _
    · exact Nat.lt_succ_of_lt (hi.lt h e)

theorem inv_same (s : State P) (hi : Inv P s) (w : World) (heap : List (Nat × Obj P))
    (hw : w.ledger = s.w.ledger) (hh : heap.map (·.1) = s.heap.map (·.1)) :
    Inv P { s with w := w, heap := heap } := by
  refine ⟨?_, ?_, ?_⟩
  · simp only [State.handles, hw, hh]; exact hi.ledger
  · simp only [State.handles, hh]; exact hi.nodup
  · intro h hm; simp only [State.handles, hh] at hm; exact hi.lt h hm

theorem inv_drop (s : State P) (hi : Inv P s) (h : Nat) :
    Inv P { s with w := s.w.free (.obj h), heap := dropObj P s.heap h } := by
  refine ⟨?_, ?_, fun k hk => ?_⟩
  · simp only [State.handles, free_ledger, handles_dropObj]
    rw [hi.ledger]
    exact erase_map_obj s.handles h hi.nodup
  · simp only [State.handles, handles_dropObj]
    exact List.Nodup.sublist List.filter_sublist hi.nodup
  · simp only [State.handles, handles_dropObj] at hk
    exact hi.lt k (List.mem_filter.1 hk).1

/-- every operation either leaves ledger and handles alone (`inv_same`), hands out the next handle together
with its block (`inv_push`) or frees a handle with its block (`inv_drop`); temporaries are freed on every path -/
theorem step_inv (s : State P) (op : Op P) (hi : Inv P s) : Inv P (step P s op).2 := by
  cases op with
  | read files =>
    have hl := readFiles_ledger P s.next s.w.ledger files none s.w rfl
    simp only [step]
    generalize readFiles P s.next files none s.w = x at hl ⊢
    obtain ⟨(_ | m) | _, w⟩ := x
    · exact inv_same P s hi w s.heap hl rfl
    · exact inv_push P s hi _ w hl
    · exact inv_same P s hi w s.heap hl rfl
  | run h cfg =>
    simp only [step]
    split
    · exact inv_same P s hi _ _ (kalignRun_ledger P _ cfg s.w) (handles_setObj P _ _ _)
    · exact hi
  | write h fmt =>
    simp only [step]
    split
    · exact inv_same P s hi _ _ (by simp) (handles_setObj P _ _ _)
    · exact hi
  | compare h1 h2 =>
    simp only [step]
    split
    · split
      · exact inv_same P s hi _ _ (by split <;> simp) (handles_setObj P _ _ _)
      · exact inv_same P s hi _ _ (by split <;> simp) (by rw [handles_setObj, handles_setObj])
    · exact hi
  | free h =>
    simp only [step]
    split
    · exact inv_drop P s hi h
    · exact hi
  | kalign arr cfg =>
    have hl := kalignRun_ledger P
    simp only [step]
    split
    · exact inv_same P s hi _ _ (by simp) rfl
    · split
      · exact inv_same P s hi _ _ (by simp [hl]) rfl
      · split
        · exact inv_same P s hi _ _ (by simp [hl]) rfl
        · exact inv_push P s hi _ _ (by simp [hl])

theorem after_nil (s : State P) : after P s [] = s := rfl

theorem after_cons (s : State P) (op : Op P) (ops : List (Op P)) :
    after P s (op :: ops) = after P (step P s op).2 ops := rfl

theorem after_append (s : State P) (ops ops' : List (Op P)) :
    after P s (ops ++ ops') = after P (after P s ops) ops' := by
  induction ops generalizing s with
  | nil => rfl
  | cons op ops ih => simp only [List.cons_append, after_cons, ih]

theorem run_nth (s : State P) (ops : List (Op P)) (k : Nat) (op : Op P) (hk : ops[k]? = some op) :
    (run P s ops).1[k]? = some (step P (after P s (ops.take k)) op).1 := by
  induction ops generalizing s k with
  | nil => simp at hk
  | cons o ops ih =>
    cases k with
    | zero =>
      simp only [List.getElem?_cons_zero, Option.some.injEq] at hk
      subst hk
      simp [run, after]
    | succ k =>
      simp only [List.getElem?_cons_succ] at hk
      have := ih (step P s o).2 k hk
      simp only [run, List.getElem?_cons_succ, List.take_succ_cons]
      rw [this]
      rfl

theorem after_inv (s : State P) (ops : List (Op P)) (hi : Inv P s) : Inv P (after P s ops) := by
  induction ops generalizing s with
  | nil => exact hi
  | cons op ops ih =>
    rw [after_cons]
    exact ih _ (step_inv P s op hi)

attribute [local simp] lookup_setObj lookup_dropObj State.lookup Out.created Op.handles in
/-- The worlds may differ: what `read` returns does not depend on the world (`readFiles_world`) and what
`kalign_run` returns is `runPure` (`kalignRun_fst`); the heap is only changed by `setObj`, `dropObj` and a push
under the counter, and a lookup after each of them is a function of the lookups before. -/
theorem step_congr (s s' : State P) (op : Op P)
    (hargs : ∀ h ∈ op.handles, s.lookup h = s'.lookup h) (hnext : s.next = s'.next) :
    (step P s op).1 = (step P s' op).1 ∧ (step P s op).2.next = (step P s' op).2.next ∧
    ∀ k, s.lookup k = s'.lookup k ∨ (step P s op).1.created = some k →
      (step P s op).2.lookup k = (step P s' op).2.lookup k := by
  obtain ⟨w, heap, next⟩ := s
  obtain ⟨w', heap', next'⟩ := s'
  simp only [State.lookup] at hargs hnext
  subst hnext
  cases op with
  | read files =>
    have hf := (readFiles_world P next files none w w').1
    simp only [step]
    generalize readFiles P next files none w = x at hf ⊢
    generalize readFiles P next files none w' = x' at hf ⊢
    obtain ⟨oc, w1⟩ := x
    obtain ⟨oc', w2⟩ := x'
    cases hf
    rcases oc with (_ | m) | _ <;> simp +contextual
    rintro k (hk | rfl) <;> simp [List.lookup_cons, *]
  | run h cfg =>
    have e := hargs h (by simp)
    simp only [step, State.lookup, ← e, kalignRun_fst]
    rcases heap.lookup h with _ | (m | r) <;> simp
    cases (runPure P m cfg).2 <;> simp +contextual [e]
  | write h fmt =>
    have e := hargs h (by simp)
    simp only [step, State.lookup, ← e]
    rcases heap.lookup h with _ | (m | r) <;> simp
    cases (P.render m fmt).1 <;> simp +contextual [e]
  | compare h1 h2 =>
    have e1 := hargs h1 (by simp)
    have e2 := hargs h2 (by simp)
    simp only [step, State.lookup, ← e1, ← e2]
    rcases heap.lookup h1 with _ | (r | _) <;> rcases heap.lookup h2 with _ | (t | _) <;> simp
    by_cases e : h1 = h2
    · subst e
      cases (P.compareSelf r).1 <;> simp +contextual [e1]
    · cases (P.compare r t).1 <;> simp +contextual [e, e1, e2]
  | free h =>
    have e := hargs h (by simp)
    simp only [step, State.lookup, ← e]
    rcases heap.lookup h with _ | o <;> simp +contextual
  | kalign arr cfg =>
    simp only [step, kalignRun_fst]
    rcases P.arrToMsa arr with _ | m <;> simp
    rcases runPure P m cfg with ⟨m1, _ | _⟩ <;> simp
    rcases P.msaToArr m1 with _ | r <;> simp +contextual
    rintro k (hk | rfl) <;> simp [List.lookup_cons, *]

theorem step_independent (s s' : State P) (op : Op P)
    (hargs : ∀ h ∈ op.handles, s.lookup h = s'.lookup h) (hnext : s.next = s'.next) :
    (step P s op).1 = (step P s' op).1 ∧
    (∀ h ∈ op.handles, (step P s op).2.lookup h = (step P s' op).2.lookup h) ∧
    (∀ h, (step P s op).1.created = some h → (step P s op).2.lookup h = (step P s' op).2.lookup h) :=
  have h := step_congr P s s' op hargs hnext
  ⟨h.1, fun k hk => h.2.2 k (Or.inl (hargs k hk)), fun k hk => h.2.2 k (Or.inr hk)⟩

theorem run_sim (s s' : State P) (ops : List (Op P)) (hh : ∀ k, s.lookup k = s'.lookup k)
    (hn : s.next = s'.next) : (run P s ops).1 = (run P s' ops).1 := by
  induction ops generalizing s s' with
  | nil => rfl
  | cons op ops ih =>
    obtain ⟨h1, h2, h3⟩ := step_congr P s s' op (fun k _ => hh k) hn
    simp only [run]
    rw [h1, ih _ _ (fun k => h3 k (Or.inl (hh k))) h2]

end Kalign.Api

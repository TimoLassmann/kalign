import KalignModel.Model.Pipeline
import KalignModel.Lemmas.NoFaultAlign
import KalignModel.Lemmas.NoFaultTasks
/-!
# `recursive_aln` on `Float32`: the operands of its merges and the hypothesis about score values

`MonHyp` is the only fact about score values the no-fault theorems of `recursive_aln` use; the theorems are in
Lemmas/NoFaultRecC.lean (any score carrier), and Lemmas/NoFaultRecNode.lean carries them over to `recAln`.  `nodeVal` names the
closure `child` of `recAln` (`recAln_succ`); `label_root`: the root call `recursive_aln(n_tasks-1)` is the call for the root of
the labelled guide tree, with as much budget as the tree has internal nodes.
For C10, "the alignment of node `v` when it completed" is the value of the call that completed it (`nodeVal`); `Calls` is the
call tree of `recursive_aln` over the task table.
-/
namespace Kalign.Pipeline
open Kalign Kalign.Kmeans Kalign.Sched

theorem validColsB_iff {cs : List Col} {la lb : Nat} : validColsB cs la lb = true ↔ ValidCols cs la lb := by
  simp only [validColsB, ValidCols, Bool.and_eq_true, Bool.not_eq_true', beq_iff_eq, and_assoc]
  exact and_congr_left' (by simp)

theorem consA_le_length (cs : List Col) : consA cs ≤ cs.length := by
  unfold consA; exact List.length_filter_le _ _

/-- the profile `do_align` prepares for node `N` when the other operand has `other` sequences -/
def nodeProf (ap : AlnParam Float32) (N : Node) (other : Nat) : Array Float32 :=
  if N.nsip = 1 then makeProfile ap N.seq else setGapPenalties (N.prof.getD #[]) other

def mergeRun (entry : Entry) (ap : AlnParam Float32) (A B : Node) : Mem (Array (States Float32)) Float32 :=
  orientRun entry ap A.nsip B.nsip A.len B.len A.seq B.seq (nodeProf ap A B.nsip) (nodeProf ap B A.nsip)

inductive Reach (ap : AlnParam Float32) (codes : Array (List Nat)) : Node → Prop
  | leaf (i : Nat) : i < codes.size → Reach ap codes (leafNode codes i)
  | merge (A B N : Node) : Reach ap codes A → Reach ap codes B → mergeNodes .parallel ap A B false = .ok N →
      Reach ap codes N

/-- **the hypothesis about score values**: every Hirschberg run on two nodes of `Reach` passes the run-time monitor (the meetup
contract of Props/C07 holds at every meetup).  `Reach` holds the operands the progressive alignment can form and more: the two
operands of a merge need not be disjoint -/
def MonHyp (ap : AlnParam Float32) (codes : Array (List Nat)) : Prop :=
  ∀ A B : Node, Reach ap codes A → Reach ap codes B → (mergeRun .serial ap A B).mon = true

/-- the value of guide-tree node `x` (`x < n`: a leaf = input sequence `x`; `x ≥ n`: the node completed by task `x - n`),
exactly as `recAln` evaluates its two children -/
def nodeVal (ap : AlnParam Float32) (tasks : Array (Nat × Nat × Nat)) (codes : Array (List Nat)) (n fuel x : Nat) :
    Except PipeErr Node :=
  if x ≥ n then recAln ap tasks codes n fuel (x - n)
  else if x < codes.size then .ok (leafNode codes x) else .error .fault

theorem nodeVal_add (ap : AlnParam Float32) (tasks : Array (Nat × Nat × Nat)) (codes : Array (List Nat)) (n fuel k : Nat) :
    nodeVal ap tasks codes n fuel (k + n) = recAln ap tasks codes n fuel k := by
  unfold nodeVal
  rw [if_pos (Nat.le_add_left n k), Nat.add_sub_cancel]

theorem recAln_succ (ap : AlnParam Float32) (tasks : Array (Nat × Nat × Nat)) (codes : Array (List Nat)) (n fuel k : Nat)
    (a b c : Nat) (h : tasks[k]? = some (a, b, c)) :
    recAln ap tasks codes n (fuel + 1) k =
      match nodeVal ap tasks codes n fuel a with
      | .error e => .error e
      | .ok A =>
        match nodeVal ap tasks codes n fuel b with
        | .error e => .error e
        | .ok B => mergeNodes .parallel ap A B (k + 1 == tasks.size) := by
  rw [recAln]
  simp only [h]
  rfl

theorem label_root (T : Tree) (n : Nat) (hn : 2 ≤ n) (hleaves : ∀ x, x ∈ T.leaves ↔ x < n) :
    (label T n).id = (Kmeans.sortTasks (treeTasks T n)).toArray.size - 1 + n ∧
      Kmeans.LTree.nint (label T n) = (Kmeans.sortTasks (treeTasks T n)).toArray.size := by
  have hsize : (Kmeans.sortTasks (treeTasks T n)).toArray.size = Kmeans.Tree.nint T := by simp [length_sortTasks]
  refine ⟨?_, by rw [hsize]; exact (labelFrom_iids T n).2.2⟩
  cases T with
  | leaf i =>
    -- a single leaf cannot be both `0` and `1`
    have h0 := (hleaves 0).2 (by omega)
    have h1 := (hleaves 1).2 (by omega)
    simp only [Tree.leaves, List.mem_singleton] at h0 h1
    omega
  | node l r =>
    obtain ⟨L, R, hroot⟩ := label_node l r n
    rw [hroot, hsize]
    simp only [Sched.LTree.id, Kmeans.Tree.nint]
    omega

/-- `Calls tasks n (fuel, x) (fuel', x')`: evaluating node `x` with budget `fuel` evaluates node `x'` with budget `fuel'`
(reflexive-transitive closure of "`x'` is one of the two children named by task `x - n`") -/
inductive Calls (tasks : Array (Nat × Nat × Nat)) (n : Nat) : Nat × Nat → Nat × Nat → Prop
  | refl (p : Nat × Nat) : Calls tasks n p p
  | left {fuel x a b c : Nat} {q : Nat × Nat} : x ≥ n → tasks[x - n]? = some (a, b, c) → Calls tasks n (fuel, a) q →
      Calls tasks n (fuel + 1, x) q
  | right {fuel x a b c : Nat} {q : Nat × Nat} : x ≥ n → tasks[x - n]? = some (a, b, c) → Calls tasks n (fuel, b) q →
      Calls tasks n (fuel + 1, x) q

theorem Calls.trans {tasks : Array (Nat × Nat × Nat)} {n : Nat} {p q s : Nat × Nat}
    (h1 : Calls tasks n p q) (h2 : Calls tasks n q s) : Calls tasks n p s := by
  induction h1 with
  | refl => exact h2
  | left h3 h4 _ ih => exact .left h3 h4 (ih h2)
  | right h3 h4 _ ih => exact .right h3 h4 (ih h2)

theorem nodeVal_succ {ap : AlnParam Float32} {tasks : Array (Nat × Nat × Nat)} {codes : Array (List Nat)} {n fuel x : Nat}
    {a b c : Nat} {N : Node} (hx : x ≥ n) (ht : tasks[x - n]? = some (a, b, c))
    (h : nodeVal ap tasks codes n (fuel + 1) x = .ok N) :
    ∃ A B, nodeVal ap tasks codes n fuel a = .ok A ∧ nodeVal ap tasks codes n fuel b = .ok B ∧
      mergeNodes .parallel ap A B (x - n + 1 == tasks.size) = .ok N := by
  unfold nodeVal at h
  rw [if_pos hx, recAln_succ ap tasks codes n fuel (x - n) a b c ht] at h
  split at h
  · cases h
  · rename_i A hA
    split at h
    · cases h
    · rename_i B hB
      exact ⟨A, B, hA, hB, h⟩

end Kalign.Pipeline

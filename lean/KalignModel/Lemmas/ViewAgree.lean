import KalignModel.Lemmas.View
import KalignModel.Lemmas.MeetSpec
import KalignModel.Lemmas.Basic.ListWalk
/-!
# Operands whose views agree give the same kernels

`View.GapsAgree`, `View.AgreeOn`: two views read the same on the columns `≤ la + 1`, `≤ lb + 1`.  Then the generic kernels agree on every
rectangle inside an `la × lb` problem, and `realKernels` — which only runs on such rectangles — is the same `Kernels` object
(`realKernels_of_view`).  The profile kernels on profiles of identical copies are compared with the sequence–sequence kernels through it
(`ProfKernel.lean`, `ProfKernelPP.lean`).
-/
namespace Kalign
section
variable {α : Type} [Score α]

theorem cands_congr (ops ops' : MeetOps α) (sb eb : Nat) (F B : Nat → States α)
    (h3 : ops.g3 = ops'.g3) (h6 : ops.g6 = ops'.g6) (h7 : ops.g7 = ops'.g7) (h6e : ops.g6e = ops'.g6e) (d k : Nat)
    (h : ∀ i, sb + k ≤ i → i < sb + k + d → ops.g2 i = ops'.g2 i ∧ ops.g5 i = ops'.g5 i) :
    cellList (candOf ops sb eb F B) k d = cellList (candOf ops' sb eb F B) k d := by
  apply cellList_congr
  intro j t hadm
  rcases hadm with ⟨hlt, _⟩ | ⟨rfl, ht⟩
  · obtain ⟨h2, h5⟩ := h (sb + (k + j)) (by omega) (by omega)
    simp only [candOf, MeetOps.join, h2, h3, h5, h6, h7, h6e]
  · rcases ht with rfl | rfl
    · simp only [candOf, MeetOps.join, Int.reduceEq, if_false, if_true, h3]
    · simp only [candOf, MeetOps.join, Int.reduceEq, if_false, if_true, decide_true, h6e]

/-- two views charge gaps alike beside every column the kernels can reach in an `la × lb` problem -/
structure View.GapsAgree (V V' : View α) (la lb : Nat) : Prop where
  rO : ∀ i, i ≤ la + 1 → V.rO i = V'.rO i
  rE : ∀ i, i ≤ la + 1 → V.rE i = V'.rE i
  rT : ∀ i, i ≤ la + 1 → V.rT i = V'.rT i
  cO : ∀ j, j ≤ lb + 1 → V.cO j = V'.cO j
  cE : ∀ j, j ≤ lb + 1 → V.cE j = V'.cE j
  cT : ∀ j, j ≤ lb + 1 → V.cT j = V'.cT j

structure View.AgreeOn (V V' : View α) (la lb : Nat) : Prop extends View.GapsAgree V V' la lb where
  sc : ∀ i j, 1 ≤ i → i ≤ la → 1 ≤ j → j ≤ lb → V.sc i j = V'.sc i j

variable {V V' : View α} {la lb : Nat} (G : V.GapsAgree V' la lb) (H : V.AgreeOn V' la lb)

include G in
theorem View.GapsAgree.gb (i : Nat) (hi : i ≤ la + 1) (t : Bool) : V.gb i t = V'.gb i t := by
  unfold View.gb
  rw [G.rO i hi, G.rE i hi, G.rT i hi]

include G in
theorem View.GapsAgree.ga (j : Nat) (hj : j ≤ lb + 1) (t : Bool) : V.ga j t = V'.ga j t := by
  unfold View.ga
  rw [G.cO j hj, G.cE j hj, G.cT j hj]

include G in
/-- the column-side entries are read at the candidate column, so the meetups agree on cell lists of the right length only -/
theorem View.GapsAgree.meet (r : Rect) (mid : Nat) (hm : mid ≤ la) (hbB : r.endb ≤ lb) (F B : Nat → States α) :
    meetupRun (V.meetOps r mid) r.startb r.endb
        ((List.range (r.endb - r.startb + 1)).map F) ((List.range (r.endb - r.startb + 1)).map B) =
      meetupRun (V'.meetOps r mid) r.startb r.endb
        ((List.range (r.endb - r.startb + 1)).map F) ((List.range (r.endb - r.startb + 1)).map B) := by
  rw [meetupRun_eq, meetupRun_eq, cands_congr (V.meetOps r mid) (V'.meetOps r mid)]
  · exact G.rO _ (by omega)
  · simp only [View.meetOps, G.rE _ (show mid + 1 ≤ la + 1 by omega), G.rT _ (show mid + 1 ≤ la + 1 by omega)]
  · exact G.rO _ (by omega)
  · simp only [View.meetOps, G.rE _ (show mid + 1 ≤ la + 1 by omega), G.rT _ (show mid + 1 ≤ la + 1 by omega)]
  · intro i hi1 hi2
    exact ⟨G.cO _ (by omega), G.cO _ (by omega)⟩

include H

theorem View.AgreeOn.rowF (r : Rect) (i : Nat) (hi : i < la) (hbB : r.endb ≤ lb) :
    (V.rowF r i).AgreeN (r.endb - r.startb) (V'.rowF r i) := by
  have hg := H.gb (i + 1) (by omega)
  refine ⟨hg _, fun k hk => ?_, fun k hk => H.ga (r.startb + (k + 1)) (by omega) false, hg false, hg _⟩
  funext pa pga pgb
  simp only [View.rowF]
  rw [H.sc (i + 1) (r.startb + (k + 1)) (by omega) (by omega) (by omega) (by omega), H.cO _ (by omega), H.rO i (by omega)]

theorem View.AgreeOn.rowB (r : Rect) (i : Nat) (hi : i < la) (hbB : r.endb ≤ lb) :
    (V.rowB r i).AgreeN (r.endb - r.startb) (V'.rowB r i) := by
  have hg := H.gb (i + 1) (by omega)
  refine ⟨hg _, fun k hk => ?_, fun k hk => H.ga (r.endb - (k + 1) + 1) (by omega) false, hg false, hg _⟩
  funext pa pga pgb
  simp only [View.rowB]
  rw [H.sc (i + 1) (r.endb - (k + 1) + 1) (by omega) (by omega) (by omega) (by omega), H.cO _ (by omega), H.rO (i + 2) (by omega)]

theorem View.AgreeOn.forward (r : Rect) (hb : r.startb < r.endb) (ha : r.enda ≤ la) (hbB : r.endb ≤ lb) (start : States α) :
    V.forward r start = V'.forward r start := by
  rw [V.forward_eq_genTab r hb, V'.forward_eq_genTab r hb]
  apply List.map_congr_left
  intro c hc
  exact genTab_congrN _ _ (r.endb - r.startb) start _ _ (r.enda - r.starta) (fun k _ => H.ga _ (by omega) _)
    (fun p hp => H.rowF r _ (by omega) hbB) _ (Nat.le_refl _) c (by have := List.mem_range.mp hc; omega)

theorem View.AgreeOn.backward (r : Rect) (hb : r.startb < r.endb) (ha : r.enda ≤ la) (hbB : r.endb ≤ lb) (start : States α) :
    V.backward r start = V'.backward r start := by
  rw [V.backward_eq_genTab r hb, V'.backward_eq_genTab r hb]
  congr 1
  apply List.map_congr_left
  intro c hc
  exact genTab_congrN _ _ (r.endb - r.startb) start _ _ (r.enda - r.starta) (fun k _ => H.ga _ (by omega) _)
    (fun p hp => H.rowB r _ (by omega) hbB) _ (Nat.le_refl _) c (by have := List.mem_range.mp hc; omega)

end

section
variable {α : Type} [Score α]

/-- `realStep` only runs on rectangles inside the problem -/
theorem realStep_of_view {ap ap' : AlnParam α} {ops ops' : Operands α} {la lb : Nat}
    (H : (ops.view ap).AgreeOn (ops'.view ap') la lb) : realStep ap ops la lb = realStep ap' ops' la lb := by
  funext f b sa mid ea sb eb
  unfold realStep
  by_cases hc : 0 ≤ sa ∧ sa ≤ mid ∧ mid ≤ ea ∧ ea ≤ (la : Int) ∧ 0 ≤ sb ∧ sb < eb ∧ eb ≤ (lb : Int) ∧ 0 < f.size ∧ 0 < b.size
  · rw [if_pos hc, if_pos hc]
    obtain ⟨h0, h1, h2, h3, h4, h5, h6, _, _⟩ := hc
    have hsb : sb.toNat < eb.toNat := by omega
    have hB : eb.toNat ≤ lb := by omega
    have eM := H.meet ⟨sa.toNat, mid.toNat, sb.toNat, eb.toNat, lb⟩ mid.toNat (by omega) hB
    simp only at eM
    simp only [kForward_view, kBackward_view, kMeetup_view]
    rw [H.forward ⟨sa.toNat, mid.toNat, sb.toNat, eb.toNat, lb⟩ hsb (by show mid.toNat ≤ la; omega) hB,
      H.backward ⟨mid.toNat, ea.toNat, sb.toNat, eb.toNat, lb⟩ hsb (by show ea.toNat ≤ la; omega) hB,
      View.forward_eq_genTab _ _ hsb, View.backward_eq_genTab _ _ hsb]
    simp only [map_range_reverse, eM]
  · rw [if_neg hc, if_neg hc]

theorem realKernels_of_view {ap ap' : AlnParam α} {ops ops' : Operands α} {la lb : Nat}
    (H : (ops.view ap).AgreeOn (ops'.view ap') la lb) : realKernels ap ops la lb = realKernels ap' ops' la lb := by
  unfold realKernels
  rw [realStep_of_view H]

end
end Kalign

import KalignModel.Model.Sched
/-!
# Determinacy and ordering of fork-join programs

For any `Prog` (Model/Sched.lean): when the atoms of different branches of every `par` have disjoint footprints, every
linearisation computes what the serial elision `p.atoms` computes (`determinacy`), and an atom sequenced after a sub-program
occurs after all atoms of it in every linearisation (`order`).  Nothing here is specific to kalign; its task programs are
in Lemmas/SchedKalign.lean.
-/
namespace Kalign.Sched
variable {A B Loc Val σ : Type}

theorem exec_append (f : A → σ → σ) (l1 l2 : List A) (s : σ) :
    exec f (l1 ++ l2) s = exec f l2 (exec f l1 s) := by simp [exec, List.foldl_append]

theorem exec_comm (f : A → σ → σ) (b : A) (l : List A) (h : ∀ a ∈ l, Indep f a b) (s : σ) :
    exec f l (f b s) = f b (exec f l s) := by
  induction l generalizing s with
  | nil => rfl
  | cons a l ih =>
    have hab := h a (by simp)
    simp only [exec, List.foldl_cons] at ih ⊢
    rw [hab s]
    exact ih (fun a' ha' => h a' (by simp [ha'])) (f a s)

theorem shuffle_exec (f : A → σ → σ) {l1 l2 l : List A} (hs : Shuffle l1 l2 l)
    (h : ∀ a ∈ l1, ∀ b ∈ l2, Indep f a b) (s : σ) : exec f l s = exec f (l1 ++ l2) s := by
  induction hs generalizing s with
  | nil => rfl
  | left hs ih =>
    simp only [exec, List.cons_append, List.foldl_cons]
    exact ih (fun a ha b hb => h a (by simp [ha]) b hb) _
  | @right b l1 l2 l hs ih =>
    have ih' := ih (fun a ha b' hb' => h a ha b' (by simp [hb'])) (f b s)
    have : exec f (b :: l) s = exec f l (f b s) := rfl
    rw [this, ih', exec_append, exec_append]
    have hc := exec_comm f b l1 (fun a ha => h a ha b (by simp)) s
    rw [hc]; rfl

theorem Shuffle.perm {l1 l2 l : List A} (hs : Shuffle l1 l2 l) : l.Perm (l1 ++ l2) := by
  induction hs with
  | nil => exact List.Perm.refl _
  | left _ ih => exact List.Perm.cons _ ih
  | @right b l1 l2 l _ ih =>
    exact (List.Perm.cons b ih).trans (List.perm_middle (a := b) (l₁ := l1) (l₂ := l2)).symm

theorem Shuffle.mem_iff {l1 l2 l : List A} (hs : Shuffle l1 l2 l) (a : A) :
    a ∈ l ↔ a ∈ l1 ∨ a ∈ l2 :=
  hs.perm.mem_iff.trans List.mem_append

theorem Shuffle.sublist_left {l1 l2 l : List A} (hs : Shuffle l1 l2 l) : List.Sublist l1 l := by
  induction hs with
  | nil => exact List.Sublist.slnil
  | left _ ih => exact List.Sublist.cons_cons _ ih
  | right _ ih => exact List.Sublist.cons _ ih

theorem Shuffle.sublist_right {l1 l2 l : List A} (hs : Shuffle l1 l2 l) : List.Sublist l2 l := by
  induction hs with
  | nil => exact List.Sublist.slnil
  | left _ ih => exact List.Sublist.cons _ ih
  | right _ ih => exact List.Sublist.cons_cons _ ih

theorem Shuffle.append (l1 l2 : List A) : Shuffle l1 l2 (l1 ++ l2) := by
  induction l1 with
  | nil =>
    induction l2 with
    | nil => exact .nil
    | cons b l2 ih => exact .right ih
  | cons a l1 ih => exact .left ih

theorem Shuffle.append_rev (l1 l2 : List A) : Shuffle l1 l2 (l2 ++ l1) := by
  induction l2 with
  | nil =>
    induction l1 with
    | nil => exact .nil
    | cons b l1 ih => exact .left ih
  | cons a l2 ih => exact .right ih

theorem Lin.perm {p : Prog A} {l : List A} (h : Lin p l) : l.Perm p.atoms := by
  induction h with
  | skip => exact List.Perm.refl _
  | atom => exact List.Perm.refl _
  | seq _ _ ih1 ih2 => exact List.Perm.append ih1 ih2
  | par _ _ hs ih1 ih2 => exact hs.perm.trans (List.Perm.append ih1 ih2)

theorem Lin.mem_iff {p : Prog A} {l : List A} (h : Lin p l) (a : A) : a ∈ l ↔ a ∈ p.atoms :=
  h.perm.mem_iff

theorem Lin.serial (p : Prog A) : Lin p p.atoms := by
  induction p with
  | skip => exact .skip
  | atom a => exact .atom
  | seq p q ihp ihq => exact .seq ihp ihq
  | par p q ihp ihq => exact .par ihp ihq (Shuffle.append _ _)

theorem determinacyI (f : A → σ → σ) {p : Prog A} (hsafe : SafeI f p) {l : List A} (hl : Lin p l) (s : σ) :
    exec f l s = exec f p.atoms s := by
  induction hl generalizing s with
  | skip => rfl
  | atom => rfl
  | seq _ _ ih1 ih2 =>
    simp only [Prog.atoms, exec_append]
    rw [ih1 hsafe.1, ih2 hsafe.2]
  | @par p q l1 l2 l h1 h2 hs ih1 ih2 =>
    obtain ⟨sp, sq, hpq⟩ := hsafe
    rw [shuffle_exec f hs (fun a ha b hb => hpq a ((h1.mem_iff a).1 ha) b ((h2.mem_iff b).1 hb)) s]
    simp only [Prog.atoms, exec_append]
    rw [ih1 sp, ih2 sq]

theorem indep_of_disjoint (S : Sem A Loc Val) (hS : S.WellFormed) (a b : A)
    (hd : (S.fp a).Disjoint (S.fp b)) : Indep S.act a b := by
  intro s
  funext x
  by_cases ha : (S.fp a).wr x
  · have hb : ¬ (S.fp b).wr x := fun h => (hd x).1 ha (Or.inr h)
    rw [hS.frame b _ x hb]
    refine hS.loc a _ _ (fun y hy => ?_) x ha
    exact hS.frame b s y (fun h => (hd y).2 h hy)
  · rw [hS.frame a _ x ha]
    by_cases hb : (S.fp b).wr x
    · refine (hS.loc b _ _ (fun y hy => ?_) x hb).symm
      exact hS.frame a s y (fun h => (hd y).1 h hy)
    · rw [hS.frame b _ x hb, hS.frame b _ x hb, hS.frame a _ x ha]

theorem safeI_of_disjoint (f : A → σ → σ) (fp : A → Footprint Loc)
    (hf : ∀ a b, (fp a).Disjoint (fp b) → Indep f a b) {p : Prog A} (h : Safe fp p) : SafeI f p := by
  induction p with
  | skip => trivial
  | atom _ => trivial
  | seq p q ihp ihq => exact ⟨ihp h.1, ihq h.2⟩
  | par p q ihp ihq => exact ⟨ihp h.1, ihq h.2.1, fun a ha b hb => hf a b (h.2.2 a ha b hb)⟩

theorem safeI_of_safe (S : Sem A Loc Val) (hS : S.WellFormed) {p : Prog A} (h : Safe S.fp p) :
    SafeI S.act p :=
  safeI_of_disjoint S.act S.fp (indep_of_disjoint S hS) h

theorem determinacy (S : Sem A Loc Val) (hS : S.WellFormed) {p : Prog A} (hsafe : Safe S.fp p)
    {l : List A} (hl : Lin p l) (s : Loc → Val) :
    exec S.act l s = exec S.act p.atoms s :=
  determinacyI S.act (safeI_of_safe S hS hsafe) hl s

theorem schedules_agree (S : Sem A Loc Val) (hS : S.WellFormed) {p : Prog A} (hsafe : Safe S.fp p)
    {l l' : List A} (hl : Lin p l) (hl' : Lin p l') (s : Loc → Val) :
    exec S.act l s = exec S.act l' s := by
  rw [determinacy S hS hsafe hl, determinacy S hS hsafe hl']

theorem before_append {l1 l2 : List A} {a b : A} (ha : a ∈ l1) (hb : b ∈ l2) : Before (l1 ++ l2) a b := by
  have h1 : List.Sublist [a] l1 := List.singleton_sublist.2 ha
  have h2 : List.Sublist [b] l2 := List.singleton_sublist.2 hb
  exact List.Sublist.append h1 h2

theorem Before.mono {l l' : List A} {a b : A} (h : Before l a b) (hs : List.Sublist l l') : Before l' a b :=
  List.Sublist.trans h hs

theorem order {P p q : Prog A} (hsub : Prog.Sub (.seq p q) P) {l : List A} (hl : Lin P l)
    {a b : A} (ha : a ∈ p.atoms) (hb : b ∈ q.atoms) : Before l a b := by
  induction hsub generalizing l with
  | refl =>
    cases hl with
    | seq h1 h2 => exact before_append ((h1.mem_iff a).2 ha) ((h2.mem_iff b).2 hb)
  | seqL _ ih =>
    cases hl with
    | seq h1 h2 => exact (ih h1).mono (List.sublist_append_left _ _)
  | seqR _ ih =>
    cases hl with
    | seq h1 h2 => exact (ih h2).mono (List.sublist_append_right _ _)
  | parL _ ih =>
    cases hl with
    | par h1 h2 hsh => exact (ih h1).mono hsh.sublist_left
  | parR _ ih =>
    cases hl with
    | par h1 h2 hsh => exact (ih h2).mono hsh.sublist_right

theorem before_idxOf [BEq A] [LawfulBEq A] {l : List A} (hnd : l.Nodup) {a b : A} (h : Before l a b) :
    l.idxOf a < l.idxOf b := by
  induction l with
  | nil => cases h
  | cons x t ih =>
    have hx : x ∉ t := (List.nodup_cons.1 hnd).1
    have ht : t.Nodup := (List.nodup_cons.1 hnd).2
    cases h with
    | cons _ h' =>
      have hat : a ∈ t := (List.Sublist.subset h') (by simp)
      have hbt : b ∈ t := (List.Sublist.subset h') (by simp)
      have hxa : x ≠ a := fun e => hx (e ▸ hat)
      have hxb : x ≠ b := fun e => hx (e ▸ hbt)
      have e1 : (x == a) = false := by simpa using hxa
      have e2 : (x == b) = false := by simpa using hxb
      rw [List.idxOf_cons, List.idxOf_cons, e1, e2]
      exact Nat.succ_lt_succ (ih ht h')
    | cons_cons _ h' =>
      have hbt : b ∈ t := List.singleton_sublist.1 h'
      have hab : a ≠ b := fun e => hx (e ▸ hbt)
      have e2 : (a == b) = false := by simpa using hab
      rw [List.idxOf_cons_self, List.idxOf_cons, e2]
      exact Nat.succ_pos _

theorem before_asymm {l : List A} (hnd : l.Nodup) {a b : A} (h : Before l a b) : ¬ Before l b a := by
  classical
  intro h'
  have h1 := before_idxOf (l := l) hnd h
  have h2 := before_idxOf (l := l) hnd h'
  exact Nat.lt_asymm h1 h2

theorem atoms_parAll (ps : List (Prog A)) : (parAll ps).atoms = ps.flatMap Prog.atoms := by
  induction ps with
  | nil => rfl
  | cons p ps ih =>
    cases ps with
    | nil => simp [parAll]
    | cons q ps => simp only [parAll, Prog.atoms, ih, List.flatMap_cons]

theorem mem_atoms_parAll {ps : List (Prog A)} {a : A} :
    a ∈ (parAll ps).atoms ↔ ∃ p ∈ ps, a ∈ p.atoms := by
  rw [atoms_parAll, List.mem_flatMap]

theorem atoms_seqAll (ps : List (Prog A)) : (seqAll ps).atoms = ps.flatMap Prog.atoms := by
  induction ps with
  | nil => rfl
  | cons p ps ih =>
    cases ps with
    | nil => simp [seqAll]
    | cons q ps => simp only [seqAll, Prog.atoms, ih, List.flatMap_cons]

theorem safe_parAll (fp : A → Footprint Loc) {ps : List (Prog A)} (hs : ∀ p ∈ ps, Safe fp p)
    (hd : ps.Pairwise fun p q => ∀ a ∈ p.atoms, ∀ b ∈ q.atoms, (fp a).Disjoint (fp b)) :
    Safe fp (parAll ps) := by
  induction ps with
  | nil => trivial
  | cons p ps ih =>
    cases ps with
    | nil => exact hs p (by simp)
    | cons q ps =>
      have hd' := List.pairwise_cons.1 hd
      refine ⟨hs p (by simp), ih (fun r hr => hs r (List.mem_cons_of_mem _ hr)) hd'.2, ?_⟩
      intro a ha b hb
      obtain ⟨r, hr, hbr⟩ := mem_atoms_parAll.1 hb
      exact hd'.1 r hr a ha b hbr

theorem Footprint.Disjoint.symm {F G : Footprint Loc} (h : F.Disjoint G) : G.Disjoint F :=
  fun x => ⟨(h x).2, (h x).1⟩

theorem safe_par_atoms (fp : A → Footprint Loc) {a b : A} (h : (fp a).Disjoint (fp b)) :
    Safe fp (.par (.atom a) (.atom b)) := by
  refine ⟨trivial, trivial, fun a' ha b' hb => ?_⟩
  simp only [Prog.atoms, List.mem_singleton] at ha hb
  exact ha ▸ hb ▸ h

/-- Footprints by ownership of ids: every written location carries an index (`idx`) among the ids its writer
names, and every touched location carries such an index or none (and is then written by nobody).  Atoms that
name ids from disjoint sets then have disjoint footprints. -/
theorem disjoint_of_names {ι : Type} (fp : A → Footprint Loc) (idx : Loc → Option ι) (names : A → List ι)
    (hwr : ∀ a x, (fp a).wr x → ∃ k, idx x = some k ∧ k ∈ names a)
    (hto : ∀ a x, (fp a).touches x → idx x = none ∨ ∃ k, idx x = some k ∧ k ∈ names a)
    {a b : A} {s1 s2 : List ι} (h1 : ∀ i ∈ names a, i ∈ s1) (h2 : ∀ i ∈ names b, i ∈ s2)
    (hd : ∀ i, i ∈ s1 → i ∈ s2 → False) : (fp a).Disjoint (fp b) := by
  have key : ∀ (a b : A) (x : Loc), (fp a).wr x → (fp b).touches x → ∃ k, k ∈ names a ∧ k ∈ names b := by
    intro a b x w t
    obtain ⟨k, hk, hka⟩ := hwr a x w
    rcases hto b x t with e | ⟨k', hk', hkb⟩
    · rw [hk] at e; cases e
    · rw [hk] at hk'; cases hk'; exact ⟨k, hka, hkb⟩
  intro x
  constructor
  · intro w t
    obtain ⟨k, ka, kb⟩ := key a b x w t
    exact hd k (h1 k ka) (h2 k kb)
  · intro w t
    obtain ⟨k, kb, ka⟩ := key b a x w t
    exact hd k (h1 k ka) (h2 k kb)

theorem safe_parAll_map {ι : Type} (fp : A → Footprint Loc) (f : ι → Prog A) {is : List ι}
    (hnd : is.Nodup) (hs : ∀ i ∈ is, Safe fp (f i))
    (hd : ∀ i ∈ is, ∀ j ∈ is, i ≠ j → ∀ a ∈ (f i).atoms, ∀ b ∈ (f j).atoms, (fp a).Disjoint (fp b)) :
    Safe fp (parAll (is.map f)) := by
  apply safe_parAll
  · intro p hp
    obtain ⟨i, hi, rfl⟩ := List.mem_map.1 hp
    exact hs i hi
  · rw [List.pairwise_map]
    exact List.Pairwise.imp_of_mem (fun {i j} hi hj hij => hd i hi j hj hij) hnd

theorem safe_parAll_atoms {ι : Type} (fp : A → Footprint Loc) (f : ι → A) {is : List ι} (hnd : is.Nodup)
    (hd : ∀ i ∈ is, ∀ j ∈ is, i ≠ j → (fp (f i)).Disjoint (fp (f j))) :
    Safe fp (parAll (is.map fun i => .atom (f i))) := by
  refine safe_parAll_map fp _ hnd (fun _ _ => trivial) fun i hi j hj hij a ha b hb => ?_
  simp only [Prog.atoms, List.mem_singleton] at ha hb
  exact ha ▸ hb ▸ hd i hi j hj hij

theorem Sem.ofKernel_wf [Inhabited Val] (rd wr : A → Loc → Bool) (g : A → (Loc → Val) → Loc → Val) :
    (Sem.ofKernel rd wr g).WellFormed := by
  constructor
  · intro a s x hx
    have : wr a x = false := by
      simpa [Sem.ofKernel] using hx
    simp [Sem.ofKernel, this]
  · intro a s s' hss x hx
    have hw : wr a x = true := hx
    simp only [Sem.ofKernel, hw, if_true]
    congr 1
    funext y
    by_cases hy : (rd a y || wr a y) = true
    · simp only [hy, if_true]
      apply hss
      simp only [Bool.or_eq_true] at hy
      exact hy.elim Or.inl Or.inr
    · simp [hy]

/-! Bernstein's conditions reject two concurrent writers of one location.  When all those writers store
the same constant and nobody's result depends on the old content, the atoms still commute — this is the
situation of `BROADCAST_MASK` (see `C02.kmeans_rec_*`). -/

theorem act_upd [DecidableEq Loc] (S : Sem A Loc Val) (hS : S.WellFormed) (a : A) (c : Loc)
    (hc : ¬ (S.fp a).touches c) (s : Loc → Val) (v : Val) :
    S.act a (upd s c v) = upd (S.act a s) c v := by
  funext x
  by_cases hx : x = c
  · subst hx
    rw [hS.frame a _ x (fun h => hc (Or.inr h))]
    simp [upd]
  · have hr : upd (S.act a s) c v x = S.act a s x := by simp [upd, hx]
    rw [hr]
    by_cases hw : (S.fp a).wr x
    · refine hS.loc a _ _ (fun y hy => ?_) x hw
      have : y ≠ c := fun e => hc (e ▸ hy)
      simp [upd, this]
    · rw [hS.frame a _ x hw, hS.frame a _ x hw]; simp [upd, hx]

theorem upd_upd_comm [DecidableEq Loc] (s : Loc → Val) (c : Loc) (K : Val) : upd (upd s c K) c K = upd s c K := by
  funext x; by_cases hx : x = c <;> simp [upd, hx]

theorem indep_withStore [DecidableEq Loc] (S : Sem A Loc Val) (hS : S.WellFormed) (setter : A → Bool)
    (c : Loc) (K : Val) (hc : ∀ a, ¬ (S.fp a).touches c) (a b : A) (hd : (S.fp a).Disjoint (S.fp b)) :
    Indep (withStore S.act setter c K) a b := by
  intro s
  have hab := indep_of_disjoint S hS a b hd
  unfold withStore
  cases ha : setter a <;> cases hb : setter b <;>
    simp only [Bool.false_eq_true, if_false, if_true, act_upd S hS _ c (hc _)]
  · exact hab s
  · rw [hab s]
  · rw [hab s]
  · rw [hab s]

theorem safeI_withStore [DecidableEq Loc] (S : Sem A Loc Val) (hS : S.WellFormed) (setter : A → Bool)
    (c : Loc) (K : Val) (hc : ∀ a, ¬ (S.fp a).touches c) {p : Prog A} (h : Safe S.fp p) :
    SafeI (withStore S.act setter c K) p :=
  safeI_of_disjoint _ S.fp (indep_withStore S hS setter c K hc) h

end Kalign.Sched

import KalignModel.Lemmas.SubLevel
/-!
# The meetup of one level returns a cut of the robustly optimal alignment

`opt_cut`: let `P = L.P1 ++ X ++ L.P2` beat every other valid alignment by the safe margin, and let the level `L` work on the
rectangle of `X` with one-hot start states of the boundary kinds.  Then the `(meet, transition)` returned by the meetup
is an admissible cut `X = X1 ++ X2` of `X` on the middle row, and both kernels can walk their part (`Meet.CutOf`, Lemmas/MeetLevel.lean).
The reason is `Level.cut_of_margin`, for any meetup that answers with a maximum up to a slack (`MeetAns`, Lemmas/MeetLevel.lean):
the answer is a pair of walks that no other pair beats by more than the slack, `X` has a cut (`cut_exists`), and a pair that reads
at least as much as that cut up to the margin is that cut (`cut_of_dominating`).  The exact meetup maximises reading minus
tie-break term (`absMeet_ans`; the term lies in `[0, len_b]`); the `SoftF32` meetup answers with `τ = 0` and a slack of at most
`len_b + 1000` (`Lemmas/SoftOptCut.lean`).
-/
namespace Kalign

theorem tieOf_bounds (sb eb k : Nat) (hk : k ≤ eb - sb) (h : sb ≤ eb) :
    0 ≤ tieOf sb eb k ∧ tieOf sb eb k ≤ ((eb - sb : Nat) : Int) := by
  unfold tieOf
  constructor
  · exact Int.natCast_nonneg _
  · omega

section
variable (w : STW) (L : Level w.lenA w.lenB)

/-- let `L.P1 ++ (X1p ++ X2pr.reverse) ++ L.P2` beat every other valid alignment by the safe margin with `B` for the meetup.
A pair of walks of the two kernels through the rectangle whose reading is, up to `S ≤ B`, at least the reading of that pair is
that pair: otherwise it would give a competitor within the margin -/
theorem cut_of_dominating (hgpo : 0 ≤ w.gpo) (hgpe : 0 ≤ w.gpe) (B : Int)
    {kp k : Nat} {tp t : Int} {X1p X2pr X1 X2r : List Col} (hadmp : Adm L.n kp tp) (hadm : Adm L.n k t)
    (hwp : MeetWalk (L.meet w) kp tp X1p X2pr) (hw : MeetWalk (L.meet w) k t X1 X2r)
    (hmargin : ∀ Q, adjOK .A Q = true → consA Q = w.lenA → consB Q = w.lenB → Q ≠ L.P1 ++ (X1p ++ X2pr.reverse) ++ L.P2 →
      w.walk 0 0 .A Q + B <
        w.walk 0 0 .A (L.P1 ++ (X1p ++ X2pr.reverse) ++ L.P2) -
          w.gpo * (nterm (L.P1 ++ (X1p ++ X2pr.reverse) ++ L.P2) : Int) - w.slackLo - w.slackHi)
    (S : Int) (hS : S ≤ B) (hscore : (L.meet w).read X1p X2pr tp - S ≤ (L.meet w).read X1 X2r t) :
    X1 ++ X2r.reverse = X1p ++ X2pr.reverse := by
  refine Classical.byContradiction fun hne => ?_
  obtain ⟨f1, f2, f3, f4⟩ := hw.fills hadm L.m2_pos
  obtain ⟨g1, g2, g3⟩ := L.whole f1 f2 f3 f4
  have hm := hmargin _ g1 g2 g3 fun h => hne (List.append_cancel_left (List.append_cancel_right h))
  have hbp := (L.bounds w hgpo hgpe hadmp hwp).1
  have hbq := (L.bounds w hgpo hgpe hadm hw).2
  omega

/-- `X`: the columns of `P` inside the rectangle of `L`; `B`: what the safe margin leaves for the meetup; the meetup answers with a
maximum of value − `τ` up to `S`, where `τ` lies in `[0, T]` and `S + T ≤ B` -/
theorem Level.cut_of_margin (hgpo : 0 ≤ w.gpo) (hgpe : 0 ≤ w.gpe) {P X : List Col} (hP : P = L.P1 ++ X ++ L.P2)
    (hadj : adjOK .A P = true) (hA : consA P = w.lenA) (hB : consB P = w.lenB) (B : Int)
    (hmargin : ∀ Q, adjOK .A Q = true → consA Q = w.lenA → consB Q = w.lenB → Q ≠ P →
      w.walk 0 0 .A Q + B < w.walk 0 0 .A P - w.gpo * (nterm P : Int) - w.slackLo - w.slackHi)
    (τ : Nat → Int) (S T : Int) (hτ : ∀ k, k ≤ L.n → 0 ≤ τ k ∧ τ k ≤ T) (hST : S + T ≤ B) (meet trans : Int)
    (hans : MeetAns (L.meet w) L.sb τ S meet trans) :
    (L.meet w).CutOf X L.sb meet trans := by
  subst hP
  obtain ⟨hadjX, hcX, hXa, hXb⟩ := L.inner hadj hA hB
  obtain ⟨X1p, X2pr, tp, rfl, hadmp, hwp⟩ := cut_exists (L.meet w) X L.m2_pos hadjX hcX hXa hXb
  obtain ⟨k, t, X1, X2r, hmeet, htrans, hadm, hwin, hdom⟩ := hans.winner (Nat.sub_pos_of_lt L.sb_lt_eb) hadmp hwp
  have hd := hdom _ _ _ _ hadmp hwp
  have hτp := (hτ _ hadmp.le).2
  have hτk := (hτ k hadm.le).1
  rw [← cut_of_dominating w L hgpo hgpe B hadmp hadm hwp hwin hmargin (S + T) hST (by omega)]
  exact ⟨X1, X2r, k, t, rfl, hmeet, htrans, hadm, hwin⟩

/-- the exact meetup (`absMeet`) answers with a maximum of value − tie-break term, and the tie-break term lies in `[0, len_b]` -/
theorem opt_cut (hgpo : 0 ≤ w.gpo) (hgpe : 0 ≤ w.gpe) {P X : List Col} (hP : P = L.P1 ++ X ++ L.P2)
    (hadj : adjOK .A P = true) (hA : consA P = w.lenA) (hB : consB P = w.lenB)
    (hmargin : ∀ Q, adjOK .A Q = true → consA Q = w.lenA → consB Q = w.lenB → Q ≠ P →
      w.walk 0 0 .A Q + (w.lenB : Int) < w.walk 0 0 .A P - w.gpo * (nterm P : Int) - w.slackLo - w.slackHi)
    (res : MeetResult ExactScore) (hres : res = (L.meet w).exact L.sb L.eb) :
    (L.meet w).CutOf X L.sb res.meet res.transition := by
  subst hres
  exact L.cut_of_margin w hgpo hgpe hP hadj hA hB _ hmargin _ 0 (w.lenB : Int)
    (fun k hk => ⟨(tieOf_bounds L.sb L.eb k hk (Nat.le_of_lt L.sb_lt_eb)).1,
      Int.le_trans (tieOf_bounds L.sb L.eb k hk (Nat.le_of_lt L.sb_lt_eb)).2 (Int.ofNat_le.mpr L.n_le)⟩)
    (Int.le_of_eq (Int.zero_add _)) _ _ (absMeet_ans (L.meet w) L.sb L.eb)

end

end Kalign

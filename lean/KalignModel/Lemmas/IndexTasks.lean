import KalignModel.Lemmas.TaskLeaves
import KalignModel.Lemmas.Basic.MergeSort
/-!
# Every index of a task table built by `buildTasks` is a node id `< 2·numseq − 1`
-/
namespace Kalign.Pipeline
open Kalign Kalign.Kmeans Kalign.Sched

theorem buildTasks_indices (avx : Bool) (codes : Array (List Nat)) (tasks : Array (Nat × Nat × Nat))
    (h : buildTasks avx codes = .ok tasks) :
    ∀ t ∈ tasks.toList, t.1 ≠ t.2.1 ∧ t.1 < 2 * codes.size - 1 ∧ t.2.1 < 2 * codes.size - 1 ∧
      codes.size ≤ t.2.2 ∧ t.2.2 < 2 * codes.size - 1 := by
  obtain ⟨T, e, hp⟩ := buildTasks_tree avx codes tasks h
  subst e
  intro t ht
  have ht' : t ∈ Kmeans.sortTasks (treeTasks T codes.size) := by simpa using ht
  have hperm := msortBy_perm taskTakeLeft (treeTasks T codes.size)
  have hmem : t ∈ Kmeans.createTasks (label T codes.size) := hperm.mem_iff.1 ht'
  have hN : Tree.nint T + 1 = codes.size := by
    have h1 := treeTasks_length T codes.size
    have h2 := length_sortTasks T codes.size
    have h3 := hperm.length_eq
    have h4 := hp.length_eq
    simp only [List.length_range] at h4
    unfold Kmeans.sortTasks at h2
    omega
  -- the operands of all tasks, with the root, are the leaves and the internal ids: a permutation of `0 .. 2·numseq − 2`
  have k := kids_perm_leaves (label T codes.size)
  rw [label_leaves, label_iids] at k
  have hU : (T.leaves ++ List.range' codes.size (Tree.nint T)).Perm (List.range (codes.size + Tree.nint T)) := by
    rw [List.range_eq_range', ← List.range'_append_1, Nat.zero_add, ← List.range_eq_range']
    exact hp.append_right _
  have hkids : ∀ x ∈ allKids (Kmeans.createTasks (label T codes.size)), x < 2 * codes.size - 1 := by
    intro x hx
    have := List.mem_range.1 (hU.mem_iff.1 (k.mem_iff.1 (List.mem_append_left _ hx)))
    omega
  have hkn : (allKids (Kmeans.createTasks (label T codes.size))).Nodup :=
    (List.nodup_append.1 (k.nodup_iff.2 (hU.nodup_iff.2 List.nodup_range))).1
  have ha : t.1 ∈ allKids (Kmeans.createTasks (label T codes.size)) :=
    List.mem_flatMap.2 ⟨t, hmem, by simp⟩
  have hb : t.2.1 ∈ allKids (Kmeans.createTasks (label T codes.size)) :=
    List.mem_flatMap.2 ⟨t, hmem, by simp⟩
  have hc : t.2.2 ∈ List.range' codes.size (Tree.nint T) := by
    have := (createTasks_c_perm (label T codes.size)).mem_iff.1 (List.mem_map.2 ⟨t, hmem, rfl⟩)
    rwa [label_iids] at this
  rw [List.mem_range'_1] at hc
  refine ⟨?_, hkids _ ha, hkids _ hb, hc.1, by omega⟩
  have h2 : [t.1, t.2.1].Nodup := (List.pairwise_flatMap.1 hkn).1 t hmem
  intro e
  rw [e] at h2
  simp at h2

end Kalign.Pipeline

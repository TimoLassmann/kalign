import KalignModel.Lemmas.TreeSoftBound
/-!
# Value lemmas for the clade theorem on `SoftF32` (C12)

Bounds in units of 2⁻¹⁴⁹ (`toInt`, `magVal`), on a grid `c · 2^t` with `c < 2²⁴` (every such number is a binary32 value, so rounding
a sum that is bounded by it stays bounded by it: round-to-nearest is monotone and exact on the grid).
`joinVal_AbsV`, `joinVal_ge`: the join `(x + y) * 0.5F + 0.001F` of values within / above `c·2⁻²⁰` is within `(c + 1049)·2⁻²⁰` / above
`c·2⁻²⁰` (`0.001F ≤ 1049·2⁻²⁰`).
-/
set_option exponentiation.threshold 512
namespace Kalign
namespace SoftF32

theorem add_ge {a b : SoftF32} {c t : Nat} (ha : a.isFinite = true) (hb : b.isFinite = true) (hc : c < 16777216) (ht : t ≤ 253)
    (h : ((c * 2 ^ t : Nat) : Int) ≤ toInt a + toInt b) : ((c * 2 ^ t : Nat) : Int) ≤ toInt (add a b) := by
  obtain ⟨_, hg⟩ := toInt_packZ_grid (s0 := false) (z := ((c * 2 ^ t : Nat) : Int)) (c := c) (t := t) (Int.natAbs_natCast (c * 2 ^ t)) hc ht
  have hk : (packZ false ((c * 2 ^ t : Nat) : Int)).key ≤ (add a b).key := by
    rw [key_packZ, key_add ha hb]
    exact rndKey_mono h
  have := (key_le_iff _ _).1 hk
  rwa [hg] at this

end SoftF32
open SoftF32

theorem mul_half_ge {a : SoftF32} {c t : Nat} (ha : a.isFinite = true) (hc : c < 16777216) (ht : t ≤ 253) (hpos : 0 < c)
    (h : ((2 * (c * 2 ^ t) : Nat) : Int) ≤ toInt a) : ((c * 2 ^ t : Nat) : Int) ≤ toInt (SoftF32.mul a sHalf) := by
  have hP : 0 < c * 2 ^ t := Nat.mul_pos hpos (Nat.pow_pos (by decide))
  have hsign : a.sign = false := (toInt_pos_iff.1 (by omega)).1
  rw [toInt_of_pos hsign] at h
  obtain ⟨g, r, e, hr⟩ := mul_rne ha sHalf_finite
  have hs : (SoftF32.mul a sHalf).sign = false := by
    rw [mul_of_finite ha sHalf_finite, sign_pack _ _ (roundInt_lt _ _), hsign]; decide
  rw [toInt_of_pos hs, e]
  refine Int.ofNat_le.2 (lower_of_rne (Nat.pow_pos (by decide)) hr hc ht ?_)
  rw [show magVal sHalf.mag = 2 ^ 148 by decide, Nat.pow_succ, ← Nat.mul_assoc, Nat.mul_right_comm _ _ 2, Nat.mul_comm _ 2]
  exact Nat.mul_le_mul_right _ (Int.ofNat_le.1 h)

theorem sMilli_AbsV : AbsV sMilli (1049 * 2 ^ 129) := by unfold AbsV; decide
theorem sMilli_nonneg : (0 : Int) ≤ toInt sMilli := by decide

theorem joinVal_AbsV {x y : SoftF32} {c : Nat} (hc : c + 1049 < 8388608) (hx : AbsV x (c * 2 ^ 129)) (hy : AbsV y (c * 2 ^ 129)) :
    AbsV (joinVal x y) ((c + 1049) * 2 ^ 129) := by
  unfold joinVal
  have h1 : AbsV (SoftF32.add x y) ((2 * c) * 2 ^ 129) :=
    add_AbsV hx hy (by rw [Nat.mul_assoc, Nat.two_mul]; exact Nat.le_refl _) (by omega) (by decide)
  have h1' : AbsV (SoftF32.add x y) (2 * (c * 2 ^ 129)) := by rwa [Nat.mul_assoc] at h1
  have h2 := mul_half_AbsV h1' (by omega) (by decide)
  exact add_AbsV h2 sMilli_AbsV (by generalize (2 : Nat) ^ 129 = P; rw [Nat.add_mul]; omega) (by omega) (by decide)

/-- the operands bounded as in `joinVal_absLe`, for finiteness -/
theorem joinVal_ge {x y : SoftF32} {k c : Nat} (hk : k + 1 < 8388608) (hx : absLe x (upgBnd k)) (hy : absLe y (upgBnd k))
    (hc0 : 0 < c) (hc : c < 8388608) (hxl : ((c * 2 ^ 129 : Nat) : Int) ≤ toInt x) (hyl : ((c * 2 ^ 129 : Nat) : Int) ≤ toInt y) :
    ((c * 2 ^ 129 : Nat) : Int) ≤ toInt (joinVal x y) := by
  unfold joinVal
  have h1 : absLe (SoftF32.add x y) (upgBnd k + upgBnd k) :=
    add_absLe (c := 8388608 + k) (t := 11) hx hy (by unfold upgBnd; omega) (by omega) (by decide)
  have h1' : absLe (SoftF32.add x y) (2 * ((8388608 + k) * 2 ^ 10)) := by
    have e : upgBnd k + upgBnd k = 2 * ((8388608 + k) * 2 ^ 10) := by unfold upgBnd; omega
    rwa [e] at h1
  have h2 := mul_half_absLe (c := 8388608 + k) (t := 10) h1' (by omega) (by decide)
  have g1 : (((2 * c) * 2 ^ 129 : Nat) : Int) ≤ toInt (SoftF32.add x y) := by
    apply add_ge hx.finite hy.finite (by omega) (by decide)
    have e : (2 * c) * 2 ^ 129 = c * 2 ^ 129 + c * 2 ^ 129 := by rw [Nat.mul_assoc, Nat.two_mul]
    rw [e]
    generalize c * 2 ^ 129 = Q at hxl hyl ⊢
    omega
  have g1' : ((2 * (c * 2 ^ 129) : Nat) : Int) ≤ toInt (SoftF32.add x y) := by rwa [Nat.mul_assoc] at g1
  have g2 := mul_half_ge h1.finite (by omega) (by decide) hc0 g1'
  apply add_ge h2.finite sMilli_AbsV.finite (by omega) (by decide)
  have := sMilli_nonneg
  generalize c * 2 ^ 129 = Q at g2 ⊢
  omega

end Kalign

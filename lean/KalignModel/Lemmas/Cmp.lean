import KalignModel.Model.Cmp
/-! # Lemmas tying `compare_pair`'s tables and counters to the column-wise specification (`comparePair_spec`) -/
namespace Kalign
open List

theorem resColsFrom_shift (r : Row) (k : Nat) :
    ((r.zipIdx k).filterMap fun (x : Char × Nat) => if isRes x.1 then some x.2 else none)
      = (resCols r).map (· + k) := by
  unfold resCols
  induction r generalizing k with
  | nil => simp
  | cons a r ih =>
    simp only [zipIdx_cons, filterMap_cons]
    rw [ih (k + 1), ih (0 + 1)]
    by_cases h : isRes a
    · simp [h, Nat.add_comm, Nat.add_left_comm]
    · simp [h, Nat.add_comm, Nat.add_left_comm]

theorem resCols_cons (a : Char) (r : Row) :
    resCols (a :: r) = (if isRes a then [0] else []) ++ (resCols r).map (· + 1) := by
  have h := resColsFrom_shift r 1
  unfold resCols at h ⊢
  simp only [zipIdx_cons, filterMap_cons, Nat.zero_add]
  rw [h]
  by_cases ha : isRes a <;> simp [ha]

theorem length_resCols (r : Row) : (resCols r).length = nres r := by
  induction r with
  | nil => simp [resCols, nres]
  | cons a r ih =>
    rw [resCols_cons]
    unfold nres at ih ⊢
    by_cases h : isRes a <;> simp [h, ih] <;> omega

theorem partnerAt_zero (b : Char) (bs : Row) :
    partnerAt (b :: bs) 0 = if isRes b then some 0 else none := by
  simp [partnerAt]

theorem partnerAt_succ (b : Char) (bs : Row) (c : Nat) :
    partnerAt (b :: bs) (c + 1) = (partnerAt bs c).map (· + if isRes b then 1 else 0) := by
  unfold partnerAt
  simp only [getElem?_cons_succ, take_succ_cons, countP_cons]
  cases bs[c]? with
  | none => simp
  | some ch => by_cases h : isRes ch <;> simp [h]

def shiftBy (k : Nat) (o : Option Nat) : Option Nat := o.map (· + k)

theorem shiftBy_zero : shiftBy 0 = id := by funext o; cases o <;> simp [shiftBy]

theorem partners_cons (a b : Char) (as bs : Row) :
    partners (a :: as) (b :: bs) =
      (if isRes a then [if isRes b then some 0 else none] else []) ++
        (partners as bs).map (shiftBy (if isRes b then 1 else 0)) := by
  unfold partners
  rw [resCols_cons, map_append, map_map]
  congr 1
  · by_cases h : isRes a <;> simp [h, partnerAt_zero]
  · rw [map_map]
    apply map_congr_left
    intro c _
    simp [partnerAt_succ, shiftBy]

theorem partners_nil_left (t : Row) : partners [] t = [] := by simp [partners, resCols]

theorem partners_nil_right (s : Row) : ∀ o ∈ partners s [], o = none := by
  intro o ho
  simp only [partners, mem_map] at ho
  obtain ⟨c, _, rfl⟩ := ho
  simp [partnerAt]

theorem length_partners (s t : Row) : (partners s t).length = nres s := by
  simp [partners, length_resCols]

/-- the recursion that the scanning loop performs, on the specification side -/
def partnersFrom (n2 : Nat) : Row → Row → List (Option Nat)
  | a :: as, b :: bs =>
    let rest := partnersFrom (n2 + if isRes b then 1 else 0) as bs
    if isRes a then (if isRes b then some n2 else none) :: rest else rest
  | _, _ => []

theorem partnersFrom_eq (n2 : Nat) (s t : Row) (h : s.length = t.length) :
    partnersFrom n2 s t = (partners s t).map (shiftBy n2) := by
  induction s generalizing t n2 with
  | nil => simp [partnersFrom, partners_nil_left]
  | cons a as ih =>
    cases t with
    | nil => simp at h
    | cons b bs =>
      have h' : as.length = bs.length := by simpa using h
      rw [partners_cons, partnersFrom, ih _ _ h', map_append, map_map]
      have hshift : (shiftBy n2 ∘ shiftBy (if isRes b then 1 else 0)) = shiftBy (n2 + if isRes b then 1 else 0) := by
        funext o; cases o <;> simp [shiftBy]; omega
      rw [hshift]
      by_cases ha : isRes a <;> by_cases hb : isRes b <;> simp [ha, hb, shiftBy]

theorem partnersFrom_zero (s t : Row) (h : s.length = t.length) : partnersFrom 0 s t = partners s t := by
  rw [partnersFrom_eq 0 s t h, shiftBy_zero, map_id]

/-- how a table entry encodes a partner -/
def enc : Option Nat → Int
  | some q => (q : Int)
  | none => -1

theorem enc_inj (a b : Option Nat) : enc a = enc b ↔ a = b := by
  cases a <;> cases b <;> simp [enc] <;> omega

theorem enc_ne_neg_one (a : Option Nat) : enc a ≠ -1 ↔ a.isSome := by
  cases a <;> simp [enc] <;> omega

theorem scanPair_spec (n1 n2 : Nat) (s t : Row) :
    (scanPair n1 n2 s t).c1 = (partnersFrom n2 s t).map enc ∧
    (scanPair n1 n2 s t).c2 = (partnersFrom n1 t s).map enc ∧
    (scanPair n1 n2 s t).aligned = (partnersFrom n2 s t).countP (·.isSome) + (partnersFrom n1 t s).countP (·.isSome) ∧
    (scanPair n1 n2 s t).gap = (partnersFrom n2 s t).countP (·.isNone) + (partnersFrom n1 t s).countP (·.isNone) := by
  induction s generalizing t n1 n2 with
  | nil => cases t <;> simp [scanPair, partnersFrom]
  | cons a as ih =>
    cases t with
    | nil => simp [scanPair, partnersFrom]
    | cons b bs =>
      by_cases ha : isRes a <;> by_cases hb : isRes b <;>
        simp only [scanPair, partnersFrom, ha, hb, if_true, ih, map_cons, enc, countP_cons] <;>
        refine ⟨by simp, by simp, ?_, ?_⟩ <;> simp <;> omega

def agree (P : Option Nat → Bool) : List (Option Nat) → List (Option Nat) → Nat
  | a :: as, b :: bs => (if P a && a == b then 1 else 0) + agree P as bs
  | _, _ => 0

theorem identCount_enc (lA lB : List (Option Nat)) :
    identCount (lA.map enc) (lB.map enc) =
      if lB.length ≤ lA.length then some (agree (·.isSome) lA lB, agree (·.isNone) lA lB) else none := by
  induction lA generalizing lB with
  | nil => cases lB <;> simp [identCount, agree]
  | cons a lA ih =>
    cases lB with
    | nil => simp [identCount, agree]
    | cons b lB =>
      simp only [map_cons, identCount, ih lB, length_cons, Nat.add_le_add_iff_right, agree, enc_inj, enc_ne_neg_one]
      by_cases h : lB.length ≤ lA.length
      · simp only [h, if_true]
        by_cases h2 : a = b
        · subst h2; cases a <;> simp <;> omega
        · cases a <;> simp [h2] <;> omega
      · simp [h]

theorem agree_split (lA lB : List (Option Nat)) :
    agree (·.isSome) lA lB + agree (·.isNone) lA lB = agree (fun _ => true) lA lB := by
  induction lA generalizing lB with
  | nil => simp [agree]
  | cons a lA ih =>
    cases lB with
    | nil => simp [agree]
    | cons b lB =>
      simp only [agree]
      have := ih lB
      by_cases h : a == b
      · cases a <;> simp [h] <;> omega
      · cases a <;> simp [h] <;> omega

theorem agree_self (P : Option Nat → Bool) (l : List (Option Nat)) : agree P l l = l.countP P := by
  induction l with
  | nil => simp [agree]
  | cons a l ih => simp only [agree, ih, countP_cons]; by_cases h : P a <;> simp [h] <;> omega

theorem agree_le (P : Option Nat → Bool) (lA lB : List (Option Nat)) : agree P lA lB ≤ lA.countP P := by
  induction lA generalizing lB with
  | nil => simp [agree]
  | cons a lA ih =>
    cases lB with
    | nil => simp [agree]
    | cons b lB =>
      have := ih lB
      simp only [agree, countP_cons]
      by_cases h : P a <;> by_cases h2 : a == b <;> simp [h, h2] <;> omega

def mkRel (s t : Name) (x : Option Nat × Nat) : Rel := ((s, x.2), (t, x.1))

theorem relPair_eq (s t : NRow) :
    relPair s t = (partners s.row t.row).zipIdx.map (mkRel s.name t.name) := rfl

theorem mkRel_inj (s t : Name) : Function.Injective (mkRel s t) := by
  intro x y h
  simp only [mkRel, Prod.mk.injEq, true_and] at h
  exact Prod.ext h.2 h.1

theorem mem_relPair_tags {s t : NRow} {e : Rel} (h : e ∈ relPair s t) :
    e.1.1 = s.name ∧ e.2.1 = t.name := by
  rw [relPair_eq, mem_map] at h
  obtain ⟨x, _, rfl⟩ := h
  exact ⟨rfl, rfl⟩

theorem zipIdx_filter_fst_length {β : Type} (P : β → Bool) (l : List β) (k : Nat) :
    ((l.zipIdx k).filter fun x => P x.1).length = l.countP P := by
  induction l generalizing k with
  | nil => simp
  | cons a l ih =>
    simp only [zipIdx_cons, filter_cons, countP_cons]
    by_cases h : P a <;> simp [h, ih]

theorem filter_relPair_length (P : Option Nat → Bool) (s t : NRow) :
    ((relPair s t).filter fun e => P e.2.2).length = (partners s.row t.row).countP P := by
  rw [relPair_eq, filter_map, length_map]
  exact zipIdx_filter_fst_length P _ 0

theorem mem_map_inj {β γ : Type} {f : β → γ} (hf : Function.Injective f) {x : β} {l : List β} :
    f x ∈ l.map f ↔ x ∈ l := by
  constructor
  · intro h
    obtain ⟨y, hy, e⟩ := mem_map.mp h
    rw [← hf e]; exact hy
  · exact mem_map_of_mem

theorem zipIdx_filter_mem_length (P : Option Nat → Bool) (l1 l2 : List (Option Nat)) (k : Nat) :
    ((l1.zipIdx k).filter fun x => decide (x ∈ l2.zipIdx k) && P x.1).length = agree P l1 l2 := by
  induction l1 generalizing l2 k with
  | nil => simp [agree]
  | cons a l1 ih =>
    cases l2 with
    | nil => simp [agree]
    | cons b l2 =>
      have htail : (l1.zipIdx (k + 1)).filter (fun x => decide (x ∈ (b :: l2).zipIdx k) && P x.1)
          = (l1.zipIdx (k + 1)).filter (fun x => decide (x ∈ l2.zipIdx (k + 1)) && P x.1) := by
        apply filter_congr
        intro x hx
        have hk : k + 1 ≤ x.2 := le_snd_of_mem_zipIdx hx
        have : x ≠ (b, k) := by
          intro e; rw [e] at hk; simp at hk; omega
        simp [this]
      have hhead : (decide ((a, k) ∈ (b :: l2).zipIdx k) && P a) = (P a && a == b) := by
        have hnot : (a, k) ∉ l2.zipIdx (k + 1) := by
          intro hm
          have := le_snd_of_mem_zipIdx hm
          simp at this; omega
        by_cases hab : a = b
        · subst hab; simp [Bool.and_comm]
        · simp [hab, hnot]
      show (((a, k) :: l1.zipIdx (k + 1)).filter (fun x => decide (x ∈ (b :: l2).zipIdx k) && P x.1)).length = _
      rw [filter_cons, hhead, htail, agree]
      have := ih l2 (k + 1)
      by_cases h : (P a && a == b) = true
      · simp [h, this]; omega
      · simp [h, this]

theorem filter_relPair_mem_length (P : Option Nat → Bool) (s t s' t' : NRow)
    (hs : s'.name = s.name) (ht : t'.name = t.name) :
    ((relPair s t).filter fun e => decide (e ∈ relPair s' t') && P e.2.2).length
      = agree P (partners s.row t.row) (partners s'.row t'.row) := by
  rw [relPair_eq, relPair_eq, hs, ht, filter_map, length_map]
  rw [← zipIdx_filter_mem_length P _ _ 0]
  congr 1
  apply filter_congr
  intro x _
  simp only [Function.comp_def]
  simp only [mem_map_inj (mkRel_inj s.name t.name)]
  rfl

def pairRel (s t : Name) (r1 r2 : Row) : List Rel :=
  relPair ⟨s, r1⟩ ⟨t, r2⟩ ++ relPair ⟨t, r2⟩ ⟨s, r1⟩

/-- the six counters as cardinalities of the specification's relations, restricted to one pair -/
def pairStats (s t : Name) (a1 a2 b1 b2 : Row) : CmpStats :=
  let RA := pairRel s t a1 a2
  let RB := pairRel s t b1 b2
  { refAligned := (RA.filter (·.isAligned)).length
    refGap := (RA.filter (·.isGap)).length
    identAligned := (RA.filter fun e => decide (e ∈ RB) && e.isAligned).length
    identGap := (RA.filter fun e => decide (e ∈ RB) && e.isGap).length
    testAligned := (RB.filter (·.isAligned)).length
    testGap := (RB.filter (·.isGap)).length }

theorem filter_mem_congr {β : Type} [BEq β] [LawfulBEq β] (l R R' : List β) (Q : β → Bool)
    (h : ∀ e ∈ l, (e ∈ R ↔ e ∈ R')) :
    (l.filter fun e => decide (e ∈ R) && Q e) = l.filter fun e => decide (e ∈ R') && Q e :=
  filter_congr fun e he => by simp [h e he]

/-- a relation of the ordered pair `(s, t)` carries the tag `s` first, so among the relations of the unordered pair it
can only be met in the half of the same orientation -/
theorem filter_pairRel_mem_length (P : Option Nat → Bool) (s t : Name) (hst : s ≠ t) (a1 a2 b1 b2 : Row) :
    ((pairRel s t a1 a2).filter fun e => decide (e ∈ pairRel s t b1 b2) && P e.2.2).length
      = agree P (partners a1 a2) (partners b1 b2) + agree P (partners a2 a1) (partners b2 b1) := by
  have tag : ∀ {s t s' t' : NRow} {e : Rel}, e ∈ relPair s t → e ∈ relPair s' t' → s.name = s'.name :=
    fun h h' => (mem_relPair_tags h).1.symm.trans (mem_relPair_tags h').1
  unfold pairRel
  rw [filter_append, length_append]
  congr 1
  · rw [← filter_relPair_mem_length P ⟨s, a1⟩ ⟨t, a2⟩ ⟨s, b1⟩ ⟨t, b2⟩ rfl rfl]
    exact congrArg length (filter_mem_congr _ _ _ _ fun e he =>
      ⟨fun h => (mem_append.1 h).resolve_right fun h' => hst (tag he h'), mem_append_left _⟩)
  · rw [← filter_relPair_mem_length P ⟨t, a2⟩ ⟨s, a1⟩ ⟨t, b2⟩ ⟨s, b1⟩ rfl rfl]
    exact congrArg length (filter_mem_congr _ _ _ _ fun e he =>
      ⟨fun h => (mem_append.1 h).resolve_left fun h' => hst (tag he h').symm, mem_append_right _⟩)

theorem filter_pairRel_length (P : Option Nat → Bool) (s t : Name) (r1 r2 : Row) :
    ((pairRel s t r1 r2).filter fun e => P e.2.2).length
      = (partners r1 r2).countP P + (partners r2 r1).countP P := by
  unfold pairRel
  rw [filter_append, length_append, filter_relPair_length, filter_relPair_length]

/-- the six counters as a function of the partner lists of the two rows, in both directions and both alignments -/
def statsOf (pa pa' pb pb' : List (Option Nat)) : CmpStats where
  refAligned := pa.countP (·.isSome) + pa'.countP (·.isSome)
  refGap := pa.countP (·.isNone) + pa'.countP (·.isNone)
  identAligned := agree (·.isSome) pa pb + agree (·.isSome) pa' pb'
  identGap := agree (·.isNone) pa pb + agree (·.isNone) pa' pb'
  testAligned := pb.countP (·.isSome) + pb'.countP (·.isSome)
  testGap := pb.countP (·.isNone) + pb'.countP (·.isNone)

theorem statsOf_swap (pa pa' pb pb' : List (Option Nat)) : statsOf pa' pa pb' pb = statsOf pa pa' pb pb' := by
  simp [statsOf, Nat.add_comm]

theorem pairStats_eq (s t : Name) (hst : s ≠ t) (a1 a2 b1 b2 : Row) :
    pairStats s t a1 a2 b1 b2 = statsOf (partners a1 a2) (partners a2 a1) (partners b1 b2) (partners b2 b1) := by
  unfold pairStats statsOf
  simp only [Rel.isAligned, Rel.isGap]
  rw [filter_pairRel_length (·.isSome), filter_pairRel_length (·.isNone),
    filter_pairRel_length (·.isSome), filter_pairRel_length (·.isNone),
    filter_pairRel_mem_length (·.isSome) s t hst, filter_pairRel_mem_length (·.isNone) s t hst]

theorem partners_eq_nil_of_nres (s t : Row) (h : nres s = 0) : partners s t = [] := by
  rw [← length_eq_zero_iff, length_partners]; exact h

/-- what `compare_pair` returns, for all arguments; `comparePair` is unfolded here only -/
theorem comparePair_eq (a1 a2 b1 b2 : Row) :
    comparePair a1 a2 b1 b2 =
      if a1.length ≠ a2.length ∨ b1.length ≠ b2.length then none
      else if comparePairFails a1 b1 then some 0
      else if nres b1 ≤ nres a1 ∧ nres b2 ≤ nres a2 then
        some (statsOf (partners a1 a2) (partners a2 a1) (partners b1 b2) (partners b2 b1))
      else none := by
  unfold comparePair
  split
  · rfl
  · rename_i hl
    have hA : a1.length = a2.length := Decidable.not_not.1 fun e => hl (Or.inl e)
    have hB : b1.length = b2.length := Decidable.not_not.1 fun e => hl (Or.inr e)
    split
    · rfl
    · obtain ⟨ha1, ha2, ha3, ha4⟩ := scanPair_spec 0 0 a1 a2
      obtain ⟨hb1, hb2, hb3, hb4⟩ := scanPair_spec 0 0 b1 b2
      simp only [partnersFrom_zero _ _ hA, partnersFrom_zero _ _ hA.symm] at ha1 ha2 ha3 ha4
      simp only [partnersFrom_zero _ _ hB, partnersFrom_zero _ _ hB.symm] at hb1 hb2 hb3 hb4
      simp only [ha1, ha2, ha3, ha4, hb1, hb2, hb3, hb4, identCount_enc, length_partners]
      by_cases h1 : nres b1 ≤ nres a1 <;> by_cases h2 : nres b2 ≤ nres a2 <;> simp [h1, h2, statsOf]

theorem comparePair_spec (s t : Name) (hst : s ≠ t) (a1 a2 b1 b2 : Row)
    (hA : a1.length = a2.length) (hB : b1.length = b2.length)
    (h1 : nres b1 = nres a1) (h2 : nres b2 = nres a2) :
    comparePair a1 a2 b1 b2 = some (pairStats s t a1 a2 b1 b2) := by
  rw [pairStats_eq s t hst, comparePair_eq, if_neg (by simp [hA, hB])]
  split
  · -- an empty row on either side has no residue, and the other alignment has the same residues
    rename_i hf
    have l1 : nres a1 ≤ a1.length := countP_le_length
    have l3 : nres b1 ≤ b1.length := countP_le_length
    have l2 : nres a2 ≤ a2.length := countP_le_length
    have l4 : nres b2 ≤ b2.length := countP_le_length
    simp only [comparePairFails, Bool.or_eq_true, decide_eq_true_eq] at hf
    simp only [partners_eq_nil_of_nres a1 a2 (by omega), partners_eq_nil_of_nres a2 a1 (by omega),
      partners_eq_nil_of_nres b1 b2 (by omega), partners_eq_nil_of_nres b2 b1 (by omega)]
    rfl
  · rw [if_pos ⟨Nat.le_of_eq h1, Nat.le_of_eq h2⟩]

end Kalign

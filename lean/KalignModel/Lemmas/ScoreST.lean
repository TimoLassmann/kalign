import KalignModel.Model.ScoreST
import KalignModel.Lemmas.PathCols
import KalignModel.Lemmas.Walk
/-!
# The reference score `STW.walk` / `scoreST` read from the far corner

The backward kernel reads an alignment from its end.  `STW.mirror` is the same problem with both sequences reversed, and
`STW.walk_mirror` says that a suffix of a complete column list scores the same walked forwards from its first node as
walked backwards, in the mirrored problem, from the far corner, up to the edge into it.

The reference score scales with the parameters (`scoreST_scale`: all scores and penalties multiplied by `K`; `slack_scale`: the slack terms, for `K ≥ 0`).
-/
namespace Kalign

theorem STW.walk_append (w : STW) (xs ys : List Col) (i j : Nat) (st : Kind) :
    w.walk i j st (xs ++ ys) =
      w.walk i j st xs + w.walk (i + consA xs) (j + consB xs) (lastKind st xs) ys := by
  induction xs generalizing i j st with
  | nil => simp [STW.walk, lastKind]
  | cons c xs ih =>
    simp only [List.cons_append, STW.walk, ih]
    rw [stepP_add_consA, stepK_add_consB]
    simp only [lastKind, List.foldl_cons]
    omega

def STW.mirror (w : STW) : STW :=
  { w with sc := fun p k => w.sc (w.lenA - 1 - p) (w.lenB - 1 - k) }

@[simp] theorem STW.mirror_lenA (w : STW) : w.mirror.lenA = w.lenA := rfl
@[simp] theorem STW.mirror_lenB (w : STW) : w.mirror.lenB = w.lenB := rfl
@[simp] theorem STW.mirror_gpo (w : STW) : w.mirror.gpo = w.gpo := rfl
@[simp] theorem STW.mirror_gpe (w : STW) : w.mirror.gpe = w.gpe := rfl
@[simp] theorem STW.mirror_tgpe (w : STW) : w.mirror.tgpe = w.tgpe := rfl

theorem at_end_mirror (L i : Nat) (h : i ≤ L) :
    (decide (L - i = 0) || decide (L - i = L)) = (decide (i = 0) || decide (i = L)) := by
  rw [Bool.eq_iff_iff]
  simp only [Bool.or_eq_true, decide_eq_true_eq]
  omega

theorem STW.termK_mirror (w : STW) (g : Kind) (i j : Nat) (hi : i ≤ w.lenA) (hj : j ≤ w.lenB) :
    w.mirror.termK g (w.lenA - i) (w.lenB - j) = w.termK g i j := by
  cases g
  · rfl
  · exact at_end_mirror _ _ hi
  · exact at_end_mirror _ _ hj

theorem STW.stE_mirror_symm (w : STW) (u v : Kind) (i j : Nat) (hc : u.compat v = true)
    (hi : i ≤ w.lenA) (hj : j ≤ w.lenB) :
    w.mirror.stE v u (w.lenA - i) (w.lenB - j) = w.stE u v i j := by
  cases u <;> cases v <;>
    simp only [STW.stE, STW.termK_mirror w _ i j hi hj, STW.mirror_gpo, STW.mirror_gpe] <;>
    simp [Kind.compat] at hc

theorem STW.walk_mirror (w : STW) (Y2 : List Col) (i j : Nat) (x : Kind)
    (hadj : adjOK x Y2 = true) (hA : i + consA Y2 = w.lenA) (hB : j + consB Y2 = w.lenB) :
    w.walk i j x Y2 = w.stE x (firstKind .A Y2) i j + w.mirror.walk 0 0 .A Y2.reverse := by
  induction Y2 generalizing i j x with
  | nil =>
    simp only [consA_nil, consB_nil, Nat.add_zero] at hA hB
    subst hA; subst hB
    cases x <;> simp [STW.walk, firstKind, STW.stE, STW.termK]
  | cons c cs ih =>
    simp only [adjOK, Bool.and_eq_true, bne_iff_ne, ne_eq] at hadj
    obtain ⟨⟨hs, hcomp⟩, hadj'⟩ := hadj
    have hA' : stepP i c + consA cs = w.lenA := by rw [stepP_add_consA]; exact hA
    have hB' : stepK j c + consB cs = w.lenB := by rw [stepK_add_consB]; exact hB
    have hskip : Col.skip ∉ cs := adjOK_noskip _ _ hadj'
    rw [STW.walk, ih _ _ _ hadj' hA' hB', List.reverse_cons, STW.walk_append, Nat.zero_add, Nat.zero_add, consA_reverse,
      consB_reverse, lastKind_reverse _ _ hskip, firstKind_cons_noskip .A x c cs hs]
    simp only [STW.walk, Int.add_zero]
    have hc2 : (colKind x c).compat (firstKind .A cs) = true := by
      cases cs with
      | nil => simp [firstKind, Kind.compat_A_right]
      | cons d ds =>
        simp only [adjOK, Bool.and_eq_true, bne_iff_ne, ne_eq] at hadj'
        rw [firstKind_cons_noskip .A (colKind x c) d ds hadj'.1.1]
        exact hadj'.1.2
    have hi' : stepP i c ≤ w.lenA := by omega
    have hj' : stepK j c ≤ w.lenB := by omega
    have e1 : consA cs = w.lenA - stepP i c := by omega
    have e2 : consB cs = w.lenB - stepK j c := by omega
    rw [e1, e2, colKind_indep (firstKind .A cs) x c hs,
      STW.stE_mirror_symm w (colKind x c) (firstKind .A cs) _ _ hc2 hi' hj']
    have hcol : w.mirror.stCol c (w.lenA - stepP i c) (w.lenB - stepK j c) = w.stCol c i j := by
      cases c with
      | skip => exact absurd rfl hs
      | both =>
        simp only [STW.stCol, STW.mirror, stepP, stepK]
        simp only [stepP, stepK] at hi' hj'
        congr 1 <;> omega
      | gapA =>
        have := STW.termK_mirror w .GA (stepP i .gapA) (stepK j .gapA) hi' hj'
        simp only [STW.stCol, this, STW.mirror_tgpe]
        rfl
      | gapB =>
        have := STW.termK_mirror w .GB (stepP i .gapB) (stepK j .gapB) hi' hj'
        simp only [STW.stCol, this, STW.mirror_tgpe]
        rfl
    rw [hcol]
    omega

def STW.scale (w : STW) (K : Int) : STW :=
  ⟨w.lenA, w.lenB, K * w.gpo, K * w.gpe, K * w.tgpe, fun i j => K * w.sc i j⟩

theorem STW.walk_scale (w : STW) (K : Int) (cs : List Col) (i j : Nat) (st : Kind) :
    (w.scale K).walk i j st cs = K * w.walk i j st cs := by
  induction cs generalizing i j st with
  | nil => simp [STW.walk]
  | cons c cs ih =>
    simp only [STW.walk, ih, Int.mul_add]
    have hT : ∀ g i j, (w.scale K).termK g i j = w.termK g i j := fun g i j => by cases g <;> rfl
    have hcol : (w.scale K).stCol c i j = K * w.stCol c i j := by
      cases c <;> simp only [STW.stCol, hT]
      · rfl
      · split <;> simp [STW.scale, Int.mul_neg]
      · split <;> simp [STW.scale, Int.mul_neg]
      · simp
    have hE : ∀ u v, (w.scale K).stE u v i j = K * w.stE u v i j := by
      intro u v
      cases u <;> cases v <;> simp only [STW.stE, hT] <;> (try split) <;> (try split) <;>
        simp [STW.scale, Int.mul_neg]
    rw [hcol, hE]

theorem scoreST_scale (sub : Nat → Nat → Int) (gpo gpe tgpe K : Int) (cs : List Col) (a b : List Nat) :
    scoreST (fun x y => K * sub x y) (K * gpo) (K * gpe) (K * tgpe) cs a b = K * scoreST sub gpo gpe tgpe cs a b := by
  unfold scoreST
  exact STW.walk_scale ⟨a.length, b.length, gpo, gpe, tgpe, fun i j => sub (a.getD i 0) (b.getD j 0)⟩ K cs 0 0 .A

theorem max_scale (K x y : Int) (hK : 0 ≤ K) : max (K * x) (K * y) = K * max x y := by
  by_cases hxy : x ≤ y
  · rw [Int.max_eq_right hxy, Int.max_eq_right (Int.mul_le_mul_of_nonneg_left hxy hK)]
  · have hyx : y ≤ x := by omega
    rw [Int.max_eq_left hyx, Int.max_eq_left (Int.mul_le_mul_of_nonneg_left hyx hK)]

theorem max_zero_scale (K x : Int) (hK : 0 ≤ K) : max 0 (K * x) = K * max 0 x := by
  rw [← max_scale K 0 x hK, Int.mul_zero]

/-- the two slacks of the level bounds together (`STW.slackLo + STW.slackHi`, Lemmas/LevelBound.lean), as the margin hypotheses of
the property theorems spell them out -/
def slackST (gpo gpe tgpe : Int) : Int := max 0 (max (tgpe - gpe) (tgpe - gpo)) + max 0 (gpe - tgpe)

theorem slackST_eq (gpo gpe tgpe : Int) : slackST gpo gpe tgpe = max 0 (max (tgpe - gpe) (tgpe - gpo)) + max 0 (gpe - tgpe) := rfl

theorem slackST_nonneg (gpo gpe tgpe : Int) : 0 ≤ slackST gpo gpe tgpe := by unfold slackST; omega

theorem slack_scale (K gpo gpe tgpe : Int) (hK : 0 ≤ K) :
    slackST (K * gpo) (K * gpe) (K * tgpe) = K * slackST gpo gpe tgpe := by
  unfold slackST
  rw [← Int.mul_sub, ← Int.mul_sub, ← Int.mul_sub, max_scale _ _ _ hK, max_zero_scale _ _ hK, max_zero_scale _ _ hK,
    Int.mul_add]

end Kalign

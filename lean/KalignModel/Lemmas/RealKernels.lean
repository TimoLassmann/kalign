import KalignModel.Lemmas.Controller
/-!
# What the real kernels do inside the controller (`realKernels`, `realStep`, Model/Hirschberg.lean), for every score carrier

One step on a rectangle inside the operands, with state arrays of at least `len_b + 1` slots, is `kMeetup` of the two kernel runs
(`realStep_inside`); the cut column of `meetup` lies in the rectangle whenever a transition was chosen (`kMeetup_range`); slot 0 of
a state array, through which `aln_continue` hands the start states to a child, is written and read back (`realKernels_get0_set0`).
-/
namespace Kalign
variable {β : Type} [Score β]

theorem length_initRowGo (g : Nat → β → β → β) (n k : Nat) (p : States β) : (initRowGo g n k p).length = n := by
  induction n using Nat.strongRecOn generalizing k p with
  | _ n ih =>
    match n with
    | 0 => rfl
    | 1 => rfl
    | r + 2 => simp only [initRowGo, List.length_cons]; rw [ih (r + 1) (by omega)]

theorem length_initRow (g : Nat → β → β → β) (n : Nat) (s : States β) : (initRow g n s).length = n + 1 := by
  simp [initRow, length_initRowGo]

theorem length_rowGo (ops : RowOps β) (k : Nat) (a b c d e : β) (cells : List (States β)) :
    (rowGo ops k a b c d e cells).length = cells.length := by
  induction cells generalizing k a b c d e with
  | nil => rfl
  | cons x rest ih =>
    cases rest with
    | nil => rfl
    | cons y ys => simp only [rowGo, List.length_cons]; rw [ih]; rfl

theorem length_rowStep (ops : RowOps β) (cells : List (States β)) : (rowStep ops cells).length = cells.length := by
  cases cells with
  | nil => rfl
  | cons c rest => simp [rowStep, length_rowGo]

theorem length_runKernel (g : Nat → β → β → β) (n : Nat) (s : States β) (rows : List (RowOps β)) :
    (runKernel g n s rows).length = n + 1 := by
  unfold runKernel
  have : ∀ (cells : List (States β)), (rows.foldl (fun cells ops => rowStep ops cells) cells).length = cells.length := by
    induction rows with
    | nil => intro _; rfl
    | cons r rs ih => intro cells; rw [List.foldl_cons, ih, length_rowStep]
  rw [this, length_initRow]

theorem length_kForward (ap : AlnParam β) (ops : Operands β) (r : Rect) (s : States β) :
    (kForward ap ops r s).length = r.endb - r.startb + 1 := by
  cases ops <;> simp [kForward, ssForward, spForward, ppForward, length_runKernel]

theorem length_kBackward (ap : AlnParam β) (ops : Operands β) (r : Rect) (s : States β) :
    (kBackward ap ops r s).length = r.endb - r.startb + 1 := by
  cases ops <;> simp [kBackward, ssBackward, spBackward, ppBackward, length_runKernel]

def AccInv (sb : Int) (i : Int) (acc : MeetAcc β) : Prop :=
  ValidT acc.transition → sb ≤ acc.c ∧ acc.c < i

omit [Score β] in
theorem AccInv.mono {sb : Int} {i j : Int} {acc : MeetAcc β} (h : AccInv sb i acc) (hij : i ≤ j) : AccInv sb j acc :=
  fun hv => by have := h hv; omega

theorem AccInv.try_ {sb : Int} {i : Nat} {acc : MeetAcc β} (h : AccInv sb ((i : Int) + 1) acc) (v : β) (t : Int)
    (hsb : sb ≤ i) : AccInv sb ((i : Int) + 1) (acc.try_ v t i) := by
  unfold MeetAcc.try_
  split
  · intro _; exact ⟨hsb, by show (i : Int) < i + 1; omega⟩
  · exact h

theorem meetupLoop_range (ops : MeetOps β) (sb eb : Nat) (fs bs : List (States β)) (i : Nat) (acc : MeetAcc β)
    (hsb : sb ≤ i) (hacc : AccInv (sb : Int) i acc) :
    AccInv (sb : Int) ((i : Int) + fs.length) (meetupLoop ops sb eb i fs bs acc) := by
  induction fs generalizing bs i acc with
  | nil =>
    rw [meetupLoop.eq_3 _ _ _ _ _ _ _ (by simp) (by simp)]
    exact hacc.mono (by simp)
  | cons f fs ih =>
    cases bs with
    | nil =>
      rw [meetupLoop.eq_3 _ _ _ _ _ _ _ (by simp) (by simp)]
      exact hacc.mono (by simp only [List.length_cons]; omega)
    | cons b bs =>
      have hsb' : (sb : Int) ≤ (i : Int) := by exact_mod_cast hsb
      have h1 : AccInv (sb : Int) ((i : Int) + 1) acc := hacc.mono (by omega)
      by_cases hone : fs = [] ∧ bs = []
      · obtain ⟨e1, e2⟩ := hone
        subst e1; subst e2
        simp only [meetupLoop, List.length_cons, List.length_nil]
        exact ((h1.try_ _ 3 hsb').try_ _ 6 hsb').mono (by omega)
      · rw [meetupLoop.eq_2 _ _ _ _ _ _ _ _ _ (fun a b => hone ⟨a, b⟩)]
        have h6 := (((((h1.try_ (Score.sub (Score.add f.a b.a) (Score.tie sb eb i)) 1 hsb').try_
          (Score.sub (ops.g2 i (Score.add f.a b.ga)) (Score.tie sb eb i)) 2 hsb').try_
          (Score.sub (ops.g3 (Score.add f.a b.gb)) (Score.tie sb eb i)) 3 hsb').try_
          (Score.sub (ops.g5 i (Score.add f.ga b.a)) (Score.tie sb eb i)) 5 hsb').try_
          (Score.sub (ops.g6 (Score.add f.gb b.gb)) (Score.tie sb eb i)) 6 hsb').try_
          (Score.sub (ops.g7 (Score.add f.gb b.a)) (Score.tie sb eb i)) 7 hsb'
        have := ih bs (i + 1) _ (by omega) (by simpa using h6)
        refine this.mono ?_
        simp only [List.length_cons]; omega

theorem meetupRun_range (ops : MeetOps β) (sb eb : Nat) (fs bs : List (States β)) (hlen : fs.length = eb - sb + 1)
    (hle : sb ≤ eb) :
    ValidT (meetupRun ops sb eb fs bs).transition →
      (sb : Int) ≤ (meetupRun ops sb eb fs bs).meet ∧ (meetupRun ops sb eb fs bs).meet ≤ eb := by
  intro hv
  have h0 : AccInv (sb : Int) (sb : Int) (⟨Score.negInf, -1, -1⟩ : MeetAcc β) := by
    intro h; revert h; unfold ValidT; simp
  have := meetupLoop_range ops sb eb fs bs sb _ (Nat.le_refl _) h0
  have h := this hv
  simp only [meetupRun]
  rw [hlen] at h
  omega

theorem kMeetup_range (ap : AlnParam β) (ops : Operands β) (r : Rect) (mid : Nat) (fs bs : List (States β))
    (hlen : fs.length = r.endb - r.startb + 1) (hle : r.startb ≤ r.endb) :
    ValidT (kMeetup ap ops r mid fs bs).transition →
      (r.startb : Int) ≤ (kMeetup ap ops r mid fs bs).meet ∧ (kMeetup ap ops r mid fs bs).meet ≤ r.endb := by
  cases ops <;> exact meetupRun_range _ _ _ _ _ hlen hle

omit [Score β] in
theorem blit_isSome (arr : Array (States β)) (at_ : Nat) (cells : List (States β)) (h : at_ + cells.length ≤ arr.size) :
    ∃ a', blit arr at_ cells = some a' ∧ a'.size = arr.size := by
  unfold blit
  rw [if_pos h]
  refine ⟨_, rfl, ?_⟩
  have : ∀ (cells : List (States β)) (p : Array (States β) × Nat),
      (cells.foldl (fun (p : Array (States β) × Nat) c => (p.1.set! p.2 c, p.2 + 1)) p).1.size = p.1.size := by
    intro cells
    induction cells with
    | nil => intro p; rfl
    | cons c cs ih => intro p; rw [List.foldl_cons, ih]; simp
  exact this cells _

omit [Score β] in
theorem blit_size (arr a' : Array (States β)) (at_ : Nat) (cells : List (States β)) (h : blit arr at_ cells = some a') :
    a'.size = arr.size := by
  by_cases hle : at_ + cells.length ≤ arr.size
  · obtain ⟨a'', e, hs⟩ := blit_isSome arr at_ cells hle
    rw [e] at h
    cases h
    exact hs
  · unfold blit at h
    rw [if_neg hle] at h
    cases h

theorem realStep_inside (ap : AlnParam β) (ops : Operands β) (lenA lenB : Nat) (f b : Array (States β))
    (sa mid ea sb eb : Int) (h0 : 0 ≤ sa) (h1 : sa ≤ mid) (h2 : mid ≤ ea) (h3 : ea ≤ lenA) (h4 : 0 ≤ sb) (h5 : sb < eb)
    (h6 : eb ≤ lenB) (hf : lenB + 1 ≤ f.size) (hb : lenB + 1 ≤ b.size) :
    ∃ f' b' r, f'.size = f.size ∧ b'.size = b.size ∧
      r = kMeetup ap ops ⟨sa.toNat, mid.toNat, sb.toNat, eb.toNat, lenB⟩ mid.toNat
        (kForward ap ops ⟨sa.toNat, mid.toNat, sb.toNat, eb.toNat, lenB⟩ (f.getD 0 States.negInf))
        (kBackward ap ops ⟨mid.toNat, ea.toNat, sb.toNat, eb.toNat, lenB⟩ (b.getD 0 States.negInf)) ∧
      realStep ap ops lenA lenB f b sa mid ea sb eb = some ⟨f', b', r.meet, r.transition, r.score⟩ := by
  have hl1 := length_kForward ap ops ⟨sa.toNat, mid.toNat, sb.toNat, eb.toNat, lenB⟩ (f.getD 0 States.negInf)
  have hl2 := length_kBackward ap ops ⟨mid.toNat, ea.toNat, sb.toNat, eb.toNat, lenB⟩ (b.getD 0 States.negInf)
  dsimp only at hl1 hl2
  obtain ⟨f', hf', hfs⟩ := blit_isSome f sb.toNat _ (by rw [hl1]; omega)
  obtain ⟨b', hb', hbs⟩ := blit_isSome b sb.toNat _ (by rw [hl2]; omega)
  refine ⟨f', b', _, hfs, hbs, rfl, ?_⟩
  unfold realStep
  rw [if_pos ⟨h0, h1, h2, h3, h4, h5, h6, by omega, by omega⟩]
  dsimp only
  rw [hf', hb']

theorem realKernels_get0_set0 (ap : AlnParam β) (ops : Operands β) (lenA lenB : Nat)
    (f : Array (States β)) (v : States β) (h : 0 < f.size) :
    (realKernels ap ops lenA lenB).get0 ((realKernels ap ops lenA lenB).set0 f v) = v := by
  show (f.set! 0 v).getD 0 States.negInf = v
  simp [Array.getD, h]

theorem realKernels_set0_size (ap : AlnParam β) (ops : Operands β) (lenA lenB : Nat)
    (f : Array (States β)) (v : States β) :
    ((realKernels ap ops lenA lenB).set0 f v).size = f.size := by
  show (f.set! 0 v).size = f.size
  simp

/-- `init_alnmem` fills the path with −1 -/
theorem initMem_pe (lenA lenB : Nat) (i : Int) : (initMem lenA lenB : Mem (Array (States β)) β).pe i = -1 := by
  simp only [Mem.pe, initMem, Array.getD_eq_getD_getElem?, Array.getElem?_replicate]
  split <;> rfl

theorem Rect.valid_iff (r : Rect) (lenA lenB : Nat) :
    r.valid lenA lenB = true ↔
      r.starta ≤ r.enda ∧ r.enda ≤ lenA ∧ r.startb < r.endb ∧ r.endb ≤ lenB ∧ r.lenB = lenB := by
  unfold Rect.valid; simp

omit [Score β] in
theorem lens?_seqseq {s1 s2 : Array Nat} {lenA lenB : Nat} :
    (Operands.seqseq s1 s2 : Operands β).lens? = some (lenA, lenB) ↔
      s1.all (· < 23) = true ∧ s2.all (· < 23) = true ∧ s1.size = lenA ∧ s2.size = lenB := by
  simp only [Operands.lens?]
  split
  · rename_i hc
    simp only [Option.some.injEq, Prod.mk.injEq]
    exact ⟨fun h => ⟨hc.1, hc.2, h.1, h.2⟩, fun h => ⟨h.2.2.1, h.2.2.2⟩⟩
  · rename_i hc
    exact ⟨nofun, fun h => absurd ⟨h.1, h.2.1⟩ hc⟩

omit [Score β] in
theorem lens?_seqprof {p : Array β} {s2 : Array Nat} {sip lenA lenB : Nat} :
    (Operands.seqprof p s2 sip : Operands β).lens? = some (lenA, lenB) ↔
      s2.all (· < 23) = true ∧ p.size = 64 * (lenA + 2) ∧ s2.size = lenB := by
  simp only [Operands.lens?]
  split
  · rename_i hc
    simp only [Option.some.injEq, Prod.mk.injEq]
    exact ⟨fun h => ⟨hc.1, by omega, h.2⟩, fun h => ⟨by omega, h.2.2⟩⟩
  · rename_i hc
    exact ⟨nofun, fun h => absurd ⟨h.1, by omega, by omega⟩ hc⟩

omit [Score β] in
theorem lens?_profprof {p1 p2 : Array β} {lenA lenB : Nat} :
    (Operands.profprof p1 p2 : Operands β).lens? = some (lenA, lenB) ↔
      p1.size = 64 * (lenA + 2) ∧ p2.size = 64 * (lenB + 2) := by
  simp only [Operands.lens?]
  split
  · rename_i hc
    simp only [Option.some.injEq, Prod.mk.injEq]
    exact ⟨fun h => ⟨by omega, by omega⟩, fun h => ⟨by omega, by omega⟩⟩
  · rename_i hc
    exact ⟨nofun, fun h => absurd (by omega) hc⟩

end Kalign

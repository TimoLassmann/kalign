import KalignModel.Model.Tree
import KalignModel.Lemmas.Basic.ArrayGetD
import KalignModel.Lemmas.Basic.ListWalk
import KalignModel.Lemmas.Basic.Iter
/-!
# The combinatorics of UPGMA rounds, for any matrix arithmetic

The three models of the C function `upgma` (bisectingKmeans.c) — `upgma` (binary32), `upgmaS` (`SoftF32`), `upgmaExact` (scaled
integers) — differ in the carrier of the matrix, its comparison and the join formula; what a round does to the slots does not.
`pairScan` is the double loop for the first strict minimum over the active pairs (`scanMin`, `scanMinS` are instances by `rfl`);
`SlotInv`: the leaves of the slots stay a permutation of the samples; `JoinRounds`: what the two array models supply, and what follows
for both (`leaves_perm`, `rounds_some`); `clade_join`: while every slot has one colour (inside `C` or outside), entries inside `C` are
small and entries between `C` and the rest large, the minimal pair joins two slots of the same colour, until `C` is complete.
-/
namespace Kalign

theorem exists_two_active (n : Nat) (act : Nat → Bool) (h : 2 ≤ ((List.range n).filter act).length) :
    ∃ i j, i < j ∧ j < n ∧ act i = true ∧ act j = true := by
  have hp : ((List.range n).filter act).Pairwise (· < ·) := List.Pairwise.filter _ List.pairwise_lt_range
  match hl : (List.range n).filter act, h with
  | x :: y :: rest, _ =>
    rw [hl] at hp
    have hxy : x < y := (List.pairwise_cons.1 hp).1 y List.mem_cons_self
    have hx : x ∈ (List.range n).filter act := by rw [hl]; exact List.mem_cons_self
    have hy : y ∈ (List.range n).filter act := by rw [hl]; exact List.mem_cons_of_mem _ List.mem_cons_self
    rw [List.mem_filter, List.mem_range] at hx hy
    exact ⟨x, y, hxy, hy.1, hx.2, hy.2⟩

theorem filter_deactivate (l : List Nat) (act : Nat → Bool) (b : Nat) (hnd : l.Nodup) (hb : b ∈ l) (hact : act b = true) :
    (l.filter fun i => if i = b then false else act i).length + 1 = (l.filter act).length := by
  induction l with
  | nil => cases hb
  | cons x l ih =>
    have hnd' := List.nodup_cons.1 hnd
    by_cases hx : x = b
    · subst hx
      have : l.filter (fun i => if i = x then false else act i) = l.filter act := by
        apply List.filter_congr
        intro y hy
        have : y ≠ x := fun h => hnd'.1 (h ▸ hy)
        simp [this]
      rw [List.filter_cons_of_neg (by simp), List.filter_cons_of_pos hact, this, List.length_cons]
    · have hb' : b ∈ l := by
        rcases List.mem_cons.1 hb with h | h
        · exact absurd h.symm hx
        · exact h
      have := ih hnd'.2 hb'
      by_cases hax : act x = true
      · rw [List.filter_cons_of_pos (by simp [hx, hax]), List.filter_cons_of_pos hax, List.length_cons,
          List.length_cons]
        omega
      · rw [List.filter_cons_of_neg (by simp [hx, hax]), List.filter_cons_of_neg hax]
        exact this

theorem unique_active (n : Nat) (act : Nat → Bool) (h : ((List.range n).filter act).length = 1) (i j : Nat)
    (hi : i < n) (hj : j < n) (hai : act i = true) (haj : act j = true) : i = j := by
  match hl : (List.range n).filter act, h with
  | [z], _ =>
    have h1 : i ∈ (List.range n).filter act := List.mem_filter.2 ⟨List.mem_range.2 hi, hai⟩
    have h2 : j ∈ (List.range n).filter act := List.mem_filter.2 ⟨List.mem_range.2 hj, haj⟩
    rw [hl, List.mem_singleton] at h1 h2
    rw [h1, h2]

section scan
variable {α σ : Type} (lt : α → α → Prop) [DecidableRel lt] (get : Nat → Nat → α) (act : Array Bool)
  (mk : α → Nat → Nat → σ) (mx : σ → α)

def scanStep (i j : Nat) (s : σ) : σ := if lt (get i j) (mx s) then mk (get i j) i j else s

/-- the double loop `for i < numseq-1, for j > i` of `upgma` over the active pairs (`as[i]`, `as[j]` nonzero); `σ` is the record of the running minimum, `mk v i j` the record
reporting the pair `(i, j)` with entry `v`, `mx` its value field -/
def pairScan (n : Nat) (s0 : σ) : σ :=
  (List.range (n - 1)).foldl (fun s i =>
    if act.getD i false then
      (List.range' (i + 1) (n - (i + 1))).foldl (fun s j => if act.getD j false then scanStep lt get mk mx i j s else s) s
    else s) s0

def scanPairs (n : Nat) : List (Nat × Nat) :=
  (List.range (n - 1)).flatMap fun i =>
    if act.getD i false then ((List.range' (i + 1) (n - (i + 1))).filter fun j => act.getD j false).map fun j => (i, j) else []

theorem mem_scanPairs (n i j : Nat) :
    (i, j) ∈ scanPairs act n ↔ i < j ∧ j < n ∧ act.getD i false = true ∧ act.getD j false = true := by
  simp only [scanPairs, List.mem_flatMap, List.mem_range]
  constructor
  · rintro ⟨i', hi', h⟩
    split at h
    · rename_i hai
      simp only [List.mem_map, List.mem_filter, List.mem_range'_1, Prod.mk.injEq] at h
      obtain ⟨j', ⟨hj', haj⟩, rfl, rfl⟩ := h
      exact ⟨by omega, by omega, hai, haj⟩
    · cases h
  · rintro ⟨hij, hj, hai, haj⟩
    refine ⟨i, by omega, ?_⟩
    rw [if_pos hai]
    exact List.mem_map.2 ⟨j, List.mem_filter.2 ⟨List.mem_range'_1.2 (by omega), haj⟩, rfl⟩

variable {lt get act mk mx}

theorem pairScan_eq (n : Nat) (s0 : σ) :
    pairScan lt get act mk mx n s0 = (scanPairs act n).foldl (fun s p => scanStep lt get mk mx p.1 p.2 s) s0 := by
  unfold pairScan scanPairs
  rw [List.foldl_flatMap]
  congr
  funext s i
  split
  · rw [List.foldl_map, List.foldl_filter]
  · rfl

theorem pairScan_inv (n : Nat) (P : σ → Prop)
    (h : ∀ i j, i < j → j < n → act.getD i false = true → act.getD j false = true → ∀ s, P s → P (scanStep lt get mk mx i j s))
    (s0 : σ) (h0 : P s0) : P (pairScan lt get act mk mx n s0) := by
  rw [pairScan_eq]
  refine List.foldlRecOn (motive := P) _ _ h0 (fun s hs p hp => ?_)
  obtain ⟨hij, hj, hai, haj⟩ := (mem_scanPairs act n p.1 p.2).1 hp
  exact h p.1 p.2 hij hj hai haj s hs

theorem pairScan_reach (n : Nat) (P G : σ → Prop) (i j : Nat) (hij : i < j) (hj : j < n)
    (hai : act.getD i false = true) (haj : act.getD j false = true)
    (hP : ∀ i j, i < j → j < n → act.getD i false = true → act.getD j false = true → ∀ s, P s → P (scanStep lt get mk mx i j s))
    (hG : ∀ i j s, P s → G s → G (scanStep lt get mk mx i j s))
    (hstep : ∀ s, P s → G (scanStep lt get mk mx i j s)) (s0 : σ) (h0 : P s0) : G (pairScan lt get act mk mx n s0) := by
  rw [pairScan_eq]
  refine foldl_reach _ P G _ (i, j) ((mem_scanPairs act n i j).2 ⟨hij, hj, hai, haj⟩) (fun s p hp hs => ?_)
    (fun s p _ hs hg => hG p.1 p.2 s hs hg) hstep s0 h0
  obtain ⟨hij', hj', hai', haj'⟩ := (mem_scanPairs act n p.1 p.2).1 hp
  exact hP p.1 p.2 hij' hj' hai' haj' s hs

def Reports (mk : α → Nat → Nat → σ) (mx : σ → α) (a b : σ → Nat) (found : σ → Bool) : Prop :=
  ∀ v i j, mx (mk v i j) = v ∧ a (mk v i j) = i ∧ b (mk v i j) = j ∧ found (mk v i j) = true

variable (a b : σ → Nat) (found : σ → Bool) (hmk : Reports mk mx a b found)
include hmk

theorem pairScan_pair (n : Nat) (s0 : σ) (h0 : found s0 = false) {r : σ} (hr : pairScan lt get act mk mx n s0 = r)
    (h : found r = true) :
    mx r = get (a r) (b r) ∧ a r < b r ∧ b r < n ∧ act.getD (a r) false = true ∧ act.getD (b r) false = true := by
  subst hr
  refine pairScan_inv n (fun s => found s = true →
      mx s = get (a s) (b s) ∧ a s < b s ∧ b s < n ∧ act.getD (a s) false = true ∧ act.getD (b s) false = true)
    (fun i j hij hj hai haj s hs => ?_) s0 (fun h => by rw [h0] at h; cases h) h
  unfold scanStep
  split
  · intro _
    obtain ⟨e1, e2, e3, _⟩ := hmk (get i j) i j
    rw [e1, e2, e3]
    exact ⟨rfl, hij, hj, hai, haj⟩
  · exact hs

theorem pairScan_fresh (n : Nat) (s0 : σ) (h : found (pairScan lt get act mk mx n s0) = false) :
    mx (pairScan lt get act mk mx n s0) = mx s0 := by
  refine pairScan_inv n (fun s => found s = false → mx s = mx s0) (fun i j _ _ _ _ s hs => ?_) s0 (fun _ => rfl) h
  unfold scanStep
  split
  · intro hf
    rw [(hmk (get i j) i j).2.2.2] at hf
    cases hf
  · exact hs

theorem pairScan_found (n : Nat) (s0 : σ) (i j : Nat) (hij : i < j) (hj : j < n)
    (hai : act.getD i false = true) (haj : act.getD j false = true) (hlt : lt (get i j) (mx s0)) :
    found (pairScan lt get act mk mx n s0) = true := by
  refine pairScan_reach n (fun s => found s = false → mx s = mx s0) (fun s => found s = true) i j hij hj hai haj
    (fun i' j' _ _ _ _ s hs => ?_) (fun i' j' s _ hg => ?_) (fun s hs => ?_) s0 (fun _ => rfl)
  · unfold scanStep
    split
    · intro hf
      rw [(hmk (get i' j') i' j').2.2.2] at hf
      cases hf
    · exact hs
  · unfold scanStep
    split
    · exact (hmk (get i' j') i' j').2.2.2
    · exact hg
  · unfold scanStep
    split
    · exact (hmk (get i j) i j).2.2.2
    · rename_i hn
      cases hf : found s with
      | true => rfl
      | false => rw [hs hf] at hn; exact absurd hlt hn

theorem pairScan_min (hirr : ∀ x, ¬ lt x x) (htr : ∀ x y z, lt x y → lt y z → lt x z) (n : Nat) (s0 : σ) (i j : Nat)
    (hij : i < j) (hj : j < n) (hai : act.getD i false = true) (haj : act.getD j false = true) :
    ¬ lt (get i j) (mx (pairScan lt get act mk mx n s0)) := by
  refine pairScan_reach n (fun _ => True) (fun s => ¬ lt (get i j) (mx s)) i j hij hj hai haj
    (fun _ _ _ _ _ _ _ _ => trivial) (fun i' j' s _ hg => ?_) (fun s _ => ?_) s0 trivial
  · unfold scanStep
    split
    · rename_i hlt
      rw [(hmk (get i' j') i' j').1]
      exact fun hx => hg (htr _ _ _ hx hlt)
    · exact hg
  · unfold scanStep
    split
    · rw [(hmk (get i j) i j).1]
      exact hirr _
    · rename_i hn
      exact hn

end scan

def leavesO : Option GTree → List Nat
  | none => []
  | some t => t.leaves

/-- the slots after `k` joins.  `leaves`: a join moves the leaves of slot `b` behind those of slot `a` (`join_perm`) -/
structure SlotInv (n : Nat) (samples : List Nat) (k : Nat) (act : Array Bool) (tree : Array (Option GTree)) (last : Nat) :
    Prop where
  tsize : tree.size = n
  asize : act.size = n
  sync : ∀ i, i < n → act.getD i false = (tree.getD i none).isSome
  count : ((List.range n).filter fun i => act.getD i false).length + k = n
  leaves : (tree.toList.flatMap leavesO).Perm samples
  last : last < n ∧ act.getD last false = true

section join
variable {n : Nat} {samples : List Nat} {k : Nat} {act : Array Bool} {tree : Array (Option GTree)} {last : Nat}

theorem slots_join (hsize : tree.size = n) {a b : Nat} (han : a < n) (hbn : b < n)
    (t : GTree) (i : Nat) :
    ((tree.setIfInBounds a (some t)).setIfInBounds b none).getD i none =
      if i = b then none else if i = a then some t else tree.getD i none := by
  rw [getD_setIfInBounds_of_lt _ _ _ _ _ (by simp [hsize]; exact hbn), getD_setIfInBounds_of_lt _ _ _ _ _ (by rw [hsize]; exact han)]

theorem join_cases {slot slot' : Nat → Option GTree} {a b : Nat} {ta tb : GTree}
    (hslot : ∀ i, slot' i = if i = b then none else if i = a then some (.node ta tb) else slot i) {i : Nat} {t : GTree}
    (ht : slot' i = some t) : (i = a ∧ t = .node ta tb) ∨ (i ≠ a ∧ i ≠ b ∧ slot i = some t) := by
  rw [hslot] at ht
  by_cases h2 : i = b
  · simp [h2] at ht
  · by_cases h1 : i = a
    · rw [if_neg h2, if_pos h1] at ht
      cases ht
      exact Or.inl ⟨h1, rfl⟩
    · rw [if_neg h2, if_neg h1] at ht
      exact Or.inr ⟨h1, h2, ht⟩

theorem join_perm (tree : Array (Option GTree)) {a b : Nat} {ta tb : GTree} (hab : a < b) (hbn : b < tree.size)
    (hta : tree.getD a none = some ta) (htb : tree.getD b none = some tb) :
    (((tree.setIfInBounds a (some (.node ta tb))).setIfInBounds b none).toList.flatMap leavesO).Perm
      (tree.toList.flatMap leavesO) := by
  have ha' : a < tree.toList.length := by simp; omega
  have hb' : b < (tree.toList.set a (some (.node ta tb))).length := by simpa using hbn
  have h1 := flatMap_set_perm leavesO (some (.node ta tb)) tree.toList a ha'
  have h2 := flatMap_set_perm leavesO none (tree.toList.set a (some (.node ta tb))) b hb'
  rw [getD_toList tree a none (by omega), hta] at h1
  rw [List.getElem_set_ne (by omega), getD_toList tree b none hbn, htb] at h2
  simp only [Array.toList_setIfInBounds]
  simp only [leavesO, GTree.leaves, List.nil_append] at h1 h2
  -- with `L`, `L1`, `L2` the concatenations before, after the first and after the second write, `A`, `B` the leaves of `ta`, `tb`:
  -- `h1 : L1 ++ A ~ (A ++ B) ++ L` and `h2 : L2 ++ B ~ L1`; cancel `A ++ B`
  have h3 := (h2.append_right ta.leaves).trans h1
  rw [List.append_assoc] at h3
  exact (List.perm_append_left_iff _).1
    ((List.perm_append_comm.trans (h3.trans (List.perm_append_comm.append_right _))).trans
      (by rw [List.append_assoc]))

theorem SlotInv.mem (h : SlotInv n samples k act tree last) (x : Nat) :
    x ∈ samples ↔ ∃ i, i < n ∧ ∃ t, tree.getD i none = some t ∧ x ∈ t.leaves := by
  rw [← h.leaves.mem_iff, List.mem_flatMap]
  constructor
  · rintro ⟨o, ho, hx⟩
    obtain ⟨i, hi, e⟩ := List.getElem_of_mem ho
    have hi' : i < tree.size := by simpa using hi
    rw [getD_toList tree i none hi'] at e
    cases o with
    | none => cases hx
    | some t => exact ⟨i, h.tsize ▸ hi', t, e, hx⟩
  · rintro ⟨i, hi, t, ht, hx⟩
    have hi' : i < tree.size := h.tsize ▸ hi
    exact ⟨some t, by rw [← ht, ← getD_toList tree i none hi']; exact List.getElem_mem _, hx⟩

theorem SlotInv.join (h : SlotInv n samples k act tree last) {a b : Nat} {ta tb : GTree} (hab : a < b) (hbn : b < n)
    (haa : act.getD a false = true) (hab' : act.getD b false = true) (hta : tree.getD a none = some ta)
    (htb : tree.getD b none = some tb) :
    SlotInv n samples (k + 1) (act.setIfInBounds b false) ((tree.setIfInBounds a (some (.node ta tb))).setIfInBounds b none) a := by
  have han : a < n := by omega
  have hne : a ≠ b := by omega
  have hact : ∀ i, (act.setIfInBounds b false).getD i false = if i = b then false else act.getD i false :=
    fun i => getD_setIfInBounds_of_lt _ _ _ _ _ (by rw [h.asize]; exact hbn)
  have htree := slots_join h.tsize han hbn (.node ta tb)
  refine ⟨by simp [h.tsize], by simp [h.asize], ?_, ?_, (join_perm tree hab (h.tsize ▸ hbn) hta htb).trans h.leaves,
    han, by rw [hact, if_neg hne, haa]⟩
  · intro i hi
    rw [hact, htree]
    by_cases h1 : i = b
    · simp [h1]
    · by_cases h2 : i = a
      · subst h2; simp [h1, haa]
      · simp [h1, h2, h.sync i hi]
  · have h1 := filter_deactivate (List.range n) (fun i => act.getD i false) b List.nodup_range (List.mem_range.2 hbn) hab'
    have h2 : ((List.range n).filter fun i => (act.setIfInBounds b false).getD i false) =
        (List.range n).filter fun i => if i = b then false else act.getD i false :=
      List.filter_congr fun i _ => hact i
    have h3 := h.count
    rw [h2]
    omega

theorem SlotInv.root (h : SlotInv n samples k act tree last) (hk : k + 1 = n) :
    ∃ t, tree.getD last none = some t ∧ t.leaves.Perm samples ∧
      ∀ i t', i < n → tree.getD i none = some t' → i = last ∧ t' = t := by
  have hsome := h.sync _ h.last.1
  rw [h.last.2] at hsome
  obtain ⟨t, ht⟩ := Option.isSome_iff_exists.1 hsome.symm
  have huniq : ∀ i t', i < n → tree.getD i none = some t' → i = last ∧ t' = t := by
    intro i t' hi ht'
    have hcount := h.count
    have := unique_active n (fun i => act.getD i false) (by omega) i last hi h.last.1 (by rw [h.sync i hi, ht']; rfl) h.last.2
    subst this
    rw [ht] at ht'; cases ht'
    exact ⟨rfl, rfl⟩
  refine ⟨t, ht, ?_, huniq⟩
  have hl : last < tree.toList.length := by simp [h.tsize, h.last.1]
  have h1 := flatMap_set_perm leavesO none tree.toList last hl
  rw [getD_toList tree last none (by simpa using hl), ht] at h1
  have h0 : (tree.toList.set last none).flatMap leavesO = [] := by
    rw [List.flatMap_eq_nil_iff]
    intro o ho
    obtain ⟨i, hi, e⟩ := List.getElem_of_mem ho
    rw [List.getElem_set] at e
    split at e
    · rw [← e]; rfl
    · rename_i hne
      have hi' : i < tree.size := by simpa using hi
      rw [getD_toList tree i none hi'] at e
      cases o with
      | none => rfl
      | some t' => exact absurd (huniq i t' (h.tsize ▸ hi') e).1.symm hne
  rw [h0] at h1
  exact h1.trans h.leaves

end join

theorem SlotInv.init (samples : List Nat) (hn : samples.length ≠ 0) :
    SlotInv samples.length samples 0 (Array.replicate samples.length true) (samples.map fun i => some (GTree.leaf i)).toArray 0 := by
  refine ⟨by simp, by simp, ?_, ?_, ?_, ?_⟩
  · intro i hi
    simp [Array.getD, hi]
  · rw [List.filter_eq_self.2 (fun i hi => by simp [Array.getD, List.mem_range.1 hi])]
    simp
  · have : ∀ l : List Nat, (l.map fun i => some (GTree.leaf i)).flatMap leavesO = l := by
      intro l
      induction l with
      | nil => rfl
      | cons x xs ih => simp only [List.map_cons, List.flatMap_cons, ih]; rfl
    rw [this]
  · exact ⟨by omega, by simp [Array.getD]; omega⟩

/-- The rounds of a model of `upgma` as the slot lemmas see them: a round scans for a pair (`found`, `a`, `b` of the state) and, if one is
found, joins its two slots.  `below s i j`: entry `(i, j)` of the matrix of `s` is below the start value of the scan.  `pair` is what the scan
guarantees of the pair it reports, `finds` when it reports one, `joins` what a round that returns has done, `returns` that it does. -/
structure JoinRounds (n : Nat) (σ : Type) where
  act : σ → Array Bool
  tree : σ → Array (Option GTree)
  last : σ → Nat
  round : σ → Option σ
  below : σ → Nat → Nat → Prop
  found : σ → Bool
  a : σ → Nat
  b : σ → Nat
  pair : ∀ s, found s = true → a s < b s ∧ b s < n ∧ (act s).getD (a s) false = true ∧ (act s).getD (b s) false = true
  finds : ∀ s i j, i < j → j < n → (act s).getD i false = true → (act s).getD j false = true → below s i j → found s = true
  joins : ∀ s s', round s = some s' → found s = true ∧ ∃ ta tb, (tree s).getD (a s) none = some ta ∧
    (tree s).getD (b s) none = some tb ∧ act s' = (act s).setIfInBounds (b s) false ∧
    tree s' = ((tree s).setIfInBounds (a s) (some (.node ta tb))).setIfInBounds (b s) none ∧ last s' = a s
  returns : ∀ s ta tb, found s = true → (tree s).getD (a s) none = some ta → (tree s).getD (b s) none = some tb →
    ∃ s', round s = some s'

namespace JoinRounds
variable {n : Nat} {σ : Type} (R : JoinRounds n σ) {samples : List Nat}

theorem inv {k : Nat} {s s' : σ} (h : SlotInv n samples k (R.act s) (R.tree s) (R.last s)) (hr : R.round s = some s') :
    SlotInv n samples (k + 1) (R.act s') (R.tree s') (R.last s') := by
  obtain ⟨hf, ta, tb, hta, htb, e1, e2, e3⟩ := R.joins _ _ hr
  obtain ⟨hab, hbn, haa, hab'⟩ := R.pair _ hf
  rw [e1, e2, e3]
  exact h.join hab hbn haa hab' hta htb

/-- a round returns as soon as one active pair is below -/
theorem steps (s : σ) (hsync : ∀ i, i < n → (R.act s).getD i false = ((R.tree s).getD i none).isSome) (i j : Nat) (hij : i < j)
    (hj : j < n) (hai : (R.act s).getD i false = true) (haj : (R.act s).getD j false = true) (hlt : R.below s i j) :
    ∃ s', R.round s = some s' := by
  have hf := R.finds s i j hij hj hai haj hlt
  obtain ⟨hab, hbn, haa, hab'⟩ := R.pair s hf
  have hta := hsync _ (show R.a s < n by omega)
  have htb := hsync _ hbn
  rw [haa] at hta
  rw [hab'] at htb
  obtain ⟨ta, hta'⟩ := Option.isSome_iff_exists.1 hta.symm
  obtain ⟨tb, htb'⟩ := Option.isSome_iff_exists.1 htb.symm
  exact R.returns s ta tb hf hta' htb'

variable {s0 : σ} (h0 : SlotInv n samples 0 (R.act s0) (R.tree s0) (R.last s0))
include h0

theorem rounds_slots : ∀ k s, iterOpt R.round k s0 = some s → SlotInv n samples k (R.act s) (R.tree s) (R.last s) :=
  iterOpt_inv _ (fun k s => SlotInv n samples k (R.act s) (R.tree s) (R.last s)) (fun _ _ _ h hr => R.inv h hr) _ h0

theorem leaves_perm (hn : n ≠ 0) {s : σ} {t : GTree} (hs : iterOpt R.round (n - 1) s0 = some s)
    (ht : (R.tree s).getD (R.last s) none = some t) : t.leaves.Perm samples := by
  obtain ⟨t', ht', hl, _⟩ := (R.rounds_slots h0 _ s hs).root (by omega)
  rw [ht] at ht'
  cases ht'
  exact hl

theorem rounds_some (hn : n ≠ 0)
    (hbelow : ∀ k s, k + 1 < n → iterOpt R.round k s0 = some s →
      ∀ i j, i < j → j < n → (R.act s).getD i false = true → (R.act s).getD j false = true → R.below s i j) :
    ∃ s t, iterOpt R.round (n - 1) s0 = some s ∧ (R.tree s).getD (R.last s) none = some t := by
  obtain ⟨s, hs, _, hinv⟩ := iterOpt_steps R.round
    (fun k s => iterOpt R.round k s0 = some s ∧ SlotInv n samples k (R.act s) (R.tree s) (R.last s)) n
    (fun k s hk ⟨hs, hinv⟩ => by
      have hcount := hinv.count
      obtain ⟨i, j, hij, hj, hai, haj⟩ := exists_two_active n (fun i => (R.act s).getD i false) (by omega)
      obtain ⟨s', hs'⟩ := R.steps s hinv.sync i j hij hj hai haj (hbelow k s (by omega) hs i j hij hj hai haj)
      exact ⟨s', hs', by rw [iterOpt_succ_right, hs]; exact hs', R.inv hinv hs'⟩)
    (n - 1) 0 s0 (by omega) ⟨rfl, h0⟩
  rw [Nat.zero_add] at hinv
  obtain ⟨t, ht, _, _⟩ := hinv.root (by omega)
  exact ⟨s, t, hs, ht⟩

end JoinRounds

theorem GTree.leaves_ne_nil (t : GTree) : t.leaves ≠ [] := by
  induction t with
  | leaf i => simp [GTree.leaves]
  | node l r ihl _ => simp [GTree.leaves, ihl]

theorem GTree.self_mem_subtrees (t : GTree) : t ∈ t.subtrees := by
  cases t <;> simp [GTree.subtrees]

theorem GTree.subtrees_trans {s t u : GTree} (h1 : s ∈ t.subtrees) (h2 : t ∈ u.subtrees) : s ∈ u.subtrees := by
  induction u with
  | leaf i =>
    simp only [GTree.subtrees, List.mem_singleton] at h2
    subst h2; exact h1
  | node l r ihl ihr =>
    simp only [GTree.subtrees, List.mem_cons, List.mem_append] at h2 ⊢
    rcases h2 with rfl | h2 | h2
    · simpa only [GTree.subtrees, List.mem_cons, List.mem_append] using h1
    · exact Or.inr (Or.inl (ihl h2))
    · exact Or.inr (Or.inr (ihr h2))

/-- all leaves of `t` have colour `x` (`true`: inside the set `C`) -/
def Coloured (c : Nat → Bool) (t : GTree) (x : Bool) : Prop := ∀ l ∈ t.leaves, c l = x

theorem Coloured.node {c : Nat → Bool} {l r : GTree} {x : Bool} (h1 : Coloured c l x) (h2 : Coloured c r x) : Coloured c (.node l r) x :=
  fun z hz => (List.mem_append.1 hz).elim (h1 z) (h2 z)

theorem Coloured.unique {c : Nat → Bool} {t : GTree} {x y : Bool} (h1 : Coloured c t x) (h2 : Coloured c t y) : x = y := by
  cases h : t.leaves with
  | nil => exact absurd h (GTree.leaves_ne_nil t)
  | cons z l =>
    have hz : z ∈ t.leaves := by rw [h]; exact List.mem_cons_self
    rw [← h1 z hz, ← h2 z hz]

section clade
variable {α : Type}

/-- the class of an entry between a slot of colour `x` and one of colour `y`; symmetric in the colours, so the two joins that keep the
invariant (both slots inside `C`, both outside) are one case. -/
def Sep (Small Big : α → Prop) : Bool → Bool → α → Prop
  | true, true => Small
  | false, false => fun _ => True
  | _, _ => Big

theorem Sep.symm {Small Big : α → Prop} {x y : Bool} {u : α} (h : Sep Small Big x y u) : Sep Small Big y x u := by
  cases x <;> cases y <;> exact h

/-- `slot i` is the tree of the active slot `i`, `d` the matrix, `dom` the set of leaf labels. -/
structure CladeInv (n : Nat) (dom : Nat → Prop) (c : Nat → Bool) (slot : Nat → Option GTree) (d : Nat → Nat → α)
    (Small Big : α → Prop) : Prop where
  pure : ∀ i t, i < n → slot i = some t → ∃ x, Coloured c t x
  cover : ∀ l, dom l → c l = true → ∃ i t, i < n ∧ slot i = some t ∧ Coloured c t true ∧ l ∈ t.leaves
  sep : ∀ i j t t' x y, i < n → j < n → i ≠ j → slot i = some t → slot j = some t' → Coloured c t x → Coloured c t' y →
    Sep Small Big x y (d i j)

def CladeDone (n : Nat) (dom : Nat → Prop) (c : Nat → Bool) (slot : Nat → Option GTree) : Prop :=
  ∃ i t, i < n ∧ slot i = some t ∧ ∃ u ∈ t.subtrees, ∀ x, x ∈ u.leaves ↔ (dom x ∧ c x = true)

def CladeState (n : Nat) (dom : Nat → Prop) (c : Nat → Bool) (slot : Nat → Option GTree) (d : Nat → Nat → α) (Small Big : α → Prop) : Prop :=
  CladeInv n dom c slot d Small Big ∨ CladeDone n dom c slot

variable {n : Nat} {dom : Nat → Prop} {c : Nat → Bool} {slot : Nat → Option GTree} {d : Nat → Nat → α} {Small Big : α → Prop}

theorem CladeInv.init (label : Nat → Nat) (hslot : ∀ i, i < n → slot i = some (.leaf (label i)))
    (hdom : ∀ x, dom x → ∃ i, i < n ∧ label i = x)
    (hcc : ∀ i j, i < n → j < n → i ≠ j → c (label i) = true → c (label j) = true → Small (d i j))
    (hcr : ∀ i z, i < n → z < n → c (label i) = true → c (label z) = false → Big (d i z) ∧ Big (d z i)) :
    CladeInv n dom c slot d Small Big := by
  have hleaf : ∀ i t x, i < n → slot i = some t → Coloured c t x → c (label i) = x := by
    intro i t x hi ht hx
    rw [hslot i hi] at ht
    cases ht
    exact hx _ (List.mem_singleton_self _)
  refine ⟨fun i t hi ht => ?_, ?_, ?_⟩
  · rw [hslot i hi] at ht
    cases ht
    exact ⟨c (label i), fun l hl => by rw [List.mem_singleton.1 hl]⟩
  · intro x hx hcx
    obtain ⟨i, hi, e⟩ := hdom x hx
    refine ⟨i, _, hi, hslot i hi, fun y hy => ?_, by rw [e]; exact List.mem_singleton_self x⟩
    rw [List.mem_singleton.1 hy, e]
    exact hcx
  · intro i j t t' x y hi hj hij ht ht' hx hy
    have hx' := hleaf i t x hi ht hx
    have hy' := hleaf j t' y hj ht' hy
    cases x <;> cases y
    · trivial
    · exact (hcr j i hj hi hy' hx').2
    · exact (hcr i j hi hj hx' hy').1
    · exact hcc i j hi hj hij hx' hy'

theorem clade_root {T : GTree} (hI : CladeState n dom c slot d Small Big)
    (huniq : ∀ i t, i < n → slot i = some t → t = T) (hleaves : ∀ x, x ∈ T.leaves → dom x) (hC : ∃ x, dom x ∧ c x = true) :
    ∃ u ∈ T.subtrees, ∀ x, x ∈ u.leaves ↔ (dom x ∧ c x = true) := by
  rcases hI with hP | ⟨i, t, hi, ht, u, hu, hlu⟩
  · have hall : ∀ x, dom x → c x = true → Coloured c T true ∧ x ∈ T.leaves := by
      intro x hx hcx
      obtain ⟨i, t, hi, ht, hCt, hxt⟩ := hP.cover x hx hcx
      rw [huniq i t hi ht] at hCt hxt
      exact ⟨hCt, hxt⟩
    obtain ⟨x0, hx0, hcx0⟩ := hC
    exact ⟨T, GTree.self_mem_subtrees _,
      fun x => ⟨fun hx => ⟨hleaves x hx, (hall x0 hx0 hcx0).1 x hx⟩, fun hx => (hall x hx.1 hx.2).2⟩⟩
  · rw [huniq i t hi ht] at hu
    exact ⟨u, hu, hlu⟩

/-- One round: the pair `a < b` has a minimal entry among the active pairs (`hmin`), slot `a` receives the join and slot `b` is emptied
(`hslot`).  `keep`: what the round does to an entry off row and column `a` (`2 * ·` on the scaled integers, the identity on binary32);
`join`: the new entry of row `a` from the two old ones; column `a` mirrors row `a`; `Small'`, `Big'`: the classes one round later.  The first
alternative of `d2`, `d3` is a write outside the stored matrix, which the array models drop. -/
theorem clade_join {slot' : Nat → Option GTree} {d' : Nat → Nat → α} {lt : α → α → Prop} {keep : α → α} {join : α → α → α}
    {Small' Big' : α → Prop}
    (hsep : ∀ x y, Small x → Big y → lt x y)
    (hkS : ∀ x, Small x → Small' (keep x)) (hkB : ∀ x, Big x → Big' (keep x))
    (hjS : ∀ x y, Small x → Small y → Small' (join x y)) (hjB : ∀ x y, Big x → Big y → Big' (join x y))
    {a b : Nat} {ta tb : GTree} (hab : a < b) (hbn : b < n) (hta : slot a = some ta) (htb : slot b = some tb)
    (hslot : ∀ i, slot' i = if i = b then none else if i = a then some (.node ta tb) else slot i)
    (hmin : ∀ i j ti tj, i < j → j < n → slot i = some ti → slot j = some tj → ¬ lt (d i j) (d a b))
    (hleaves : ∀ i t x, i < n → slot i = some t → x ∈ t.leaves → dom x)
    (d1 : ∀ i j, i < n → j < n → i ≠ a → j ≠ a → d' i j = keep (d i j))
    (d2 : ∀ j, j < n → j ≠ a → j ≠ b → d' a j = keep (d a j) ∨ d' a j = join (d a j) (d b j))
    (d3 : ∀ i, i < n → i ≠ a → i ≠ b → d' i a = keep (d i a) ∨ d' i a = d' a i)
    (hI : CladeState n dom c slot d Small Big) : CladeState n dom c slot' d' Small' Big' := by
  have han : a < n := by omega
  have hne : a ≠ b := by omega
  have tcases := fun i t => join_cases hslot (i := i) (t := t)
  have hslot_a : slot' a = some (.node ta tb) := by rw [hslot]; simp [hne]
  have hslot_o : ∀ i, i ≠ a → i ≠ b → slot' i = slot i := by
    intro i h1 h2; rw [hslot]; simp [h1, h2]
  have hk : ∀ x y u, Sep Small Big x y u → Sep Small' Big' x y (keep u) := by
    intro x y u h
    cases x <;> cases y
    · trivial
    · exact hkB u h
    · exact hkB u h
    · exact hkS u h
  have hj : ∀ x y u v, Sep Small Big x y u → Sep Small Big x y v → Sep Small' Big' x y (join u v) := by
    intro x y u v h1 h2
    cases x <;> cases y
    · trivial
    · exact hjB u v h1 h2
    · exact hjB u v h1 h2
    · exact hjS u v h1 h2
  have done_stable : CladeDone n dom c slot → CladeDone n dom c slot' := by
    rintro ⟨i, t, hi, ht, u, hu, hlu⟩
    by_cases hia : i = a
    · subst hia
      rw [hta] at ht; cases ht
      exact ⟨i, _, hi, hslot_a, u, GTree.subtrees_trans hu (by simp [GTree.subtrees, GTree.self_mem_subtrees]), hlu⟩
    · by_cases hib : i = b
      · subst hib
        rw [htb] at ht; cases ht
        exact ⟨a, _, han, hslot_a, u, GTree.subtrees_trans hu (by simp [GTree.subtrees, GTree.self_mem_subtrees]), hlu⟩
      · exact ⟨i, t, hi, by rw [hslot_o i hia hib]; exact ht, u, hu, hlu⟩
  rcases hI with hP | hD
  rotate_left
  · exact Or.inr (done_stable hD)
  obtain ⟨x, hxa⟩ := hP.pure a ta han hta
  obtain ⟨y, hyb⟩ := hP.pure b tb hbn htb
  by_cases hxy : x = y
  · -- both inside `C` or both outside
    subst hxy
    left
    have hn : Coloured c (.node ta tb) x := hxa.node hyb
    have rowA : ∀ j t z, j < n → j ≠ a → j ≠ b → slot j = some t → Coloured c t z → Sep Small' Big' x z (d' a j) := by
      intro j t z hj' hja hjb ht hz
      have h1 := hP.sep a j ta t x z han hj' (fun e => hja e.symm) hta ht hxa hz
      have h2 := hP.sep b j tb t x z hbn hj' (fun e => hjb e.symm) htb ht hyb hz
      rcases d2 j hj' hja hjb with e | e <;> rw [e]
      · exact hk _ _ _ h1
      · exact hj _ _ _ _ h1 h2
    refine ⟨?_, ?_, ?_⟩
    · intro i t hi ht
      rcases tcases i t ht with ⟨_, rfl⟩ | ⟨_, _, ht0⟩
      · exact ⟨x, hn⟩
      · exact hP.pure i t hi ht0
    · intro l hl hcl
      obtain ⟨i3, t3, hi3n, ht3, hC3, hx3⟩ := hP.cover l hl hcl
      by_cases h3a : i3 = a
      · subst h3a
        rw [hta] at ht3; cases ht3
        rw [hxa.unique hC3] at hn
        exact ⟨i3, _, hi3n, hslot_a, hn, List.mem_append_left _ hx3⟩
      · by_cases h3b : i3 = b
        · subst h3b
          rw [htb] at ht3; cases ht3
          rw [hyb.unique hC3] at hn
          exact ⟨a, _, han, hslot_a, hn, List.mem_append_right _ hx3⟩
        · exact ⟨i3, t3, hi3n, by rw [hslot_o i3 h3a h3b]; exact ht3, hC3, hx3⟩
    · intro i j t t' z w hi hj' hij ht ht' hz hw
      rcases tcases i t ht with ⟨hia, rfl⟩ | ⟨hia, hib, ht0⟩ <;> rcases tcases j t' ht' with ⟨hja, rfl⟩ | ⟨hja, hjb, ht0'⟩
      · exact absurd (hia.trans hja.symm) hij
      · rw [hia, hz.unique hn]; exact rowA j t' w hj' hja hjb ht0' hw
      · rw [hja, hw.unique hn]
        rcases d3 i hi hia hib with e | e <;> rw [e]
        · exact hk _ _ _ (hP.sep i a t ta z x hi han hia ht0 hta hz hxa)
        · exact (rowA i t z hi hia hib ht0 hz).symm
      · rw [d1 i j hi hj' hia hja]
        exact hk _ _ _ (hP.sep i j t t' z w hi hj' hij ht0 ht0' hz hw)
  · -- a mixed join: the selected entry is `Big`, so no two slots inside `C` are left
    right
    apply done_stable
    have hbig : Big (d a b) := by
      have := hP.sep a b ta tb x y han hbn hne hta htb hxa hyb
      cases x <;> cases y
      · exact absurd rfl hxy
      · exact this
      · exact this
      · exact absurd rfl hxy
    have : ∃ i1 t1, i1 < n ∧ slot i1 = some t1 ∧ Coloured c t1 true := by
      cases x
      · cases y
        · exact absurd rfl hxy
        · exact ⟨b, tb, hbn, htb, hyb⟩
      · exact ⟨a, ta, han, hta, hxa⟩
    obtain ⟨i1, t1, hi1n, ht1, hC⟩ := this
    refine ⟨i1, t1, hi1n, ht1, t1, GTree.self_mem_subtrees _, fun l => ⟨fun hl => ⟨hleaves i1 t1 l hi1n ht1 hl, hC l hl⟩, ?_⟩⟩
    rintro ⟨hls, hcl⟩
    obtain ⟨i3, t3, hi3n, ht3, hC3, hx3⟩ := hP.cover l hls hcl
    by_cases h13 : i3 = i1
    · rw [h13, ht1] at ht3; cases ht3; exact hx3
    · exfalso
      have hsmall : ∀ p q tp tq, p < q → q < n → slot p = some tp → slot q = some tq → Coloured c tp true → Coloured c tq true → False :=
        fun p q tp tq hpq hqn htp htq hCp hCq =>
          hmin p q tp tq hpq hqn htp htq (hsep _ _ (hP.sep p q tp tq true true (by omega) hqn (by omega) htp htq hCp hCq) hbig)
      rcases Nat.lt_or_gt_of_ne h13 with h | h
      · exact hsmall i3 i1 t3 t1 h hi1n ht3 ht1 hC3 hC
      · exact hsmall i1 i3 t1 t3 h hi3n ht1 ht3 hC hC3

end clade

end Kalign

import KalignModel.Lemmas.UpgmaRound
import KalignModel.Lemmas.Basic.Iter
/-!
# UPGMA over exact arithmetic: a set of mutually closest leaves becomes a clade

`upgmaExact` (Model/Tree.lean) runs the C function `upgma` on integers scaled by `2^stage`; `delta` stands for the `0.001F`
added at every join.  `upgmaExact_clade`: if the leaves `C` are at mutual distance at most `A`, every other leaf is at
distance at least `A + H` from every member of `C`, and `n * delta < H`, then the tree contains a subtree whose leaves are
exactly `C`: while two subtrees inside `C` are still separate their distance is at most `A + k*delta` after `k` joins, which
stays below the distance `≥ A + H` of any mixed pair (`clade_join`, Lemmas/UpgmaRound.lean, with the bounds `ubound`, `lbound`).
-/
namespace Kalign

theorem tabGet_mkTab (n : Nat) (f : Nat → Nat → Int) (i j : Nat) (hi : i < n) (hj : j < n) :
    tabGet (mkTab n f) i j = f i j := by
  simp [tabGet, mkTab, Array.getD, hi, hj]

theorem firstMin_spec (dm : Nat → Nat → Int) (l : List (Nat × Nat)) (best : Option (Nat × Nat)) (r : Nat × Nat)
    (h : firstMin dm l best = some r) :
    (r ∈ l ∨ best = some r) ∧ (∀ q ∈ l, dm r.1 r.2 ≤ dm q.1 q.2) ∧ (∀ b, best = some b → dm r.1 r.2 ≤ dm b.1 b.2) := by
  induction l generalizing best with
  | nil =>
    simp only [firstMin] at h
    subst h
    refine ⟨Or.inr rfl, ?_, ?_⟩
    · intro q hq; cases hq
    · intro b hb; cases hb; exact Int.le_refl _
  | cons q l ih =>
    obtain ⟨i, j⟩ := q
    cases best with
    | none =>
      simp only [firstMin] at h
      obtain ⟨h1, h2, h3⟩ := ih _ h
      refine ⟨?_, ?_, fun b hb => by cases hb⟩
      · rcases h1 with h1 | h1
        · exact Or.inl (List.mem_cons_of_mem _ h1)
        · cases h1; exact Or.inl List.mem_cons_self
      · intro q hq
        rcases List.mem_cons.1 hq with rfl | hq
        · exact h3 _ rfl
        · exact h2 q hq
    | some b =>
      obtain ⟨a, b⟩ := b
      simp only [firstMin] at h
      obtain ⟨h1, h2, h3⟩ := ih _ h
      by_cases hlt : dm i j < dm a b
      · simp only [hlt, if_true] at h1 h3
        refine ⟨?_, ?_, ?_⟩
        · rcases h1 with h1 | h1
          · exact Or.inl (List.mem_cons_of_mem _ h1)
          · cases h1; exact Or.inl List.mem_cons_self
        · intro q hq
          rcases List.mem_cons.1 hq with rfl | hq
          · exact h3 _ rfl
          · exact h2 q hq
        · intro b' hb'
          cases hb'
          have := h3 _ rfl
          simp only at this ⊢
          omega
      · simp only [hlt, if_false] at h1 h3
        refine ⟨?_, ?_, ?_⟩
        · rcases h1 with h1 | h1
          · exact Or.inl (List.mem_cons_of_mem _ h1)
          · exact Or.inr h1
        · intro q hq
          rcases List.mem_cons.1 hq with rfl | hq
          · have := h3 _ rfl
            simp only at this ⊢
            omega
          · exact h2 q hq
        · intro b' hb'
          cases hb'
          exact h3 _ rfl

theorem firstMin_isSome (dm : Nat → Nat → Int) (l : List (Nat × Nat)) (best : Option (Nat × Nat))
    (h : l ≠ [] ∨ best.isSome) : (firstMin dm l best).isSome := by
  induction l generalizing best with
  | nil =>
    rcases h with h | h
    · exact absurd rfl h
    · simpa [firstMin] using h
  | cons q l ih =>
    obtain ⟨i, j⟩ := q
    cases best with
    | none => simp only [firstMin]; exact ih _ (Or.inr rfl)
    | some b =>
      obtain ⟨a, b⟩ := b
      simp only [firstMin]
      apply ih
      right
      split <;> rfl

theorem mem_activePairs (n : Nat) (act : Nat → Bool) (i j : Nat) :
    (i, j) ∈ activePairs n act ↔ i < n ∧ j < n ∧ i < j ∧ act i = true ∧ act j = true := by
  simp only [activePairs, List.mem_flatMap, List.mem_range]
  constructor
  · rintro ⟨a, ha, h⟩
    by_cases hact : act a = true
    · simp only [hact, if_true, List.mem_map, List.mem_filter, List.mem_range, Bool.and_eq_true,
        decide_eq_true_eq, Prod.mk.injEq] at h
      obtain ⟨b, ⟨hb, hab, hactb⟩, rfl, rfl⟩ := h
      exact ⟨ha, hb, hab, hact, hactb⟩
    · simp [hact] at h
  · rintro ⟨hi, hj, hij, hai, haj⟩
    refine ⟨i, hi, ?_⟩
    simp only [hai, if_true, List.mem_map, List.mem_filter, List.mem_range, Bool.and_eq_true,
      decide_eq_true_eq, Prod.mk.injEq]
    refine ⟨j, ⟨hj, hij, haj⟩, ?_⟩
    simp

/-- upper bound of the scaled distances inside `C` after `k` joins: `2^k * (A + k*delta)` -/
def ubound (A delta : Int) : Nat → Int
  | 0 => A
  | k + 1 => 2 * ubound A delta k + 2 ^ (k + 1) * delta

/-- lower bound of the scaled distances between `C` and the rest: `2^k * L` -/
def lbound (L : Int) : Nat → Int
  | 0 => L
  | k + 1 => 2 * lbound L k

theorem bound_gap (A H delta : Int) (k : Nat) :
    lbound (A + H) k - ubound A delta k = 2 ^ k * (H - k * delta) := by
  induction k with
  | zero => simp only [lbound, ubound]; omega
  | succ k ih =>
    simp only [lbound, ubound]
    have : (2 : Int) ^ (k + 1) = 2 * 2 ^ k := by rw [Int.pow_succ]; omega
    rw [this]
    have e : 2 * lbound (A + H) k - (2 * ubound A delta k + 2 * 2 ^ k * delta)
        = 2 * (lbound (A + H) k - ubound A delta k) - 2 * 2 ^ k * delta := by omega
    rw [e, ih]
    push_cast
    grind

theorem ubound_lt_lbound (A H delta : Int) (k : Nat) (h : (k : Int) * delta < H) :
    ubound A delta k < lbound (A + H) k := by
  have h1 := bound_gap A H delta k
  have h2 : (0 : Int) < 2 ^ k * (H - k * delta) := Int.mul_pos (Int.pow_pos (by omega)) (by omega)
  omega

theorem keep_le {u e x : Int} (he : 0 ≤ e) (hx : x ≤ u) : 2 * x ≤ 2 * u + e := by omega
theorem le_keep {l x : Int} (hx : l ≤ x) : 2 * l ≤ 2 * x := by omega
theorem join_le {u e x y : Int} (hx : x ≤ u) (hy : y ≤ u) : x + y + e ≤ 2 * u + e := by omega
theorem le_join {l e x y : Int} (he : 0 ≤ e) (hx : l ≤ x) (hy : l ≤ y) : 2 * l ≤ x + y + e := by omega

structure ExactBase (n k : Nat) (st : EState) : Prop where
  stage : st.stage = k
  count : ((List.range n).filter st.act).length = n - k
  last : st.last < n ∧ st.act st.last = true
  lt : ∀ i, i < n → st.act i = true → ∀ x ∈ (st.tree i).leaves, x < n

def EState.slot (st : EState) (i : Nat) : Option GTree := if st.act i then some (st.tree i) else none

theorem EState.slot_eq_some {st : EState} {i : Nat} {t : GTree} (h : st.slot i = some t) : st.act i = true ∧ t = st.tree i := by
  unfold EState.slot at h
  split at h
  · rename_i ha
    cases h
    exact ⟨ha, rfl⟩
  · cases h

theorem EState.slot_of_act {st : EState} {i : Nat} (h : st.act i = true) : st.slot i = some (st.tree i) := by
  unfold EState.slot
  rw [if_pos h]

def ExactInv (n : Nat) (c : Nat → Bool) (A H delta : Int) (k : Nat) (st : EState) : Prop :=
  CladeState n (· < n) c st.slot st.dm (· ≤ ubound A delta k) (lbound (A + H) k ≤ ·)

def exactJoined (n : Nat) (delta : Int) (st : EState) (a b : Nat) : EState :=
  { tab := mkTab n (joinDm delta st.stage st.dm a b),
    act := fun i => if i = b then false else st.act i,
    tree := fun i => if i = a then .node (st.tree a) (st.tree b) else st.tree i,
    stage := st.stage + 1, last := a }

theorem exactRound_eq (n : Nat) (delta : Int) (st : EState) (a b : Nat)
    (h : firstMin st.dm (activePairs n st.act) none = some (a, b)) :
    exactRound n delta st = some (exactJoined n delta st a b) := by
  simp [exactRound, h, exactJoined]

theorem exactJoined_dm (n : Nat) (delta : Int) (st : EState) (a b i j : Nat) (hi : i < n) (hj : j < n) :
    (exactJoined n delta st a b).dm i j = joinDm delta st.stage st.dm a b i j := by
  simp only [EState.dm, exactJoined]
  exact tabGet_mkTab n _ i j hi hj

theorem exactJoined_dm_row (n : Nat) (delta : Int) (st : EState) (a b j : Nat) (ha : a < n) (hj : j < n) (h1 : j ≠ a)
    (h2 : j ≠ b) :
    (exactJoined n delta st a b).dm a j = st.dm a j + st.dm b j + 2 ^ (st.stage + 1) * delta := by
  rw [exactJoined_dm n delta st a b a j ha hj]; simp [joinDm, h1, h2]

theorem exactJoined_dm_col (n : Nat) (delta : Int) (st : EState) (a b i : Nat) (ha : a < n) (hi : i < n) (h1 : i ≠ a)
    (h2 : i ≠ b) :
    (exactJoined n delta st a b).dm i a = st.dm a i + st.dm b i + 2 ^ (st.stage + 1) * delta := by
  rw [exactJoined_dm n delta st a b i a hi ha]; simp [joinDm, h1, h2]

theorem exactJoined_dm_other (n : Nat) (delta : Int) (st : EState) (a b i j : Nat) (hi : i < n) (hj : j < n) (h1 : i ≠ a)
    (h2 : j ≠ a) : (exactJoined n delta st a b).dm i j = 2 * st.dm i j := by
  rw [exactJoined_dm n delta st a b i j hi hj]; simp [joinDm, h1, h2]

theorem round_step (n : Nat) (c : Nat → Bool) (A H delta : Int) (hδ : 0 ≤ delta) (hH : (n : Int) * delta < H)
    (k : Nat) (st : EState) (hk : k + 2 ≤ n) (hB : ExactBase n k st) (hI : ExactInv n c A H delta k st) :
    ∃ st', exactRound n delta st = some st' ∧ ExactBase n (k + 1) st' ∧ ExactInv n c A H delta (k + 1) st' := by
  obtain ⟨i0, j0, hij0, hj0, hai0, haj0⟩ := exists_two_active n st.act (by rw [hB.count]; omega)
  have hmem0 : (i0, j0) ∈ activePairs n st.act := (mem_activePairs n st.act i0 j0).2 ⟨by omega, hj0, hij0, hai0, haj0⟩
  have hsome := firstMin_isSome st.dm (activePairs n st.act) none (Or.inl (List.ne_nil_of_mem hmem0))
  obtain ⟨⟨a, b⟩, hab⟩ := Option.isSome_iff_exists.1 hsome
  obtain ⟨hm, hmin, _⟩ := firstMin_spec st.dm _ none (a, b) hab
  have hm : (a, b) ∈ activePairs n st.act := by
    rcases hm with h | h
    · exact h
    · cases h
  obtain ⟨han, hbn, hltab, haa, hab'⟩ := (mem_activePairs n st.act a b).1 hm
  have hne : a ≠ b := by omega
  refine ⟨exactJoined n delta st a b, exactRound_eq n delta st a b hab, ?_, ?_⟩
  · refine ⟨by simp [exactJoined, hB.stage], ?_, ⟨han, by simp [exactJoined, hne, haa]⟩, ?_⟩
    · have := filter_deactivate (List.range n) st.act b List.nodup_range (List.mem_range.2 hbn) hab'
      have h2 := hB.count
      simp only [exactJoined]
      omega
    · intro i hi hact x hx
      simp only [exactJoined] at hact hx
      have hib : i ≠ b := by intro h; simp [h] at hact
      simp only [hib, if_false] at hact
      by_cases hia : i = a
      · subst hia
        simp only [if_true, GTree.leaves] at hx
        rcases List.mem_append.1 hx with h | h
        · exact hB.lt i hi haa x h
        · exact hB.lt b hbn hab' x h
      · simp only [hia, if_false] at hx
        exact hB.lt i hi hact x hx
  · have hE : (0 : Int) ≤ 2 ^ (k + 1) * delta := Int.mul_nonneg (Int.le_of_lt (Int.pow_pos (by omega))) hδ
    have hgap : ubound A delta k < lbound (A + H) k := by
      apply ubound_lt_lbound
      have : (k : Int) * delta ≤ (n : Int) * delta := Int.mul_le_mul_of_nonneg_right (by omega) hδ
      omega
    have hslot : ∀ i, (exactJoined n delta st a b).slot i =
        if i = b then none else if i = a then some (.node (st.tree a) (st.tree b)) else st.slot i := by
      intro i
      unfold EState.slot exactJoined
      by_cases h2 : i = b
      · simp [h2]
      · by_cases h1 : i = a
        · simp [h1, hne, haa]
        · simp [h1, h2]
    refine clade_join (lt := (· < ·)) (keep := (2 * ·)) (join := fun x y => x + y + 2 ^ (k + 1) * delta)
      (fun x y hx hy => Int.lt_of_le_of_lt hx (Int.lt_of_lt_of_le hgap hy))
      (fun x hx => keep_le hE hx) (fun x hx => le_keep hx) (fun x y hx hy => join_le hx hy) (fun x y hx hy => le_join hE hx hy)
      hltab hbn (EState.slot_of_act haa) (EState.slot_of_act hab') hslot ?_ ?_
      (fun i j hi hj h1 h2 => exactJoined_dm_other n delta st a b i j hi hj h1 h2)
      (fun j hj h1 h2 => Or.inr (by rw [exactJoined_dm_row n delta st a b j han hj h1 h2, hB.stage]))
      (fun i hi h1 h2 => Or.inr (by
        rw [exactJoined_dm_col n delta st a b i han hi h1 h2, exactJoined_dm_row n delta st a b i han hi h1 h2])) hI
    · intro i j ti tj hij hj hti htj
      have := hmin (i, j) ((mem_activePairs n st.act i j).2
        ⟨by omega, hj, hij, (EState.slot_eq_some hti).1, (EState.slot_eq_some htj).1⟩)
      exact Int.not_lt.2 this
    · intro i t x hi ht hx
      obtain ⟨hact, rfl⟩ := EState.slot_eq_some ht
      exact hB.lt i hi hact x hx

theorem rounds_step (n : Nat) (c : Nat → Bool) (A H delta : Int) (hδ : 0 ≤ delta) (hH : (n : Int) * delta < H)
    (m k : Nat) (st : EState) (hkm : k + m + 1 ≤ n) (hB : ExactBase n k st) (hI : ExactInv n c A H delta k st) :
    ∃ st', iterOpt (exactRound n delta) m st = some st' ∧ ExactBase n (k + m) st' ∧ ExactInv n c A H delta (k + m) st' :=
  iterOpt_steps _ (fun k st => ExactBase n k st ∧ ExactInv n c A H delta k st) n
    (fun k st hk h => round_step n c A H delta hδ hH k st hk h.1 h.2) m k st hkm ⟨hB, hI⟩

theorem upgmaExact_clade (n : Nat) (c : Nat → Bool) (A H delta : Int) (dm0 : Nat → Nat → Int)
    (hδ : 0 ≤ delta) (hH : (n : Int) * delta < H)
    (hC : ∃ x, x < n ∧ c x = true)
    (hcc : ∀ x y, x < n → y < n → x ≠ y → c x = true → c y = true → dm0 x y ≤ A)
    (hcr : ∀ x z, x < n → z < n → c x = true → c z = false → A + H ≤ dm0 x z ∧ A + H ≤ dm0 z x) :
    ∃ T, upgmaExact n dm0 delta = some T ∧
      ∃ s ∈ T.subtrees, ∀ x, x ∈ s.leaves ↔ (x < n ∧ c x = true) := by
  have hn : n ≠ 0 := by
    obtain ⟨x0, hx0n, _⟩ := hC
    omega
  let st0 : EState := { tab := mkTab n dm0, act := fun _ => true, tree := GTree.leaf, stage := 0, last := 0 }
  have hdm0 : ∀ i j, i < n → j < n → st0.dm i j = dm0 i j := fun i j hi hj => tabGet_mkTab n dm0 i j hi hj
  have hB0 : ExactBase n 0 st0 := by
    refine ⟨rfl, ?_, ⟨by show 0 < n; omega, rfl⟩, ?_⟩
    · show ((List.range n).filter fun _ => true).length = n - 0
      rw [List.filter_eq_self.2 (fun _ _ => rfl), List.length_range]; rfl
    · intro i hi _ x hx
      have : x = i := by simpa [st0, GTree.leaves] using hx
      omega
  have hP0 : CladeInv n (· < n) c st0.slot st0.dm (· ≤ ubound A delta 0) (lbound (A + H) 0 ≤ ·) :=
    CladeInv.init id (fun _ _ => rfl) (fun x hx => ⟨x, hx, rfl⟩)
      (fun i j hi hj hij hci hcj => by rw [hdm0 i j hi hj]; exact hcc i j hi hj hij hci hcj)
      (fun i z hi hz hci hcz => by rw [hdm0 i z hi hz, hdm0 z i hz hi]; exact hcr i z hi hz hci hcz)
  obtain ⟨st, hit, hB, hI⟩ := rounds_step n c A H delta hδ hH (n - 1) 0 st0 (by omega) hB0 (Or.inl hP0)
  refine ⟨st.tree st.last, ?_, ?_⟩
  · simp only [upgmaExact, hn, if_false]
    show (iterOpt (exactRound n delta) (n - 1) st0).map (fun st => st.tree st.last) = _
    rw [hit]; rfl
  · have hcount : ((List.range n).filter st.act).length = 1 := by rw [hB.count]; omega
    refine clade_root hI (fun i t hi ht => ?_) (hB.lt st.last hB.last.1 hB.last.2) hC
    obtain ⟨hact, rfl⟩ := EState.slot_eq_some ht
    rw [unique_active n st.act hcount i st.last hi hB.last.1 hact hB.last.2]

end Kalign

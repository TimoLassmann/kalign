import KalignModel.Model.Cmp
/-! # `strcmp` is (the sign of) the lexicographic order of NUL-free byte strings

(The file is named after `strncmp(·,·,256)`, which the comparators used until commits 15117bc / 0022995 of the
C sources.) -/
namespace Kalign

theorem byte_ne_iff (x y : UInt8) : x ≠ y ↔ x.toNat ≠ y.toNat := by
  rw [Ne, Ne, UInt8.toNat_inj]

theorem strcmp_swap (a b : Name) : strcmp b a = - strcmp a b := by
  induction a generalizing b with
  | nil => cases b <;> simp [strcmp]
  | cons x xs ih =>
    cases b with
    | nil => simp [strcmp]
    | cons y ys =>
      simp only [strcmp]
      by_cases h : x = y
      · subst h
        simp only [ne_eq, not_true_eq_false, if_false]
        exact ih _
      · have h' : ¬ y = x := fun e => h e.symm
        simp only [h, h', ne_eq, not_false_eq_true, if_true]; omega

theorem strcmp_self (a : Name) : strcmp a a = 0 := by
  have := strcmp_swap a a; omega

theorem head_toNat_ne_zero {x : UInt8} {xs : Name} (h : NulFree (x :: xs)) : x.toNat ≠ 0 := by
  have := (byte_ne_iff x 0).mp (h x List.mem_cons_self)
  simpa using this

theorem strcmp_lt_iff (a b : Name) (hb : NulFree b) : strcmp a b < 0 ↔ a < b := by
  induction a generalizing b with
  | nil =>
    cases b with
    | nil => simp [strcmp]
    | cons y ys => have := head_toNat_ne_zero hb; simp [strcmp]; omega
  | cons x xs ih =>
    cases b with
    | nil => simp [strcmp]
    | cons y ys =>
      have hb' : NulFree ys := fun c hc => hb c (List.mem_cons_of_mem _ hc)
      rw [List.cons_lt_cons_iff, UInt8.lt_iff_toNat_lt, strcmp]
      by_cases hxy : x = y
      · subst hxy; simp [ih ys hb']
      · have := (byte_ne_iff x y).mp hxy
        simp only [hxy, ne_eq, not_false_eq_true, if_true, false_and, or_false]; omega

theorem strcmp_lt_trans (a b c : Name) (hb : NulFree b) (hc : NulFree c)
    (h1 : strcmp a b < 0) (h2 : strcmp b c < 0) : strcmp a c < 0 :=
  (strcmp_lt_iff a c hc).2 (List.lt_trans ((strcmp_lt_iff a b hb).1 h1) ((strcmp_lt_iff b c hc).1 h2))

theorem strcmp_total (a b : Name) (ha : NulFree a) (hb : NulFree b) (hne : a ≠ b) :
    strcmp a b < 0 ∨ strcmp b a < 0 := by
  rw [strcmp_lt_iff a b hb, strcmp_lt_iff b a ha]
  by_cases h1 : a < b
  · exact Or.inl h1
  · exact Or.inr (Decidable.not_not.1 fun h2 => hne (List.le_antisymm (List.not_lt.1 h2) (List.not_lt.1 h1)))

theorem strcmp_eq_zero_iff (a b : Name) (ha : NulFree a) (hb : NulFree b) : strcmp a b = 0 ↔ a = b := by
  constructor
  · intro h
    refine Decidable.not_not.1 fun hne => ?_
    have := strcmp_total a b ha hb hne
    have := strcmp_swap a b
    omega
  · rintro rfl; exact strcmp_self a

theorem strcmp_append_left (p x y : Name) : strcmp (p ++ x) (p ++ y) = strcmp x y := by
  induction p with
  | nil => rfl
  | cons c p ih => simp [strcmp, ih]

end Kalign

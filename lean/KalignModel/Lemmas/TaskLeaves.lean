import KalignModel.Lemmas.C10Tree
import KalignModel.Lemmas.Basic.MergeSort
/-!
# A tree with the sorted task table of the built guide tree has pairwise distinct leaves

`GuideTreeDistinct` (Props/C05PipelineSoftL.lean) quantifies over *every* tree `T` whose sorted task table is the table
`buildTasks` returned; `buildTasks_tree` (Lemmas/C10Tree.lean) produces *one* such tree `T'` with `leaves.Perm (range n)`.  The
bridge: in a labelled tree the operand ids of all tasks together with the root id are, as a multiset, the leaves plus the
internal ids (`kids_perm_leaves`); `sort_tasks` permutes the tasks; for `T'` that multiset is `0 … n-1` plus `n … n+k-1`, which
has no repetition; so the leaves of `T` have no repetition either (`table_leaves_nodup`).
-/
namespace Kalign.Pipeline
open Kalign Kalign.Kmeans Kalign.Sched

def allKids (ts : List (Nat × Nat × Nat)) : List Nat := ts.flatMap fun t => [t.1, t.2.1]

theorem kids_perm_leaves (L : Sched.LTree) : (allKids (Kmeans.createTasks L) ++ [L.id]).Perm (L.leaves ++ Kmeans.LTree.iids L) := by
  induction L with
  | leaf i => simp [allKids, Kmeans.createTasks, Sched.LTree.id, Sched.LTree.leaves, Kmeans.LTree.iids]
  | node c l r ihl ihr =>
    rw [List.perm_iff_count]
    intro a
    have h1 := ihl.count_eq a
    have h2 := ihr.count_eq a
    simp only [allKids, Kmeans.createTasks, Sched.LTree.id, Sched.LTree.leaves, Kmeans.LTree.iids, List.flatMap_cons, List.flatMap_append,
      List.count_append, List.count_cons, List.count_nil] at h1 h2 ⊢
    omega

theorem table_leaves_nodup (n : Nat) (T T' : Tree) (hp : T'.leaves.Perm (List.range n))
    (h : (Kmeans.sortTasks (treeTasks T n)).toArray = (Kmeans.sortTasks (treeTasks T' n)).toArray) : T.leaves.Nodup := by
  cases hT : T with
  | leaf i => simp [Tree.leaves]
  | node l r =>
    rw [hT] at h
    have hl : Kmeans.sortTasks (treeTasks (.node l r) n) = Kmeans.sortTasks (treeTasks T' n) := by
      have := congrArg Array.toList h
      simpa using this
    have hperm : (treeTasks (.node l r) n).Perm (treeTasks T' n) := by
      have h1 := msortBy_perm taskTakeLeft (treeTasks (.node l r) n)
      have h2 := msortBy_perm taskTakeLeft (treeTasks T' n)
      unfold Kmeans.sortTasks at hl
      rw [hl] at h1
      exact h1.symm.trans h2
    have hlen : Tree.nint (.node l r) = Tree.nint T' := by
      rw [← length_sortTasks (.node l r) n, ← length_sortTasks T' n, hl]
    obtain ⟨L, R, hroot⟩ := label_node l r n
    cases hT' : T' with
    | leaf j =>
      rw [hT'] at hlen
      simp [Tree.nint] at hlen
    | node l' r' =>
      obtain ⟨L', R', hroot'⟩ := label_node l' r' n
      rw [hT'] at hlen hperm hp
      have k1 := kids_perm_leaves (label (.node l r) n)
      have k2 := kids_perm_leaves (label (.node l' r') n)
      have hid : (label (.node l r) n).id = (label (.node l' r') n).id := by
        rw [hroot, hroot']; simp only [Sched.LTree.id]; rw [hlen]
      rw [label_leaves] at k1
      rw [label_leaves, label_iids] at k2
      have hnd2 : ((Tree.node l' r').leaves ++ List.range' n (Tree.nint (.node l' r'))).Nodup := by
        rw [List.nodup_append]
        refine ⟨hp.nodup_iff.2 List.nodup_range, List.nodup_range' 1, ?_⟩
        intro a ha b hb e
        have h1 := List.mem_range.1 (hp.mem_iff.1 ha)
        rw [List.mem_range'_1] at hb
        omega
      have hk : (allKids (Kmeans.createTasks (label (.node l r) n)) ++ [(label (.node l r) n).id]).Perm
          (allKids (Kmeans.createTasks (label (.node l' r') n)) ++ [(label (.node l' r') n).id]) := by
        rw [hid]
        exact List.Perm.append_right _ (hperm.flatMap_right _)
      have hnd1 := (k1.symm.trans (hk.trans k2)).nodup_iff.2 hnd2
      exact (List.nodup_append.1 hnd1).1

theorem buildTasks_leaves_nodup (avx : Bool) (codes : Array (List Nat)) (T : Tree)
    (h : buildTasks avx codes = .ok (Kmeans.sortTasks (treeTasks T codes.size)).toArray) : T.leaves.Nodup := by
  obtain ⟨T', e, hp⟩ := buildTasks_tree avx codes _ h
  exact table_leaves_nodup codes.size T T' hp e

end Kalign.Pipeline

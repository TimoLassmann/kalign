import KalignModel.Lemmas.Kmeans
import KalignModel.Lemmas.Basic.ListWalk
import KalignModel.Lemmas.Basic.MergeSort
/-!
# The sorted task table is the guide tree (bisectingKmeans.c: `label_internal`, `create_tasks`; task.c: `sort_tasks`)

`label_internal` numbers the internal nodes `numseq, numseq+1, …` in post-order; `sort_tasks(TASK_ORDER_TREE)` sorts the
tasks by that number.  Hence entry `c - numseq` of the sorted table is the task of the node numbered `c`
(`sortedTasks_get`), its operands are the two children, children have smaller numbers, the last entry is the root.
This is what makes `recursive_aln` (which looks tasks up by `c - numseq`) a recursion over the tree: it never misses a task
and never needs more recursion depth than there are tasks (`recAlnC_tree_inv`, `recAlnC_tree_no_fuel`, Lemmas/NoFaultRecC.lean).
-/
namespace Kalign.Kmeans
open Kalign Kalign.Sched

theorem createTasks_c_perm (L : LTree) : ((createTasks L).map (·.2.2)).Perm (LTree.iids L) := by
  induction L with
  | leaf i => simp [createTasks, LTree.iids]
  | node c l r ihl ihr =>
    simp only [createTasks, LTree.iids, List.map_cons, List.map_append]
    have := (ihl.append ihr)
    exact (List.Perm.cons c this).trans (List.perm_append_singleton _ _).symm

theorem sub_node_mem {L : LTree} {c : Nat} {l r : LTree} (h : LTree.Sub (.node c l r) L) :
    (l.id, r.id, c) ∈ createTasks L ∧ c ∈ LTree.iids L := by
  generalize hv : LTree.node c l r = v at h
  induction h with
  | refl => subst hv; simp [createTasks, LTree.iids]
  | left _ ih =>
    simp only [createTasks, LTree.iids, List.mem_cons, List.mem_append]
    exact ⟨Or.inr (Or.inl ih.1), Or.inl (Or.inl ih.2)⟩
  | right _ ih =>
    simp only [createTasks, LTree.iids, List.mem_cons, List.mem_append]
    exact ⟨Or.inr (Or.inr ih.1), Or.inl (Or.inr ih.2)⟩

theorem labelFrom_child_lt (T : Tree) (n : Nat) :
    ∀ (c : Nat) (l r : LTree), LTree.Sub (.node c l r) (labelFrom T n).1 →
      ∀ x ∈ LTree.iids l ++ LTree.iids r, x < c := by
  induction T generalizing n with
  | leaf i =>
    intro c l r h
    simp only [labelFrom] at h
    cases h
  | node lt rt ihl ihr =>
    intro c l r h x hx
    simp only [labelFrom] at h
    obtain ⟨a1, a2, _⟩ := labelFrom_iids lt n
    obtain ⟨b1, b2, _⟩ := labelFrom_iids rt (labelFrom lt n).2
    cases h with
    | refl =>
      rw [a1, b1] at hx
      rcases List.mem_append.1 hx with h | h <;> rw [List.mem_range'_1] at h <;> omega
    | left h' => exact ihl n c l r h' x hx
    | right h' => exact ihr _ c l r h' x hx

theorem LTree.id_mem_iids (c : Nat) (l r : LTree) : c ∈ LTree.iids (.node c l r) := by simp [LTree.iids]

def TaskLE (a b : Nat × Nat × Nat) : Prop := a.2.2 ≤ b.2.2

theorem mergeBy_sorted (l r : List (Nat × Nat × Nat)) (hl : l.Pairwise TaskLE) (hr : r.Pairwise TaskLE) :
    (mergeBy taskTakeLeft l r).Pairwise TaskLE := by
  induction l, r using mergeBy.induct taskTakeLeft with
  | case1 r => simpa [mergeBy] using hr
  | case2 l h => simpa [mergeBy] using hl
  | case3 a l b r h ih =>
    rw [mergeBy]; simp only [h, if_true]
    have hab : a.2.2 < b.2.2 := by simpa [taskTakeLeft] using h
    rw [List.pairwise_cons] at hl hr ⊢
    refine ⟨?_, ih hl.2 (List.pairwise_cons.2 hr)⟩
    intro x hx
    have := (mergeBy_perm taskTakeLeft l (b :: r)).mem_iff.1 hx
    rcases List.mem_append.1 this with h1 | h1
    · exact hl.1 x h1
    · rcases List.mem_cons.1 h1 with e | e
      · subst e; exact Nat.le_of_lt hab
      · exact Nat.le_trans (Nat.le_of_lt hab) (hr.1 x e)
  | case4 a l b r h ih =>
    rw [mergeBy, if_neg h]
    have hab : b.2.2 ≤ a.2.2 := Nat.le_of_not_lt (by simpa [taskTakeLeft] using h)
    rw [List.pairwise_cons] at hl hr ⊢
    refine ⟨?_, ih (List.pairwise_cons.2 hl) hr.2⟩
    intro x hx
    have := (mergeBy_perm taskTakeLeft (a :: l) r).mem_iff.1 hx
    rcases List.mem_append.1 this with h1 | h1
    · rcases List.mem_cons.1 h1 with e | e
      · subst e; exact hab
      · exact Nat.le_trans hab (hl.1 x e)
    · exact hr.1 x h1

theorem msortBy_sorted (l : List (Nat × Nat × Nat)) : (msortBy taskTakeLeft l).Pairwise TaskLE := by
  induction l using msortBy.induct with
  | case1 l h =>
    rw [msortBy]; simp only [h, dite_true]
    match l, h with
    | [], _ => exact List.Pairwise.nil
    | [x], _ => exact List.pairwise_singleton _ _
    | _ :: _ :: _, h => simp at h
  | case2 l h ih1 ih2 =>
    rw [msortBy]; simp only [h, dite_false]
    exact mergeBy_sorted _ _ ih1 ih2

theorem treeTasks_c_perm (T : Tree) (n : Nat) : ((treeTasks T n).map (·.2.2)).Perm (List.range' n (Tree.nint T)) := by
  have := createTasks_c_perm (label T n)
  rwa [label_iids] at this

theorem sorted_c (T : Tree) (n : Nat) :
    (sortTasks (treeTasks T n)).map (·.2.2) = List.range' n (Tree.nint T) := by
  have hp := ((msortBy_perm taskTakeLeft (treeTasks T n)).map (·.2.2)).trans (treeTasks_c_perm T n)
  have hs : ((sortTasks (treeTasks T n)).map (·.2.2)).Pairwise (· ≤ ·) := by
    rw [List.pairwise_map]
    exact msortBy_sorted _
  have hr : (List.range' n (Tree.nint T)).Pairwise (· ≤ ·) :=
    (List.pairwise_lt_range' (s := n) (n := Tree.nint T) 1).imp (fun h => Nat.le_of_lt h)
  exact List.Perm.eq_of_pairwise (fun a b _ _ h1 h2 => Nat.le_antisymm h1 h2) hs hr hp

theorem length_sortTasks (T : Tree) (n : Nat) : (sortTasks (treeTasks T n)).length = Tree.nint T := by
  have := congrArg List.length (sorted_c T n)
  simpa using this

theorem sortedTasks_get (T : Tree) (n : Nat) {c : Nat} {l r : LTree} (h : LTree.Sub (.node c l r) (label T n)) :
    n ≤ c ∧ c < n + Tree.nint T ∧ (sortTasks (treeTasks T n))[c - n]? = some (l.id, r.id, c) := by
  have hc : c ∈ List.range' n (Tree.nint T) := by
    rw [← label_iids]; exact (sub_node_mem h).2
  rw [List.mem_range'_1] at hc
  refine ⟨hc.1, hc.2, ?_⟩
  have hlen := length_sortTasks T n
  have hk : c - n < (sortTasks (treeTasks T n)).length := by omega
  rw [List.getElem?_eq_getElem hk]
  congr 1
  have h3 : ((sortTasks (treeTasks T n))[c - n]).2.2 = c := by
    have := congrArg (fun l => l[c - n]?) (sorted_c T n)
    simp only [List.getElem?_map, List.getElem?_eq_getElem hk, Option.map_some] at this
    rw [List.getElem?_range' (by omega)] at this
    simp only [Option.some.injEq] at this
    omega
  -- it is a task of the tree, and tasks are determined by `c`
  have hmem : (sortTasks (treeTasks T n))[c - n] ∈ treeTasks T n :=
    (msortBy_perm taskTakeLeft _).mem_iff.1 (List.getElem_mem hk)
  have hnd : ((treeTasks T n).map (·.2.2)).Nodup := (treeTasks_c_perm T n).nodup_iff.2 (List.nodup_range' 1)
  exact eq_of_nodup_map hnd hmem (sub_node_mem h).1 h3

theorem label_node (l r : Tree) (n : Nat) :
    ∃ L R, label (.node l r) n = .node (n + Tree.nint (.node l r) - 1) L R := by
  refine ⟨(labelFrom l n).1, (labelFrom r (labelFrom l n).2).1, ?_⟩
  obtain ⟨_, a2, _⟩ := labelFrom_iids l n
  obtain ⟨_, b2, _⟩ := labelFrom_iids r (labelFrom l n).2
  simp only [label, labelFrom, Tree.nint]
  congr 1
  rw [b2, a2]; omega

theorem proper_sub_lt (T : Tree) (n : Nat) {c c' : Nat} {l r l' r' : LTree}
    (hroot : label T n = .node c l r) (h : LTree.Sub (.node c' l' r') l ∨ LTree.Sub (.node c' l' r') r) :
    c' < c ∧ c = n + Tree.nint T - 1 := by
  constructor
  · refine labelFrom_child_lt T n c l r (by rw [← hroot]; exact .refl _) c' (List.mem_append.2 ?_)
    exact h.imp (fun h => (sub_node_mem h).2) (fun h => (sub_node_mem h).2)
  · cases T with
    | leaf i => cases hroot
    | node lt rt =>
      obtain ⟨L, R, e⟩ := label_node lt rt n
      rw [e] at hroot
      cases hroot
      rfl

end Kalign.Kmeans

namespace Kalign.Sched.LTree.Sub

theorem trans {u v w : Sched.LTree} (h1 : Sched.LTree.Sub u v) (h2 : Sched.LTree.Sub v w) : Sched.LTree.Sub u w := by
  induction h2 with
  | refl => exact h1
  | left _ ih => exact .left ih
  | right _ ih => exact .right ih

theorem leaves_sublist {v t : Sched.LTree} (h : Sched.LTree.Sub v t) : List.Sublist v.leaves t.leaves := by
  induction h with
  | refl => exact List.Sublist.refl _
  | left _ ih => exact ih.trans (List.sublist_append_left _ _)
  | right _ ih => exact ih.trans (List.sublist_append_right _ _)

theorem leaves_subset {v t : Sched.LTree} (h : Sched.LTree.Sub v t) : ∀ i ∈ v.leaves, i ∈ t.leaves :=
  fun _ hi => h.leaves_sublist.subset hi

end Kalign.Sched.LTree.Sub

namespace Kalign.Pipeline
open Kalign Kalign.Kmeans Kalign.Sched

theorem sub_leaf_lt {T : Tree} {n i : Nat} (hleaves : ∀ i ∈ T.leaves, i < n)
    (h : Sched.LTree.Sub (.leaf i) (label T n)) : i < n := by
  apply hleaves
  rw [← label_leaves T n]
  exact h.leaves_subset i (by simp [Sched.LTree.leaves])

theorem sub_child_id_lt {T : Tree} {n c : Nat} {l r v : Sched.LTree} (hleaves : ∀ i ∈ T.leaves, i < n)
    (h : Sched.LTree.Sub (.node c l r) (label T n)) (hv : v = l ∨ v = r) : v.id + 1 < n + Kmeans.Tree.nint T := by
  obtain ⟨hc1, hc2, _⟩ := sortedTasks_get T n h
  have hsv : Sched.LTree.Sub v (label T n) := by
    rcases hv with e | e
    · exact e ▸ Sched.LTree.Sub.trans (.left (.refl l)) h
    · exact e ▸ Sched.LTree.Sub.trans (.right (.refl r)) h
  cases v with
  | leaf i =>
    have := sub_leaf_lt hleaves hsv
    simp only [Sched.LTree.id]; omega
  | node c' l' r' =>
    have := labelFrom_child_lt T n c l r h c' (by
      rcases hv with e | e
      · exact List.mem_append.2 (Or.inl (e ▸ Kmeans.LTree.id_mem_iids c' l' r'))
      · exact List.mem_append.2 (Or.inr (e ▸ Kmeans.LTree.id_mem_iids c' l' r')))
    simp only [Sched.LTree.id]; omega

theorem sortedTasks_toArray_get (T : Tree) (n : Nat) {c : Nat} {l r : Sched.LTree}
    (h : Sched.LTree.Sub (.node c l r) (label T n)) :
    n ≤ c ∧ (Kmeans.sortTasks (treeTasks T n)).toArray[c - n]? = some (l.id, r.id, c) ∧
      (c + 1 < n + Kmeans.Tree.nint T → (c - n + 1 == (Kmeans.sortTasks (treeTasks T n)).toArray.size) = false) := by
  obtain ⟨hc1, hc2, hget⟩ := sortedTasks_get T n h
  refine ⟨hc1, by simpa using hget, fun hlt => ?_⟩
  simp [length_sortTasks]; omega

end Kalign.Pipeline

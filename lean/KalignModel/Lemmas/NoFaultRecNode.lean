import KalignModel.Lemmas.NoFaultRecC
/-!
# `Node` is `NodeC Float32`

`Node`, `leafNode`, `mergeNodes`, `recAln` are `NodeC Float32`, `leafNodeC`, `mergeNodesC`, `recAlnC` written out for the
one carrier (`mergeNodes_toC`, `nodeVal_toC`), so the results of `Lemmas/NoFaultRecC.lean` carry over to `recAln`; the
hypothesis `MonHyp` gives `MonHypC` at `Float32` (`MonHyp.toC`).
-/
namespace Kalign.Pipeline
open Kalign Kalign.Kmeans Kalign.Sched

def Node.toC (N : Node) : NodeC Float32 := ⟨N.len, N.nsip, N.seq, N.prof, N.group⟩

def NodeC.toNode (N : NodeC Float32) : Node := ⟨N.len, N.nsip, N.seq, N.prof, N.group⟩

theorem ok_of_map_toNode {r : Except PipeErr (NodeC Float32)} {N : Node} (h : r.map NodeC.toNode = .ok N) :
    r = .ok N.toC := by
  cases r with
  | error e => cases h
  | ok N' => cases h; rfl

theorem mergeNodes_toC (entry : Entry) (ap : AlnParam Float32) (A B : NodeC Float32) (isLast : Bool) :
    mergeNodes entry ap A.toNode B.toNode isLast = (mergeNodesC entry ap A B isLast).map NodeC.toNode := by
  unfold mergeNodes mergeNodesC
  dsimp only [NodeC.toNode]
  generalize doAlign entry ap _ 0 1 2 isLast = r
  cases r with
  | none => rfl
  | some r =>
    obtain ⟨st', out⟩ := r
    dsimp only
    by_cases h1 : (!out.mon) = true
    · simp only [h1, if_true]; rfl
    · by_cases h2 : (!validColsB (out.codes.map Col.ofCode) A.len B.len) = true
      · simp only [h1, h2, if_true]; rfl
      · simp only [h1, h2]; rfl

theorem nodeVal_toC (ap : AlnParam Float32) (tasks : Array (Nat × Nat × Nat)) (codes : Array (List Nat)) (n : Nat) :
    ∀ fuel x, nodeVal ap tasks codes n fuel x = (childOfC ap tasks codes n fuel x).map NodeC.toNode := by
  have leafCase : ∀ x, (if x < codes.size then Except.ok (leafNode codes x) else .error .fault) =
      (if x < codes.size then Except.ok (leafNodeC codes x) else .error PipeErr.fault).map NodeC.toNode := by
    intro x; split <;> rfl
  intro fuel
  induction fuel with
  | zero =>
    intro x
    unfold nodeVal childOfC
    split
    · rfl
    · exact leafCase x
  | succ f ih =>
    intro x
    unfold nodeVal childOfC
    split
    · cases h : tasks[x - n]? with
      | none =>
        rw [recAln, recAlnC]
        simp only [h]
        rfl
      | some t =>
        obtain ⟨a, b, c⟩ := t
        rw [recAln_succ ap tasks codes n f (x - n) a b c h, recAlnC_succ ap tasks codes n f (x - n) a b c h, ih a, ih b]
        cases childOfC ap tasks codes n f a with
        | error e => rfl
        | ok A =>
          cases childOfC ap tasks codes n f b with
          | error e => rfl
          | ok B => exact mergeNodes_toC _ ap A B _
    · exact leafCase x

theorem ReachC.toNode {ap : AlnParam Float32} {codes : Array (List Nat)} {N : NodeC Float32} (h : ReachC ap codes N) :
    Reach ap codes N.toNode := by
  induction h with
  | leaf i hi => exact .leaf i hi
  | merge A B N _ _ hN ihA ihB => exact .merge _ _ _ ihA ihB (by rw [mergeNodes_toC, hN]; rfl)

theorem MonHyp.toC {ap : AlnParam Float32} {codes : Array (List Nat)} (h : MonHyp ap codes) : MonHypC ap codes :=
  fun A B rA rB => h A.toNode B.toNode rA.toNode rB.toNode

end Kalign.Pipeline

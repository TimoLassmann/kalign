import KalignModel.Lemmas.CmpMsa
/-! # all-gap columns do not change the partner relation; symmetry of `compare_pair` -/
namespace Kalign
open List

theorem length_deflate_eq (m : List Bool) (s t : Row) (h : s.length = t.length) :
    (deflate m s).length = (deflate m t).length := by
  induction m generalizing s t with
  | nil => simpa [deflate] using h
  | cons b m ih =>
    cases s with
    | nil =>
      cases t with
      | nil => rfl
      | cons _ _ => simp at h
    | cons a s =>
      cases t with
      | nil => simp at h
      | cons c t =>
        have h' : s.length = t.length := by simpa using h
        cases b <;> simp [deflate, ih s t h']

theorem partners_deflate (m : List Bool) (s t : Row) (h : s.length = t.length)
    (hs : gapsAt m s = true) (ht : gapsAt m t = true) :
    partners (deflate m s) (deflate m t) = partners s t := by
  induction m generalizing s t with
  | nil => simp [deflate]
  | cons b m ih =>
    cases s with
    | nil =>
      cases t with
      | nil => cases b <;> rfl
      | cons _ _ => simp at h
    | cons a s =>
      cases t with
      | nil => simp at h
      | cons c t =>
        have h' : s.length = t.length := by simpa using h
        cases b with
        | true =>
          simp only [gapsAt, Bool.and_eq_true, Bool.not_eq_true'] at hs ht
          simp only [deflate]
          rw [ih s t h' hs.2 ht.2, partners_cons]
          simp [hs.1, ht.1, shiftBy_zero]
        | false =>
          simp only [gapsAt] at hs ht
          simp only [deflate]
          rw [partners_cons, partners_cons, ih s t h' hs ht]

theorem residuesOf_deflate (m : List Bool) (r : Row) (h : gapsAt m r = true) :
    residuesOf (deflate m r) = residuesOf r := by
  induction m generalizing r with
  | nil => simp [deflate]
  | cons b m ih =>
    cases r with
    | nil => cases b <;> rfl
    | cons a r =>
      cases b with
      | true =>
        simp only [gapsAt, Bool.and_eq_true, Bool.not_eq_true'] at h
        simp only [deflate, residuesOf, filter_cons, h.1]
        exact ih r h.2
      | false =>
        simp only [gapsAt] at h
        simp only [deflate, residuesOf, filter_cons]
        have := ih r h
        unfold residuesOf at this
        rw [this]

theorem namedSeqs_perm_of_sameModAllGap {R T : List NRow} (h : SameModAllGap R T) :
    (namedSeqs R).Perm (namedSeqs T) := by
  obtain ⟨mR, mT, gR, gT, hp⟩ := h
  have e : ∀ (m : List Bool) (A : List NRow), (∀ x ∈ A, gapsAt m x.row = true) →
      namedSeqs A = (A.map fun x => (x.name, deflate m x.row)).map fun p => (p.1, residuesOf p.2) := by
    intro m A g
    unfold namedSeqs
    rw [map_map]
    apply map_congr_left
    intro x hx
    simp [residuesOf_deflate m x.row (g x hx)]
  rw [e mR R gR, e mT T gT]
  exact hp.map _

theorem relPair_congr {s t s' t' : NRow} (hs : s'.name = s.name) (ht : t'.name = t.name)
    (hp : partners s'.row t'.row = partners s.row t.row) : relPair s' t' = relPair s t := by
  simp only [relPair, hs, ht, hp]

/-- specification only: deleting all-gap columns and permuting rows loses no relation -/
theorem rel_subset_of_sameModAllGap {R T : List NRow} {wR wT : Nat}
    (hrR : ∀ x ∈ R, x.row.length = wR) (hrT : ∀ x ∈ T, x.row.length = wT) (h : SameModAllGap R T) :
    ∀ e ∈ rel R, e ∈ rel T := by
  obtain ⟨mR, mT, gR, gT, hp⟩ := h
  -- every row of `R` has its deflated twin in `T`
  have twin : ∀ x ∈ R, ∃ y ∈ T, y.name = x.name ∧ deflate mT y.row = deflate mR x.row := by
    intro x hx
    obtain ⟨y, hy, e⟩ := mem_map.mp (hp.mem_iff.mp (mem_map_of_mem (f := fun x : NRow => (x.name, deflate mR x.row)) hx))
    exact ⟨y, hy, congrArg Prod.fst e, congrArg Prod.snd e⟩
  intro e he
  obtain ⟨s, hs, t, ht, hne, hest⟩ := mem_rel.mp he
  obtain ⟨s', hs', ns, ds⟩ := twin s hs
  obtain ⟨t', ht', nt, dt⟩ := twin t ht
  refine mem_rel.mpr ⟨s', hs', t', ht', by rw [ns, nt]; exact hne, ?_⟩
  rw [relPair_congr ns nt]
  · exact hest
  · rw [← partners_deflate mT s'.row t'.row ((hrT s' hs').trans (hrT t' ht').symm) (gT _ hs') (gT _ ht'),
      ← partners_deflate mR s.row t.row ((hrR s hs).trans (hrR t ht).symm) (gR _ hs) (gR _ ht), ds, dt]

theorem comparePair_symm (a1 a2 b1 b2 : Row) : comparePair a2 a1 b2 b1 = comparePair a1 a2 b1 b2 := by
  rw [comparePair_eq, comparePair_eq, statsOf_swap]
  simp only [ne_comm (a := a2.length), ne_comm (a := b2.length), and_comm (a := nres b2 ≤ nres a2)]
  split
  · rfl
  · rename_i hl
    have e1 : a1.length = a2.length := Decidable.not_not.1 fun e => hl (Or.inl e)
    have e2 : b1.length = b2.length := Decidable.not_not.1 fun e => hl (Or.inr e)
    simp only [comparePairFails, e1, e2]
    rfl

end Kalign

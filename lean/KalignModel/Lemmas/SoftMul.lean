import KalignModel.Lemmas.SoftFloat
/-!
# Multiplication on the software binary32: correctly rounded, hence bounded by representable bounds

`roundFracU m d` is the round-to-nearest-even pattern of `m / 2^d` (`roundFracU_spec`, by the same analysis of `rne` as
`roundNatU_spec`), so the magnitude of a product of finite values is the correctly rounded exact product (`roundInt_mul_spec`,
`mul_rne`).  A correctly rounded pattern lies on the same side of every grid pattern as the exact value (`RneAtD.mono_same` against
`rneAtD_grid`), which bounds `SoftF32.mul` by every representable number that bounds the exact product (`bounded_of_rne`: `mul_le_grid`, `mul_absLe`) and makes a product
whose exact value is representable exact (`mul_exact`).
-/
set_option exponentiation.threshold 512
namespace Kalign.SoftF32

@[simp] theorem roundFracU_zero (d : Nat) : roundFracU 0 d = 0 := by simp [roundFracU]

theorem roundFracU_spec (m d : Nat) : ∃ g, RneAtD (2 ^ d) m g (roundFracU m d) := by
  by_cases hm : m = 0
  · subst hm
    exact ⟨0, by simp [roundFracU, RneAtD, Nat.pow_pos, show magVal 1 = 1 by decide]⟩
  have hlo : 2 ^ m.log2 ≤ m := Nat.log2_self_le hm
  have hhi : m < 2 ^ (m.log2 + 1) := Nat.lt_log2_self
  unfold roundFracU
  rw [if_neg hm]
  simp only
  generalize hk : max (m.log2 + 1 - 24) d = k
  have hK : 0 < 2 ^ k := Nat.pow_pos (by decide)
  have hE : k - d = 0 ∨ 8388608 ≤ m / 2 ^ k := by
    by_cases hc : m.log2 + 1 - 24 ≤ d
    · left; omega
    · right
      have hk1 : m.log2 = 23 + k := by omega
      rw [hk1, Nat.pow_add] at hlo
      rw [Nat.le_div_iff_mul_le hK]
      exact hlo
  have hq : m / 2 ^ k < 16777216 := by
    rw [Nat.div_lt_iff_lt_mul hK]
    have h1 : 2 ^ (m.log2 + 1) ≤ 2 ^ (24 + k) := Nat.pow_le_pow_right (by decide) (by omega)
    rw [Nat.pow_add 2 24 k] at h1
    have : (2 : Nat) ^ 24 = 16777216 := by decide
    rw [this] at h1
    omega
  have := rneAtD_rne hE hq
  rw [show 2 ^ k = 2 ^ d * 2 ^ (k - d) by rw [← Nat.pow_add]; congr 1; omega, rneAtD_scale (Nat.pow_pos (by decide))] at this
  exact ⟨_, this⟩

theorem roundFrac_zero (d : Nat) : roundFrac 0 d = 0 := by simp [roundFrac]

theorem mul_of_finite {a b : SoftF32} (ha : a.isFinite = true) (hb : b.isFinite = true) :
    mul a b = pack (a.sign != b.sign) (roundInt (a.sig * b.sig) ((a.ex : Int) + b.ex - 149)) := by
  unfold mul
  simp only [isNaN_of_finite ha, isNaN_of_finite hb, isInf_of_finite ha, isInf_of_finite hb, Bool.false_eq_true, if_false,
    Bool.or_self]

/-- the exponent of a product is `ea + eb - 149`: non-negative exponents go to `roundNat`, negative ones to `roundFrac` -/
theorem roundInt_split (m ea eb : Nat) :
    (∃ k, 2 ^ (ea + eb) = 2 ^ k * 2 ^ 149 ∧ roundInt m ((ea : Int) + eb - 149) = roundNat m k) ∨
    (∃ k, 2 ^ 149 = 2 ^ k * 2 ^ (ea + eb) ∧ roundInt m ((ea : Int) + eb - 149) = roundFrac m k) := by
  unfold roundInt
  by_cases hpos : (0 : Int) ≤ (ea : Int) + eb - 149
  · left
    refine ⟨ea + eb - 149, by rw [← Nat.pow_add, show ea + eb - 149 + 149 = ea + eb by omega], ?_⟩
    rw [if_pos hpos, show ((ea : Int) + eb - 149).toNat = ea + eb - 149 by omega]
  · right
    refine ⟨149 - (ea + eb), by rw [← Nat.pow_add, show 149 - (ea + eb) + (ea + eb) = 149 by omega], ?_⟩
    rw [if_neg hpos, show (-((ea : Int) + eb - 149)).toNat = 149 - (ea + eb) by omega]

theorem roundInt_mul_spec (m ea eb : Nat) :
    ∃ g r, roundInt m ((ea : Int) + eb - 149) = min r infMag ∧ RneAtD (2 ^ 149) (m * 2 ^ (ea + eb)) g r := by
  rcases roundInt_split m ea eb with ⟨k, hk, e⟩ | ⟨k, hk, e⟩
  · obtain ⟨g, hg⟩ := roundNatU_spec m k
    refine ⟨g, _, e, ?_⟩
    rw [hk, ← Nat.mul_assoc, rneAtD_self (Nat.pow_pos (by decide))]
    exact hg
  · obtain ⟨g, hg⟩ := roundFracU_spec m k
    refine ⟨g, _, e, ?_⟩
    rw [hk, rneAtD_scale (Nat.pow_pos (by decide))]
    exact hg

theorem sig_prod (a b : SoftF32) : a.sig * b.sig * 2 ^ (a.ex + b.ex) = magVal a.mag * magVal b.mag := by
  rw [← sig_mul_ex a, ← sig_mul_ex b, Nat.pow_add, Nat.mul_mul_mul_comm]

theorem roundInt_lt (m : Nat) (e : Int) : roundInt m e < 2147483648 := by
  unfold roundInt roundNat roundFrac
  split <;> exact Nat.lt_of_le_of_lt (Nat.min_le_right _ _) (by decide)

theorem mul_rne {a b : SoftF32} (ha : a.isFinite = true) (hb : b.isFinite = true) :
    ∃ g r, (mul a b).mag = min r infMag ∧ RneAtD (2 ^ 149) (magVal a.mag * magVal b.mag) g r := by
  obtain ⟨g, r, e, hr⟩ := roundInt_mul_spec (a.sig * b.sig) a.ex b.ex
  rw [sig_prod] at hr
  refine ⟨g, r, ?_, hr⟩
  rw [mul_of_finite ha hb, mag_pack _ _ (roundInt_lt _ _), e]

theorem mul_exact {a b : SoftF32} (ha : a.isFinite = true) (hb : b.isFinite = true) {G : Nat} (hG : G < 2139095040)
    (h : magVal a.mag * magVal b.mag = magVal G * 2 ^ 149) : mul a b = pack (a.sign != b.sign) G := by
  obtain ⟨g, r, e, hr⟩ := mul_rne ha hb
  have hP : 0 < 2 ^ 149 := Nat.pow_pos (by decide)
  have hrG : r = G := Nat.le_antisymm (hr.mono_same (rneAtD_grid hP G) (Nat.le_of_eq h))
    ((rneAtD_grid hP G).mono_same hr (Nat.le_of_eq h.symm))
  apply eq_of_sign_mag
  · rw [sign_pack _ _ (by omega), mul_of_finite ha hb, sign_pack _ _ (roundInt_lt _ _)]
  · rw [mag_pack _ _ (by omega), e, hrG]
    exact Nat.min_eq_left (by simp only [infMag]; omega)

theorem mul_le_grid {a b : SoftF32} (ha : a.isFinite = true) (hb : b.isFinite = true) {c t : Nat} (hc : c < 16777216)
    (ht : t ≤ 253) (h : magVal a.mag * magVal b.mag ≤ c * 2 ^ t * 2 ^ 149) :
    AbsV (mul a b) (c * 2 ^ t) := by
  obtain ⟨g, r, e, hr⟩ := mul_rne ha hb
  unfold AbsV
  rw [e]
  exact bounded_of_rne (Nat.pow_pos (by decide)) hr hc ht h

theorem mul_absLe {a b : SoftF32} {A B c t : Nat} (ha : absLe a A) (hb : absLe b B)
    (hAB : A * B ≤ c * 2 ^ t) (hc : c < 16777216) (ht : t ≤ 104) : absLe (mul a b) (c * 2 ^ t) := by
  have := mul_le_grid ha.finite hb.finite hc (show t + 149 ≤ 253 by omega) (by
    rw [Nat.pow_add, ← Nat.mul_assoc]
    have h1 : magVal a.mag * magVal b.mag ≤ (A * 2 ^ 149) * (B * 2 ^ 149) := Nat.mul_le_mul ha.2 hb.2
    rw [Nat.mul_mul_mul_comm, ← Nat.mul_assoc] at h1
    exact Nat.le_trans h1 (Nat.mul_le_mul_right _ (Nat.mul_le_mul_right _ hAB)))
  rwa [Nat.pow_add, ← Nat.mul_assoc] at this

/-! non-vacuity: `3.0F * 1000.0F` is bounded by `3000 = 375·2³` -/
example : absLe (mul (ofNat 3) thousand) (375 * 2 ^ 3) :=
  mul_absLe (A := 3) (B := 1000) (ofNat_absLe (by decide)) ⟨by decide, by decide⟩ (by decide) (by decide) (by decide)

/-! non-vacuity of the fraction branch: `5 / 2² = 1.25` units rounds to the pattern `1 ≤ 2` -/
example : roundFracU 5 2 ≤ 2 := by
  obtain ⟨g, hg⟩ := roundFracU_spec 5 2
  exact hg.mono_same (rneAtD_grid (by decide) 2) (by decide)

end Kalign.SoftF32

import KalignModel.Model.Param
/-!
# `aln_param_init` over any value carrier

The model has `aln_param_init` three times — exact (`alnParamInit`, penalties × 1000), binary32 (`alnParamInitF`) and software
binary32 (`alnParamInitS`, Model/PipelineSoft.lean) — each the same text: the row of the generated table, `r.ok`, the override
guards, the bound check.  `selectParams` is that text with the carrier as a parameter, and each of the three is `selectParams` at its
carrier (`alnParamInitS_eq` in Lemmas/SoftParam.lean); `selectParams_some` says what a successful call returns.  `alnParamInit_eq`
writes the exact model out (a non-negative argument replaces its penalty, a result above the cap `capK` is rejected).
-/
namespace Kalign

/-- each of the three `if(g >= 0.0){ ap->f = g; }` statements of the current source overrides its own field -/
theorem applyGuards_eq {V : Type} (nonneg : V → Bool) (p : PSet V) (gpo gpe tgpe : V) :
    applyGuards nonneg Gen.overrideGuardsT p gpo gpe tgpe =
      { gpo := if nonneg gpo then gpo else p.gpo, gpe := if nonneg gpe then gpe else p.gpe,
        tgpe := if nonneg tgpe then tgpe else p.tgpe, mat := p.mat } := by
  simp only [applyGuards, Gen.overrideGuardsT, List.foldl, argVal]
  cases nonneg gpo <;> cases nonneg gpe <;> cases nonneg tgpe <;> rfl

theorem lookupRow_mem {bt : Nat} {t : Int} {r : Gen.ParamRow} (h : lookupRow bt t = some r) : r ∈ Gen.paramTable :=
  List.mem_of_find?_eq_some h

/-- `aln_param_init`: `ofRow` reads the defaults of a table row in the carrier, `nonneg` is `>= 0.0`, `le` the comparison
with a penalty cap -/
def selectParams {V : Type} (nonneg : V → Bool) (le : V → Nat → Bool) (ofRow : Gen.ParamRow → PSet V)
    (bt : Nat) (t : Int) (g e x : V) : Option (PSet V) :=
  (lookupRow bt t).bind fun r =>
    if r.ok then
      let p := applyGuards nonneg Gen.overrideGuardsT (ofRow r) g e x
      if capOK le p then some p else none
    else none

theorem selectParams_some {V : Type} {nonneg : V → Bool} {le : V → Nat → Bool} {ofRow : Gen.ParamRow → PSet V}
    {bt : Nat} {t : Int} {g e x : V} {p : PSet V} (h : selectParams nonneg le ofRow bt t g e x = some p) :
    ∃ r ∈ Gen.paramTable, lookupRow bt t = some r ∧ r.ok = true ∧ capOK le p = true ∧
      p = { gpo := if nonneg g then g else (ofRow r).gpo, gpe := if nonneg e then e else (ofRow r).gpe,
            tgpe := if nonneg x then x else (ofRow r).tgpe, mat := (ofRow r).mat } := by
  simp only [selectParams, applyGuards_eq, Option.bind_eq_some_iff, Option.ite_none_right_eq_some, Option.some.injEq] at h
  obtain ⟨r, hr, hok, hcap, rfl⟩ := h
  exact ⟨r, lookupRow_mem hr, hr, hok, hcap, rfl⟩

theorem alnParamInit_eq_select (bt : Nat) (t : Int) (g e x : Int) :
    alnParamInit bt t g e x = selectParams (fun v => decide (0 ≤ v)) (fun v c => decide (v ≤ (c : Int) * 1000))
      (fun r => { gpo := r.gpo, gpe := r.gpe, tgpe := r.tgpe, mat := r.mat }) bt t g e x := by
  unfold alnParamInit alnParamInitCore selectParams
  cases lookupRow bt t with
  | none => rfl
  | some r => cases h : r.ok <;> simp [h]

theorem alnParamInitF_eq (bt : Nat) (t : Int) (g e x : Float32) :
    alnParamInitF bt t g e x = selectParams (fun v => v >= 0.0) (fun v c => v <= c.toFloat32)
      (fun r => { gpo := Float32.ofBits r.gpoBits.toUInt32, gpe := Float32.ofBits r.gpeBits.toUInt32,
                  tgpe := Float32.ofBits r.tgpeBits.toUInt32, mat := r.mat }) bt t g e x := by
  unfold alnParamInitF selectParams
  cases lookupRow bt t <;> rfl

section
open Gen

theorem alnParamInitCore_eq (bt : Nat) (t : Int) (g e x : Int) :
    alnParamInitCore bt t g e x =
      match lookupRow bt t with
      | some r => if r.ok then some
          { gpo := if 0 ≤ g then g else r.gpo, gpe := if 0 ≤ e then e else r.gpe,
            tgpe := if 0 ≤ x then x else r.tgpe, mat := r.mat }
        else none
      | none => none := by
  unfold alnParamInitCore
  cases lookupRow bt t with
  | none => rfl
  | some r =>
    cases hok : r.ok
    · simp [hok]
    · simp [hok, applyGuards_eq]

/-- the bound `aln_param_init` puts on the penalties in use (x1000); `capOK_iff` checks it against the regenerated
`Gen.penaltyCaps` -/
def capK : Int := 1000000 * 1000

theorem capOK_iff (p : PSet Int) :
    capOK (fun v c => decide (v ≤ (c : Int) * 1000)) p = true ↔ p.gpo ≤ capK ∧ p.gpe ≤ capK ∧ p.tgpe ≤ capK := by
  simp [capOK, Gen.penaltyCaps, capK, and_assoc]

theorem alnParamInit_eq (bt : Nat) (t : Int) (g e x : Int) :
    alnParamInit bt t g e x =
      match lookupRow bt t with
      | some r => if r.ok then
          (let p : PSet Int := { gpo := if 0 ≤ g then g else r.gpo, gpe := if 0 ≤ e then e else r.gpe,
                                 tgpe := if 0 ≤ x then x else r.tgpe, mat := r.mat }
           if p.gpo ≤ capK ∧ p.gpe ≤ capK ∧ p.tgpe ≤ capK then some p else none)
        else none
      | none => none := by
  rw [alnParamInit_eq_select, selectParams]
  cases lookupRow bt t with
  | none => rfl
  | some r =>
    cases hok : r.ok
    · simp [hok]
    · simp [hok, applyGuards_eq, capOK_iff]

end

end Kalign

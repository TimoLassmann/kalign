import KalignModel.Lemmas.IndexKernel
/-!
# The checked Hirschberg controller agrees with the totalised one

The checked controller (`runnerC`, `runnerSerialC`, Model/Checked.lean) returns `none` on an array access out of range, where
the C code of aln_controller.c would read or write outside `m->f`, `m->b`.  For checked kernels that agree with the
totalised ones on state arrays satisfying an invariant `S` ("slot 0 exists") which the kernels preserve (`KAgree`), the checked
controllers return `some` of what the totalised controllers return (`runnerSerialC_eq`, `runnerC_eq`).  Nothing depends on the
fault analysis: the only totalised accesses of the controller are slot 0 of `f`/`b`.  The real kernels satisfy `KAgree`
(`realKernels_agree`), hence `alnRunC_eq`.
-/
namespace Kalign
section generic
variable {φ α : Type}

structure KAgree (KC : KernelsC φ α) (K : Kernels φ α) (S : φ → Prop) : Prop where
  get0 : ∀ f, S f → Agrees (KC.get0 f) (K.get0 f)
  set0 : ∀ f s, S f → Agrees (KC.set0 f s) (K.set0 f s) ∧ S (K.set0 f s)
  step : ∀ f b (sa mid ea sb eb : Int), S f → S b →
    Agrees (KC.step f b sa mid ea sb eb) (K.step f b sa mid ea sb eb) ∧
      ∀ r, K.step f b sa mid ea sb eb = some r → S r.f ∧ S r.b
  stA : KC.stA = K.stA
  stGA : KC.stGA = K.stGA
  stGB : KC.stGB = K.stGB

/-- `S` holds of both state arrays (for the real kernels: slot 0 exists) -/
def OnStates (S : φ → Prop) (m : Mem φ α) : Prop := S m.f ∧ S m.b

def RecAgree (S : φ → Prop) (recC : Mem φ α → Option (Mem φ α)) (rec : Mem φ α → Mem φ α) : Prop :=
  ∀ m, OnStates S m → Agrees (recC m) (rec m) ∧ OnStates S (rec m)

variable {KC : KernelsC φ α} {K : Kernels φ α} {S : φ → Prop}

theorem KAgree.st (h : KAgree KC K S) (k : Kind) : KC.st k = K.st k := by
  cases k
  · exact h.stA
  · exact h.stGA
  · exact h.stGB

theorem alnFwdC_eq (h : KAgree KC K S) (m : Mem φ α) (hm : OnStates S m) (inF : States α) (k1 k2 : Kind) (a b c d : Int) :
    Agrees (alnFwdC KC m inF k1 k2 a b c d) (alnFwd K m inF k1 k2 a b c d) ∧ OnStates S (alnFwd K m inF k1 k2 a b c d) := by
  obtain ⟨e1, s1⟩ := h.set0 m.f inF hm.1
  obtain ⟨e2, s2⟩ := h.set0 m.b (K.st k2) hm.2
  refine ⟨.bind (.map e1) (.map (.map ?_)), s1, s2⟩
  rw [h.st]
  exact e2

theorem alnBwdC_eq (h : KAgree KC K S) (m : Mem φ α) (hm : OnStates S m) (inB : States α) (k1 k2 : Kind) (a b c d : Int) :
    Agrees (alnBwdC KC m inB k1 k2 a b c d) (alnBwd K m inB k1 k2 a b c d) ∧ OnStates S (alnBwd K m inB k1 k2 a b c d) := by
  obtain ⟨e1, s1⟩ := h.set0 m.f (K.st k2) hm.1
  obtain ⟨e2, s2⟩ := h.set0 m.b inB hm.2
  refine ⟨.bind (.map ?_) (.map e2), s1, s2⟩
  rw [h.st]
  exact e1

theorem onStates_optSet {m : Mem φ α} (h : OnStates S m) (c : Bool) (i v : Int) : OnStates S (optSet m c i v) :=
  ⟨(optSet_keeps m c i v).1.symm ▸ h.1, (optSet_keeps m c i v).2.1.symm ▸ h.2⟩

theorem alnContinueC_generic (KC : KernelsC φ α) (recC : Mem φ α → Option (Mem φ α)) (m : Mem φ α) (inF inB : States α)
    (fk bk : Kind) (sa ea sb eb mid meet t : Int) (ht : ValidT t) :
    alnContinueC KC recC m inF inB fk bk sa ea sb eb mid meet t =
      ((alnFwdC KC (optSet (optSet m (fkOf t == .A) mid meet) (bkOf t == .A) (mid + 1) (meet + 1)) inF fk (fkOf t)
          sa (mid - da (fkOf t)) sb (meet - db (fkOf t))).bind recC).bind fun m =>
        (alnBwdC KC m inB bk (bkOf t) (mid + da (bkOf t)) ea (meet + db (bkOf t)) eb).bind recC := by
  rcases ht with h | h | h | h | h | h <;> subst h <;>
    simp [alnContinueC, fkOf, bkOf, da, db, optSet]

theorem alnContinueC_invalid (KC : KernelsC φ α) (recC : Mem φ α → Option (Mem φ α)) (m : Mem φ α) (inF inB : States α)
    (fk bk : Kind) (sa ea sb eb mid meet t : Int) (ht : ¬ ValidT t) :
    Agrees (alnContinueC KC recC m inF inB fk bk sa ea sb eb mid meet t) m := by
  simp only [ValidT, not_or] at ht
  obtain ⟨h1, h2, h3, h5, h6, h7⟩ := ht
  unfold alnContinueC
  dsimp only
  rw [if_neg h1, if_neg h2, if_neg h3, if_neg h5, if_neg h6, if_neg h7]

theorem alnContinueC_eq (h : KAgree KC K S) (recC : Mem φ α → Option (Mem φ α)) (rec : Mem φ α → Mem φ α)
    (hrec : RecAgree S recC rec) (m : Mem φ α) (hm : OnStates S m) (inF inB : States α) (fk bk : Kind)
    (sa ea sb eb mid meet t : Int) :
    Agrees (alnContinueC KC recC m inF inB fk bk sa ea sb eb mid meet t)
        (alnContinue K rec m inF inB fk bk sa ea sb eb mid meet t) ∧
      OnStates S (alnContinue K rec m inF inB fk bk sa ea sb eb mid meet t) := by
  by_cases ht : ValidT t
  · rw [alnContinueC_generic _ _ _ _ _ _ _ _ _ _ _ _ _ _ ht, alnContinue_generic _ _ _ _ _ _ _ _ _ _ _ _ _ _ ht]
    obtain ⟨e1, s1⟩ := alnFwdC_eq h _ (onStates_optSet (onStates_optSet hm (fkOf t == .A) mid meet) (bkOf t == .A) (mid + 1) (meet + 1))
      inF fk (fkOf t) sa (mid - da (fkOf t)) sb (meet - db (fkOf t))
    obtain ⟨e2, s2⟩ := hrec _ s1
    obtain ⟨e3, s3⟩ := alnBwdC_eq h _ s2 inB bk (bkOf t) (mid + da (bkOf t)) ea (meet + db (bkOf t)) eb
    obtain ⟨e4, s4⟩ := hrec _ s3
    exact ⟨by rw [e1, Option.bind_some, e2, Option.bind_some, e3, Option.bind_some, e4], s4⟩
  · rw [alnContinueC_invalid _ _ _ _ _ _ _ _ _ _ _ _ _ _ ht, alnContinue_invalid _ _ _ _ _ _ _ _ _ _ _ _ _ _ ht]
    exact ⟨rfl, hm⟩

theorem runnerBodyC_eq (h : KAgree KC K S) (so : Bool) (recC : Mem φ α → Option (Mem φ α)) (rec : Mem φ α → Mem φ α)
    (hrec : RecAgree S recC rec) (m : Mem φ α) (hm : OnStates S m) :
    Agrees (runnerBodyC KC so recC m) (runnerBody K so rec m) ∧ OnStates S (runnerBody K so rec m) := by
  unfold runnerBodyC runnerBody
  rw [h.get0 _ hm.1, Option.bind_some, h.get0 _ hm.2, Option.bind_some]
  dsimp only
  obtain ⟨e, hs⟩ := h.step m.f m.b m.starta ((m.enda - m.starta) / 2 + m.starta) m.enda m.startb m.endb hm.1 hm.2
  rw [e, Option.bind_some]
  cases hr : K.step m.f m.b m.starta ((m.enda - m.starta) / 2 + m.starta) m.enda m.startb m.endb with
  | none => exact ⟨rfl, hm⟩
  | some r =>
    obtain ⟨s1, s2⟩ := hs r hr
    dsimp only
    cases so with
    | true => exact ⟨rfl, s1, s2⟩
    | false =>
      simp only [Bool.false_eq_true, if_false]
      exact alnContinueC_eq h recC rec hrec _ ⟨s1, s2⟩ _ _ _ _ _ _ _ _ _ _ _

theorem runnerSerialC_eq (h : KAgree KC K S) (so : Bool) (n : Nat) :
    RecAgree S (runnerSerialC KC so n) (runnerSerial K so n) := by
  induction n with
  | zero => intro m hm; exact ⟨rfl, hm⟩
  | succ n ih =>
    intro m hm
    rw [runnerSerialC, runnerSerial]
    split
    · exact ⟨rfl, hm⟩
    split
    · exact ⟨rfl, hm⟩
    split
    · exact ⟨rfl, hm⟩
    exact runnerBodyC_eq h so _ _ ih m hm

theorem runnerC_eq (h : KAgree KC K S) (so : Bool) (n : Nat) :
    RecAgree S (runnerC KC so n) (runner K so n) := by
  induction n with
  | zero => intro m hm; exact ⟨rfl, hm⟩
  | succ n ih =>
    intro m hm
    rw [runnerC, runner]
    split
    · exact ⟨rfl, hm⟩
    have hser : Agrees (if m.enda - m.starta < 500 then runnerSerialC KC so (n + 1) m else some m)
          (if m.enda - m.starta < 500 then runnerSerial K so (n + 1) m else m) ∧
        OnStates S (if m.enda - m.starta < 500 then runnerSerial K so (n + 1) m else m) := by
      split
      · exact runnerSerialC_eq h so (n + 1) m hm
      · exact ⟨rfl, hm⟩
    obtain ⟨e, hs⟩ := hser
    rw [e, Option.bind_some]
    dsimp only
    generalize (if m.enda - m.starta < 500 then runnerSerial K so (n + 1) m else m) = m' at hs ⊢
    split
    · exact ⟨rfl, hs⟩
    split
    · exact ⟨rfl, hs⟩
    split
    · exact ⟨rfl, hs⟩
    exact runnerBodyC_eq h so _ _ ih _ hs

end generic

section real
variable {β : Type} [Score β]

omit [Score β] in
theorem blitC_eq (arr : Array (States β)) (at_ : Nat) (cells : List (States β)) :
    Agrees (blitC arr at_ cells) (blit arr at_ cells) := by
  unfold blitC blit
  split
  · rename_i hle
    have key : ∀ (cells : List (States β)) (p : Array (States β) × Nat), p.2 + cells.length ≤ p.1.size →
        Agrees (foldlC (fun (p : Array (States β) × Nat) c => (asetC p.1 p.2 c).map fun a => (a, p.2 + 1)) p cells)
          (cells.foldl (fun (p : Array (States β) × Nat) c => (p.1.set! p.2 c, p.2 + 1)) p) := by
      intro cells
      induction cells with
      | nil => intro p _; rfl
      | cons c cs ih =>
        intro p hp
        simp only [List.length_cons] at hp
        rw [foldlC, List.foldl_cons]
        exact Agrees.bind (.map (.write (by omega))) (ih _ (by simp; omega))
    exact .map (key cells (arr, at_) hle)
  · rfl

theorem realStepC_eq (ap : AlnParam β) (hw : ap.wf) (ops : Operands β) (lenA lenB : Nat)
    (hl : ops.lens? = some (lenA, lenB)) (f b : Array (States β)) (sa mid ea sb eb : Int) :
    Agrees (realStepC ap ops lenA lenB f b sa mid ea sb eb) (realStep ap ops lenA lenB f b sa mid ea sb eb) := by
  unfold realStepC realStep
  split
  · rename_i hc
    obtain ⟨h0, h1, h2, h3, h4, h5, h6, h7, h8⟩ := hc
    have vF : (⟨sa.toNat, mid.toNat, sb.toNat, eb.toNat, lenB⟩ : Rect).valid lenA lenB = true :=
      (Rect.valid_iff _ _ _).mpr ⟨by show sa.toNat ≤ mid.toNat; omega, by show mid.toNat ≤ lenA; omega,
        by show sb.toNat < eb.toNat; omega, by show eb.toNat ≤ lenB; omega, rfl⟩
    have vB : (⟨mid.toNat, ea.toNat, sb.toNat, eb.toNat, lenB⟩ : Rect).valid lenA lenB = true :=
      (Rect.valid_iff _ _ _).mpr ⟨by show mid.toNat ≤ ea.toNat; omega, by show ea.toNat ≤ lenA; omega,
        by show sb.toNat < eb.toNat; omega, by show eb.toNat ≤ lenB; omega, rfl⟩
    dsimp only
    refine Agrees.bind (.read (d := States.negInf) h7) <| .bind (kForwardC_eq ap hw ops _ lenA lenB hl vF _) <|
      .bind (.read (d := States.negInf) h8) <|
      .bind (kBackwardC_eq ap hw ops _ lenA lenB hl vB _) <| .bind (blitC_eq _ _ _) <| .bind (blitC_eq _ _ _) ?_
    generalize blit f _ _ = bf
    generalize blit b _ _ = bb
    cases bf with
    | none => rfl
    | some f' =>
      cases bb with
      | none => rfl
      | some b' =>
        exact Agrees.map (kMeetupC_eq ap ops _ lenA lenB mid.toNat hl vF (by omega) _ _
          (by rw [length_kForward]; exact Nat.le_refl _))
  · rfl

theorem realKernels_agree (ap : AlnParam β) (hw : ap.wf) (ops : Operands β) (lenA lenB : Nat)
    (hl : ops.lens? = some (lenA, lenB)) :
    KAgree (realKernelsC ap ops lenA lenB) (realKernels ap ops lenA lenB) (fun a : Array (States β) => 0 < a.size) where
  get0 := fun _ hf => Agrees.read hf
  set0 := fun _ _ hf => ⟨Agrees.write hf, by simpa [realKernels] using hf⟩
  step := by
    intro f b sa mid ea sb eb hf hb
    refine ⟨realStepC_eq ap hw ops lenA lenB hl f b sa mid ea sb eb, ?_⟩
    intro r hr
    simp only [realKernels, realStep] at hr
    split at hr
    · try dsimp only at hr
      split at hr
      · rename_i f' b' ef eb'
        cases hr
        exact ⟨by rw [blit_size _ _ _ _ ef]; exact hf, by rw [blit_size _ _ _ _ eb']; exact hb⟩
      · cases hr
    · cases hr
  stA := rfl
  stGA := rfl
  stGB := rfl

theorem initMemC_eq (lenA lenB : Nat) :
    Agrees (initMemC lenA lenB : Option (Mem (Array (States β)) β)) (initMem lenA lenB) := by
  unfold initMemC initMem
  exact Agrees.map (.write (by simp))

theorem initMem_onStates (lenA lenB : Nat) :
    OnStates (fun a : Array (States β) => 0 < a.size) (initMem lenA lenB : Mem (Array (States β)) β) := by
  constructor <;> simp [initMem]

/-- **every slot-0 read/write and every kernel access of a Hirschberg run is in range** -/
theorem alnRunC_eq (entry : Entry) (ap : AlnParam β) (hw : ap.wf) (ops : Operands β) (lenA lenB : Nat)
    (hl : ops.lens? = some (lenA, lenB)) (m : Mem (Array (States β)) β) (hf : 0 < m.f.size) (hb : 0 < m.b.size) :
    Agrees (alnRunC entry ap ops lenA lenB m) (alnRun entry ap ops lenA lenB m) := by
  unfold alnRunC alnRun
  cases entry with
  | parallel => exact (runnerC_eq (realKernels_agree ap hw ops lenA lenB hl) false m.fuel m ⟨hf, hb⟩).1
  | serial => exact (runnerSerialC_eq (realKernels_agree ap hw ops lenA lenB hl) false m.fuel m ⟨hf, hb⟩).1

omit [Score β] in
theorem pathEntriesC_eq {φ : Type} (m : Mem φ β) (lenA : Nat) (h : lenA < m.path.size) :
    Agrees (m.pathEntriesC lenA) (m.pathEntries lenA) :=
  mapC_eq _ _ _ fun i hi =>
    have := List.mem_range'_1.mp hi
    Agrees.read (by omega)

end real
end Kalign

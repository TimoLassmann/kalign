import KalignModel.Model.Kmeans
import KalignModel.Lemmas.Sched
import KalignModel.Lemmas.SchedKalign
import KalignModel.Lemmas.Basic.OptionMapM
import KalignModel.Lemmas.Basic.MergeSort
/-!
# Lemmas about the bisecting k-means model (Model/Kmeans.lean: bisectingKmeans.c, pick_anchor.c)

`GoodSplit` is what the recursion of `bisecting_kmeans` needs from a split: the two parts are sub-lists of the samples, together a
permutation of them, and both non-empty from two samples on.  Every `split2` that returns delivers one, hence so does the best of the
`MIN(40, n)` restarts (`bestSplit_good`), and `bisect_spec` follows by induction on the recursion: the leaves are a permutation of the
samples, the recursion budget never runs out, no fault when every sample indexes a row of `dm`.  `kmRound_serial` evaluates the serial
order of one round of four restarts in the state semantics `kmSem`; Props/C03Kmeans.lean extends it to every completion order.
No fact depends on a floating-point value: they hold for every matrix `dm`, NaN and ±inf entries included.
-/
namespace Kalign.Kmeans
open Kalign Kalign.Sched

structure GoodSplit (samples : List Nat) (r : Split) : Prop where
  perm : (r.sl ++ r.sr).Perm samples
  nonempty : 2 ≤ samples.length → r.sl ≠ [] ∧ r.sr ≠ []
  subl : r.sl.Sublist samples
  subr : r.sr.Sublist samples

theorem splitBy_spec (flags : List Bool) (xs : List Nat) :
    ((splitBy flags xs).1 ++ (splitBy flags xs).2).Perm xs ∧
      (splitBy flags xs).1.Sublist xs ∧ (splitBy flags xs).2.Sublist xs := by
  induction xs generalizing flags with
  | nil => cases flags <;> simp [splitBy]
  | cons x xs ih =>
    cases flags with
    | nil => simp [splitBy]
    | cons b bs =>
      obtain ⟨hp, h1, h2⟩ := ih bs
      simp only [splitBy]
      cases b
      · simp only [Bool.false_eq_true, if_false]
        exact ⟨List.perm_middle.trans (hp.cons x), h1.cons _, h2.cons_cons _⟩
      · simp only [if_true, List.cons_append]
        exact ⟨hp.cons x, h1.cons_cons _, h2.cons _⟩

theorem fallback_good (samples : List Nat) : GoodSplit samples (fallback samples) := by
  refine ⟨?_, ?_, ?_, ?_⟩
  · simp [fallback, List.take_append_drop]
  · intro h
    constructor <;> refine List.ne_nil_of_length_pos ?_
    · simp only [fallback, List.length_take]
      omega
    · simp only [fallback, List.length_drop]
      omega
  · exact List.take_sublist _ _
  · exact List.drop_sublist _ _

theorem iterStep_good (avx : Bool) (rows : Array (Array Float32)) (samples : List Nat) (na nv : Nat)
    (cl cr : Array Float32) : GoodSplit samples (iterStep avx rows samples na nv cl cr).1 := by
  unfold iterStep
  generalize assignGo avx rows cl cr na rows.size 0 0 (Array.mkEmpty rows.size) = fs
  obtain ⟨flags, score⟩ := fs
  simp only
  split
  · exact fallback_good samples
  · rename_i hne
    have hne' : ¬ ((splitBy flags.toList samples).1 = [] ∨ (splitBy flags.toList samples).2 = []) := by
      simpa [List.isEmpty_iff] using hne
    have hg : GoodSplit samples
        { sl := (splitBy flags.toList samples).1, sr := (splitBy flags.toList samples).2, score := score } :=
      ⟨(splitBy_spec _ _).1, fun _ => ⟨fun h => hne' (Or.inl h), fun h => hne' (Or.inr h)⟩,
        (splitBy_spec _ _).2.1, (splitBy_spec _ _).2.2⟩
    split <;> exact hg

theorem split2Iter_good (avx : Bool) (rows : Array (Array Float32)) (samples : List Nat) (na nv : Nat)
    (k : Nat) (cl cr : Array Float32) : GoodSplit samples (split2Iter avx rows samples na nv k cl cr) := by
  induction k generalizing cl cr with
  | zero => exact iterStep_good avx rows samples na nv cl cr
  | succ k ih =>
    unfold split2Iter
    have hg := iterStep_good avx rows samples na nv cl cr
    generalize iterStep avx rows samples na nv cl cr = p at hg
    obtain ⟨r, o⟩ := p
    cases o with
    | none => exact hg
    | some c => obtain ⟨cl', cr'⟩ := c; exact ih cl' cr'

theorem split2With_good {maxIter : Nat} {avx : Bool} {dm : Array (Array Float32)} {samples : List Nat}
    {na seed : Nat} {r : Split} (h : split2With maxIter avx dm samples na seed = some r) : GoodSplit samples r := by
  unfold split2With at h
  simp only at h
  split at h
  · cases h
  · split at h
    · cases h
    · split at h
      · cases h; exact split2Iter_good ..
      · cases h

theorem split2_good {avx : Bool} {dm : Array (Array Float32)} {samples : List Nat} {na seed : Nat} {r : Split}
    (h : split2 avx dm samples na seed = some r) : GoodSplit samples r :=
  split2With_good h

/-- all that `split2` reads of `dm` -/
def RowsValid (dm : Array (Array Float32)) (na : Nat) (samples : List Nat) : Prop :=
  ∀ s ∈ samples, ∃ row, dm[s]? = some row ∧ numVarOf na ≤ row.size

theorem split2_isSome {avx : Bool} {dm : Array (Array Float32)} {samples : List Nat} {na seed : Nat}
    (hv : RowsValid dm na samples) (hs : seed < samples.length) : ∃ r, split2 avx dm samples na seed = some r := by
  obtain ⟨l, hl, -⟩ := mapM_option_spec (rowAt dm (numVarOf na)) (fun _ => True) samples fun s hs => by
    obtain ⟨row, hrow, hsz⟩ := hv s hs
    exact ⟨row, by simp [rowAt, hrow, Nat.not_lt.2 hsz], trivial⟩
  have hrows : rowsOf dm (numVarOf na) samples = some l.toArray := by rw [rowsOf, hl]; rfl
  have hn : samples.length ≠ 0 := by omega
  unfold split2 split2With
  simp only [hn, if_false, hrows, hs, if_true]
  exact ⟨_, rfl⟩

theorem reduceRes_cons (b : Option Split) (ch : Nat) (r : Split) (rs : List Split) :
    ∃ b' ch', reduceRes (b, ch) (r :: rs) = reduceRes (some b', ch') rs ∧ (b' = r ∨ b = some b') := by
  cases b with
  | none => exact ⟨r, _, rfl, Or.inl rfl⟩
  | some b =>
    simp only [reduceRes]
    split
    · exact ⟨r, _, rfl, Or.inl rfl⟩
    · exact ⟨b, _, rfl, Or.inr rfl⟩

theorem reduceRes_best_isSome (b : Option Split) (ch : Nat) (rs : List Split) (h : b.isSome ∨ rs ≠ []) :
    (reduceRes (b, ch) rs).1.isSome := by
  induction rs generalizing b ch with
  | nil =>
    rcases h with h | h
    · simpa [reduceRes] using h
    · exact absurd rfl h
  | cons r rs ih =>
    obtain ⟨b', ch', e, -⟩ := reduceRes_cons b ch r rs
    rw [e]
    exact ih _ _ (Or.inl rfl)

theorem reduceRes_mem (b : Option Split) (ch : Nat) (rs : List Split) (x : Split)
    (h : (reduceRes (b, ch) rs).1 = some x) : b = some x ∨ x ∈ rs := by
  induction rs generalizing b ch with
  | nil => left; simpa [reduceRes] using h
  | cons r rs ih =>
    obtain ⟨b', ch', e, hb'⟩ := reduceRes_cons b ch r rs
    rw [e] at h
    rcases ih _ _ h with h' | h'
    · cases h'
      exact hb'.elim (fun e' => Or.inr (e' ▸ List.mem_cons_self)) Or.inl
    · exact Or.inr (List.mem_cons_of_mem _ h')

theorem roundRes_some {sp : Nat → Option Split} {step i : Nat} {rs : List Split}
    (h : roundRes sp step i = some rs) :
    ∃ r0 r1 r2 r3, sp (i * step) = some r0 ∧ sp ((i + 1) * step) = some r1 ∧ sp ((i + 2) * step) = some r2 ∧
      sp ((i + 3) * step) = some r3 ∧ rs = [r0, r1, r2, r3] := by
  simp only [roundRes, List.mapM_cons, List.mapM_nil, id, bind, Option.bind_eq_some_iff, pure,
    Option.some.injEq] at h
  obtain ⟨r0, h0, _, ⟨r1, h1, _, ⟨r2, h2, _, ⟨r3, h3, _, rfl, rfl⟩, rfl⟩, rfl⟩, rfl⟩ := h
  exact ⟨r0, r1, r2, r3, h0, h1, h2, h3, rfl⟩

theorem roundRes_of_some {sp : Nat → Option Split} {step i : Nat} {r0 r1 r2 r3 : Split}
    (h0 : sp (i * step) = some r0) (h1 : sp ((i + 1) * step) = some r1) (h2 : sp ((i + 2) * step) = some r2)
    (h3 : sp ((i + 3) * step) = some r3) : roundRes sp step i = some [r0, r1, r2, r3] := by
  simp [roundRes, h0, h1, h2, h3]

theorem roundsGo_mem (sp : Nat → Option Split) (step rem i : Nat) (best : Option Split) (x : Split)
    (h : roundsGo sp step rem i best = some (some x)) : best = some x ∨ ∃ k, sp k = some x := by
  induction rem generalizing i best with
  | zero => left; simpa [roundsGo] using h
  | succ rem ih =>
    unfold roundsGo at h
    split at h
    · cases h
    · rename_i rs hrs
      obtain ⟨r0, r1, r2, r3, h0, h1, h2, h3, rfl⟩ := roundRes_some hrs
      have key : ∀ y, (reduceRes (best, 0) [r0, r1, r2, r3]).1 = some y → best = some y ∨ ∃ k, sp k = some y := by
        intro y hy
        rcases reduceRes_mem _ _ _ _ hy with h' | h'
        · left; exact h'
        · right
          simp only [List.mem_cons, List.not_mem_nil, or_false] at h'
          rcases h' with rfl | rfl | rfl | rfl
          · exact ⟨_, h0⟩
          · exact ⟨_, h1⟩
          · exact ⟨_, h2⟩
          · exact ⟨_, h3⟩
      simp only at h
      split at h
      · simp only [Option.some.injEq] at h
        exact key x h
      · rcases ih _ _ h with h' | h'
        · exact key x h'
        · right; exact h'

theorem roundsGo_isSome (sp : Nat → Option Split) (step rem i : Nat) (best : Option Split)
    (hsp : ∀ k, k < i + 4 * rem → ∃ r, sp (k * step) = some r) (hb : best.isSome ∨ 0 < rem) :
    ∃ x, roundsGo sp step rem i best = some (some x) := by
  induction rem generalizing i best with
  | zero =>
    rcases hb with hb | hb
    · obtain ⟨x, rfl⟩ := Option.isSome_iff_exists.1 hb
      exact ⟨x, rfl⟩
    · omega
  | succ rem ih =>
    obtain ⟨r0, h0⟩ := hsp i (by omega)
    obtain ⟨r1, h1⟩ := hsp (i + 1) (by omega)
    obtain ⟨r2, h2⟩ := hsp (i + 2) (by omega)
    obtain ⟨r3, h3⟩ := hsp (i + 3) (by omega)
    unfold roundsGo
    rw [roundRes_of_some h0 h1 h2 h3]
    simp only
    have hsome := reduceRes_best_isSome best 0 [r0, r1, r2, r3] (Or.inr (by simp))
    split
    · obtain ⟨x, hx⟩ := Option.isSome_iff_exists.1 hsome
      exact ⟨x, by rw [hx]⟩
    · exact ih (i + 4) _ (fun k hk => hsp k (by omega)) (Or.inl hsome)

/-- the seed index of restart `k < 40` (`m = 40`) and the index of anchor `k` in the sorted sequence array (`m = MIN(32, numseq)`) -/
theorem mul_div_lt {n m k : Nat} (hn : 0 < n) (hk : k < m) : k * (n / m) < n := by
  have h1 : (k + 1) * (n / m) ≤ m * (n / m) := Nat.mul_le_mul_right _ hk
  have h2 : m * (n / m) ≤ n := Nat.mul_div_le _ _
  rw [Nat.succ_mul] at h1
  rcases Nat.eq_zero_or_pos (n / m) with h0 | h0
  · rw [h0, Nat.mul_zero]
    exact hn
  · omega

theorem bestSplit_good {avx : Bool} {dm : Array (Array Float32)} {na : Nat} {samples : List Nat} {b : Split}
    (h : bestSplit avx dm na samples = some b) : GoodSplit samples b := by
  unfold bestSplit at h
  simp only at h
  generalize (if kmTries < samples.length then kmTries else samples.length) = tries at h
  split at h
  · cases h
  · generalize hr : roundsGo (split2 avx dm samples na) (samples.length / tries) ((tries + 3) / 4) 0 none = res at h
    cases res with
    | none => cases h
    | some o =>
      cases o with
      | none => cases h
      | some x =>
        simp only [Option.some.injEq] at h
        subst h
        rcases roundsGo_mem _ _ _ _ _ _ hr with h' | ⟨k, hk⟩
        · cases h'
        · exact split2_good hk

theorem bestSplit_isSome {avx : Bool} {dm : Array (Array Float32)} {na : Nat} {samples : List Nat}
    (hv : RowsValid dm na samples) (hn : kmSmall ≤ samples.length) : ∃ b, bestSplit avx dm na samples = some b := by
  have hn' : 100 ≤ samples.length := hn
  unfold bestSplit
  have ht : (if kmTries < samples.length then kmTries else samples.length) = 40 := by
    have : kmTries < samples.length := by show 40 < _; omega
    rw [if_pos this]; rfl
  simp only [ht]
  have h40 : ¬ (40 = 0) := by omega
  simp only [h40, if_false]
  have : (40 + 3) / 4 = 10 := by decide
  rw [this]
  obtain ⟨x, hx⟩ := roundsGo_isSome (split2 avx dm samples na) (samples.length / 40) 10 0 none
    (fun k hk => split2_isSome hv (mul_div_lt (by omega) (by omega)))
    (Or.inr (by omega))
  exact ⟨x, by rw [hx]⟩

theorem RowsValid.of_sublist {dm : Array (Array Float32)} {na : Nat} {l l' : List Nat}
    (h : RowsValid dm na l) (hs : l'.Sublist l) : RowsValid dm na l' :=
  fun s hs' => h s (hs.subset hs')

theorem bestSplit_parts {avx : Bool} {dm : Array (Array Float32)} {na : Nat} {samples : List Nat} {b : Split}
    (h : bestSplit avx dm na samples = some b) (hn : ¬ samples.length < kmSmall) :
    b.sl ≠ [] ∧ b.sr ≠ [] ∧ b.sl.length < samples.length ∧ b.sr.length < samples.length := by
  have hg := bestSplit_good h
  have hl := hg.perm.length_eq
  simp only [List.length_append] at hl
  have h100 : kmSmall = 100 := rfl
  obtain ⟨h1, h2⟩ := hg.nonempty (by omega)
  have := List.length_pos_iff.2 h1
  have := List.length_pos_iff.2 h2
  exact ⟨h1, h2, by omega, by omega⟩

theorem bisect_spec (avx : Bool) (dm : Array (Array Float32)) (na : Nat) (small : List Nat → Tree)
    (hsmall : ∀ l, l ≠ [] → (small l).leaves.Perm l) (fuel : Nat) (samples : List Nat)
    (hne : samples ≠ []) (hf : samples.length ≤ fuel) :
    (∀ t, bisect avx dm na small fuel samples = .ok t → t.leaves.Perm samples) ∧
    bisect avx dm na small fuel samples ≠ .error .fuel ∧
    (RowsValid dm na samples → ∃ t, bisect avx dm na small fuel samples = .ok t) := by
  fun_induction bisect avx dm na small fuel samples with
  | case1 fuel samples hs =>
    exact ⟨fun t ht => by cases ht; exact hsmall samples hne, nofun, fun _ => ⟨_, rfl⟩⟩
  | case2 samples hs => exact absurd (List.length_eq_zero_iff.1 (Nat.le_zero.1 hf)) hne
  | case3 samples hs fuel hb =>
    refine ⟨nofun, nofun, fun hv => ?_⟩
    obtain ⟨b, hb'⟩ := bestSplit_isSome (avx := avx) hv (Nat.le_of_not_lt hs)
    rw [hb] at hb'; cases hb'
  | case4 samples hs fuel b hb l r hR hL ihl ihr =>
    obtain ⟨hlne, hrne, hl, hr⟩ := bestSplit_parts hb hs
    refine ⟨fun t ht => ?_, nofun, fun _ => ⟨_, rfl⟩⟩
    cases ht
    exact (((ihl hlne (by omega)).1 l hL).append ((ihr hrne (by omega)).1 r hR)).trans (bestSplit_good hb).perm
  | case5 samples hs fuel b hb e hL ihl ihr =>
    obtain ⟨hlne, -, hl, -⟩ := bestSplit_parts hb hs
    obtain ⟨-, i2, i3⟩ := ihl hlne (by omega)
    rw [hL] at i2 i3
    refine ⟨nofun, i2, fun hv => ?_⟩
    obtain ⟨t, ht⟩ := i3 (hv.of_sublist (bestSplit_good hb).subl)
    cases ht
  | case6 samples hs fuel b hb e hR _ ihl ihr =>
    obtain ⟨-, hrne, -, hr⟩ := bestSplit_parts hb hs
    obtain ⟨-, i2, i3⟩ := ihr hrne (by omega)
    rw [hR] at i2 i3
    refine ⟨nofun, i2, fun hv => ?_⟩
    obtain ⟨t, ht⟩ := i3 (hv.of_sublist (bestSplit_good hb).subr)
    cases ht

/-! State = content of the locations of `KmLoc` (Model/SchedKalign.lean): `.input` holds the loop counter `i`
(`dm`, `samples`, `num_anchors`, `step` are fixed parameters of the semantics), `.res k` the slot `res[k]`,
`.best` the pointer `best`, `.change` the counter. -/

inductive KmVal where
  /-- `res[k]` / `best`: `none` = NULL -/
  | ptr (r : Option Split)
  /-- `i` / `change` -/
  | num (n : Nat)
  deriving Inhabited

def KmVal.getPtr : KmVal → Option Split
  | .ptr r => r
  | .num _ => none

def KmVal.getNum : KmVal → Nat
  | .num n => n
  | .ptr _ => 0

def slotsOf (s : KmLoc → KmVal) : Option (List Split) :=
  [(s (.res 0)).getPtr, (s (.res 1)).getPtr, (s (.res 2)).getPtr, (s (.res 3)).getPtr].mapM id

/-- what an atom computes from the locations it may read:
`split k` stores the result of `split2(…, (i + k) * step, &res[k])` in `res[k]`;
`reduce` (the code after the `taskwait`, with `change = 0` of the loop head) runs the j-loop.
(The stale buffers the j-loop swaps back into `res[j]` are not observable: the next `split2` overwrites them;
the kernel leaves `res[j]` as it is.) -/
def kmKernel (sp : Nat → Option Split) (step : Nat) : KmAtom → (KmLoc → KmVal) → KmLoc → KmVal
  | .split k, s, x =>
    match x with
    | .res _ => .ptr (sp (((s .input).getNum + k) * step))
    | _ => s x
  | .reduce, s, x =>
    match slotsOf s with
    | none => s x
    | some rs =>
      match x with
      | .best => .ptr (reduceRes ((s .best).getPtr, 0) rs).1
      | .change => .num (reduceRes ((s .best).getPtr, 0) rs).2
      | _ => s x

def kmSem (sp : Nat → Option Split) (step : Nat) : Sem KmAtom KmLoc KmVal :=
  Sem.ofKernel kmRd kmWr (kmKernel sp step)

theorem kmSem_fp (sp : Nat → Option Split) (step : Nat) : (kmSem sp step).fp = kmFp := rfl

theorem kmSem_wf (sp : Nat → Option Split) (step : Nat) : (kmSem sp step).WellFormed :=
  Sem.ofKernel_wf _ _ _

theorem kmRound_serial (sp : Nat → Option Split) (step i : Nat) (best : Option Split) (rs : List Split)
    (hrs : roundRes sp step i = some rs) (s0 : KmLoc → KmVal)
    (hi : s0 .input = .num i) (hb : s0 .best = .ptr best) :
    let s := exec (kmSem sp step).act kmeansRoundProg.atoms s0
    s .best = .ptr (reduceRes (best, 0) rs).1 ∧ s .change = .num (reduceRes (best, 0) rs).2 := by
  obtain ⟨r0, r1, r2, r3, h0, h1, h2, h3, rfl⟩ := roundRes_some hrs
  simp only [kmeansRoundProg, parAll, Prog.atoms, exec, List.foldl_cons, List.foldl_nil, List.cons_append,
    List.nil_append]
  simp [kmSem, Sem.ofKernel, kmKernel, kmRd, kmWr, slotsOf, KmVal.getNum, KmVal.getPtr, hi, hb, h0, h1, h2, h3]

theorem createTasks_length (t : LTree) : (createTasks t).length + 1 = t.leaves.length := by
  induction t with
  | leaf i => simp [createTasks, LTree.leaves]
  | node c l r ihl ihr => simp only [createTasks, LTree.leaves, List.length_cons, List.length_append]; omega

theorem pickAnchors_spec (lens : List Nat) (hne : lens ≠ []) :
    ∃ a, pickAnchors lens = some a ∧ a.length = min 32 lens.length ∧ ∀ x ∈ a, x < lens.length := by
  have hn : 0 < lens.length := List.length_pos_iff.2 hne
  unfold pickAnchors
  simp only
  have hna : (if 32 < lens.length then 32 else lens.length) = min 32 lens.length := by
    split <;> omega
  rw [hna]
  have h0 : ¬ (min 32 lens.length = 0) := by omega
  simp only [h0, if_false]
  have hperm := msortBy_perm lenTakeLeft lens.zipIdx
  generalize msortBy lenTakeLeft lens.zipIdx = sorted at hperm ⊢
  have hsz : sorted.length = lens.length := by simp [hperm.length_eq]
  obtain ⟨a, ha, hl, hP⟩ := mapM_option_spec
    (fun i => (sorted.toArray[i * (lens.length / min 32 lens.length)]?).map (·.2))
    (fun x => x < lens.length) (List.range (min 32 lens.length)) (by
      intro i hi
      have hidx : i * (lens.length / min 32 lens.length) < sorted.length := by
        rw [hsz]
        exact mul_div_lt hn (List.mem_range.1 hi)
      refine ⟨sorted[i * (lens.length / min 32 lens.length)].2, by simp [hidx], ?_⟩
      -- an entry of the sorted array is an entry `(len, id)` of `lens.zipIdx`
      have hmem := hperm.mem_iff.1 (List.getElem_mem hidx)
      generalize sorted[i * (lens.length / min 32 lens.length)] = p at hmem
      obtain ⟨v, k⟩ := p
      have := List.mem_zipIdx hmem
      simp only at this ⊢
      omega)
  exact ⟨a, ha, by simpa using hl, hP⟩

theorem treeTasks_length (t : Tree) (n : Nat) : (treeTasks t n).length + 1 = t.leaves.length := by
  unfold treeTasks
  rw [createTasks_length, label_leaves]

end Kalign.Kmeans

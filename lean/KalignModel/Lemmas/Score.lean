import KalignModel.Model.Score
import KalignModel.Lemmas.Progressive
/-!
# The diagonal is the strict optimum of `upperScore` under Φ (C08)

`diag_strict_opt`: under the two conditions of `phi` (`phi_spec`), every valid column list of two copies of a sequence
other than the diagonal scores strictly less in `upperScore`, the upper bound of the alignment score under every reading
of the gap costs.  The counting behind it is `two_subSum_le_margin`: an aligned pair is paid by `2 s(x,y) ≤ s(x,x) + s(y,y)`,
a gap column by `s(x,x) + 2·min(gpe,tgpe) > 0`.  `finalRow_identical`: the progressive alignment of identical sequences
with the diagonal aligner returns every sequence without gaps.
-/
namespace Kalign

def dSum (sub : Nat → Nat → Int) : List Nat → Int
  | [] => 0
  | x :: l => sub x x + dSum sub l

@[simp] theorem gapCols_nil : gapCols [] = 0 := rfl
@[simp] theorem gapCols_both (cs : List Col) : gapCols (.both :: cs) = gapCols cs := by simp [gapCols]
@[simp] theorem gapCols_skip (cs : List Col) : gapCols (.skip :: cs) = gapCols cs := by simp [gapCols]
@[simp] theorem gapCols_gapA (cs : List Col) : gapCols (.gapA :: cs) = gapCols cs + 1 := by simp [gapCols]
@[simp] theorem gapCols_gapB (cs : List Col) : gapCols (.gapB :: cs) = gapCols cs + 1 := by simp [gapCols]

theorem gapCols_diag (n : Nat) : gapCols (diagCols n) = 0 := by
  induction n with
  | zero => rfl
  | succ n ih => rw [diagCols, List.replicate_succ, gapCols_both]; exact ih

theorem subSum_diag (sub : Nat → Nat → Int) (s : List Nat) :
    subSum sub (diagCols s.length) s s = dSum sub s := by
  induction s with
  | nil => rfl
  | cons x s ih =>
    rw [List.length_cons, diagCols, List.replicate_succ]
    simp only [subSum, dSum]
    rw [← ih]; rfl

theorem upperScore_diag (sub : Nat → Nat → Int) (c : Int) (s : List Nat) :
    upperScore sub c (diagCols s.length) s s = dSum sub s := by
  simp [upperScore, gapCols_diag, subSum_diag]

theorem eq_diag_of_gapCols_zero (cs : List Col) (hs : Col.skip ∉ cs) (hg : gapCols cs = 0) :
    cs = diagCols (consA cs) := by
  induction cs with
  | nil => rfl
  | cons c cs ih =>
    cases c
    · rw [gapCols_both] at hg
      have hs' : Col.skip ∉ cs := fun h => hs (List.mem_cons_of_mem _ h)
      rw [consA_both, diagCols, List.replicate_succ]
      congr 1
      exact ih hs' hg
    · rw [gapCols_gapA] at hg; omega
    · rw [gapCols_gapB] at hg; omega
    · exact absurd (List.mem_cons_self) hs

theorem two_subSum_le_margin (sub : Nat → Nat → Int) (c M : Int)
    (cs : List Col) (a b : List Nat) (hs : Col.skip ∉ cs)
    (ha : consA cs = a.length) (hb : consB cs = b.length)
    (h1a : ∀ x ∈ a, M ≤ sub x x + 2 * c) (h1b : ∀ y ∈ b, M ≤ sub y y + 2 * c)
    (h2 : ∀ x ∈ a, ∀ y ∈ b, 2 * sub x y ≤ sub x x + sub y y) :
    2 * subSum sub cs a b - 2 * (c * (gapCols cs : Int)) + M * (gapCols cs : Int) ≤ dSum sub a + dSum sub b := by
  induction cs generalizing a b with
  | nil =>
    cases a with
    | nil =>
      cases b with
      | nil => simp [subSum, dSum]
      | cons y b => simp at hb
    | cons x a => simp at ha
  | cons col cs ih =>
    have hs' : Col.skip ∉ cs := fun h => hs (List.mem_cons_of_mem _ h)
    cases col with
    | both =>
      cases a with
      | nil => simp at ha
      | cons x a =>
        cases b with
        | nil => simp at hb
        | cons y b =>
          rw [consA_both, List.length_cons] at ha
          rw [consB_both, List.length_cons] at hb
          have := ih a b hs' (by omega) (by omega)
            (fun z hz => h1a z (List.mem_cons_of_mem _ hz)) (fun z hz => h1b z (List.mem_cons_of_mem _ hz))
            (fun z hz w hw => h2 z (List.mem_cons_of_mem _ hz) w (List.mem_cons_of_mem _ hw))
          have h2' := h2 x List.mem_cons_self y List.mem_cons_self
          simp only [subSum, dSum, gapCols_both]
          omega
    | gapA =>
      cases b with
      | nil => simp at hb
      | cons y b =>
        rw [consA_gapA] at ha
        rw [consB_gapA, List.length_cons] at hb
        have := ih a b hs' ha (by omega) h1a (fun z hz => h1b z (List.mem_cons_of_mem _ hz))
          (fun z hz w hw => h2 z hz w (List.mem_cons_of_mem _ hw))
        have h1' := h1b y List.mem_cons_self
        simp only [subSum, dSum, gapCols_gapA, Int.natCast_add, Int.mul_add, Int.natCast_one, Int.mul_one]
        omega
    | gapB =>
      cases a with
      | nil => simp at ha
      | cons x a =>
        rw [consA_gapB, List.length_cons] at ha
        rw [consB_gapB] at hb
        have := ih a b hs' (by omega) hb (fun z hz => h1a z (List.mem_cons_of_mem _ hz)) h1b
          (fun z hz w hw => h2 z (List.mem_cons_of_mem _ hz) w hw)
        have h1' := h1a x List.mem_cons_self
        simp only [subSum, dSum, gapCols_gapB, Int.natCast_add, Int.mul_add, Int.natCast_one, Int.mul_one]
        omega
    | skip => exact absurd List.mem_cons_self hs

theorem phi_spec {m : List (List Int)} {gpo gpe tgpe : Int} {L : Nat} (h : phi m gpo gpe tgpe L = true) :
    (∀ x, x < L → 1 ≤ subOf m x x + 2 * min gpe tgpe) ∧
    (∀ x, x < L → ∀ y, y < L → 2 * subOf m x y ≤ subOf m x x + subOf m y y) := by
  simp only [phi, Bool.and_eq_true, decide_eq_true_eq, List.all_eq_true, List.mem_range] at h
  obtain ⟨_, h⟩ := h
  refine ⟨fun x hx => ?_, fun x hx y hy => (h x hx).2 y hy⟩
  have := (h x hx).1
  omega

theorem gapCols_ne_zero {cs : List Col} {n : Nat} (hv : ValidCols cs n n) (hne : cs ≠ diagCols n) : gapCols cs ≠ 0 :=
  fun hg => hne (hv.2.1 ▸ eq_diag_of_gapCols_zero cs hv.1 hg)

theorem diag_strict_opt (sub : Nat → Nat → Int) (c : Int) (L : Nat)
    (h1 : ∀ x, x < L → 1 ≤ sub x x + 2 * c)
    (h2 : ∀ x, x < L → ∀ y, y < L → 2 * sub x y ≤ sub x x + sub y y)
    (s : List Nat) (hs : ∀ x ∈ s, x < L)
    (cs : List Col) (hv : ValidCols cs s.length s.length) (hne : cs ≠ diagCols s.length) :
    upperScore sub c cs s s < upperScore sub c (diagCols s.length) s s := by
  have hg := gapCols_ne_zero hv hne
  obtain ⟨hskip, ha, hb⟩ := hv
  have key := two_subSum_le_margin sub c 1 cs s s hskip ha hb (fun x hx => h1 x (hs x hx)) (fun x hx => h1 x (hs x hx))
    (fun x hx y hy => h2 x (hs x hx) y (hs y hy))
  rw [upperScore_diag]
  unfold upperScore
  omega

theorem gapVecA_replicate_both (n : Nat) : gapVecA (List.replicate n Col.both) = List.replicate (n + 1) 0 := by
  induction n with
  | zero => rfl
  | succ n ih => rw [List.replicate_succ, gapVecA, ih]; rfl

theorem gapVecB_replicate_both (n : Nat) : gapVecB (List.replicate n Col.both) = List.replicate (n + 1) 0 := by
  induction n with
  | zero => rfl
  | succ n ih => rw [List.replicate_succ, gapVecB, ih]; rfl

theorem updateGaps_zero (k m : Nat) :
    updateGaps (List.replicate k 0) (List.replicate m 0) = List.replicate k 0 := by
  induction k generalizing m with
  | zero => rfl
  | succ k ih =>
    rw [List.replicate_succ, updateGaps]
    simp only [Nat.zero_add, List.take_replicate, List.drop_replicate, List.sum_replicate_nat, Nat.mul_zero]
    rw [ih]

theorem map_ofCode_replicate_zero (n : Nat) :
    (List.replicate n 0).map Col.ofCode = List.replicate n Col.both := by
  rw [List.map_replicate]; rfl

theorem alignTree_identical (s : List Nat) (T : Tree) :
    (∀ m ∈ alignTree (fun _ => s) (fun _ _ => List.replicate s.length 0) T,
        m.seq.res = s ∧ m.seq.gaps = List.replicate (s.length + 1) 0) ∧
    ((alignTree (fun _ => s) (fun _ _ => List.replicate s.length 0) T).map (·.idx)).Perm T.leaves := by
  induction T with
  | leaf i =>
    refine ⟨?_, by simp [alignTree, Tree.leaves]⟩
    intro m hm
    simp only [alignTree, List.mem_singleton] at hm
    subst hm
    exact ⟨rfl, rfl⟩
  | node l r ihl ihr =>
    obtain ⟨iA, pA⟩ := ihl
    obtain ⟨iB, pB⟩ := ihr
    simp only [alignTree]
    refine ⟨?_, ?_⟩
    · intro m hm
      rw [mem_mergeGroups, map_ofCode_replicate_zero] at hm
      rcases hm with ⟨m0, hm0, rfl⟩ | ⟨m0, hm0, rfl⟩
      · obtain ⟨hr, hg⟩ := iA m0 hm0
        refine ⟨hr, ?_⟩
        simp only [updA, hg, gapVecA_replicate_both, updateGaps_zero]
      · obtain ⟨hr, hg⟩ := iB m0 hm0
        refine ⟨hr, ?_⟩
        simp only [updB, hg, gapVecB_replicate_both, updateGaps_zero]
    · rw [mergeGroups_idx, Tree.leaves]
      exact (List.reverse_perm _).trans pA |>.append ((List.reverse_perm _).trans pB)

theorem finalRow_identical (s : List Nat) (T : Tree) (hnd : T.leaves.Nodup) (i : Nat) (hi : i ∈ T.leaves) :
    finalRow (alignTree (fun _ => s) (fun _ _ => List.replicate s.length 0) T) i = some (s.map some) := by
  obtain ⟨inv, perm⟩ := alignTree_identical s T
  have hmem := perm.mem_iff.2 hi
  rw [List.mem_map] at hmem
  obtain ⟨m, hm, rfl⟩ := hmem
  rw [finalRow_of_mem _ (perm.nodup_iff.2 hnd) m hm]
  obtain ⟨hr, hg⟩ := inv m hm
  rw [GSeq.row, hr, hg, makeLinear_replicate_zero]

end Kalign

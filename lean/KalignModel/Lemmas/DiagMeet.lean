import KalignModel.Lemmas.DiagOpt
/-!
# The meetup of a square rectangle on the diagonal of (seq, seq)

What `aln_seqseq_meetup` (lib/src/aln_seqseq.c) returns when the two kernels have run over a square piece of the diagonal of a
sequence against itself, argued on the walks of the kernels and not through a margin against the reference score.  For a kernel
configuration whose substitution scores are dominated by a "self-score" `d` (`2·sc p k ≤ d p + d k`) and whose self-scores outweigh
the cheapest gap charge `g` (`d i + 2·g ≥ E`; `DiagCfg`), every walk satisfies `2·walkSc + E·#gap columns ≤ Σ d (rows) + Σ d (cells)`
(`walk_le_diag`), so a pair of walks meeting in the middle row with gap columns has at least two of them and reads at least `E` below
the gap-free diagonal (`diag_pair`); hence `MeetAns.diag`, and `diag_meet` for the exact meetup (`τ = |n − 2k|`, slack 0, `E = 1`).
No relation between `gpo`, `gpe`, `tgpe` is needed (`tgpe = 0` is fine).
-/
namespace Kalign

def psum (d : Nat → Int) : Nat → Int
  | 0 => 0
  | n + 1 => psum d n + d n

structure DiagCfg (c : KCfg) (d : Nat → Int) (g E : Int) : Prop where
  hgpo : 0 ≤ c.gpo
  g1 : g ≤ c.gpo
  g2 : g ≤ c.gpe
  g3 : g ≤ c.tgpe
  hsc : ∀ p k, p < c.n → k < c.n → 2 * c.sc p k ≤ d p + d k
  hdiag : ∀ p, p < c.n → c.sc p p = d p
  hd : ∀ i, i < c.n → E ≤ d i + 2 * g

theorem psum_succ (d : Nat → Int) (n : Nat) : psum d (n + 1) = psum d n + d n := rfl

theorem gap_step (c : KCfg) (d : Nat → Int) (g E : Int) (H : DiagCfg c d g E) (p k : Nat) (st : Kind) (col : Col)
    (cs : List Col) (hc : col = .gapA ∨ col = .gapB) :
    stepSc c p k st col ≤ - g ∧ E * ((gapCols (col :: cs) : Nat) : Int) = E * (gapCols cs : Int) + E := by
  have h1 := H.g1
  have h2 := H.g2
  have h3 := H.g3
  have hN : gapCols (col :: cs) = gapCols cs + 1 := by
    rcases hc with h | h <;> subst h <;> simp
  refine ⟨?_, by rw [hN, Int.natCast_add, Int.mul_add, Int.natCast_one, Int.mul_one]⟩
  rcases hc with h | h <;> subst h <;> simp only [stepSc] <;> split
  · omega
  · split <;> omega
  · omega
  · split <;> omega

theorem walk_le_diag (c : KCfg) (d : Nat → Int) (g E : Int) (H : DiagCfg c d g E) (X : List Col) :
    ∀ p k st a b, walkOK c p k st X = true → a = p + consA X → b = k + consB X → a ≤ c.n →
      2 * walkSc c p k st X + E * (gapCols X : Int) ≤ (psum d a - psum d p) + (psum d b - psum d k) := by
  induction X with
  | nil =>
    intro p k st a b _ ha hb _
    subst ha hb
    simp [walkSc]
  | cons col cs ih =>
    intro p k st a b hw ha hb hle
    simp only [walkOK, Bool.and_eq_true] at hw
    obtain ⟨hs, hw'⟩ := hw
    have h6 : walkSc c p k st (col :: cs) =
      stepSc c p k st col + walkSc c (stepP p col) (stepK k col) (colKind st col) cs := rfl
    rw [h6]
    cases col with
    | skip => simp [stepOK] at hs
    | both =>
      simp only [stepOK, decide_eq_true_eq] at hs
      simp only [consA_both, consB_both] at ha hb
      have ih' := ih (p + 1) (k + 1) .A a b hw' (by omega) (by omega) hle
      have h1 := H.hsc p k (by omega) (by omega)
      have h2 := psum_succ d p
      have h3 := psum_succ d k
      have h4 : gapCols (Col.both :: cs) = gapCols cs := gapCols_both cs
      have h5 : stepSc c p k st .both ≤ c.sc p k := by
        have := H.hgpo
        simp only [stepSc]
        split <;> omega
      rw [h4]
      simp only [stepP, stepK, colKind]
      omega
    | gapA =>
      simp only [stepOK, Bool.and_eq_true, decide_eq_true_eq] at hs
      simp only [consA_gapA, consB_gapA] at ha hb
      have ih' := ih p (k + 1) .GA a b hw' (by omega) (by omega) hle
      have h1 := H.hd k (by omega)
      have h3 := psum_succ d k
      obtain ⟨h5, h4⟩ := gap_step c d g E H p k st .gapA cs (Or.inl rfl)
      rw [h4]
      simp only [stepP, stepK, colKind]
      omega
    | gapB =>
      simp only [stepOK, Bool.and_eq_true, decide_eq_true_eq] at hs
      simp only [consA_gapB, consB_gapB] at ha hb
      have ih' := ih (p + 1) k .GB a b hw' (by omega) (by omega) hle
      have h1 := H.hd p (by omega)
      have h3 := psum_succ d p
      obtain ⟨h5, h4⟩ := gap_step c d g E H p k st .gapB cs (Or.inr rfl)
      rw [h4]
      simp only [stepP, stepK, colKind]
      omega

theorem walkOK_diag (c : KCfg) (m : Nat) : ∀ p k st, k + m ≤ c.n → walkOK c p k st (diagCols m) = true := by
  induction m with
  | zero => intro p k st _; rfl
  | succ m ih =>
    intro p k st h
    rw [diagCols_succ]
    simp only [walkOK, stepOK, Bool.and_eq_true, decide_eq_true_eq]
    exact ⟨by omega, ih _ _ _ (by simp only [stepK]; omega)⟩

theorem walkSc_diag (c : KCfg) (d : Nat → Int) (m : Nat) :
    ∀ p, (∀ i, i < p + m → c.sc i i = d i) → walkSc c p p .A (diagCols m) = psum d (p + m) - psum d p := by
  induction m with
  | zero => intro p _; simp [diagCols, walkSc]
  | succ m ih =>
    intro p h
    rw [diagCols_succ]
    have h6 : walkSc c p p .A (Col.both :: diagCols m) = stepSc c p p .A .both + walkSc c (p + 1) (p + 1) .A (diagCols m) :=
      rfl
    rw [h6, ih (p + 1) (fun i hi => h i (by omega))]
    have h2 : psum d (p + 1) = psum d p + d p := rfl
    have h3 : stepSc c p p .A .both = c.sc p p := by simp [stepSc]
    have h4 : p + 1 + m = p + (m + 1) := by omega
    rw [h3, h (p) (by omega), h4]
    omega

theorem lastKind_diag (m : Nat) : lastKind .A (diagCols m) = .A := by
  induction m with
  | zero => rfl
  | succ m ih =>
    rw [diagCols_succ]
    exact ih

theorem firstKind_diag (m : Nat) : firstKind .A (diagCols m) = .A := by
  cases m with
  | zero => rfl
  | succ m => rw [diagCols_succ]; rfl

theorem gapCols_zero (X : List Col) (hs : Col.skip ∉ X) (h : gapCols X = 0) : X = diagCols (consA X) ∧ consB X = consA X := by
  have e := eq_diag_of_gapCols_zero X hs h
  exact ⟨e, by rw [e, consB_diag, consA_diag]⟩

theorem all_both_diag (X : List Col) (h : ∀ c ∈ X, c = .both) : X = diagCols X.length := by
  unfold diagCols
  exact List.eq_replicate_iff.2 ⟨rfl, h⟩

theorem psum_rev (D : Nat → Int) (sa ea : Nat) (h : sa ≤ ea) :
    ∀ j, j ≤ ea - sa →
      psum (fun i => D (sa + i)) (ea - sa - j) + psum (fun i => D (ea - 1 - i)) j =
        psum (fun i => D (sa + i)) (ea - sa) := by
  intro j
  induction j with
  | zero => intro _; simp [psum]
  | succ j ih =>
    intro hj
    have ih' := ih (by omega)
    have e1 : ea - sa - j = (ea - sa - (j + 1)) + 1 := by omega
    have e2 : psum (fun i => D (sa + i)) (ea - sa - j) =
        psum (fun i => D (sa + i)) (ea - sa - (j + 1)) + D (sa + (ea - sa - (j + 1))) := by
      rw [e1]; rfl
    have e3 : psum (fun i => D (ea - 1 - i)) (j + 1) = psum (fun i => D (ea - 1 - i)) j + D (ea - 1 - j) := rfl
    have e4 : sa + (ea - sa - (j + 1)) = ea - 1 - j := by omega
    rw [e2, e4] at ih'
    rw [e3]
    omega

/-- the forward kernel reads the weights from `sa` upwards, the backward kernel from `ea − 1` downwards: the first `k`
of the one and the first `ea − sa − k` of the other make up the whole rectangle -/
theorem psum_split (D : Nat → Int) (sa ea : Nat) (h : sa ≤ ea) (k : Nat) (hk : k ≤ ea - sa) :
    psum (fun i => D (sa + i)) k + psum (fun i => D (ea - 1 - i)) (ea - sa - k) =
      psum (fun i => D (sa + i)) (ea - sa) := by
  have := psum_rev D sa ea h (ea - sa - k) (Nat.sub_le _ _)
  rw [Nat.sub_sub_self hk] at this
  exact this

theorem fkbk_one (t : Int) (ht : ValidT t) (h1 : fkOf t = .A) (h2 : bkOf t = .A) : t = 1 := by
  rcases ht with h | h | h | h | h | h <;> subst h <;> simp [fkOf, bkOf] at h1 h2 ⊢

theorem joinCost_nonneg (cF : KCfg) (h1 : 0 ≤ cF.gpo) (h2 : 0 ≤ cF.gpe) (h3 : 0 ≤ cF.tgpe) (t : Int) (k : Nat) :
    0 ≤ joinCost cF t k := by
  unfold joinCost
  split
  · omega
  · split
    · split <;> split <;> omega
    · omega

theorem tie_mid_min (sb n k : Nat) : tieOf sb (sb + n) (n / 2) ≤ tieOf sb (sb + n) k := by
  unfold tieOf
  omega

theorem diag_pair {cF cB : KCfg} {dF dB : Nat → Int} {g E : Int} (HF : DiagCfg cF dF g E) (HB : DiagCfg cB dB g E)
    (hnn : cB.n = cF.n) {m1 m2 : Nat} (hm : m1 + m2 = cF.n)
    {T : Int} (hsum : ∀ k, k ≤ cF.n → psum dF k + psum dB (cF.n - k) = T)
    {k : Nat} {t : Int} (hadm : Adm cF.n k t) {X1 X2r : List Col} (h : MeetWalk ⟨cF, cB, hnn, .A, .A, m1, m2⟩ k t X1 X2r) :
    ∃ G : Nat, (G = 0 ∨ 2 ≤ G) ∧ 2 * (walkSc cF 0 0 .A X1 + walkSc cB 0 0 .A X2r) + E * G ≤ 2 * T ∧
      (G = 0 → k = m1 ∧ t = 1) := by
  have hkn : k ≤ cF.n := hadm.le
  have a1 : consA X1 = m1 := h.a1
  have b1 : consB X1 = k := h.b1
  have a2 : consA X2r = m2 := h.a2
  have b2 : consB X2r = cF.n - k := h.b2
  have hb1 := walk_le_diag cF dF g E HF X1 0 0 .A m1 k h.w1 (by omega) (by omega) (by omega)
  have hb2 := walk_le_diag cB dB g E HB X2r 0 0 .A m2 (cF.n - k) h.w2 (by omega) (by omega) (by omega)
  have hp0F : psum dF 0 = 0 := rfl
  have hp0B : psum dB 0 = 0 := rfl
  have hs1 := hsum k hkn
  have hs2 := hsum m1 (by omega)
  rw [show cF.n - m1 = m2 by omega] at hs2
  have hns1 := adjOK_noskip _ _ (walkOK_adjOK cF X1 0 0 .A h.w1)
  have hns2 := adjOK_noskip _ _ (walkOK_adjOK cB X2r 0 0 .A h.w2)
  have hpar1 := gapCols_eq X1 hns1
  have hpar2 := gapCols_eq X2r hns2
  refine ⟨gapCols X1 + gapCols X2r, by omega, ?_, fun h0 => ?_⟩
  · rw [Int.natCast_add, Int.mul_add E]
    omega
  · obtain ⟨hX1, hX1b⟩ := gapCols_zero X1 hns1 (by omega)
    obtain ⟨hX2, hX2b⟩ := gapCols_zero X2r hns2 (by omega)
    have hf : fkOf t = .A := by rw [← h.l1, hX1]; exact lastKind_diag _
    have hbk : bkOf t = .A := by rw [← h.l2, hX2]; exact lastKind_diag _
    exact ⟨by omega, fkbk_one t hadm.valid hf hbk⟩

theorem diag_arith {E a b T tk tm S J : Int} {G : Nat} (h2 : 2 ≤ G) (hE : 0 ≤ E) (hle : 2 * (a + b) + E * G ≤ 2 * T)
    (hd : T - tm - S ≤ a + b - J - tk) (hJ : 0 ≤ J) (hτ : tm ≤ tk) (hES : S < E) : False := by
  have hmul : E * 2 ≤ E * (G : Int) := Int.mul_le_mul_of_nonneg_left (by omega) hE
  omega

/-- the diagonal pair meets in the cell of the diagonal with the transition "aligned" -/
theorem MeetWalk.diag (cF cB : KCfg) (hnn : cB.n = cF.n) {m1 m2 : Nat} (hm : m1 + m2 = cF.n) :
    MeetWalk ⟨cF, cB, hnn, .A, .A, m1, m2⟩ m1 1 (diagCols m1) (diagCols m2) :=
  ⟨walkOK_diag cF m1 0 0 .A (by omega), consA_diag _, consB_diag _, lastKind_diag _,
    walkOK_diag cB m2 0 0 .A (by omega), consA_diag _, by rw [consB_diag]; show m2 = cF.n - m1; omega, lastKind_diag _⟩

/-- **identical operands**: a meetup that answers with a maximum of value − `τ` up to a slack `S < E`, where `τ` is minimal in the
cell of the diagonal, answers with that cell and the transition "aligned": the diagonal pair meets there, and a winner with gap
columns would read at least `E` less (`diag_pair`) -/
theorem MeetAns.diag {cF cB : KCfg} {dF dB : Nat → Int} {g E S : Int} (HF : DiagCfg cF dF g E) (HB : DiagCfg cB dB g E)
    (hgpe : 0 ≤ cF.gpe) (htgpe : 0 ≤ cF.tgpe) (hnn : cB.n = cF.n) {m1 m2 : Nat} (hm : m1 + m2 = cF.n) (hm2 : 1 ≤ m2)
    {T : Int} (hsum : ∀ k, k ≤ cF.n → psum dF k + psum dB (cF.n - k) = T)
    {τ : Nat → Int} (hτ : ∀ k, k ≤ cF.n → τ m1 ≤ τ k) (hS : 0 ≤ S) (hES : S < E) {sb : Nat} {meet trans : Int}
    (hans : MeetAns ⟨cF, cB, hnn, .A, .A, m1, m2⟩ sb τ S meet trans) :
    meet = ((sb + m1 : Nat) : Int) ∧ trans = 1 := by
  have hadm1 : Adm cF.n m1 1 := Or.inl ⟨by omega, Or.inl rfl⟩
  have hwd := MeetWalk.diag cF cB hnn hm
  obtain ⟨k, t, X1, X2r, hmeet, htrans, hadm, hwin, hdom⟩ := hans.winner (show 1 ≤ cF.n by omega) hadm1 hwd
  have hd := hdom _ _ _ _ hadm1 hwd
  obtain ⟨G, hpar, hle, hzero⟩ := diag_pair HF HB hnn hm hsum hadm hwin
  have hs2 := hsum m1 (by omega)
  rw [show cF.n - m1 = m2 by omega] at hs2
  have hwF := walkSc_diag cF dF m1 0 (fun i hi => HF.hdiag i (by omega))
  have hwB := walkSc_diag cB dB m2 0 (fun i hi => HB.hdiag i (by omega))
  have hJ1 : joinCost cF 1 m1 = 0 := by simp [joinCost]
  have hb1 : consB X1 = k := hwin.b1
  simp only [Meet.read_eq, consB_diag, hb1, hJ1, Nat.zero_add, hwF, hwB,
    show psum dF 0 = 0 from rfl, show psum dB 0 = 0 from rfl, Int.sub_zero, hs2] at hd
  obtain ⟨hk, ht1⟩ := hzero (hpar.resolve_right fun h2 =>
    diag_arith h2 (by omega) hle hd (joinCost_nonneg cF HF.hgpo hgpe htgpe t k) (hτ k hadm.le) hES)
  exact ⟨by rw [hmeet, hk], by rw [htrans, ht1]⟩

theorem diag_meet (cF cB : KCfg) (dF dB : Nat → Int) (g : Int) (HF : DiagCfg cF dF g 1) (HB : DiagCfg cB dB g 1)
    (hnn : cB.n = cF.n) (hgpe : 0 ≤ cF.gpe) (htgpe : 0 ≤ cF.tgpe)
    (m1 m2 : Nat) (hm : m1 + m2 = cF.n) (hm2 : 1 ≤ m2) (hm1 : m1 = cF.n / 2)
    (T : Int) (hsum : ∀ k, k ≤ cF.n → psum dF k + psum dB (cF.n - k) = T)
    (sb eb : Nat) (heb : eb = sb + cF.n) :
    (absMeet cF cB m1 m2 (hot .A) (hot .A) sb eb).meet = ((sb + m1 : Nat) : Int) ∧
      (absMeet cF cB m1 m2 (hot .A) (hot .A) sb eb).transition = 1 :=
  MeetAns.diag HF HB hgpe htgpe hnn hm hm2 hsum (fun k _ => by rw [heb, hm1]; exact tie_mid_min sb cF.n k)
    (Int.le_refl 0) (by decide) (absMeet_ans ⟨cF, cB, hnn, .A, .A, m1, m2⟩ sb eb)

end Kalign

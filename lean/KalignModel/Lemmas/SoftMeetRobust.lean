import KalignModel.Lemmas.SoftDyadicCells
import KalignModel.Lemmas.SoftTie
import KalignModel.Lemmas.SoftMeet
import KalignModel.Lemmas.MeetLevel
/-!
# The meetup on the software binary32 with dyadic parameters: a robust argmax

Every candidate of the `SoftF32` meetup is `E − tie` where `E` (forward cell + backward cell − join penalty) is computed exactly
(`half h`, where the exact carrier has `some (1000·h)`) and `tie` is the non-dyadic tie-break term, `0 ≤ tie ≤ T/2`.  Correctly
rounded subtraction is monotone and `half (h − T)`, `half h` are representable, so the candidate lies between them (`CandRel`).
Such a candidate is not NaN and is above `-FLT_MAX` exactly when its exact value is finite (`candRel_key`), and of two of them the one
with the larger key has the larger exact value up to `1000·T` (`candRel_dom`).  So `meetupRun_from_sentinel` applies: the winner
`(k, t)` has a finite exact value `v` and every admissible candidate with exact value `v'` satisfies `v' − 1000·T ≤ v`
(`ssMeet_robust`; `tryAll_robust` for any list of such candidates); if no candidate has a finite exact value the meetup keeps
`transition = -1`.
-/
namespace Kalign
open SoftF32

/-- a `SoftF32` candidate value `x` against the exact value `e` of the candidate *without* the tie-break term -/
def CandRel (T : Nat) (x : SoftF32) : Option Int → Prop
  | none => Sent x
  | some v => ∃ h : Int, v = 1000 * h ∧ h.natAbs < 16777216 ∧ (h - T).natAbs < 16777216 ∧ x.isNaN = false ∧
      (half (h - T)).key ≤ x.key ∧ x.key ≤ (half h).key

theorem key_half (h : Int) : (half h).key = rndKey (h * ((2 ^ 148 : Nat) : Int)) := key_packZ _ _

theorem tieLe_absLe {x : SoftF32} {T : Nat} (h : TieLe x T) (hT : T < 16777216) : absLe x (8 * 1048576) := by
  refine ⟨h.1, ?_⟩
  have h1 := natAbs_toInt x
  have h3 : magVal x.mag ≤ T * 2 ^ 148 := by
    have hc : ((magVal x.mag : Nat) : Int) ≤ ((T * 2 ^ 148 : Nat) : Int) := by
      rw [Int.natCast_mul, ← h1, Int.natAbs_of_nonneg h.2.1]
      exact h.2.2
    exact Int.ofNat_le.1 hc
  have h4 : T * 2 ^ 148 ≤ 16777216 * 2 ^ 148 := Nat.mul_le_mul_right _ (Nat.le_of_lt hT)
  have e : (8 * 1048576 : Nat) * 2 ^ 149 = 16777216 * 2 ^ 148 := by decide
  rw [e]
  exact Nat.le_trans h3 h4

theorem cand_rel {M T : Nat} {z tie : SoftF32} {e : ExactScore} (hz : Emb M z e) (ht : TieLe tie T)
    (hM : M + T < 16777216) : CandRel T (Score.sub z tie) e := by
  show CandRel T (sub z tie) e
  have htf : tie.isFinite = true := isFinite_of_mag ht.1
  cases e with
  | none => exact sent_sub_fin hz (tieLe_absLe ht (by omega)) (by decide)
  | some v =>
    obtain ⟨h, rfl, h2, rfl⟩ := hz
    have hh : h.natAbs < 16777216 := by omega
    have hhT : (h - T).natAbs < 16777216 := by omega
    refine ⟨h, rfl, hh, hhT, ?_, ?_, ?_⟩
    · rw [sub_of_not_nan (isNaN_of_finite htf)]
      exact add_not_nan (half_finite hh) (by rw [isFinite_neg]; exact htf)
    · rw [key_sub (half_finite hh) htf, key_half, (half_fin hh).2.1]
      apply rndKey_mono
      rw [Int.sub_mul]
      have := ht.2.2
      omega
    · rw [key_sub (half_finite hh) htf, key_half, (half_fin hh).2.1]
      apply rndKey_mono
      have := ht.2.1
      omega

theorem candRel_key {T : Nat} {x : SoftF32} {e : Option Int} (h : CandRel T x e) :
    x.isNaN = false ∧ (e.isSome = true ↔ ¬ x.key ≤ (Score.negInf : SoftF32).key) := by
  show _ ∧ (_ ↔ ¬ _ ≤ negMax.key)
  rw [key_negMax]
  cases e with
  | none =>
    have := key_of_sent h
    exact ⟨sent_not_nan h, by simp; omega⟩
  | some v =>
    obtain ⟨k, _, _, h3, h4, h5, _⟩ := h
    have := key_of_fin (half_absLe h3) (by decide)
    exact ⟨h4, by simp; omega⟩

/-- `half (h' − T) ≤ y ≤ x ≤ half h`, and `half` is increasing -/
theorem candRel_dom {T : Nat} {x y : SoftF32} {v v' : Int} (hx : CandRel T x (some v)) (hy : CandRel T y (some v'))
    (hxy : y.key ≤ x.key) : v' - 1000 * (T : Int) ≤ v := by
  obtain ⟨h, rfl, hh, _, _, _, hup⟩ := hx
  obtain ⟨h', rfl, _, hhT', _, hlo, _⟩ := hy
  have hk : (half (h' - T)).key ≤ (half h).key := Int.le_trans hlo (Int.le_trans hxy hup)
  rw [key_le_iff, (half_fin hhT').2.1, (half_fin hh).2.1, mul148_le] at hk
  omega

theorem tryAll_robust (T : Nat) (ev : Int → Nat → Option Int) (cs : List (SoftF32 × Int × Nat))
    (hall : ∀ c ∈ cs, CandRel T c.1 (ev c.2.1 c.2.2)) :
    let acc := tryAll ⟨Score.negInf, -1, -1⟩ cs
    (acc.transition = -1 ∧ ∀ c ∈ cs, ev c.2.1 c.2.2 = none) ∨
    (∃ c ∈ cs, acc.transition = c.2.1 ∧ acc.c = (c.2.2 : Int) ∧ ∃ v, ev c.2.1 c.2.2 = some v ∧
      ∀ d ∈ cs, ∀ v', ev d.2.1 d.2.2 = some v' → v' - 1000 * (T : Int) ≤ v) := by
  intro acc
  rcases tryAll_from_sentinel softGtOrder (by decide) (fun c => (ev c.2.1 c.2.2).isSome) cs
    (fun c hc => candRel_key (hall c hc)) with ⟨e, h⟩ | ⟨c, hc, hP, e, hdom⟩
  · refine Or.inl ⟨by show (tryAll _ cs).transition = -1; rw [e], fun c hc => ?_⟩
    simpa using h c hc
  · obtain ⟨v, hv⟩ := Option.isSome_iff_exists.1 hP
    refine Or.inr ⟨c, hc, by show (tryAll _ cs).transition = _; rw [e], by show (tryAll _ cs).c = _; rw [e], v, hv, ?_⟩
    intro d hd v' hv'
    have hcr := hall c hc
    rw [hv] at hcr
    have hdr := hall d hd
    rw [hv'] at hdr
    exact candRel_dom hcr hdr (hdom d hd)

section
variable {U : Nat} {ap : AlnParam SoftF32} {apE : AlnParam ExactScore}

theorem cand_pen_rel {Nf Nb T : Nat} {x y p tie : SoftF32} {ex ey pe : ExactScore} {g : Int}
    (hx : Emb Nf x ex) (hy : Emb Nb y ey) (hp : DyVal U p pe) (hpe : pe = some g) (ht : TieLe tie T)
    (hB : Nf + Nb + U + T < 16777216) :
    CandRel T (Score.sub (Score.sub (Score.add x y) p) tie) (osub (oplus ex ey) g) := by
  have h1 := emb_add2 hx hy (by omega)
  have h2 := emb_sub h1 hp (by omega)
  rw [hpe, ex_sub_some, ex_add_eq] at h2
  exact cand_rel h2 ht (by omega)

theorem cand_plain_rel {Nf Nb T : Nat} {x y tie : SoftF32} {ex ey : ExactScore}
    (hx : Emb Nf x ex) (hy : Emb Nb y ey) (ht : TieLe tie T) (hB : Nf + Nb + U + T < 16777216) :
    CandRel T (Score.sub (Score.add x y) tie) (osub (oplus ex ey) 0) := by
  have h1 := emb_add2 hx hy (by omega)
  rw [ex_add_eq] at h1
  rw [osub_zero]
  exact cand_rel h1 ht (by omega)

/-- every candidate of the sequence–sequence meetup: exact join of two embedded cells, minus the rounded tie-break term -/
theorem ssCand_rel (hd : DyadicParam U ap apE) {gpo gpe tgpe : Int} {s : Nat → Nat → Int} (hap : ApOK apE gpo gpe tgpe s)
    (seq1 seq2 : Array Nat) (r : Rect) (sb eb T Nf Nb : Nat) (F Bk : Nat → States SoftF32) (EF EB : Nat → States ExactScore)
    (k : Nat) (t : Int) (ht : t = 1 ∨ t = 2 ∨ t = 3 ∨ t = 5 ∨ t = 6 ∨ t = 7) (last : Bool)
    (hlast : last = true ↔ ¬ k < r.endb - r.startb) (hB : Nf + Nb + U + T < 16777216)
    (hf : StEmb Nf (F k) (EF k)) (hb : StEmb Nb (Bk k) (EB k)) (htie : TieLe (Score.tie sb eb (sb + k) : SoftF32) T) :
    CandRel T (candOf (ssMeetOps ap r) sb eb F Bk last k t).1 (evC (cfgF gpo gpe tgpe s seq1 seq2 r) (EF k) (EB k) k t) := by
  rcases ht with rfl | rfl | rfl | rfl | rfl | rfl
  · exact cand_plain_rel hf.1 hb.1 htie hB
  · exact cand_pen_rel hf.1 hb.2.1 hd.gpo hap.gpo htie hB
  · exact cand_pen_rel hf.1 hb.2.2 hd.gpo hap.gpo htie hB
  · exact cand_pen_rel hf.2.1 hb.1 hd.gpo hap.gpo htie hB
  · simp only [candOf, MeetOps.join, evC, joinCost, cfgF, ssMeetOps, Int.reduceEq, if_false, if_true]
    cases last
    · have hk : k < r.endb - r.startb := Classical.not_not.1 (fun h => Bool.false_ne_true (hlast.2 h))
      simp only [hk, if_true, Bool.false_eq_true, if_false]
      by_cases h0 : (r.startb == 0) = true
      · simp only [h0, if_true]
        exact cand_pen_rel hf.2.2 hb.2.2 hd.tgpe hap.tgpe htie hB
      · simp only [h0]
        exact cand_pen_rel hf.2.2 hb.2.2 hd.gpe hap.gpe htie hB
    · simp only [hlast.1 rfl, if_true, if_false]
      by_cases h0 : (r.endb == r.lenB) = true
      · simp only [h0, if_true]
        exact cand_pen_rel hf.2.2 hb.2.2 hd.tgpe hap.tgpe htie hB
      · simp only [h0]
        exact cand_pen_rel hf.2.2 hb.2.2 hd.gpe hap.gpe htie hB
  · exact cand_pen_rel hf.2.2 hb.1 hd.gpo hap.gpo htie hB

theorem ssMeet_robust (hd : DyadicParam U ap apE) {gpo gpe tgpe : Int} {s : Nat → Nat → Int}
    (hap : ApOK apE gpo gpe tgpe s) (seq1 seq2 : Array Nat) (r : Rect) (T : Nat) (Nf Nb : Nat → Nat)
    (F Bk : Nat → States SoftF32) (EF EB : Nat → States ExactScore)
    (h : ∀ k, k ≤ r.endb - r.startb → Nf k + Nb k + U + T < 16777216 ∧ StEmb (Nf k) (F k) (EF k) ∧
      StEmb (Nb k) (Bk k) (EB k) ∧ TieLe (Score.tie r.startb r.endb (r.startb + k) : SoftF32) T) :
    let n := r.endb - r.startb
    let cF := cfgF gpo gpe tgpe s seq1 seq2 r
    let res := meetupRun (ssMeetOps ap r) r.startb r.endb ((List.range (n + 1)).map F) ((List.range (n + 1)).map Bk)
    (res.transition = -1 ∧ ∀ k t, Adm n k t → evC cF (EF k) (EB k) k t = none) ∨
    (∃ k t v, Adm n k t ∧ res.meet = ((r.startb + k : Nat) : Int) ∧ res.transition = t ∧
      evC cF (EF k) (EB k) k t = some v ∧
      ∀ k' t' v', Adm n k' t' → evC cF (EF k') (EB k') k' t' = some v' → v' - 1000 * (T : Int) ≤ v) := by
  intro n cF res
  have hrel : ∀ k t, Adm n k t → CandRel T (candOf (ssMeetOps ap r) r.startb r.endb F Bk (decide (k = n)) k t).1
      (evC cF (EF k) (EB k) k t) := by
    intro k t hadm
    obtain ⟨hB, h1, h2, h3⟩ := h k hadm.le
    exact ssCand_rel hd hap seq1 seq2 r _ _ T _ _ F Bk EF EB k t hadm.valid _
      (by have := hadm.le; simp only [decide_eq_true_eq]; omega) hB h1 h2 h3
  rcases meetupRun_from_sentinel softGtOrder (by decide) (ssMeetOps ap r) r.startb r.endb n F Bk
    (fun k t => (evC cF (EF k) (EB k) k t).isSome) (fun k t hadm => candRel_key (hrel k t hadm))
    with ⟨h1, h2⟩ | ⟨k, t, hadm, hfin, hm, ht, hdom⟩
  · exact Or.inl ⟨h1, fun k t hadm => by simpa using h2 k t hadm⟩
  · obtain ⟨v, hv⟩ := Option.isSome_iff_exists.1 hfin
    refine Or.inr ⟨k, t, v, hadm, hm, ht, hv, fun k' t' v' hadm' hv' => ?_⟩
    have hx := hrel k t hadm
    rw [hv] at hx
    have hy := hrel k' t' hadm'
    rw [hv'] at hy
    exact candRel_dom hx hy (hdom k' t' hadm')

end
end Kalign

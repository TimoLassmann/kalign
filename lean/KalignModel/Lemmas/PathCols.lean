import KalignModel.Model.Path
import KalignModel.Model.ScoreST
import KalignModel.Lemmas.Progressive
/-!
A Hirschberg path (`path[1..len_a]`: the 1-based partner in b, or −1) is the encoding `pathFrom 0 P` of a column list `P` that
has no gap-in-a run next to a gap-in-b run (`adjOK`): a run of gap-in-a columns leaves no entry of its own and is recovered
from the jump of the partners, which is why the two kinds of run must not touch.  `add_gap_info_to_path_n` decodes it
(`expandCore_pathFrom`, `expandPath_cols`); every path that `pathOK` accepts is such an encoding (`cols_of_pathOK`); for any
path the codes before the flags are 0, 1, 2 (`expandCore_le`), so the codes written are determined by the kinds of their
columns (`expandPath_of_cols`).
-/
namespace Kalign

/-- column codes as `add_gap_info_to_path_n` emits them -/
def Col.code : Col → Nat
  | .both => 0
  | .gapA => 1
  | .gapB => 2
  | .skip => 3

theorem ofCode_code (c : Col) (h : c ≠ .skip) : Col.ofCode c.code = c := by
  cases c <;> simp_all [Col.code, Col.ofCode]

theorem code_ofCode {c : Nat} (h : c ≤ 2) : (Col.ofCode c).code = c := by
  have : c = 0 ∨ c = 1 ∨ c = 2 := by omega
  rcases this with rfl | rfl | rfl <;> rfl

theorem map_ofCode_code {P : List Col} (hs : Col.skip ∉ P) : (P.map Col.code).map Col.ofCode = P := by
  rw [List.map_map]
  conv => rhs; rw [← List.map_id P]
  exact List.map_congr_left fun c hc => ofCode_code c (fun h => hs (h ▸ hc))

theorem ofCode_or32 (c : Nat) (h : c ≠ 0) : Col.ofCode (c ||| 32) = Col.ofCode c := by
  have h4 : (c ||| 32) % 4 = c % 4 := by
    have := Nat.or_mod_two_pow (a := c) (b := 32) (n := 2)
    simpa using this
  have hne : c ||| 32 ≠ 0 := by
    intro h0
    have := @Nat.right_le_or c 32
    omega
  unfold Col.ofCode
  rw [if_neg h, if_neg hne]
  have e1 : (c ||| 32) % 2 = c % 2 := by omega
  have e2 : (c ||| 32) / 2 % 2 = c / 2 % 2 := by omega
  rw [e1, e2]

theorem map_ofCode_markPrefix (l : List Nat) :
    (markPrefix l).map Col.ofCode = l.map Col.ofCode := by
  induction l with
  | nil => rfl
  | cons c cs ih =>
    unfold markPrefix
    by_cases h : c = 0
    · simp [h]
    · simp [h, ih, ofCode_or32 c h]

theorem map_ofCode_markSuffix (l : List Nat) :
    (markSuffix l).map Col.ofCode = l.map Col.ofCode := by
  unfold markSuffix
  rw [List.map_reverse, map_ofCode_markPrefix, ← List.map_reverse, List.reverse_reverse]

def adjOK : Kind → List Col → Bool
  | _, [] => true
  | st, c :: cs => (c != .skip) && st.compat (colKind st c) && adjOK (colKind st c) cs

theorem Kind.compat_symm (a b : Kind) : a.compat b = b.compat a := by cases a <;> cases b <;> rfl
theorem Kind.compat_A_left (b : Kind) : Kind.A.compat b = true := by cases b <;> rfl
theorem Kind.compat_A_right (b : Kind) : b.compat Kind.A = true := by cases b <;> rfl

theorem adjOK_noskip (st : Kind) (xs : List Col) (h : adjOK st xs = true) : Col.skip ∉ xs := by
  induction xs generalizing st with
  | nil => simp
  | cons c xs ih =>
    simp only [adjOK, Bool.and_eq_true, bne_iff_ne, ne_eq] at h
    intro hm
    rcases List.mem_cons.mp hm with h' | h'
    · exact h.1.1 h'.symm
    · exact ih _ h.2 h'

theorem adjOK_noBoth (st : Kind) (cs : List Col) (hadj : adjOK st cs = true) (hnb : Col.both ∉ cs) :
    (st = .GA → consA cs = 0) ∧ (st = .GB → consB cs = 0) ∧ (consA cs = 0 ∨ consB cs = 0) := by
  induction cs generalizing st with
  | nil => simp
  | cons c cs ih =>
    simp only [adjOK, Bool.and_eq_true, bne_iff_ne, ne_eq] at hadj
    obtain ⟨⟨hs, hc⟩, hadj'⟩ := hadj
    have hnb' : Col.both ∉ cs := fun h => hnb (List.mem_cons_of_mem _ h)
    cases c with
    | skip => exact absurd rfl hs
    | both => exact absurd (by simp) hnb
    | gapA =>
      have h1 := (ih (colKind st .gapA) hadj' hnb').1 rfl
      refine ⟨fun _ => by simpa using h1, fun h => ?_, Or.inl (by simpa using h1)⟩
      rw [h] at hc; simp [colKind, Kind.compat] at hc
    | gapB =>
      have h1 := (ih (colKind st .gapB) hadj' hnb').2.1 rfl
      refine ⟨fun h => ?_, fun _ => by simpa using h1, Or.inr (by simpa using h1)⟩
      rw [h] at hc; simp [colKind, Kind.compat] at hc

theorem both_mem_of_valid (P : List Col) (la lb : Nat) (hV : ValidCols P la lb) (hadj : adjOK .A P = true)
    (h1 : 1 ≤ la) (h2 : 1 ≤ lb) : Col.both ∈ P := by
  refine Classical.byContradiction fun hnb => ?_
  have := (adjOK_noBoth .A P hadj hnb).2.2
  rw [hV.2.1, hV.2.2] at this
  omega

theorem nf_consB_replicate_gapA (n : Nat) : consB (List.replicate n Col.gapA) = n := by
  induction n with
  | zero => rfl
  | succ n ih => simp only [List.replicate_succ, consB_gapA, ih]

theorem nf_consA_replicate_gapA (n : Nat) : consA (List.replicate n Col.gapA) = 0 := by
  induction n with
  | zero => rfl
  | succ n ih => simp only [List.replicate_succ, consA_gapA, ih]

theorem adjOK_replicate_gapA (n : Nat) (st : Kind) (hst : st ≠ .GB) (cs : List Col)
    (h : adjOK (if n = 0 then st else .GA) cs = true) : adjOK st (List.replicate n Col.gapA ++ cs) = true := by
  induction n generalizing st with
  | zero => simpa using h
  | succ n ih =>
    simp only [List.replicate_succ, List.cons_append, adjOK, colKind]
    have hc : st.compat .GA = true := by
      cases st with
      | GB => exact absurd rfl hst
      | _ => rfl
    rw [hc]
    have hne : (Col.gapA != Col.skip) = true := by decide
    rw [hne, Bool.true_and, Bool.true_and]
    apply ih .GA (by decide)
    simpa using h

def Kind.swap : Kind → Kind
  | .A => .A | .GA => .GB | .GB => .GA

theorem colKind_swap (st : Kind) (c : Col) : colKind st.swap c.swap = (colKind st c).swap := by cases c <;> rfl

theorem adjOK_swap (st : Kind) (cs : List Col) : adjOK st.swap (cs.map Col.swap) = adjOK st cs := by
  induction cs generalizing st with
  | nil => rfl
  | cons c cs ih =>
    simp only [List.map_cons, adjOK, colKind_swap, ih]
    congr 1
    cases c <;> cases st <;> rfl

def pathFrom (j : Nat) : List Col → List Int
  | [] => []
  | .both :: cs => ((j + 1 : Nat) : Int) :: pathFrom (j + 1) cs
  | .gapA :: cs => pathFrom (j + 1) cs
  | .gapB :: cs => (-1) :: pathFrom j cs
  | .skip :: cs => pathFrom j cs

theorem length_pathFrom (j : Nat) (cs : List Col) : (pathFrom j cs).length = consA cs := by
  induction cs generalizing j with
  | nil => rfl
  | cons c cs ih => cases c <;> simp [pathFrom, ih]

theorem pathFrom_append (j : Nat) (xs ys : List Col) :
    pathFrom j (xs ++ ys) = pathFrom j xs ++ pathFrom (j + consB xs) ys := by
  induction xs generalizing j with
  | nil => simp [pathFrom]
  | cons c xs ih =>
    cases c with
    | both =>
      simp only [List.cons_append, pathFrom, ih, consB_both, List.cons.injEq, true_and]
      rw [show j + 1 + consB xs = j + (consB xs + 1) by omega]
    | gapA =>
      simp only [List.cons_append, pathFrom, ih, consB_gapA]
      rw [show j + 1 + consB xs = j + (consB xs + 1) by omega]
    | gapB => simp only [List.cons_append, pathFrom, ih, consB_gapB]
    | skip => simp only [List.cons_append, pathFrom, ih, consB_skip]

theorem pathFrom_entry (Y1 Y2 : List Col) (c : Col) (hc : c = .both ∨ c = .gapB) :
    (pathFrom 0 (Y1 ++ c :: Y2))[consA Y1]? = some (if c = .both then ((consB Y1 + 1 : Nat) : Int) else -1) := by
  rw [pathFrom_append, List.getElem?_append_right (by rw [length_pathFrom]; exact Nat.le_refl _), length_pathFrom,
    Nat.sub_self, Nat.zero_add]
  rcases hc with h | h <;> subst h <;> simp [pathFrom]

theorem pathFrom_replicate_gapA (n j : Nat) (cs : List Col) :
    pathFrom j (List.replicate n Col.gapA ++ cs) = pathFrom (j + n) cs := by
  induction n generalizing j with
  | zero => simp
  | succ n ih =>
    simp only [List.replicate_succ, List.cons_append, pathFrom]
    rw [ih]; congr 1; omega

def expandRestTail (lenB : Nat) (b : Int) (ps : List Int) : List Nat :=
  expandRest b ps ++ expandTail lenB (ps.getLast?.getD b)

theorem expandRestTail_cons (lenB : Nat) (b p : Int) (ps : List Int) :
    expandRestTail lenB b (p :: ps) = expandEntry b p ++ expandRestTail lenB p ps := by
  simp [expandRestTail, expandRest, List.getLast?_cons]

theorem expandCore_eq_restTail (lenB : Nat) (p : Int) (ps : List Int) :
    expandCore lenB (p :: ps) = expandRestTail lenB 0 (p :: ps) := by
  have : expandFirst p = expandEntry 0 p := by
    unfold expandFirst expandEntry
    by_cases h1 : p = -1
    · simp [h1]
    · by_cases h2 : p = 1
      · simp [h2]
      · have : p - 1 ≠ 0 := by omega
        simp [h1, h2, this]
  simp [expandCore, expandRestTail, expandRest, this, List.getLast?_cons]

/-- after a column of kind `st` (`A` with partner `b`, or `GB`), with `g` gap-in-a columns seen since -/
theorem expandRestTail_pathFrom (lenB : Nat) (cs : List Col) (j g : Nat) (st : Kind) (b : Int)
    (hst : (st = .A ∧ 0 ≤ b ∧ b + g = j) ∨ (st = .GB ∧ b = -1 ∧ g = 0))
    (hadj : adjOK (if g = 0 then st else .GA) cs = true) (hB : j + consB cs = lenB) :
    expandRestTail lenB b (pathFrom j cs) = List.replicate g 1 ++ cs.map Col.code := by
  induction cs generalizing j g st b with
  | nil =>
    simp only [consB_nil, Nat.add_zero] at hB
    show [] ++ expandTail lenB b = List.replicate g 1 ++ []
    rw [List.nil_append, List.append_nil]
    unfold expandTail
    split
    · rename_i hc
      congr 1
      rcases hst with ⟨_, h0, hbg⟩ | ⟨_, hb, hg⟩ <;> omega
    · rename_i hc
      have hg0 : g = 0 := by
        rcases hst with ⟨_, h0, hbg⟩ | ⟨_, hb, hg⟩ <;> omega
      rw [hg0]; rfl
  | cons c cs ih =>
    simp only [adjOK, Bool.and_eq_true, bne_iff_ne, ne_eq] at hadj
    obtain ⟨⟨hs, hcompat⟩, hadj'⟩ := hadj
    cases c with
    | skip => exact absurd rfl hs
    | both =>
      simp only [pathFrom, expandRestTail_cons, consB_both] at hB ⊢
      have ih' := ih (j + 1) 0 .A ((j + 1 : Nat) : Int) (Or.inl ⟨rfl, by omega, by omega⟩)
        (by simpa [colKind] using hadj') (by omega)
      rw [ih']
      simp only [List.replicate_zero, List.nil_append, List.map_cons, Col.code]
      rcases hst with ⟨_, h0, hbg⟩ | ⟨_, hb, hg⟩
      · unfold expandEntry
        have h1 : ((j + 1 : Nat) : Int) ≠ -1 := by omega
        rw [if_neg h1]
        by_cases hg0 : g = 0
        · have : ¬ (((j + 1 : Nat) : Int) - 1 ≠ b ∧ b ≠ -1) := by omega
          rw [if_neg this, hg0]; rfl
        · have : ((j + 1 : Nat) : Int) - 1 ≠ b ∧ b ≠ -1 := by omega
          rw [if_pos this]
          have e : (((j + 1 : Nat) : Int) - b - 1).toNat = g := by omega
          rw [e, List.append_assoc]; rfl
      · unfold expandEntry
        have h1 : ((j + 1 : Nat) : Int) ≠ -1 := by omega
        rw [if_neg h1]
        have : ¬ (((j + 1 : Nat) : Int) - 1 ≠ b ∧ b ≠ -1) := by omega
        rw [if_neg this, hg]; rfl
    | gapA =>
      simp only [pathFrom, consB_gapA] at hB ⊢
      -- the previous column is not a gap-in-b column
      have hstA : st = .A ∧ 0 ≤ b ∧ b + g = j := by
        rcases hst with h | ⟨h1, _, hg⟩
        · exact h
        · rw [hg, h1] at hcompat; simp [colKind, Kind.compat] at hcompat
      have ih' := ih (j + 1) (g + 1) .A b (Or.inl ⟨rfl, hstA.2.1, by omega⟩)
        (by simpa [colKind] using hadj') (by omega)
      rw [ih', List.replicate_succ', List.append_assoc]
      rfl
    | gapB =>
      simp only [pathFrom, expandRestTail_cons, consB_gapB] at hB ⊢
      have hg0 : g = 0 := by
        by_cases hg0 : g = 0
        · exact hg0
        · rw [if_neg hg0] at hcompat; simp [colKind, Kind.compat] at hcompat
      have ih' := ih j 0 .GB (-1) (Or.inr ⟨rfl, rfl, rfl⟩) (by simpa [colKind] using hadj') hB
      rw [ih', hg0]
      simp [expandEntry, Col.code]

theorem expandCore_pathFrom {lenB : Nat} {P : List Col} (hadj : adjOK .A P = true) (hB : consB P = lenB)
    (hA : 1 ≤ consA P) : expandCore lenB (pathFrom 0 P) = P.map Col.code := by
  cases hp : pathFrom 0 P with
  | nil =>
    have := length_pathFrom 0 P
    rw [hp] at this
    exact absurd this (by simp; omega)
  | cons p ps =>
    rw [expandCore_eq_restTail, ← hp, expandRestTail_pathFrom lenB P 0 0 .A 0 (Or.inl ⟨rfl, by omega, by omega⟩)
      (by simpa using hadj) (by omega)]
    rfl

theorem expandPath_cols {P : List Col} {lenA lenB : Nat} (hV : ValidCols P lenA lenB) (hadj : adjOK .A P = true)
    (h1 : 1 ≤ lenA) (h2 : 1 ≤ lenB) :
    expandPath lenB (pathFrom 0 P) = some (markSuffix (markPrefix (P.map Col.code))) := by
  have h0 : (0 : Nat) ∈ P.map Col.code := List.mem_map.mpr ⟨.both, both_mem_of_valid P _ _ hV hadj h1 h2, rfl⟩
  unfold expandPath
  simp only [expandCore_pathFrom hadj hV.2.2 (by rw [hV.2.1]; exact h1)]
  rw [if_neg]
  intro hall
  simpa using List.all_eq_true.1 hall 0 h0

theorem expandPath_valid {lenA lenB : Nat} {P : List Col} (hV : ValidCols P lenA lenB) (hadj : adjOK .A P = true)
    (h1 : 1 ≤ lenA) (h2 : 1 ≤ lenB) :
    ∃ codes, expandPath lenB (pathFrom 0 P) = some codes ∧ codes.map Col.ofCode = P :=
  ⟨_, expandPath_cols hV hadj h1 h2, by rw [map_ofCode_markSuffix, map_ofCode_markPrefix, map_ofCode_code hV.1]⟩

theorem expandEntry_le (b p : Int) : ∀ c ∈ expandEntry b p, c ≤ 2 := by
  intro c hc
  unfold expandEntry at hc
  split at hc
  · simp at hc; omega
  · split at hc
    · rcases List.mem_append.1 hc with h | h
      · rw [(List.mem_replicate.1 h).2]; omega
      · simp at h; omega
    · simp at hc; omega

theorem expandRest_le (b : Int) (ps : List Int) : ∀ c ∈ expandRest b ps, c ≤ 2 := by
  induction ps generalizing b with
  | nil => intro c hc; cases hc
  | cons p ps ih =>
    intro c hc
    rcases List.mem_append.1 hc with h | h
    · exact expandEntry_le b p c h
    · exact ih p c h

theorem expandCore_le (lenB : Nat) (path : List Int) : ∀ c ∈ expandCore lenB path, c ≤ 2 := by
  cases path with
  | nil => intro c hc; cases hc
  | cons p ps =>
    rw [expandCore_eq_restTail]
    intro c hc
    rcases List.mem_append.1 hc with h | h
    · exact expandRest_le 0 (p :: ps) c h
    · unfold expandTail at h
      split at h
      · rw [(List.mem_replicate.1 h).2]; omega
      · cases h

theorem expandPath_of_cols {lenB : Nat} {path : List Int} {codes : List Nat} (h : expandPath lenB path = some codes) :
    codes = markSuffix (markPrefix ((codes.map Col.ofCode).map Col.code)) := by
  simp only [expandPath] at h
  split at h
  · cases h
  · have h := (Option.some.inj h).symm
    have hcore : ((codes.map Col.ofCode).map Col.code) = expandCore lenB path := by
      rw [h, map_ofCode_markSuffix, map_ofCode_markPrefix, List.map_map]
      conv => rhs; rw [← List.map_id (expandCore lenB path)]
      exact List.map_congr_left fun c hc => code_ofCode (expandCore_le lenB path c hc)
    rw [hcore]; exact h

theorem length_le_cons (Q : List Col) (hs : Col.skip ∉ Q) : Q.length ≤ consA Q + consB Q := by
  induction Q with
  | nil => simp
  | cons c cs ih =>
    have := ih (fun h => hs (List.mem_cons_of_mem _ h))
    cases c with
    | skip => exact absurd (by simp) hs
    | both => simp; omega
    | gapA => simp; omega
    | gapB => simp; omega

/-- shape of a Hirschberg path that `add_gap_info_to_path_n` expands correctly: partners strictly
increasing within `1..lenB`; after a run of gap-in-b entries the next partner is the successor of the
last one (no gap-in-a run adjacent to a gap-in-b run); if the path ends in a gap-in-b run, b is
used up.  `last` = last partner seen (0 if none), `pg` = previous entry was -1. -/
def pathOKAux (lenB : Nat) : Int → Bool → List Int → Bool
  | last, pg, [] => if pg then last == (lenB : Int) else decide (last ≤ (lenB : Int))
  | last, pg, p :: ps =>
    if p == -1 then pathOKAux lenB last true ps
    else (if pg then p == last + 1 else decide (p > last)) && decide (p ≤ (lenB : Int)) &&
      pathOKAux lenB p false ps

def pathOK (lenB : Nat) (path : List Int) : Bool := pathOKAux lenB 0 false path

theorem pathOKAux_le (lenB : Nat) (last : Int) (pg : Bool) (ps : List Int) (h : pathOKAux lenB last pg ps = true) :
    ∀ p ∈ ps, p ≤ lenB := by
  induction ps generalizing last pg with
  | nil => intro p hp; cases hp
  | cons q qs ih =>
    intro p hp
    rw [pathOKAux] at h
    split at h
    · rename_i hq
      rcases List.mem_cons.1 hp with e | e
      · subst e
        have : p = -1 := by simpa using hq
        omega
      · exact ih _ _ h p e
    · simp only [Bool.and_eq_true, decide_eq_true_eq] at h
      rcases List.mem_cons.1 hp with e | e
      · subst e; exact h.1.2
      · exact ih _ _ h.2 p e

def pgKind : Bool → Kind
  | true => .GB
  | false => .A

theorem cols_of_pathOK (lenB : Nat) (ps : List Int) : ∀ (j : Nat) (pg : Bool), pathOKAux lenB j pg ps = true →
    ∃ P : List Col, pathFrom j P = ps ∧ adjOK (pgKind pg) P = true ∧ j + consB P = lenB := by
  induction ps with
  | nil =>
    intro j pg h
    cases pg with
    | true => exact ⟨[], rfl, rfl, by simp [pathOKAux] at h; simp; omega⟩
    | false =>
      have hl : (j : Int) ≤ lenB := by simpa [pathOKAux] using h
      refine ⟨List.replicate (lenB - j) Col.gapA ++ [], by rw [pathFrom_replicate_gapA]; rfl,
        adjOK_replicate_gapA _ .A (by decide) [] rfl, ?_⟩
      rw [List.append_nil, nf_consB_replicate_gapA]; omega
  | cons p ps ih =>
    intro j pg h
    unfold pathOKAux at h
    by_cases hp : p = -1
    · subst hp
      obtain ⟨P, h1, h2, h3⟩ := ih j true (by simpa using h)
      refine ⟨.gapB :: P, by rw [pathFrom, h1], ?_, by rw [consB_gapB]; exact h3⟩
      show ((Col.gapB != .skip) && (pgKind pg).compat .GB && adjOK .GB P) = true
      rw [show adjOK .GB P = true from h2]
      cases pg <;> rfl
    · rw [if_neg (by simpa using hp)] at h
      simp only [Bool.and_eq_true, decide_eq_true_eq] at h
      obtain ⟨⟨hstep, hle⟩, hrest⟩ := h
      have hgt : (j : Int) < p := by cases pg <;> simp at hstep <;> omega
      obtain ⟨P, h1, h2, h3⟩ := ih p.toNat false (by rw [Int.toNat_of_nonneg (by omega)]; exact hrest)
      refine ⟨List.replicate (p.toNat - j - 1) Col.gapA ++ Col.both :: P, ?_, ?_, ?_⟩
      · rw [pathFrom_replicate_gapA, pathFrom, show j + (p.toNat - j - 1) + 1 = p.toNat by omega, h1]
        congr 1; omega
      · cases pg with
        | true =>
          -- directly after a gap-in-b run the partner is the successor: no gap-in-a column in between
          have : p.toNat - j - 1 = 0 := by simp at hstep; omega
          rw [this]
          show ((Col.both != .skip) && (pgKind true).compat .A && adjOK .A P) = true
          rw [show adjOK .A P = true from h2]; rfl
        | false =>
          apply adjOK_replicate_gapA _ .A (by decide)
          show ((Col.both != .skip) && (if _ then Kind.A else .GA).compat .A && adjOK .A P) = true
          rw [show adjOK .A P = true from h2, Kind.compat_A_right]; rfl
      · rw [consB_append, nf_consB_replicate_gapA, consB_both]; omega

theorem consA_reverse (xs : List Col) : consA xs.reverse = consA xs := by
  simp [consA, List.filter_reverse]

theorem consB_reverse (xs : List Col) : consB xs.reverse = consB xs := by
  simp [consB, List.filter_reverse]

end Kalign

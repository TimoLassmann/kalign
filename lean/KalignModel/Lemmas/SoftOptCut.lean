import KalignModel.Lemmas.SoftMeetRobust
import KalignModel.Lemmas.OptCut
import KalignModel.Lemmas.CutInstances
/-!
# One Hirschberg level on the software binary32 returns a cut of the robustly optimal alignment

One level is `aln_seqseq_foward`, `aln_seqseq_backward`, `aln_seqseq_meetup` on a rectangle, started from one-hot states.  Every
`SoftF32` cell of the two tables is `half h` where the exact table `absTab` has `some (1000·h)`, sentinel-like where it has `−∞`
(`ssForward_emb`, `ssBackward_emb`), so the meetup answers with a maximum of the exact candidate values up to the slack
`1000·(n/1000 + 1) ≤ len_b + 1000` of the rounded tie-break term (`ssMeet_ans`).  `soft_opt_cut` is `Level.cut_of_margin` for that
answer: the safe margin with `len_b + 1000` (instead of `len_b`) pays for the slack.
`OptHypS.cutHypM`: under that margin the `SoftF32` meetup of every rectangle the recursion reaches returns a cut of `P` (`CutHypM`,
Lemmas/CutInstances.lean); hence both entry points, `aln_runner` and `aln_runner_serial`, write the path of `P`
(`runner_path_optS`, `runner_eq_serial_optS`).
-/
namespace Kalign
open SoftF32

def hotS (k : Kind) : States SoftF32 :=
  match k with
  | .A => oneHotA
  | .GA => oneHotGA
  | .GB => oneHotGB

theorem hotS_eq_st (ap : AlnParam SoftF32) (ops : Operands SoftF32) (lenA lenB : Nat) (k : Kind) :
    (realKernels ap ops lenA lenB).st k = hotS k := by
  cases k <;> rfl

theorem stEmb_hotS (N : Nat) (k : Kind) : StEmb N (hotS k) (hot k) := by
  cases k
  · exact ⟨emb_zero N, emb_negInf N, emb_negInf N⟩
  · exact ⟨emb_negInf N, emb_zero N, emb_negInf N⟩
  · exact ⟨emb_negInf N, emb_negInf N, emb_zero N⟩

section
variable {U : Nat} {ap : AlnParam SoftF32} {apE : AlnParam ExactScore}

theorem ssForward_emb (hd : DyadicParam U ap apE) {gpo gpe tgpe : Int} {s : Nat → Nat → Int}
    (hap : ApOK apE gpo gpe tgpe s) (seq1 seq2 : Array Nat) (r : Rect) (hb : r.startb < r.endb) (fk : Kind)
    (hL : U * ((r.enda - r.starta) + (r.endb - r.startb)) < 16777216) :
    ∃ F : Nat → States SoftF32,
      ssForward ap seq1 seq2 r (hotS fk) = (List.range (r.endb - r.startb + 1)).map F ∧
      ∀ k, k ≤ r.endb - r.startb →
        StEmb (U * ((r.enda - r.starta) + k)) (F k)
          (absTab (cfgF gpo gpe tgpe s seq1 seq2 r) (hot fk) (r.enda - r.starta) k) := by
  refine ⟨_, ssForward_eq_genTab ap seq1 seq2 r hb (hotS fk), ?_⟩
  intro k hk
  have h := genTab_emb U (ssGaInit ap (r.startb == 0)) (ssGaInit apE (r.startb == 0)) (ssGaInit_emb hd _)
    (r.endb - r.startb) (hotS fk) (hot fk) (ssOpsF ap seq1 seq2 r) (ssOpsF apE seq1 seq2 r)
    (fun p => ssOpsF_emb hd seq1 seq2 r p) ((r.enda - r.starta) + (r.endb - r.startb)) hL (stEmb_hotS _ fk)
    (r.enda - r.starta) k (by omega)
  have e1 := ssForward_eq_genTab apE seq1 seq2 r hb (hot fk)
  have e2 := ssForward_eq_absTab apE gpo gpe tgpe s hap seq1 seq2 r hb (hot fk)
  rw [e1] at e2
  have e3 := (List.map_inj_left.1 e2) k (List.mem_range.2 (by omega))
  rw [← e3]
  exact h

theorem ssBackward_emb (hd : DyadicParam U ap apE) {gpo gpe tgpe : Int} {s : Nat → Nat → Int}
    (hap : ApOK apE gpo gpe tgpe s) (seq1 seq2 : Array Nat) (r : Rect) (hb : r.startb < r.endb)
    (ha : r.starta ≤ r.enda) (bk : Kind)
    (hL : U * ((r.enda - r.starta) + (r.endb - r.startb)) < 16777216) :
    ∃ G : Nat → States SoftF32,
      ssBackward ap seq1 seq2 r (hotS bk) = (List.range (r.endb - r.startb + 1)).map G ∧
      ∀ k, k ≤ r.endb - r.startb →
        StEmb (U * ((r.enda - r.starta) + (r.endb - r.startb - k))) (G k)
          (absTab (cfgB gpo gpe tgpe s seq1 seq2 r) (hot bk) (r.enda - r.starta) (r.endb - r.startb - k)) := by
  refine ⟨fun k => genTab (ssGaInit ap (r.endb == r.lenB)) (r.endb - r.startb) (hotS bk) (ssOpsB ap seq1 seq2 r)
    (r.enda - r.starta) (r.endb - r.startb - k), ?_, ?_⟩
  · rw [ssBackward_eq_genTab ap seq1 seq2 r hb (hotS bk), map_range_reverse]
  · intro k hk
    have h := genTab_emb U (ssGaInit ap (r.endb == r.lenB)) (ssGaInit apE (r.endb == r.lenB)) (ssGaInit_emb hd _)
      (r.endb - r.startb) (hotS bk) (hot bk) (ssOpsB ap seq1 seq2 r) (ssOpsB apE seq1 seq2 r)
      (fun p => ssOpsB_emb hd seq1 seq2 r p) ((r.enda - r.starta) + (r.endb - r.startb)) hL (stEmb_hotS _ bk)
      (r.enda - r.starta) (r.endb - r.startb - k) (by omega)
    have e1 := ssBackward_eq_genTab apE seq1 seq2 r hb (hot bk)
    have e2 := ssBackward_eq_absTab apE gpo gpe tgpe s hap seq1 seq2 r hb ha (hot bk)
    rw [e1] at e2
    have e2' := List.reverse_inj.1 e2
    have e3 := (List.map_inj_left.1 e2') (r.endb - r.startb - k) (List.mem_range.2 (by omega))
    rw [← e3]
    exact h

theorem size_arith {U lenA lenB m1 m2 n k : Nat} (hk : k ≤ n) (hm : m1 + m2 ≤ lenA) (hn : n ≤ lenB)
    (hsize : U * (lenA + lenB + 1) + lenB / 1000 + 1 < 16777216) :
    U * (m1 + k) + U * (m2 + (n - k)) + U + (n / 1000 + 1) < 16777216 := by
  have e : U * (m1 + k) + U * (m2 + (n - k)) + U = U * (m1 + m2 + n + 1) := by
    rw [← Nat.mul_add, ← Nat.mul_succ]
    congr 1
    omega
  rw [e]
  have h1 : U * (m1 + m2 + n + 1) ≤ U * (lenA + lenB + 1) := Nat.mul_le_mul_left U (by omega)
  have h2 : n / 1000 ≤ lenB / 1000 := Nat.div_le_div_right hn
  omega

theorem size_arith_tab {U lenA lenB m n : Nat} (hm : m ≤ lenA) (hn : n ≤ lenB)
    (hsize : U * (lenA + lenB + 1) + lenB / 1000 + 1 < 16777216) : U * (m + n) < 16777216 := by
  have h1 : U * (m + n) ≤ U * (lenA + lenB + 1) := Nat.mul_le_mul_left U (by omega)
  omega

theorem tie_arith (n lenB : Nat) (hn : n ≤ lenB) :
    (1000 : Int) * ((n / 1000 + 1 : Nat) : Int) ≤ (n : Int) + 1000 ∧ (n : Int) + 1000 ≤ (lenB : Int) + 1000 := by
  omega

/-- slack `1000·(n/1000 + 1)` for the rounded tie-break term -/
theorem ssMeet_robust_hot (hd : DyadicParam U ap apE) {gpo gpe tgpe : Int} {s : Nat → Nat → Int}
    (hap : ApOK apE gpo gpe tgpe s) (seq1 seq2 : Array Nat) (lenA lenB : Nat)
    (hsize : U * (lenA + lenB + 1) + lenB / 1000 + 1 < 16777216) (hlenB : lenB < 4194304)
    (sa mid ea sb eb : Nat) (h1 : sa ≤ mid) (h2 : mid ≤ ea) (h3 : ea ≤ lenA) (h4 : sb < eb) (h5 : eb ≤ lenB)
    (fk bk : Kind) (res : MeetResult SoftF32)
    (hres : res = meetupRun (ssMeetOps ap ⟨sa, mid, sb, eb, lenB⟩) sb eb
      (ssForward ap seq1 seq2 ⟨sa, mid, sb, eb, lenB⟩ (hotS fk))
      (ssBackward ap seq1 seq2 ⟨mid, ea, sb, eb, lenB⟩ (hotS bk))) :
    let M : Meet := ⟨cfgF gpo gpe tgpe s seq1 seq2 ⟨sa, mid, sb, eb, lenB⟩, cfgB gpo gpe tgpe s seq1 seq2 ⟨mid, ea, sb, eb, lenB⟩,
      rfl, fk, bk, mid - sa, ea - mid⟩
    (res.transition = -1 ∧ ∀ k t, Adm M.n k t → evHot M k t = none) ∨
    (∃ k t v, Adm M.n k t ∧ res.meet = ((sb + k : Nat) : Int) ∧ res.transition = t ∧ evHot M k t = some v ∧
      ∀ k' t' v', Adm M.n k' t' → evHot M k' t' = some v' → v' - 1000 * ((M.n / 1000 + 1 : Nat) : Int) ≤ v) := by
  obtain ⟨cF, hcF⟩ : ∃ cF, cF = cfgF gpo gpe tgpe s seq1 seq2 ⟨sa, mid, sb, eb, lenB⟩ := ⟨_, rfl⟩
  obtain ⟨cB, hcB⟩ : ∃ cB, cB = cfgB gpo gpe tgpe s seq1 seq2 ⟨mid, ea, sb, eb, lenB⟩ := ⟨_, rfl⟩
  obtain ⟨F, hFeq, hFemb⟩ := ssForward_emb hd hap seq1 seq2 ⟨sa, mid, sb, eb, lenB⟩ h4 fk
    (size_arith_tab (m := mid - sa) (n := eb - sb) (by omega) (by omega) hsize)
  obtain ⟨G, hGeq, hGemb⟩ := ssBackward_emb hd hap seq1 seq2 ⟨mid, ea, sb, eb, lenB⟩ h4 h2 bk
    (size_arith_tab (m := ea - mid) (n := eb - sb) (by omega) (by omega) hsize)
  simp only [] at hFeq hGeq hFemb hGemb
  rw [← hcF] at hFemb
  rw [← hcB] at hGemb
  rw [hFeq, hGeq] at hres
  have hrob := ssMeet_robust hd hap seq1 seq2 ⟨sa, mid, sb, eb, lenB⟩ ((eb - sb) / 1000 + 1)
    (fun k => U * ((mid - sa) + k)) (fun k => U * ((ea - mid) + (eb - sb - k))) F G
    (absTab cF (hot fk) (mid - sa)) (fun k => absTab cB (hot bk) (ea - mid) (eb - sb - k))
    (fun k hk => ⟨size_arith (m1 := mid - sa) (m2 := ea - mid) hk (by omega) (by omega) hsize, hFemb k hk, hGemb k hk,
      SoftF32.tie_le sb eb (sb + k) (by omega) (by simp only [] at hk; omega) (by omega)⟩)
  simp only [] at hrob
  rw [← hres, hcF, hcB] at hrob
  exact hrob

theorem ssMeet_ans (hd : DyadicParam U ap apE) {gpo gpe tgpe : Int} {s : Nat → Nat → Int}
    (hap : ApOK apE gpo gpe tgpe s) (seq1 seq2 : Array Nat) {lenA lenB : Nat}
    (hsize : U * (lenA + lenB + 1) + lenB / 1000 + 1 < 16777216) (hlenB : lenB < 4194304) (L : Level lenA lenB)
    (res : MeetResult SoftF32)
    (hres : res = meetupRun (ssMeetOps ap L.rF) L.sb L.eb (ssForward ap seq1 seq2 L.rF (hotS L.fk))
      (ssBackward ap seq1 seq2 L.rB (hotS L.bk))) :
    MeetAns (L.meet (ssW gpo gpe tgpe s seq1 seq2 lenA lenB)) L.sb (fun _ => 0) (1000 * ((L.n / 1000 + 1 : Nat) : Int)) res.meet
      res.transition := by
  rcases ssMeet_robust_hot hd hap seq1 seq2 lenA lenB hsize hlenB L.sa L.mid L.ea L.sb L.eb L.sa_le_mid (Nat.le_of_lt L.mid_lt_ea) L.ea_le L.sb_lt_eb
    L.eb_le L.fk L.bk res hres with ⟨_, hnone⟩ | ⟨k, t, v, hadm, hmeet, htrans, hev, hdom⟩
  · exact Or.inl hnone
  · refine Or.inr ⟨k, t, v, hadm, hmeet, htrans, hev, fun k' t' v' ha' hv' => ?_⟩
    show v' - 0 - _ ≤ v - 0
    rw [Int.sub_zero, Int.sub_zero]
    exact hdom k' t' v' ha' hv'

theorem soft_opt_cut (hd : DyadicParam U ap apE) {gpo gpe tgpe : Int} {s : Nat → Nat → Int}
    (hap : ApOK apE gpo gpe tgpe s) (seq1 seq2 : Array Nat) {lenA lenB : Nat} (hgpo : 0 ≤ gpo) (hgpe : 0 ≤ gpe)
    (hsize : U * (lenA + lenB + 1) + lenB / 1000 + 1 < 16777216) (hlenB : lenB < 4194304) (L : Level lenA lenB)
    {P X : List Col} (hP : P = L.P1 ++ X ++ L.P2) (hadj : adjOK .A P = true) (hA : consA P = lenA) (hB : consB P = lenB)
    (hmargin : ∀ Q, adjOK .A Q = true → consA Q = lenA → consB Q = lenB → Q ≠ P →
      (ssW gpo gpe tgpe s seq1 seq2 lenA lenB).walk 0 0 .A Q + ((lenB : Int) + 1000) <
        (ssW gpo gpe tgpe s seq1 seq2 lenA lenB).walk 0 0 .A P - gpo * (nterm P : Int) -
          (ssW gpo gpe tgpe s seq1 seq2 lenA lenB).slackLo - (ssW gpo gpe tgpe s seq1 seq2 lenA lenB).slackHi)
    (res : MeetResult SoftF32)
    (hres : res = meetupRun (ssMeetOps ap L.rF) L.sb L.eb (ssForward ap seq1 seq2 L.rF (hotS L.fk))
      (ssBackward ap seq1 seq2 L.rB (hotS L.bk))) :
    (L.meet (ssW gpo gpe tgpe s seq1 seq2 lenA lenB)).CutOf X L.sb res.meet res.transition := by
  have hta := tie_arith L.n lenB (Nat.le_trans (Nat.sub_le _ _) L.eb_le)
  exact L.cut_of_margin (ssW gpo gpe tgpe s seq1 seq2 lenA lenB) hgpo hgpe hP hadj hA hB _ hmargin (fun _ => 0)
    (1000 * ((L.n / 1000 + 1 : Nat) : Int)) 0 (fun _ _ => ⟨Int.le_refl _, Int.le_refl _⟩)
    (by rw [Int.add_zero]; exact Int.le_trans hta.1 hta.2) _ _ (ssMeet_ans hd hap seq1 seq2 hsize hlenB L res hres)

end

abbrev MemS := Mem (Array (States SoftF32)) SoftF32

/-- the standing assumptions on the `SoftF32` side: dyadic parameters (`apE` the exact parameters), sizes within the exactly
representable range, and `P` beats every other alignment by the safe margin with `len_b + 1000` (units of 1/2000) for the
tie-break term -/
structure OptHypS (U : Nat) (ap : AlnParam SoftF32) (apE : AlnParam ExactScore) (gpo gpe tgpe : Int) (s : Nat → Nat → Int)
    (seq1 seq2 : Array Nat) (lenA lenB : Nat) (P : List Col) : Prop where
  hd : DyadicParam U ap apE
  hap : ApOK apE gpo gpe tgpe s
  hgpo : 0 ≤ gpo
  hgpe : 0 ≤ gpe
  htgpe : 0 ≤ tgpe
  hsize : U * (lenA + lenB + 1) + lenB / 1000 + 1 < 16777216
  hlenB : lenB < 4194304
  hadj : adjOK .A P = true
  hA : consA P = lenA
  hB : consB P = lenB
  margin : ∀ Q, adjOK .A Q = true → consA Q = lenA → consB Q = lenB → Q ≠ P →
    (ssW gpo gpe tgpe s seq1 seq2 lenA lenB).walk 0 0 .A Q + ((lenB : Int) + 1000) <
      (ssW gpo gpe tgpe s seq1 seq2 lenA lenB).walk 0 0 .A P - gpo * (nterm P : Int) -
        (ssW gpo gpe tgpe s seq1 seq2 lenA lenB).slackLo - (ssW gpo gpe tgpe s seq1 seq2 lenA lenB).slackHi

section
variable {U : Nat} {ap : AlnParam SoftF32} {apE : AlnParam ExactScore} {gpo gpe tgpe : Int} {s : Nat → Nat → Int}
  {seq1 seq2 : Array Nat} {lenA lenB : Nat} {P : List Col}

theorem runner_path_cutS (H : CutHypM ap gpo gpe tgpe s seq1 seq2 lenA lenB P) (n : Nat) (hn : lenA + lenB + 1 ≤ n) :
    (runnerSerial (realKernels ap (.seqseq seq1 seq2) lenA lenB) false n (initMem lenA lenB)).fault = false ∧
    (runnerSerial (realKernels ap (.seqseq seq1 seq2) lenA lenB) false n (initMem lenA lenB)).pathEntries lenA =
      pathFrom 0 P :=
  runner_path_cut H.cutHyp n hn

theorem runner_eq_serial_cutS (H : CutHypM ap gpo gpe tgpe s seq1 seq2 lenA lenB P) :
    ∀ (n : Nat) (x : MemS), Pre (realKernels ap (.seqseq seq1 seq2) lenA lenB) Array.size P lenA lenB x → x.meas < n →
      runner (realKernels ap (.seqseq seq1 seq2) lenA lenB) false n x =
        runnerSerial (realKernels ap (.seqseq seq1 seq2) lenA lenB) false n x :=
  runner_eq_serial_cut H.cutHyp

theorem OptHypS.cutHypM (H : OptHypS U ap apE gpo gpe tgpe s seq1 seq2 lenA lenB P) :
    CutHypM ap gpo gpe tgpe s seq1 seq2 lenA lenB P :=
  ⟨H.hadj, H.hA, H.hB, fun L _ hP _ res hres => by
    rw [hotS_eq_st, hotS_eq_st] at hres
    exact soft_opt_cut H.hd H.hap seq1 seq2 H.hgpo H.hgpe H.hsize H.hlenB L hP H.hadj H.hA H.hB H.margin res hres⟩

theorem OptHypS.cutHyp (H : OptHypS U ap apE gpo gpe tgpe s seq1 seq2 lenA lenB P) :
    CutHyp (realKernels ap (.seqseq seq1 seq2) lenA lenB) Array.size lenA lenB P :=
  H.cutHypM.cutHyp

theorem runner_path_optS (H : OptHypS U ap apE gpo gpe tgpe s seq1 seq2 lenA lenB P) (n : Nat)
    (hn : lenA + lenB + 1 ≤ n) :
    (runnerSerial (realKernels ap (.seqseq seq1 seq2) lenA lenB) false n (initMem lenA lenB)).fault = false ∧
    (runnerSerial (realKernels ap (.seqseq seq1 seq2) lenA lenB) false n (initMem lenA lenB)).pathEntries lenA =
      pathFrom 0 P :=
  runner_path_cutS H.cutHypM n hn

/-- **the missing `return` of `aln_runner` is harmless on these runs** -/
theorem runner_eq_serial_optS (H : OptHypS U ap apE gpo gpe tgpe s seq1 seq2 lenA lenB P) :
    ∀ (n : Nat) (x : MemS), Pre (realKernels ap (.seqseq seq1 seq2) lenA lenB) Array.size P lenA lenB x → x.meas < n →
      runner (realKernels ap (.seqseq seq1 seq2) lenA lenB) false n x =
        runnerSerial (realKernels ap (.seqseq seq1 seq2) lenA lenB) false n x :=
  runner_eq_serial_cutS H.cutHypM

end

end Kalign

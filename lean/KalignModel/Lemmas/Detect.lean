import KalignModel.Model.Detect
import KalignModel.Model.IO.Read
/-!
# `detectExact` by letter classes (used by Props/C13, Props/C14)

`detectExact hist` compares two products of powers over `hist.zipIdx`.  Each factor depends on the byte only
through the two memberships (DNA letter?, protein letter?), so each product factorises into four powers whose
exponents are the class-wise totals of the histogram (`prodW_classes`); no byte is a DNA letter only, which leaves three
(`detectExact_eq_classes`, and in the words of Props/C13 `detect_dna_of_countWhere`, `detect_protein_of_countWhere`); on the byte histogram
`histOf` of a list of sequences the exponents count the letters of each class (`detectExact_histOf`).  The arguments treat
the eight cross-multiplied constants (`aS`, `bS`, …) as atoms and never unfold them; the few numeric inequalities between
them are proved once by `decide`.
-/
namespace Kalign
namespace DetectLemmas

def sumW (p : Nat → Bool) : List (Nat × Nat) → Nat
  | [] => 0
  | nc :: t => (if p nc.2 then nc.1 else 0) + sumW p t

def prodW (g : Nat → Nat) : List (Nat × Nat) → Nat
  | [] => 1
  | nc :: t => g nc.2 ^ nc.1 * prodW g t

theorem foldl_prod (g : Nat → Nat) (l : List (Nat × Nat)) (init : Nat) :
    l.foldl (fun (acc : Nat) (nc : Nat × Nat) => acc * g nc.2 ^ nc.1) init = init * prodW g l := by
  induction l generalizing init with
  | nil => simp [prodW]
  | cons nc t ih => simp [List.foldl_cons, ih, prodW, Nat.mul_assoc]

theorem foldl_filter_sum (p : Nat → Bool) (l : List (Nat × Nat)) (init : Nat) :
    (l.filter fun nc => p nc.2).foldl (fun a nc => a + nc.1) init = init + sumW p l := by
  induction l generalizing init with
  | nil => simp [sumW]
  | cons nc t ih =>
    cases h : p nc.2 <;> simp [h, ih, sumW, Nat.add_assoc]

theorem foldl_add_zipIdx (hist : List Nat) (k init : Nat) :
    hist.foldl (· + ·) init = init + sumW (fun _ => true) (hist.zipIdx k) := by
  induction hist generalizing k init with
  | nil => simp [sumW]
  | cons a t ih => simp [List.zipIdx_cons, sumW, ih (k + 1), Nat.add_assoc]

theorem sumW_congr {p q : Nat → Bool} (l : List (Nat × Nat)) (h : ∀ nc ∈ l, p nc.2 = q nc.2) :
    sumW p l = sumW q l := by
  induction l with
  | nil => rfl
  | cons nc t ih =>
    simp only [sumW, h nc (List.mem_cons_self ..)]
    rw [ih (fun x hx => h x (List.mem_cons_of_mem _ hx))]

theorem sumW_eq_zero {p : Nat → Bool} (h : ∀ c, p c = false) (l : List (Nat × Nat)) : sumW p l = 0 := by
  induction l with
  | nil => rfl
  | cons nc t ih => simp [sumW, h, ih]

theorem sumW_mono {p q : Nat → Bool} (h : ∀ c, p c = true → q c = true) (l : List (Nat × Nat)) :
    sumW p l ≤ sumW q l := by
  induction l with
  | nil => exact Nat.le_refl _
  | cons nc t ih =>
    simp only [sumW]
    cases hp : p nc.2
    · simp only [Bool.false_eq_true, if_false]; omega
    · simp only [h _ hp, if_true]; omega

theorem sumW_split (d p : Nat → Bool) (l : List (Nat × Nat)) :
    sumW (fun _ => true) l =
      sumW (fun c => d c && p c) l + sumW (fun c => d c && !p c) l +
      sumW (fun c => !d c && p c) l + sumW (fun c => !d c && !p c) l := by
  induction l with
  | nil => rfl
  | cons nc t ih =>
    simp only [sumW, ih]
    rcases Bool.eq_false_or_eq_true (d nc.2) with hd | hd <;>
      rcases Bool.eq_false_or_eq_true (p nc.2) with hp | hp <;> simp [hd, hp] <;> omega

theorem prodW_classes (d p : Nat → Bool) (x11 x10 x01 x00 : Nat) (g : Nat → Nat)
    (hg : ∀ c, g c = if d c then (if p c then x11 else x10) else (if p c then x01 else x00))
    (l : List (Nat × Nat)) :
    prodW g l =
      x11 ^ sumW (fun c => d c && p c) l * x10 ^ sumW (fun c => d c && !p c) l *
      x01 ^ sumW (fun c => !d c && p c) l * x00 ^ sumW (fun c => !d c && !p c) l := by
  induction l with
  | nil => rfl
  | cons nc t ih =>
    simp only [prodW, sumW, ih, hg nc.2]
    rcases Bool.eq_false_or_eq_true (d nc.2) with hd | hd <;>
      rcases Bool.eq_false_or_eq_true (p nc.2) with hp | hp <;>
      simp only [hd, hp, Bool.and_self, Bool.and_true, Bool.and_false, Bool.not_true, Bool.not_false, Bool.false_eq_true,
        if_true, if_false, Nat.zero_add, Nat.pow_add] <;>
      ac_rfl

def isD (c : Nat) : Bool := Gen.dnaLettersB.contains c
def isP (c : Nat) : Bool := Gen.proteinLettersB.contains c

/-- cross-multiplied factor of the DNA model / of the protein model at byte `c` -/
def fA (c : Nat) : Nat := (pDna c).1 * (pProt c).2
def fB (c : Nat) : Nat := (pProt c).1 * (pDna c).2

/-- class S: letter of both sets; D: DNA only (empty); P: protein only; O: neither -/
def aS : Nat := Gen.prob_dna_letter.1 * Gen.prob_prot_letter.2
def bS : Nat := Gen.prob_prot_letter.1 * Gen.prob_dna_letter.2
def aD : Nat := Gen.prob_dna_letter.1 * Gen.prob_prot_other.2
def bD : Nat := Gen.prob_prot_other.1 * Gen.prob_dna_letter.2
def aP : Nat := Gen.prob_dna_other.1 * Gen.prob_prot_letter.2
def bP : Nat := Gen.prob_prot_letter.1 * Gen.prob_dna_other.2
def aO : Nat := Gen.prob_dna_other.1 * Gen.prob_prot_other.2
def bO : Nat := Gen.prob_prot_other.1 * Gen.prob_dna_other.2

theorem bS_lt_aS : bS < aS := by decide
theorem bS_pos : 0 < bS := by decide
theorem bO_pos : 0 < bO := by decide
theorem aO_le_bO : aO ≤ bO := by decide
theorem key_num : aS ^ 3 * aP < bS ^ 3 * bP := by decide

theorem pair_class (h : Nat × Nat → Nat × Nat → Nat) (c : Nat) :
    h (pDna c) (pProt c) =
      if isD c then (if isP c then h Gen.prob_dna_letter Gen.prob_prot_letter else h Gen.prob_dna_letter Gen.prob_prot_other)
      else (if isP c then h Gen.prob_dna_other Gen.prob_prot_letter else h Gen.prob_dna_other Gen.prob_prot_other) := by
  unfold pDna pProt isD isP
  cases Gen.dnaLettersB.contains c <;> cases Gen.proteinLettersB.contains c <;> rfl

def nS (l : List (Nat × Nat)) : Nat := sumW (fun c => isD c && isP c) l
def nD (l : List (Nat × Nat)) : Nat := sumW (fun c => isD c && !isP c) l
def nP (l : List (Nat × Nat)) : Nat := sumW (fun c => !isD c && isP c) l
def nO (l : List (Nat × Nat)) : Nat := sumW (fun c => !isD c && !isP c) l

def decide3 (dn pn : Nat) : Bio :=
  if dn == pn then .unknown else if decide (dn > pn) then .dna else .protein

theorem decide3_dna {dn pn : Nat} (h : pn < dn) : decide3 dn pn = .dna := by
  have : dn ≠ pn := by omega
  simp [decide3, this, h]

theorem decide3_protein {dn pn : Nat} (h : dn < pn) : decide3 dn pn = .protein := by
  have h1 : dn ≠ pn := by omega
  have h2 : ¬ pn < dn := by omega
  simp [decide3, h1, h2]

theorem detectExact_eq_prodW (hist : List Nat) :
    detectExact hist = decide3 (prodW fA hist.zipIdx) (prodW fB hist.zipIdx) := by
  have h1 := foldl_prod fA hist.zipIdx 1
  have h2 := foldl_prod fB hist.zipIdx 1
  rw [Nat.one_mul] at h1 h2
  rw [← h1, ← h2]
  rfl

/-- every DNA letter of `detect_alphabet` is also one of its protein letters: class D is empty -/
theorem dna_sub_prot : ∀ c ∈ Gen.dnaLettersB, Gen.proteinLettersB.contains c = true := by decide

theorem classD_empty (c : Nat) : (isD c && !isP c) = false := by
  cases h : isD c
  · rfl
  · have hm : c ∈ Gen.dnaLettersB := by simpa [isD] using h
    unfold isP
    rw [dna_sub_prot c hm]
    rfl

theorem nD_eq_zero (l : List (Nat × Nat)) : nD l = 0 :=
  sumW_eq_zero classD_empty l

theorem detectExact_eq_classes (hist : List Nat) :
    detectExact hist =
      decide3 (aS ^ nS hist.zipIdx * aP ^ nP hist.zipIdx * aO ^ nO hist.zipIdx)
              (bS ^ nS hist.zipIdx * bP ^ nP hist.zipIdx * bO ^ nO hist.zipIdx) := by
  rw [detectExact_eq_prodW, prodW_classes isD isP aS aD aP aO fA (pair_class fun d p => d.1 * p.2),
    prodW_classes isD isP bS bD bP bO fB (pair_class fun d p => p.1 * d.2)]
  show decide3 (_ * aD ^ nD _ * _ * _) (_ * bD ^ nD _ * _ * _) = _
  rw [nD_eq_zero, Nat.pow_zero, Nat.pow_zero, Nat.mul_one, Nat.mul_one]
  rfl

theorem total_eq_classes (l : List (Nat × Nat)) :
    sumW (fun _ => true) l = nS l + nP l + nO l := by
  have h := sumW_split isD isP l
  have h0 := nD_eq_zero l
  unfold nD at h0
  unfold nS nP nO
  omega

/-- grouping three shared letters with one protein-only letter -/
theorem key_pow {aS bS aP bP : Nat} (h1 : bS ≤ aS) (h2 : aS ^ 3 * aP < bS ^ 3 * bP) (hb : 0 < bS)
    {nS nP : Nat} (hn : nS ≤ 3 * nP) (hp : 0 < nP) :
    aS ^ nS * aP ^ nP < bS ^ nS * bP ^ nP := by
  obtain ⟨m, hm⟩ : ∃ m, 3 * nP = nS + m := ⟨3 * nP - nS, by omega⟩
  have hbm : 0 < bS ^ m := Nat.pow_pos hb
  apply Nat.lt_of_mul_lt_mul_right (a := bS ^ m)
  calc aS ^ nS * aP ^ nP * bS ^ m
      ≤ aS ^ nS * aP ^ nP * aS ^ m := Nat.mul_le_mul_left _ (Nat.pow_le_pow_left h1 m)
    _ = (aS ^ 3 * aP) ^ nP := by
        rw [Nat.mul_pow, ← Nat.pow_mul, hm, Nat.pow_add]
        simp [Nat.mul_assoc, Nat.mul_comm, Nat.mul_left_comm]
    _ < (bS ^ 3 * bP) ^ nP := Nat.pow_lt_pow_left h2 (by omega)
    _ = bS ^ nS * bP ^ nP * bS ^ m := by
        rw [Nat.mul_pow, ← Nat.pow_mul, hm, Nat.pow_add]
        simp [Nat.mul_assoc, Nat.mul_comm, Nat.mul_left_comm]

/-- the left side is `histOf seqs` (below) for `N = 128` -/
theorem hist_eq_count (seqs : List (List Nat)) (N : Nat) :
    ((List.range N).map fun c => (seqs.map fun s => s.count c).foldl (· + ·) 0) =
      (List.range N).map fun c => seqs.flatten.count c := by
  apply List.map_congr_left
  intro c _
  rw [← List.sum_eq_foldl, List.count_flatten]

theorem zipIdx_map_range' (h : Nat → Nat) (s n : Nat) :
    ((List.range' s n).map h).zipIdx s = (List.range' s n).map fun c => (h c, c) := by
  induction n generalizing s with
  | zero => rfl
  | succ n ih => simp [List.range'_succ, List.zipIdx_cons, ih (s + 1)]

theorem sumW_map_add (q : Nat → Bool) (f g : Nat → Nat) (l : List Nat) :
    sumW q (l.map fun c => (f c + g c, c)) =
      sumW q (l.map fun c => (f c, c)) + sumW q (l.map fun c => (g c, c)) := by
  induction l with
  | nil => rfl
  | cons c l ih =>
    simp only [List.map_cons, sumW, ih]
    split <;> omega

theorem sumW_map_zero (q : Nat → Bool) (l : List Nat) : sumW q (l.map fun c => (0, c)) = 0 := by
  induction l with
  | nil => rfl
  | cons c l ih => simp [sumW, ih]

theorem sumW_single (q : Nat → Bool) (b : Nat) (l : List Nat) (hnd : l.Nodup) :
    sumW q (l.map fun c => (if b = c then 1 else 0, c)) = if q b = true ∧ b ∈ l then 1 else 0 := by
  induction l with
  | nil => simp [sumW]
  | cons c l ih =>
    obtain ⟨hc, hnd⟩ := List.nodup_cons.mp hnd
    simp only [List.map_cons, sumW, ih hnd, List.mem_cons]
    by_cases hbc : b = c
    · subst hbc
      simp [hc]
    · simp [hbc]

/-- the histogram of `b :: t` is that of `t` plus that of `[b]`, which adds one to the class of `b` -/
theorem sumW_hist (q : Nat → Bool) (flat : List Nat) (N : Nat) (hb : ∀ b ∈ flat, b < N) :
    sumW q (((List.range N).map fun c => flat.count c).zipIdx) = flat.countP q := by
  rw [List.range_eq_range', zipIdx_map_range', ← List.range_eq_range']
  induction flat with
  | nil => simp [sumW_map_zero]
  | cons b t ih =>
    have hcount : (fun c => ((b :: t).count c, c)) = fun c => (t.count c + (if b = c then 1 else 0), c) := by
      funext c
      simp [List.count_cons]
    rw [hcount, sumW_map_add, ih (fun x hx => hb x (List.mem_cons_of_mem _ hx)),
      sumW_single q b _ List.nodup_range, List.countP_cons]
    have := hb b List.mem_cons_self
    simp [List.mem_range, this]

end DetectLemmas
section
open DetectLemmas

def countWhere (p : Nat → Bool) (hist : List Nat) : Nat :=
  (hist.zipIdx.filter fun nc => p nc.2).foldl (fun a nc => a + nc.1) 0

def isNuc (c : Nat) : Bool := [65, 67, 71, 84, 85, 78, 97, 99, 103, 116, 117, 110].contains c   -- ACGTUN acgtun

def isProtOnly (c : Nat) : Bool := Gen.proteinLettersB.contains c && !Gen.dnaLettersB.contains c

def total (hist : List Nat) : Nat := hist.foldl (· + ·) 0

theorem countWhere_eq_sumW (p : Nat → Bool) (hist : List Nat) : countWhere p hist = sumW p hist.zipIdx := by
  unfold countWhere
  rw [foldl_filter_sum, Nat.zero_add]

theorem total_eq_sumW (hist : List Nat) : total hist = sumW (fun _ => true) hist.zipIdx := by
  unfold total
  rw [foldl_add_zipIdx hist 0 0, Nat.zero_add]

theorem isNuc_shared (c : Nat) (h : isNuc c = true) : (isD c && isP c) = true := by
  unfold isNuc at h
  exact (List.all_eq_true (p := fun c => isD c && isP c)).mp (by decide +kernel) c (List.contains_iff_mem.mp h)

theorem isProtOnly_eq (c : Nat) : isProtOnly c = (!isD c && isP c) := by
  unfold isProtOnly isD isP
  exact Bool.and_comm _ _

theorem detect_dna_of_countWhere (hist : List Nat) (hall : countWhere isNuc hist = total hist) (hne : 0 < total hist) :
    detectExact hist = .dna := by
  rw [countWhere_eq_sumW, total_eq_sumW] at hall
  rw [total_eq_sumW] at hne
  have hle : sumW isNuc hist.zipIdx ≤ nS hist.zipIdx := sumW_mono isNuc_shared _
  have htot := total_eq_classes hist.zipIdx
  rw [detectExact_eq_classes, show nP hist.zipIdx = 0 by omega, show nO hist.zipIdx = 0 by omega]
  simp only [Nat.pow_zero, Nat.mul_one]
  exact decide3_dna (Nat.pow_lt_pow_left bS_lt_aS (by omega))

theorem detect_protein_of_countWhere (hist : List Nat)
    (hq : total hist ≤ 4 * countWhere isProtOnly hist) (hne : 0 < total hist) : detectExact hist = .protein := by
  rw [countWhere_eq_sumW, total_eq_sumW] at hq
  rw [total_eq_sumW] at hne
  have htot := total_eq_classes hist.zipIdx
  have hP : sumW isProtOnly hist.zipIdx = nP hist.zipIdx := sumW_congr _ (fun nc _ => isProtOnly_eq nc.2)
  rw [detectExact_eq_classes]
  apply decide3_protein
  exact Nat.mul_lt_mul_of_lt_of_le
    (key_pow (Nat.le_of_lt bS_lt_aS) key_num bS_pos (by omega) (by omega))
    (Nat.pow_le_pow_left aO_le_bO _) (Nat.pow_pos bO_pos)

/-- byte histogram of a list of sequences (as the readers build it) -/
def histOf (seqs : List (List Nat)) : List Nat :=
  (List.range 128).map fun c => (seqs.map fun s => s.count c).foldl (· + ·) 0

theorem histOf_perm {seqs seqs' : List (List Nat)} (h : seqs.Perm seqs') : histOf seqs = histOf seqs' := by
  unfold histOf
  apply List.map_congr_left
  intro c _
  rw [← List.sum_eq_foldl, ← List.sum_eq_foldl]
  exact (h.map _).sum_nat

theorem histOf_length (seqs : List (List Nat)) : (histOf seqs).length = 128 := by simp [histOf]

theorem sumW_histOf (q : Nat → Bool) (seqs : List (List Nat)) (hb : ∀ b ∈ seqs.flatten, b < 128) :
    sumW q (histOf seqs).zipIdx = seqs.flatten.countP q := by
  unfold histOf
  rw [hist_eq_count, sumW_hist q _ 128 hb]

theorem countWhere_histOf (p : Nat → Bool) (seqs : List (List Nat)) (hb : ∀ b ∈ seqs.flatten, b < 128) :
    countWhere p (histOf seqs) = seqs.flatten.countP p := by
  rw [countWhere_eq_sumW, sumW_histOf p seqs hb]

theorem total_histOf (seqs : List (List Nat)) (hb : ∀ b ∈ seqs.flatten, b < 128) :
    total (histOf seqs) = seqs.flatten.length := by
  rw [total_eq_sumW, sumW_histOf _ seqs hb, List.countP_true]

theorem detectExact_histOf (seqs : List (List Nat)) (hb : ∀ b ∈ seqs.flatten, b < 128) :
    detectExact (histOf seqs) =
      decide3 (aS ^ seqs.flatten.countP (fun c => isD c && isP c) * aP ^ seqs.flatten.countP (fun c => !isD c && isP c) *
          aO ^ seqs.flatten.countP (fun c => !isD c && !isP c))
        (bS ^ seqs.flatten.countP (fun c => isD c && isP c) * bP ^ seqs.flatten.countP (fun c => !isD c && isP c) *
          bO ^ seqs.flatten.countP (fun c => !isD c && !isP c)) := by
  rw [detectExact_eq_classes]
  unfold nS nP nO
  rw [sumW_histOf _ seqs hb, sumW_histOf _ seqs hb, sumW_histOf _ seqs hb]

end

/-- `detect_aligned` is modelled twice: on the records of the readers (`IO.detectAligned`, the one every theorem speaks of) and
on (length, gap vector) pairs (`Kalign.detectAligned`, used by a driver operation); they are the same function -/
theorem IO.detectAligned_eq (S : List IO.SeqRec) :
    IO.detectAligned S = Kalign.detectAligned (S.map fun s => (s.res.length, s.gaps)) := by
  simp [IO.detectAligned, Kalign.detectAligned, Function.comp_def, Nat.add_comm]

end Kalign

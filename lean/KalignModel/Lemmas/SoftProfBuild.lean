import KalignModel.Lemmas.SoftScale
import KalignModel.Lemmas.ProfMerge
/-!
# The binary32 profile of `k` identical gap-free copies

`ProfOKS prof seq k m go ge gt sh` (the binary32 image of `ProfOK`): what the kernels read from the profile of `k` copies of `seq`
prepared (`set_gap_penalties_n`) against a group of `m` sequences.  The penalty slots 27/28/29 hold `neg (half (k·m·g))`: for a zero
penalty that is `−0`, which is what the C code computes (`-gpo` summed and multiplied) and what makes `x + slot = x − penalty` bit
for bit.  `BuiltS ap seq p k`: `p` is obtained from `makeProfile ap seq` by diagonal `updateN` merges with any `setGapPenalties` in
between (`Built` on binary32).  `builtS_profOKS`: such a profile prepared against `m` is `ProfOKS`, as long as `k·m·U < 2²⁴` and
`k·m < 2²³`: all the sums and products are exact (`neg_half_add`, `add_half`, `add_ofNat`, `mul_neg_half_ofNat`).
-/
set_option exponentiation.threshold 512
namespace Kalign
open SoftF32

structure HalfParam (U : Nat) (ap : AlnParam SoftF32) (go ge gt : Int) (sh : Nat → Nat → Int) : Prop where
  gpo : ap.gpo = half go
  gpe : ap.gpe = half ge
  tgpe : ap.tgpe = half gt
  sub : ∀ i j, ap.sub i j = half (sh i j)
  bo : go.natAbs ≤ U
  be : ge.natAbs ≤ U
  bt : gt.natAbs ≤ U
  bs : ∀ i j, (sh i j).natAbs ≤ U
  o0 : 0 ≤ go
  e0 : 0 ≤ ge
  t0 : 0 ≤ gt

/-- exact carrier: units of 1/2000, so `gpo = 1000·go` -/
theorem halfParam_of_dyadic {U : Nat} {ap : AlnParam SoftF32} {apE : AlnParam ExactScore} (hd : DyadicParam U ap apE)
    {gpo gpe tgpe : Int} {s : Nat → Nat → Int} (hap : ApOK apE gpo gpe tgpe s) (hgpo : 0 ≤ gpo) (hgpe : 0 ≤ gpe)
    (htgpe : 0 ≤ tgpe) :
    HalfParam U ap (gpo / 1000) (gpe / 1000) (tgpe / 1000) (fun x y => s x y / 1000) ∧
      gpo = 1000 * (gpo / 1000) ∧ gpe = 1000 * (gpe / 1000) ∧ tgpe = 1000 * (tgpe / 1000) ∧
      ∀ x y, s x y = 1000 * (s x y / 1000) := by
  obtain ⟨e1, b1, f1⟩ := dyVal_half hd.gpo hap.gpo
  obtain ⟨e2, b2, f2⟩ := dyVal_half hd.gpe hap.gpe
  obtain ⟨e3, b3, f3⟩ := dyVal_half hd.tgpe hap.tgpe
  have hs := fun i j => dyVal_half (hd.sub i j) (hap.sub i j)
  exact ⟨⟨e1, e2, e3, fun i j => (hs i j).1, b1, b2, b3, fun i j => (hs i j).2.1, Int.ediv_nonneg hgpo (by decide),
    Int.ediv_nonneg hgpe (by decide), Int.ediv_nonneg htgpe (by decide)⟩, f1, f2, f3, fun i j => (hs i j).2.2⟩

theorem natAbs_mul_lt {a : Int} {K U : Nat} (h : a.natAbs ≤ U) (hKU : K * U < 16777216) :
    (a * (K : Int)).natAbs < 16777216 := by
  rw [Int.natAbs_mul, Int.natAbs_natCast]
  have : a.natAbs * K ≤ U * K := Nat.mul_le_mul_right K h
  rw [Nat.mul_comm U K] at this
  omega

theorem natAbs_lt_of_le {a : Int} {K U : Nat} (h : a.natAbs ≤ U) (hK1 : 1 ≤ K) (hKU : K * U < 16777216) :
    a.natAbs < 16777216 := by
  have : 1 * U ≤ K * U := Nat.mul_le_mul_right U hK1
  omega

structure ProfOKS (prof : Array SoftF32) (seq : Array Nat) (k m : Nat) (go ge gt : Int) (sh : Nat → Nat → Int) : Prop where
  g27 : ∀ col, col ≤ seq.size + 1 → pget prof col 27 = neg (half (go * ((k * m : Nat) : Int)))
  g28 : ∀ col, col ≤ seq.size + 1 → pget prof col 28 = neg (half (ge * ((k * m : Nat) : Int)))
  g29 : ∀ col, col ≤ seq.size + 1 → pget prof col 29 = neg (half (gt * ((k * m : Nat) : Int)))
  subE : ∀ i, i < seq.size → ∀ c, c < 23 → pget prof (i + 1) (32 + c) = half (sh (seq.getD i 0) c * (k : Int))
  cnt : ∀ i, i < seq.size → ∀ c, c < 23 →
    pget prof (i + 1) c = if c = seq.getD i 0 then SoftF32.ofNat k else SoftF32.zero

/-- `k` copies on binary32: penalty slots `−(k·g)/2`, substitution slots `(k·sh)/2`, count slot `(float)k` -/
def CopiesRawS (p : Array SoftF32) (seq : Array Nat) (k : Nat) (go ge gt : Int) (sh : Nat → Nat → Int) : Prop :=
  RawProf p seq (neg (half (go * (k : Int)))) (neg (half (ge * (k : Int)))) (neg (half (gt * (k : Int))))
    (fun x c => half (sh x c * (k : Int))) (SoftF32.ofNat k) SoftF32.zero

theorem mul_le_of_add {k1 k2 U B : Nat} (h : (k1 + k2) * U < B) : k1 * U < B ∧ k2 * U < B := by
  rw [Nat.add_mul] at h
  omega

section
variable (U : Nat) (ap : AlnParam SoftF32) (go ge gt : Int) (sh : Nat → Nat → Int) (hh : HalfParam U ap go ge gt sh)
  (seq : Array Nat)

include hh in
theorem makeProfile_rawS : CopiesRawS (makeProfile ap seq) seq 1 go ge gt sh := by
  refine (makeProfile_raw ap seq).of_eq ?_ ?_ ?_ (fun x c => ?_) add_zero_one rfl
  · rw [hh.gpo, Int.natCast_one, Int.mul_one]; rfl
  · rw [hh.gpe, Int.natCast_one, Int.mul_one]; rfl
  · rw [hh.tgpe, Int.natCast_one, Int.mul_one]; rfl
  · rw [hh.sub, Int.natCast_one, Int.mul_one]

include hh in
/-- all the sums are exact within the budget (`neg_half_add`, `add_half`, `add_ofNat`) -/
theorem updateN_rawS (p1 p2 : Array SoftF32) (k1 k2 sa sb : Nat) (hkU : (k1 + k2) * U < 16777216) (hk : k1 + k2 < 8388608)
    (h1 : CopiesRawS p1 seq k1 go ge gt sh) (h2 : CopiesRawS p2 seq k2 go ge gt sh) :
    ∃ p, updateN ap p1 p2 (List.replicate seq.size 0) sa sb = some p ∧ CopiesRawS p seq (k1 + k2) go ge gt sh := by
  obtain ⟨p, hp, hraw⟩ := RawProf.updateN ap sa sb h1 h2
  obtain ⟨hU1, hU2⟩ := mul_le_of_add hkU
  have hpen : ∀ g : Int, 0 ≤ g → g.natAbs ≤ U →
      Score.add (neg (half (g * (k1 : Int)))) (neg (half (g * (k2 : Int)))) = neg (half (g * ((k1 + k2 : Nat) : Int))) := by
    intro g g0 gU
    show add _ _ = _
    rw [neg_half_add (Int.mul_nonneg g0 (Int.natCast_nonneg _)) (Int.mul_nonneg g0 (Int.natCast_nonneg _))
      (natAbs_mul_lt gU hU1) (natAbs_mul_lt gU hU2)]
    congr 2
    push_cast
    rw [Int.mul_add]
  refine ⟨p, hp, hraw.of_eq (hpen go hh.o0 hh.bo) (hpen ge hh.e0 hh.be) (hpen gt hh.t0 hh.bt) (fun x c => ?_) (add_ofNat hk)
    add_zero_zero⟩
  show add _ _ = _
  rw [add_half (natAbs_mul_lt (hh.bs _ _) hU1) (natAbs_mul_lt (hh.bs _ _) hU2)]
  congr 1
  push_cast
  rw [Int.mul_add]

include hh in
theorem profOKS_of_raw (p : Array SoftF32) (k m : Nat) (hm : 1 ≤ m) (hkmU : k * m * U < 16777216) (hm24 : m < 16777216)
    (h : CopiesRawS p seq k go ge gt sh) : ProfOKS (setGapPenalties p m) seq k m go ge gt sh := by
  have hraw := RawProf.setGapPenalties h m
  have hkU : k * U < 16777216 := by
    have : k * 1 ≤ k * m := Nat.mul_le_mul_left k hm
    have : k * 1 * U ≤ k * m * U := Nat.mul_le_mul_right U this
    rw [Nat.mul_one] at this
    omega
  have hscale : ∀ g : Int, g.natAbs ≤ U →
      Score.mul (neg (half (g * (k : Int)))) (Score.ofNat m : SoftF32) = neg (half (g * ((k * m : Nat) : Int))) := by
    intro g gU
    show mul _ (SoftF32.ofNat m) = _
    rw [mul_neg_half_ofNat hm hm24 (natAbs_mul_lt gU hkU) (by
      rw [Int.mul_assoc, ← Int.natCast_mul]; exact natAbs_mul_lt gU hkmU)]
    congr 2
    push_cast
    rw [Int.mul_assoc]
  refine ⟨?_, ?_, ?_, hraw.subE, hraw.cnt⟩
  · intro col hc; rw [(h.gapSlots m col hc).1, hscale go hh.bo]
  · intro col hc; rw [(h.gapSlots m col hc).2.1, hscale ge hh.be]
  · intro col hc; rw [(h.gapSlots m col hc).2.2, hscale gt hh.bt]

end

/-- the binary32 profiles `do_align` can build for copies of `seq` along all-aligned merges (`Built` on binary32) -/
inductive BuiltS (ap : AlnParam SoftF32) (seq : Array Nat) : Array SoftF32 → Nat → Prop
  | leaf : BuiltS ap seq (makeProfile ap seq) 1
  | prep (p : Array SoftF32) (k n : Nat) : BuiltS ap seq p k → BuiltS ap seq (setGapPenalties p n) k
  | merge (p1 p2 p : Array SoftF32) (k1 k2 sa sb : Nat) : BuiltS ap seq p1 k1 → BuiltS ap seq p2 k2 →
      updateN ap p1 p2 (List.replicate seq.size 0) sa sb = some p → BuiltS ap seq p (k1 + k2)

theorem builtS_pos {ap : AlnParam SoftF32} {seq : Array Nat} {p : Array SoftF32} {k : Nat} (h : BuiltS ap seq p k) : 1 ≤ k := by
  induction h with
  | leaf => exact Nat.le_refl _
  | prep _ _ _ _ ih => exact ih
  | merge _ _ _ _ _ _ _ _ _ _ ih1 _ => omega

theorem builtS_raw (U : Nat) (ap : AlnParam SoftF32) (go ge gt : Int) (sh : Nat → Nat → Int) (hh : HalfParam U ap go ge gt sh)
    (seq : Array Nat) (p : Array SoftF32) (k : Nat) (h : BuiltS ap seq p k)
    (hkU : k * U < 16777216) (hk : k < 8388608) : CopiesRawS p seq k go ge gt sh := by
  induction h with
  | leaf => exact makeProfile_rawS U ap go ge gt sh hh seq
  | prep p k n _ ih => exact RawProf.setGapPenalties (ih hkU hk) n
  | merge p1 p2 p k1 k2 sa sb _ _ hu ih1 ih2 =>
    obtain ⟨hU1, hU2⟩ := mul_le_of_add hkU
    obtain ⟨p', hp', hraw⟩ := updateN_rawS U ap go ge gt sh hh seq p1 p2 k1 k2 sa sb hkU hk (ih1 hU1 (by omega))
      (ih2 hU2 (by omega))
    rw [hu] at hp'
    injection hp' with hp'
    rw [hp']; exact hraw

theorem builtS_profOKS (U : Nat) (ap : AlnParam SoftF32) (go ge gt : Int) (sh : Nat → Nat → Int) (hh : HalfParam U ap go ge gt sh)
    (seq : Array Nat) (p : Array SoftF32) (k m : Nat) (h : BuiltS ap seq p k) (hm : 1 ≤ m)
    (hkmU : k * m * U < 16777216) (hkm : k * m < 8388608) : ProfOKS (setGapPenalties p m) seq k m go ge gt sh := by
  have hk1 := builtS_pos h
  have hkle : k ≤ k * m := by
    have := Nat.mul_le_mul_left k hm
    rwa [Nat.mul_one] at this
  have hmle : m ≤ k * m := by
    have := Nat.mul_le_mul_right m hk1
    rwa [Nat.one_mul] at this
  have hkU : k * U < 16777216 := by
    have : k * U ≤ k * m * U := Nat.mul_le_mul_right U hkle
    omega
  exact profOKS_of_raw U ap go ge gt sh hh seq p k m hm hkmU (by omega)
    (builtS_raw U ap go ge gt sh hh seq p k h hkU (by omega))

theorem BuiltS.size {ap : AlnParam SoftF32} {seq : Array Nat} {p : Array SoftF32} {k : Nat} (h : BuiltS ap seq p k) :
    p.size = 64 * (seq.size + 2) := by
  induction h with
  | leaf => exact size_makeProfile ap seq
  | prep p k n _ ih => rw [size_setGapPenalties, ih]
  | merge p1 p2 p k1 k2 sa sb _ _ hu ih1 ih2 =>
    obtain ⟨p', hp', hs, _⟩ := updateN_diag ap p1 p2 sa sb seq.size ih1 ih2
    rw [hu] at hp'; cases hp'; exact hs

/-- the diagonal merge of two built profiles exists: only their sizes matter (the exactness budget is needed for what the result
*contains*, `builtS_profOKS`) -/
theorem builtS_merge_exists (ap : AlnParam SoftF32) (seq : Array Nat)
    (p1 p2 : Array SoftF32) (k1 k2 sa sb : Nat) (h1 : BuiltS ap seq p1 k1) (h2 : BuiltS ap seq p2 k2) :
    ∃ p, updateN ap p1 p2 (List.replicate seq.size 0) sa sb = some p ∧ BuiltS ap seq p (k1 + k2) := by
  obtain ⟨p, hp, _⟩ := updateN_diag ap p1 p2 sa sb seq.size h1.size h2.size
  exact ⟨p, hp, .merge p1 p2 p k1 k2 sa sb h1 h2 hp⟩

theorem builtS_pair (ap : AlnParam SoftF32) (seq : Array Nat) :
    BuiltS ap seq ((updateN ap (makeProfile ap seq) (makeProfile ap seq) (List.replicate seq.size 0) 1 1).getD #[]) (1 + 1) := by
  obtain ⟨p, hp, hb⟩ := builtS_merge_exists ap seq _ _ 1 1 1 1 BuiltS.leaf BuiltS.leaf
  rw [hp]; exact hb

end Kalign

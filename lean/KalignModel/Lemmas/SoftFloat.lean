import KalignModel.Model.SoftFloat
/-!
# Lemmas about the software binary32 (`SoftF32`): decoding, the value grid `magVal`, round-to-nearest-even

`RneAtD D v g r`: `r` is the round-to-nearest-even pattern of the exact value `v / D` (units of 2⁻¹⁴⁹), `g` its floor pattern; `rneAtD_rne`
is the one analysis of `rne`.  Rounding is monotone in the exact value (`RneAtD.mono_same`) and a grid point is its own rounding
(`rneAtD_grid`); every `c·2^t` with `c < 2²⁴` is a value (`exists_value`).  Hence a rounded pattern is bounded by every such number that
bounds the exact value, on either side (`bounded_of_rne`, `lower_of_rne`), and `packZ` of a value is that value (`packZ_toInt`).
`add` / `sub` of finite values are `packZ` of the exact sum (`add_eq_packZ`, `sub_eq_packZ`); the comparisons are those of the keys
(`lt_iff_key`) and of the values (`lt_iff_toInt`).  `AbsV x V`: `x` is finite and `|x| ≤ V·2⁻¹⁴⁹` (`absLe x N`: `|x| ≤ N`); a sum stays
within a grid bound of the exact sum (`add_AbsV`, `add_absLe`, `sub_absLe`).
-/
set_option exponentiation.threshold 512
namespace Kalign.SoftF32

theorem raw_lt (x : SoftF32) : x.raw < 4294967296 := x.bits.isLt

@[simp] theorem raw_ofRaw (n : Nat) : (ofRaw n).raw = n % 4294967296 := by
  simp [raw, ofRaw, BitVec.toNat_ofNat]

theorem ext_raw {x y : SoftF32} (h : x.raw = y.raw) : x = y := by
  cases x; cases y
  simp only [raw] at h
  congr
  exact BitVec.eq_of_toNat_eq h

theorem ofRaw_raw (x : SoftF32) : ofRaw x.raw = x := by
  apply ext_raw
  rw [raw_ofRaw]
  exact Nat.mod_eq_of_lt (raw_lt x)

theorem mag_lt (x : SoftF32) : x.mag < 2147483648 := by
  unfold mag; omega

theorem raw_eq (x : SoftF32) : x.raw = (if x.sign then 2147483648 else 0) + x.mag := by
  have := raw_lt x
  unfold sign mag
  by_cases h : 2147483648 ≤ x.raw
  · simp only [h, decide_true, if_true]; omega
  · simp only [h, decide_false]; simp; omega

theorem sign_pack (s : Bool) (g : Nat) (h : g < 2147483648) : (pack s g).sign = s := by
  unfold pack sign
  rw [raw_ofRaw]
  cases s
  · simp; omega
  · simp; omega

theorem mag_pack (s : Bool) (g : Nat) (h : g < 2147483648) : (pack s g).mag = g := by
  unfold pack mag
  rw [raw_ofRaw]
  cases s
  · simp; omega
  · simp; omega

theorem pack_sign_mag (x : SoftF32) : pack x.sign x.mag = x := by
  apply ext_raw
  have h1 := raw_eq x
  have h2 := raw_lt x
  unfold pack
  rw [raw_ofRaw]
  cases hs : x.sign
  · rw [hs] at h1; simp at h1 ⊢; omega
  · rw [hs] at h1; simp at h1 ⊢; omega

theorem eq_of_sign_mag {x y : SoftF32} (hs : x.sign = y.sign) (hm : x.mag = y.mag) : x = y := by
  rw [← pack_sign_mag x, ← pack_sign_mag y, hs, hm]

theorem magVal_enc (E q : Nat) (h : E = 0 ∨ 8388608 ≤ q) (hq : q ≤ 16777216) :
    magVal (E * 8388608 + q) = q * 2 ^ E := by
  unfold magVal magSig magExp
  by_cases h24 : q = 16777216
  · subst h24
    have e1 : (E * 8388608 + 16777216) / 8388608 - 1 = E + 1 := by omega
    have e2 : (E * 8388608 + 16777216) % 8388608 = 0 := by omega
    have e3 : ¬ (E * 8388608 + 16777216 < 8388608) := by omega
    rw [if_neg e3, e1, e2, Nat.pow_succ]
    omega
  · by_cases hlo : q < 8388608
    · have hE : E = 0 := by omega
      subst hE
      have e1 : (0 * 8388608 + q) / 8388608 - 1 = 0 := by omega
      have e3 : 0 * 8388608 + q < 8388608 := by omega
      rw [if_pos e3, e1]
      omega
    · have e1 : (E * 8388608 + q) / 8388608 - 1 = E := by omega
      have e2 : (E * 8388608 + q) % 8388608 = q - 8388608 := by omega
      have e3 : ¬ (E * 8388608 + q < 8388608) := by omega
      rw [if_neg e3, e1, e2]
      have e4 : 8388608 + (q - 8388608) = q := by omega
      rw [e4]

theorem pattern_decomp (g : Nat) : ∃ E q, g = E * 8388608 + q ∧ (E = 0 ∨ 8388608 ≤ q) ∧ q < 16777216 := by
  by_cases h : g < 8388608
  · exact ⟨0, g, by omega, Or.inl rfl, by omega⟩
  · exact ⟨g / 8388608 - 1, 8388608 + g % 8388608, by omega, Or.inr (by omega), by omega⟩

theorem magVal_succ_lt (g : Nat) : magVal g < magVal (g + 1) := by
  obtain ⟨E, q, rfl, h1, h2⟩ := pattern_decomp g
  rw [magVal_enc E q h1 (by omega)]
  have : E * 8388608 + q + 1 = E * 8388608 + (q + 1) := by omega
  rw [this, magVal_enc E (q + 1) (by omega) (by omega)]
  have : 0 < 2 ^ E := Nat.pow_pos (by decide)
  rw [Nat.add_mul]
  omega

theorem magVal_strictMono {g g' : Nat} (h : g < g') : magVal g < magVal g' := by
  induction g' with
  | zero => omega
  | succ n ih =>
    by_cases hn : g = n
    · subst hn; exact magVal_succ_lt g
    · exact Nat.lt_trans (ih (by omega)) (magVal_succ_lt n)

theorem magVal_mono {g g' : Nat} (h : g ≤ g') : magVal g ≤ magVal g' := by
  by_cases he : g = g'
  · subst he; exact Nat.le_refl _
  · exact Nat.le_of_lt (magVal_strictMono (by omega))

theorem magVal_lt_iff {g g' : Nat} : magVal g < magVal g' ↔ g < g' := by
  constructor
  · intro h
    by_cases hl : g < g'
    · exact hl
    · have := magVal_mono (show g' ≤ g by omega); omega
  · exact magVal_strictMono

theorem magVal_le_iff {g g' : Nat} : magVal g ≤ magVal g' ↔ g ≤ g' := by
  constructor
  · intro h
    by_cases hl : g ≤ g'
    · exact hl
    · have := magVal_strictMono (show g' < g by omega); omega
  · exact magVal_mono

theorem magVal_inj {g g' : Nat} (h : magVal g = magVal g') : g = g' := by
  have h1 := (magVal_le_iff (g := g) (g' := g')).1 (by omega)
  have h2 := (magVal_le_iff (g := g') (g' := g)).1 (by omega)
  omega

@[simp] theorem magVal_zero : magVal 0 = 0 := by decide

/-- `g` is the floor pattern of the value `v` (units of 2⁻¹⁴⁹) on the unbounded grid and `r` its round-to-nearest-even
pattern (on a tie the even one of `g`, `g+1`) -/
def RneAt (v g r : Nat) : Prop :=
  magVal g ≤ v ∧ v < magVal (g + 1) ∧
  ((2 * v < magVal g + magVal (g + 1) ∧ r = g) ∨
   (magVal g + magVal (g + 1) < 2 * v ∧ r = g + 1) ∨
   (2 * v = magVal g + magVal (g + 1) ∧ r = g + g % 2))

theorem RneAt.of_grid (g : Nat) : RneAt (magVal g) g g :=
  ⟨Nat.le_refl _, magVal_succ_lt g, Or.inl ⟨by have := magVal_succ_lt g; omega, rfl⟩⟩

theorem RneAt.range {v g r : Nat} (h : RneAt v g r) : g ≤ r ∧ r ≤ g + 1 := by
  obtain ⟨_, _, h3⟩ := h
  omega

theorem rne_cases (m k : Nat) :
    (2 * (m % 2 ^ k) < 2 ^ k ∧ rne m k = m / 2 ^ k) ∨
    (2 ^ k < 2 * (m % 2 ^ k) ∧ rne m k = m / 2 ^ k + 1) ∨
    (2 * (m % 2 ^ k) = 2 ^ k ∧ rne m k = m / 2 ^ k + (m / 2 ^ k) % 2) := by
  unfold rne
  simp only [Nat.shiftRight_eq_div_pow]
  have := Nat.mod_two_eq_zero_or_one (m / 2 ^ k)
  by_cases h1 : 2 ^ k < 2 * (m % 2 ^ k)
  · simp [h1]
  · by_cases h2 : 2 * (m % 2 ^ k) = 2 ^ k
    · rcases this with h | h
      · simp [h2, h]
      · simp [h2, h]
    · have h3 : 2 * (m % 2 ^ k) < 2 ^ k := by omega
      left
      refine ⟨h3, ?_⟩
      rw [if_neg]
      intro h; rcases h with h | h
      · exact h1 h
      · exact h2 h.1

/-- `RneAt` for the rational value `v / D` -/
def RneAtD (D v g r : Nat) : Prop :=
  magVal g * D ≤ v ∧ v < magVal (g + 1) * D ∧
  ((2 * v < (magVal g + magVal (g + 1)) * D ∧ r = g) ∨
   ((magVal g + magVal (g + 1)) * D < 2 * v ∧ r = g + 1) ∨
   (2 * v = (magVal g + magVal (g + 1)) * D ∧ r = g + g % 2))

theorem rneAtD_one {v g r : Nat} : RneAtD 1 v g r ↔ RneAt v g r := by
  simp only [RneAtD, RneAt, Nat.mul_one]

theorem rneAtD_scale {D c v g r : Nat} (hc : 0 < c) : RneAtD (D * c) (v * c) g r ↔ RneAtD D v g r := by
  simp only [RneAtD, ← Nat.mul_assoc, Nat.mul_le_mul_right_iff hc, Nat.mul_lt_mul_right hc, Nat.mul_right_cancel_iff hc]

theorem rneAtD_self {c v g r : Nat} (hc : 0 < c) : RneAtD c (v * c) g r ↔ RneAt v g r := by
  rw [← rneAtD_one, ← rneAtD_scale (D := 1) (v := v) hc, Nat.one_mul]

theorem rneAtD_rne {m k E : Nat} (hE : E = 0 ∨ 8388608 ≤ m / 2 ^ k) (hq : m / 2 ^ k < 16777216) :
    RneAtD (2 ^ k) (m * 2 ^ E) (E * 8388608 + m / 2 ^ k) (E * 8388608 + rne m k) := by
  have hK : 0 < 2 ^ k := Nat.pow_pos (by decide)
  have hP : 0 < 2 ^ E := Nat.pow_pos (by decide)
  have hdm : 2 ^ k * (m / 2 ^ k) + m % 2 ^ k = m := Nat.div_add_mod m (2 ^ k)
  have hrem : m % 2 ^ k < 2 ^ k := Nat.mod_lt _ hK
  have hcases := rne_cases m k
  generalize m / 2 ^ k = q at *
  generalize m % 2 ^ k = rem at *
  have hv1 : magVal (E * 8388608 + q) * 2 ^ k = q * (2 ^ k * 2 ^ E) := by
    rw [magVal_enc _ _ hE (Nat.le_of_lt hq), Nat.mul_assoc, Nat.mul_comm (2 ^ E)]
  have hv2 : magVal (E * 8388608 + q + 1) * 2 ^ k = q * (2 ^ k * 2 ^ E) + 2 ^ k * 2 ^ E := by
    rw [Nat.add_assoc, magVal_enc _ _ (by omega) (by omega), Nat.add_mul, Nat.one_mul, Nat.add_mul, Nat.mul_assoc,
      Nat.mul_comm (2 ^ E)]
  have hv : m * 2 ^ E = q * (2 ^ k * 2 ^ E) + rem * 2 ^ E := by
    rw [← hdm, Nat.add_mul, Nat.mul_comm (2 ^ k) q, Nat.mul_assoc]
  have hY : rem * 2 ^ E < 2 ^ k * 2 ^ E := Nat.mul_lt_mul_of_pos_right hrem hP
  unfold RneAtD
  rw [Nat.add_mul, hv1, hv2, hv]
  refine ⟨by omega, by omega, ?_⟩
  have hgm : (E * 8388608 + q) % 2 = q % 2 := by omega
  rw [hgm]
  rcases hcases with ⟨c1, c2⟩ | ⟨c1, c2⟩ | ⟨c1, c2⟩
  · have : 2 * (rem * 2 ^ E) < 2 ^ k * 2 ^ E := by
      rw [← Nat.mul_assoc]; exact Nat.mul_lt_mul_of_pos_right c1 hP
    exact Or.inl ⟨by omega, by rw [c2]⟩
  · have : 2 ^ k * 2 ^ E < 2 * (rem * 2 ^ E) := by
      rw [← Nat.mul_assoc]; exact Nat.mul_lt_mul_of_pos_right c1 hP
    exact Or.inr (Or.inl ⟨by omega, by rw [c2]; omega⟩)
  · have : 2 * (rem * 2 ^ E) = 2 ^ k * 2 ^ E := by
      rw [← Nat.mul_assoc, c1]
    exact Or.inr (Or.inr ⟨by omega, by rw [c2]; omega⟩)

theorem RneAtD.mono_same {K v g r v' g' r' : Nat} (h : RneAtD K v g r) (h' : RneAtD K v' g' r') (hv : v ≤ v') : r ≤ r' := by
  obtain ⟨h1, h2, h3⟩ := h
  obtain ⟨h1', h2', h3'⟩ := h'
  by_cases c1 : g < g'
  · omega
  · by_cases c2 : g' < g
    · have := Nat.mul_le_mul_right K (magVal_mono (show g' + 1 ≤ g by omega))
      omega
    · have hg : g = g' := by omega
      subst hg
      omega

/-- a grid point is its own rounding: `mono_same` against it puts a correctly rounded pattern on the same side of every grid point as
the exact value -/
theorem rneAtD_grid {D : Nat} (hD : 0 < D) (G : Nat) : RneAtD D (magVal G * D) G G := (rneAtD_self hD).2 (RneAt.of_grid G)

theorem RneAt.mono {v g r v' g' r' : Nat} (h : RneAt v g r) (h' : RneAt v' g' r') (hv : v ≤ v') : r ≤ r' :=
  (rneAtD_one.2 h).mono_same (rneAtD_one.2 h') hv

theorem RneAt.unique {v g r g' r' : Nat} (h : RneAt v g r) (h' : RneAt v g' r') : r = r' :=
  Nat.le_antisymm (h.mono h' (Nat.le_refl _)) (h'.mono h (Nat.le_refl _))

theorem RneAt.exact {g g' r : Nat} (h : RneAt (magVal g) g' r) : r = g :=
  h.unique (RneAt.of_grid g)

theorem magVal_roundNatU_small {m e : Nat} (hm24 : m < 16777216) : magVal (roundNatU m e) = m * 2 ^ e := by
  by_cases hm : m = 0
  · subst hm; simp [roundNatU]
  have hn : m.log2 + 1 ≤ 24 := by
    have : m.log2 < 24 := (Nat.log2_lt hm).2 (by simpa using hm24)
    omega
  unfold roundNatU
  rw [if_neg hm]
  have hlo : 2 ^ m.log2 ≤ m := Nat.log2_self_le hm
  have hhi : m < 2 ^ (m.log2 + 1) := Nat.lt_log2_self
  simp only
  rw [if_pos hn, Nat.shiftLeft_eq]
  have hval : magVal ((e - min (24 - (m.log2 + 1)) e) * 8388608 + m * 2 ^ min (24 - (m.log2 + 1)) e) = m * 2 ^ e := by
    by_cases hs : 24 - (m.log2 + 1) ≤ e
    · rw [Nat.min_eq_left hs]
      have h23 : 8388608 ≤ m * 2 ^ (24 - (m.log2 + 1)) := by
        have : 2 ^ m.log2 * 2 ^ (24 - (m.log2 + 1)) ≤ m * 2 ^ (24 - (m.log2 + 1)) := Nat.mul_le_mul_right _ hlo
        rw [← Nat.pow_add] at this
        have e1 : m.log2 + (24 - (m.log2 + 1)) = 23 := by omega
        rw [e1] at this
        exact this
      have h24 : m * 2 ^ (24 - (m.log2 + 1)) < 16777216 := by
        have : m * 2 ^ (24 - (m.log2 + 1)) < 2 ^ (m.log2 + 1) * 2 ^ (24 - (m.log2 + 1)) :=
          Nat.mul_lt_mul_of_pos_right hhi (Nat.pow_pos (by decide))
        rw [← Nat.pow_add] at this
        have e1 : m.log2 + 1 + (24 - (m.log2 + 1)) = 24 := by omega
        rw [e1] at this
        exact this
      rw [magVal_enc _ _ (Or.inr h23) (Nat.le_of_lt h24), Nat.mul_assoc, ← Nat.pow_add]
      congr 2
      omega
    · have hs' : e ≤ 24 - (m.log2 + 1) := by omega
      rw [Nat.min_eq_right hs', Nat.sub_self]
      have h24 : m * 2 ^ e < 16777216 := by
        have h1 : m * 2 ^ e < 2 ^ (m.log2 + 1) * 2 ^ e := Nat.mul_lt_mul_of_pos_right hhi (Nat.pow_pos (by decide))
        rw [← Nat.pow_add] at h1
        have h2 : 2 ^ (m.log2 + 1 + e) ≤ 2 ^ 24 := Nat.pow_le_pow_right (by decide) (by omega)
        have : (2 : Nat) ^ 24 = 16777216 := by decide
        omega
      rw [magVal_enc _ _ (Or.inl rfl) (Nat.le_of_lt h24)]
      simp
  exact hval

theorem roundNatU_spec (m e : Nat) : ∃ g, RneAt (m * 2 ^ e) g (roundNatU m e) := by
  by_cases hm : m = 0
  · subst hm
    exact ⟨0, by simp [roundNatU, RneAt, show magVal 1 = 1 by decide]⟩
  by_cases hn : m.log2 + 1 ≤ 24
  · have h24 : m < 16777216 := by
      have := (Nat.log2_lt hm).1 (show m.log2 < 24 by omega)
      simpa using this
    have hg := RneAt.of_grid (roundNatU m e)
    rw [magVal_roundNatU_small h24] at hg
    exact ⟨_, hg⟩
  have hlo : 2 ^ m.log2 ≤ m := Nat.log2_self_le hm
  have hhi : m < 2 ^ (m.log2 + 1) := Nat.lt_log2_self
  unfold roundNatU
  rw [if_neg hm]
  simp only
  rw [if_neg hn]
  generalize hk : m.log2 + 1 - 24 = k
  have hk1 : m.log2 = 23 + k := by omega
  rw [hk1] at hlo hhi
  have hK : 0 < 2 ^ k := Nat.pow_pos (by decide)
  have hq1 : 8388608 ≤ m / 2 ^ k := by
    rw [Nat.le_div_iff_mul_le hK]
    rw [Nat.pow_add] at hlo
    exact hlo
  have hq2 : m / 2 ^ k < 16777216 := by
    rw [Nat.div_lt_iff_lt_mul hK]
    have : 23 + k + 1 = 24 + k := by omega
    rw [this, Nat.pow_add] at hhi
    exact hhi
  have := rneAtD_rne (E := e + k) (Or.inr hq1) hq2
  rw [Nat.pow_add, ← Nat.mul_assoc, rneAtD_self hK] at this
  exact ⟨_, this⟩

@[simp] theorem roundNatU_zero (e : Nat) : roundNatU 0 e = 0 := by simp [roundNatU]

theorem roundNatU_eq_of {m e g r : Nat} (h : RneAt (m * 2 ^ e) g r) : roundNatU m e = r := by
  obtain ⟨g', h'⟩ := roundNatU_spec m e
  exact h'.unique h

theorem roundNatU_mono {m e m' e' : Nat} (h : m * 2 ^ e ≤ m' * 2 ^ e') : roundNatU m e ≤ roundNatU m' e' := by
  obtain ⟨g, hg⟩ := roundNatU_spec m e
  obtain ⟨g', hg'⟩ := roundNatU_spec m' e'
  exact hg.mono hg' h

theorem roundNatU_congr {m e m' e' : Nat} (h : m * 2 ^ e = m' * 2 ^ e') : roundNatU m e = roundNatU m' e' :=
  Nat.le_antisymm (roundNatU_mono (Nat.le_of_eq h)) (roundNatU_mono (Nat.le_of_eq h.symm))

theorem roundNatU_exact {m e g : Nat} (h : m * 2 ^ e = magVal g) : roundNatU m e = g :=
  roundNatU_eq_of (h ▸ RneAt.of_grid g)

theorem roundNatU_decode (g : Nat) : roundNatU (magSig g) (magExp g) = g := roundNatU_exact rfl

def rnd (v : Nat) : Nat := roundNatU v 0

theorem roundNatU_eq_rnd (m e : Nat) : roundNatU m e = rnd (m * 2 ^ e) := by
  unfold rnd; exact roundNatU_congr (by simp)

@[simp] theorem rnd_zero : rnd 0 = 0 := by simp [rnd]
theorem rnd_mono {v v' : Nat} (h : v ≤ v') : rnd v ≤ rnd v' := roundNatU_mono (by simpa using h)
@[simp] theorem rnd_magVal (g : Nat) : rnd (magVal g) = g := roundNatU_exact (by simp)
theorem rnd_spec {v : Nat} (hv : v ≠ 0) : ∃ g, RneAt v g (rnd v) := by
  have := roundNatU_spec v 0; simpa [rnd] using this
theorem rnd_eq_of {v g r : Nat} (h : RneAt v g r) : rnd v = r :=
  roundNatU_eq_of (by simpa using h)
theorem rnd_le_of_le {v g : Nat} (h : v ≤ magVal g) : rnd v ≤ g := by
  have := rnd_mono h; rwa [rnd_magVal] at this
theorem le_rnd_of_le {v g : Nat} (h : magVal g ≤ v) : g ≤ rnd v := by
  have := rnd_mono h; rwa [rnd_magVal] at this
theorem rnd_pos {v : Nat} (hv : v ≠ 0) : rnd v ≠ 0 := by
  have : magVal 1 ≤ v := by
    have : magVal 1 = 1 := by decide
    omega
  have := le_rnd_of_le this
  omega

theorem sig_mul_ex (x : SoftF32) : x.sig * 2 ^ x.ex = magVal x.mag := rfl

/-- result of an exact signed value `z` (units of 2⁻¹⁴⁹): rounded magnitude with the sign of `z`; `s0` = sign of an exact zero -/
def packZ (s0 : Bool) (z : Int) : SoftF32 :=
  if z = 0 then pack s0 0 else pack (decide (z < 0)) (min (rnd z.natAbs) infMag)

theorem signed_scale (s : Bool) (A P : Nat) :
    (if s then -((A * P : Nat) : Int) else ((A * P : Nat) : Int)) = (if s then -(A : Int) else (A : Int)) * (P : Int) := by
  cases s
  · simp [Int.natCast_mul]
  · simp [Int.natCast_mul, Int.neg_mul]

theorem packZ_scale (s0 : Bool) (S : Int) (e : Nat) :
    packZ s0 (S * ((2 ^ e : Nat) : Int)) = if S = 0 then pack s0 0 else pack (decide (S < 0)) (roundNat S.natAbs e) := by
  have hP : (0 : Int) < ((2 ^ e : Nat) : Int) := by
    have : 0 < 2 ^ e := Nat.pow_pos (by decide)
    omega
  unfold packZ
  by_cases hS : S = 0
  · subst hS; simp
  · rw [if_neg hS, if_neg (Int.mul_ne_zero hS (by omega))]
    have hneg : decide (S * ((2 ^ e : Nat) : Int) < 0) = decide (S < 0) :=
      decide_eq_decide.2 (by have := Int.mul_nonneg_iff_of_pos_right (a := S) hP; omega)
    rw [hneg, roundNat, roundNatU_eq_rnd, Int.natAbs_mul, Int.natAbs_natCast]

theorem addFinite_eq (a b : SoftF32) : addFinite a b = packZ (a.sign && b.sign) (toInt a + toInt b) := by
  unfold addFinite toInt
  simp only [Nat.shiftLeft_eq]
  generalize he : min a.ex b.ex = e
  have ha : magVal a.mag = (a.sig * 2 ^ (a.ex - e)) * 2 ^ e := by
    rw [← sig_mul_ex, Nat.mul_assoc, ← Nat.pow_add]
    congr 2; omega
  have hb : magVal b.mag = (b.sig * 2 ^ (b.ex - e)) * 2 ^ e := by
    rw [← sig_mul_ex, Nat.mul_assoc, ← Nat.pow_add]
    congr 2; omega
  rw [ha, hb]
  generalize a.sig * 2 ^ (a.ex - e) = A
  generalize b.sig * 2 ^ (b.ex - e) = B
  rw [signed_scale a.sign A, signed_scale b.sign B, ← Int.add_mul, packZ_scale]

theorem isFinite_iff (x : SoftF32) : x.isFinite = true ↔ x.mag < 2139095040 := by
  unfold isFinite infMag; exact decide_eq_true_iff
theorem isNaN_iff (x : SoftF32) : x.isNaN = true ↔ 2139095040 < x.mag := by
  unfold isNaN infMag; exact decide_eq_true_iff
theorem isInf_iff (x : SoftF32) : x.isInf = true ↔ x.mag = 2139095040 := by
  simp [isInf, infMag]

theorem isFinite_of_mag {x : SoftF32} (h : x.mag < 2139095040) : x.isFinite = true := (isFinite_iff x).2 h

theorem isNaN_of_finite {x : SoftF32} (h : x.isFinite = true) : x.isNaN = false := by
  rw [isFinite_iff] at h
  rw [← Bool.not_eq_true, isNaN_iff]; omega

theorem isInf_of_finite {x : SoftF32} (h : x.isFinite = true) : x.isInf = false := by
  rw [isFinite_iff] at h
  rw [← Bool.not_eq_true, isInf_iff]; omega

theorem add_of_finite {a b : SoftF32} (ha : a.isFinite = true) (hb : b.isFinite = true) : add a b = addFinite a b := by
  simp [add, isNaN_of_finite ha, isNaN_of_finite hb, isInf_of_finite ha, isInf_of_finite hb]

theorem add_eq_packZ {a b : SoftF32} (ha : a.isFinite = true) (hb : b.isFinite = true) :
    add a b = packZ (a.sign && b.sign) (toInt a + toInt b) := by
  rw [add_of_finite ha hb, addFinite_eq]

theorem rnd_min_lt (v : Nat) : min (rnd v) infMag < 2147483648 := by
  have : min (rnd v) infMag ≤ infMag := Nat.min_le_right _ _
  simp only [infMag] at this ⊢
  omega

theorem mag_packZ (s0 : Bool) (z : Int) : (packZ s0 z).mag = if z = 0 then 0 else min (rnd z.natAbs) infMag := by
  unfold packZ
  split
  · exact mag_pack _ _ (by decide)
  · exact mag_pack _ _ (rnd_min_lt _)

theorem sign_packZ (s0 : Bool) (z : Int) : (packZ s0 z).sign = if z = 0 then s0 else decide (z < 0) := by
  unfold packZ
  split
  · exact sign_pack _ _ (by decide)
  · exact sign_pack _ _ (rnd_min_lt _)

theorem mag_packZ_le (s0 : Bool) (z : Int) : (packZ s0 z).mag ≤ 2139095040 := by
  rw [mag_packZ]
  split
  · omega
  · exact Nat.min_le_right _ _

theorem packZ_not_nan (s0 : Bool) (z : Int) : (packZ s0 z).isNaN = false := by
  rw [← Bool.not_eq_true, isNaN_iff]
  have := mag_packZ_le s0 z
  omega

def rndKey (z : Int) : Int :=
  if z < 0 then -((min (rnd z.natAbs) infMag : Nat) : Int) else ((min (rnd z.natAbs) infMag : Nat) : Int)

theorem key_packZ (s0 : Bool) (z : Int) : (packZ s0 z).key = rndKey z := by
  unfold key rndKey
  rw [mag_packZ, sign_packZ]
  by_cases hz : z = 0
  · subst hz; cases s0 <;> simp
  · simp only [hz, if_false, decide_eq_true_eq]

theorem rndKey_mono {z z' : Int} (h : z ≤ z') : rndKey z ≤ rndKey z' := by
  unfold rndKey
  have m1 : ∀ {u v : Nat}, u ≤ v → min (rnd u) infMag ≤ min (rnd v) infMag := by
    intro u v huv
    have := rnd_mono huv
    omega
  by_cases h1 : z < 0
  · by_cases h2 : z' < 0
    · rw [if_pos h1, if_pos h2]
      have := m1 (show z'.natAbs ≤ z.natAbs by omega)
      omega
    · rw [if_pos h1, if_neg h2]
      omega
  · have h2 : ¬ z' < 0 := by omega
    rw [if_neg h1, if_neg h2]
    have := m1 (show z.natAbs ≤ z'.natAbs by omega)
    omega

theorem magVal_eq_zero {g : Nat} : magVal g = 0 ↔ g = 0 := by
  constructor
  · intro h; exact magVal_inj (by rw [h, magVal_zero])
  · intro h; subst h; exact magVal_zero

theorem key_le_iff (x y : SoftF32) : x.key ≤ y.key ↔ toInt x ≤ toInt y := by
  unfold key toInt
  have hx := magVal_le_iff (g := x.mag) (g' := y.mag)
  have hy := magVal_le_iff (g := y.mag) (g' := x.mag)
  have zx := magVal_eq_zero (g := x.mag)
  have zy := magVal_eq_zero (g := y.mag)
  cases x.sign <;> cases y.sign <;> simp <;> omega

theorem key_lt_iff (x y : SoftF32) : x.key < y.key ↔ toInt x < toInt y := by
  have := key_le_iff y x
  omega

theorem natAbs_key (x : SoftF32) : x.key.natAbs = x.mag := by
  unfold key; cases x.sign <;> simp

theorem lt_iff_key {a b : SoftF32} (ha : a.isNaN = false) (hb : b.isNaN = false) : lt a b = true ↔ a.key < b.key := by
  simp only [lt, ha, hb, Bool.not_false, Bool.true_and, decide_eq_true_eq]

theorem le_iff_key {a b : SoftF32} (ha : a.isNaN = false) (hb : b.isNaN = false) : le a b = true ↔ a.key ≤ b.key := by
  simp only [le, ha, hb, Bool.not_false, Bool.true_and, decide_eq_true_eq]

theorem lt_iff_toInt {a b : SoftF32} (ha : a.isNaN = false) (hb : b.isNaN = false) :
    lt a b = true ↔ toInt a < toInt b :=
  (lt_iff_key ha hb).trans (key_lt_iff a b)

theorem le_iff_toInt {a b : SoftF32} (ha : a.isNaN = false) (hb : b.isNaN = false) :
    le a b = true ↔ toInt a ≤ toInt b :=
  (le_iff_key ha hb).trans (key_le_iff a b)

theorem lt_transL {a b c : SoftF32} (h1 : lt a b = true) (h2 : lt b c = true) : lt a c = true := by
  simp only [lt, Bool.and_eq_true, Bool.not_eq_true', decide_eq_true_eq] at *
  exact ⟨⟨h1.1.1, h2.1.2⟩, by omega⟩

theorem lt_irreflL (a : SoftF32) : lt a a = false := by simp [lt]

theorem key_add {a b : SoftF32} (ha : a.isFinite = true) (hb : b.isFinite = true) :
    (add a b).key = rndKey (toInt a + toInt b) := by
  rw [add_eq_packZ ha hb, key_packZ]

theorem add_not_nan {a b : SoftF32} (ha : a.isFinite = true) (hb : b.isFinite = true) : (add a b).isNaN = false := by
  rw [add_eq_packZ ha hb]; exact packZ_not_nan _ _

theorem sign_neg (x : SoftF32) : (neg x).sign = !x.sign := sign_pack _ _ (mag_lt x)
theorem mag_neg (x : SoftF32) : (neg x).mag = x.mag := mag_pack _ _ (mag_lt x)
theorem sign_abs (x : SoftF32) : (abs x).sign = false := sign_pack _ _ (mag_lt x)
theorem mag_abs (x : SoftF32) : (abs x).mag = x.mag := mag_pack _ _ (mag_lt x)

theorem isFinite_neg (x : SoftF32) : (neg x).isFinite = x.isFinite := by
  unfold isFinite; rw [mag_neg]
theorem isNaN_neg (x : SoftF32) : (neg x).isNaN = x.isNaN := by
  unfold isNaN; rw [mag_neg]

theorem toInt_neg (x : SoftF32) : toInt (neg x) = -toInt x := by
  unfold toInt; rw [sign_neg, mag_neg]; cases x.sign <;> simp

theorem add_neg_eq_sub (x p : SoftF32) (hp : p.isNaN = false) : add x (neg p) = sub x p := by
  by_cases hx : x.isNaN = true <;> simp [sub, add, hp, hx]

theorem sub_of_not_nan {a b : SoftF32} (hb : b.isNaN = false) : sub a b = add a (neg b) :=
  (add_neg_eq_sub a b hb).symm

theorem sub_eq_packZ {a b : SoftF32} (ha : a.isFinite = true) (hb : b.isFinite = true) :
    sub a b = packZ (a.sign && !b.sign) (toInt a - toInt b) := by
  rw [sub_of_not_nan (isNaN_of_finite hb), add_eq_packZ ha (by rw [isFinite_neg]; exact hb),
    toInt_neg, sign_neg]
  rfl

theorem key_sub {a b : SoftF32} (ha : a.isFinite = true) (hb : b.isFinite = true) :
    (sub a b).key = rndKey (toInt a - toInt b) := by
  rw [sub_eq_packZ ha hb, key_packZ]

/-- `x` is finite and `|x| ≤ V` (units of 2⁻¹⁴⁹) -/
def AbsV (x : SoftF32) (V : Nat) : Prop := x.mag < 2139095040 ∧ magVal x.mag ≤ V

/-- `x` is finite and `|x| ≤ N`: `AbsV x (N·2¹⁴⁹)` -/
def absLe (x : SoftF32) (N : Nat) : Prop := x.mag < 2139095040 ∧ magVal x.mag ≤ N * 2 ^ 149

theorem AbsV_of_absLe {x : SoftF32} {N : Nat} (h : absLe x N) : AbsV x (N * 2 ^ 149) := h

theorem AbsV.finite {x : SoftF32} {V : Nat} (h : AbsV x V) : x.isFinite = true := isFinite_of_mag h.1

theorem AbsV.mono {x : SoftF32} {V V' : Nat} (h : AbsV x V) (hV : V ≤ V') : AbsV x V' := ⟨h.1, Nat.le_trans h.2 hV⟩

theorem absLe.finite {x : SoftF32} {N : Nat} (h : absLe x N) : x.isFinite = true := AbsV.finite h

theorem absLe.mono {x : SoftF32} {N N' : Nat} (h : absLe x N) (hN : N ≤ N') : absLe x N' :=
  AbsV.mono h (Nat.mul_le_mul_right _ hN)

theorem natAbs_toInt (x : SoftF32) : (toInt x).natAbs = magVal x.mag := by
  unfold toInt; cases x.sign <;> simp

theorem AbsV.toInt_le {x : SoftF32} {V : Nat} (h : AbsV x V) : toInt x ≤ (V : Int) := by
  have h1 := natAbs_toInt x
  have h2 := h.2
  omega

theorem toInt_eq_zero {x : SoftF32} : toInt x = 0 ↔ x.mag = 0 := by
  rw [← magVal_eq_zero, ← natAbs_toInt]; omega

theorem toInt_neg_iff {x : SoftF32} : toInt x < 0 ↔ x.sign = true ∧ x.mag ≠ 0 := by
  have := magVal_eq_zero (g := x.mag)
  unfold toInt; cases x.sign <;> simp <;> omega

theorem toInt_pos_iff {x : SoftF32} : 0 < toInt x ↔ x.sign = false ∧ x.mag ≠ 0 := by
  have := magVal_eq_zero (g := x.mag)
  unfold toInt; cases x.sign <;> simp <;> omega

theorem toInt_of_pos {x : SoftF32} (hs : x.sign = false) : toInt x = (magVal x.mag : Int) := by
  unfold toInt; rw [hs]; simp

theorem packZ_toInt {s0 : Bool} {x : SoftF32} (hx : x.isNaN = false) (hs : x.mag = 0 → x.sign = s0) : packZ s0 (toInt x) = x := by
  have hm : ¬ 2139095040 < x.mag := by rw [← isNaN_iff, hx]; simp
  apply eq_of_sign_mag
  · rw [sign_packZ]
    split
    · exact (hs (toInt_eq_zero.1 ‹_›)).symm
    · rename_i h0
      cases hsx : x.sign
      · exact decide_eq_false fun h => by rw [toInt_neg_iff, hsx] at h; exact absurd h.1 (by decide)
      · exact decide_eq_true (toInt_neg_iff.2 ⟨hsx, fun h => h0 (toInt_eq_zero.2 h)⟩)
  · rw [mag_packZ, natAbs_toInt, rnd_magVal]
    split
    · exact (toInt_eq_zero.1 ‹_›).symm
    · exact Nat.min_eq_left (by simp only [infMag]; omega)

theorem magVal_infMag : magVal 2139095040 = 2 ^ 277 := by decide

theorem roundNat_lt (m e : Nat) : roundNat m e < 2147483648 :=
  Nat.lt_of_le_of_lt (Nat.min_le_right _ _) (by decide)

theorem roundNatU_small_lt {c t : Nat} (hc : c < 16777216) (ht : t ≤ 253) : roundNatU c t < 2139095040 := by
  rw [← magVal_lt_iff, magVal_roundNatU_small hc, magVal_infMag]
  have h1 : c * 2 ^ t < 16777216 * 2 ^ t := Nat.mul_lt_mul_of_pos_right hc (Nat.pow_pos (by decide))
  have h2 : (16777216 : Nat) * 2 ^ t ≤ 16777216 * 2 ^ 253 := Nat.mul_le_mul_left _ (Nat.pow_le_pow_right (by decide) ht)
  have h3 : (16777216 : Nat) * 2 ^ 253 = 2 ^ 277 := by decide
  omega

theorem roundNat_small {c t : Nat} (hc : c < 16777216) (ht : t ≤ 253) : roundNat c t = roundNatU c t :=
  Nat.min_eq_left (Nat.le_of_lt (roundNatU_small_lt hc ht))

theorem exists_value (s : Bool) {c t : Nat} (hc : c < 16777216) (ht : t ≤ 253) :
    ∃ x : SoftF32, x.sign = s ∧ x.mag < 2139095040 ∧ magVal x.mag = c * 2 ^ t := by
  have hlt := roundNatU_small_lt hc ht
  exact ⟨pack s (roundNatU c t), sign_pack _ _ (by omega), by rw [mag_pack _ _ (by omega)]; exact hlt,
    by rw [mag_pack _ _ (by omega)]; exact magVal_roundNatU_small hc⟩

theorem bounded_of_rne {D v g ρ c t : Nat} (hD : 0 < D) (hr : RneAtD D v g ρ) (hc : c < 16777216) (ht : t ≤ 253)
    (hv : v ≤ c * 2 ^ t * D) : min ρ infMag < 2139095040 ∧ magVal (min ρ infMag) ≤ c * 2 ^ t := by
  obtain ⟨x, -, x1, x2⟩ := exists_value false hc ht
  have hle : ρ ≤ x.mag := hr.mono_same (rneAtD_grid hD _) (x2 ▸ hv)
  rw [Nat.min_eq_left (by simp only [infMag]; omega), ← x2]
  exact ⟨by omega, magVal_mono hle⟩

theorem lower_of_rne {D v g ρ c t : Nat} (hD : 0 < D) (hr : RneAtD D v g ρ) (hc : c < 16777216) (ht : t ≤ 253)
    (hv : c * 2 ^ t * D ≤ v) : c * 2 ^ t ≤ magVal (min ρ infMag) := by
  obtain ⟨x, -, x1, x2⟩ := exists_value false hc ht
  have hge : x.mag ≤ ρ := (rneAtD_grid hD _).mono_same hr (x2 ▸ hv)
  rw [← x2]
  exact magVal_mono (Nat.le_min.2 ⟨hge, by simp only [infMag]; omega⟩)

theorem packZ_AbsV {s0 : Bool} {z : Int} {c t : Nat} (hc : c < 16777216) (ht : t ≤ 253) (hz : z.natAbs ≤ c * 2 ^ t) :
    AbsV (packZ s0 z) (c * 2 ^ t) := by
  unfold AbsV
  rw [mag_packZ]
  by_cases h0 : z = 0
  · simp [h0]
  rw [if_neg h0]
  obtain ⟨g, hg⟩ := rnd_spec (v := z.natAbs) (by omega)
  exact bounded_of_rne Nat.one_pos (rneAtD_one.2 hg) hc ht (by rw [Nat.mul_one]; exact hz)

theorem toInt_packZ_grid {s0 : Bool} {z : Int} {c t : Nat} (hz : z.natAbs = c * 2 ^ t) (hc : c < 16777216) (ht : t ≤ 253) :
    (packZ s0 z).mag < 2139095040 ∧ toInt (packZ s0 z) = z := by
  obtain ⟨x, xs, x1, x2⟩ := exists_value (if z = 0 then s0 else decide (z < 0)) hc ht
  have hx : toInt x = z := by
    unfold toInt; rw [xs, x2, ← hz]
    by_cases h0 : z = 0
    · subst h0; cases s0 <;> simp
    · by_cases h : z < 0 <;> simp [h0, h] <;> omega
  have := packZ_toInt (s0 := s0) (isNaN_of_finite (isFinite_of_mag x1))
    (fun h0 => by rw [xs, if_pos (hx ▸ toInt_eq_zero.2 h0)])
  rw [hx] at this
  rw [this]; exact ⟨x1, hx⟩

/-- the exact sum is bounded by a representable number, and rounding is monotone -/
theorem add_AbsV {a b : SoftF32} {A B c t : Nat} (ha : AbsV a A) (hb : AbsV b B)
    (hAB : A + B ≤ c * 2 ^ t) (hc : c < 16777216) (ht : t ≤ 253) : AbsV (add a b) (c * 2 ^ t) := by
  rw [add_eq_packZ ha.finite hb.finite]
  apply packZ_AbsV hc ht
  have h1 := natAbs_toInt a
  have h2 := natAbs_toInt b
  have h3 := ha.2
  have h4 := hb.2
  omega

theorem add_absLe {a b : SoftF32} {A B c t : Nat} (ha : absLe a A) (hb : absLe b B)
    (hAB : A + B = c * 2 ^ t) (hc : c < 16777216) (ht : t ≤ 104) : absLe (add a b) (A + B) := by
  have := add_AbsV (c := c) (t := t + 149) ha hb (by rw [← Nat.add_mul, hAB, Nat.pow_add, Nat.mul_assoc]; exact Nat.le_refl _)
    hc (by omega)
  rw [hAB]; unfold absLe; rwa [Nat.pow_add, ← Nat.mul_assoc] at this

theorem neg_absLe {a : SoftF32} {A : Nat} (ha : absLe a A) : absLe (neg a) A := by
  unfold absLe; rw [mag_neg]; exact ha

theorem sub_absLe {a b : SoftF32} {A B c t : Nat} (ha : absLe a A) (hb : absLe b B)
    (hAB : A + B = c * 2 ^ t) (hc : c < 16777216) (ht : t ≤ 104) : absLe (sub a b) (A + B) := by
  rw [sub_of_not_nan (isNaN_of_finite hb.finite)]
  exact add_absLe ha (neg_absLe hb) hAB hc ht

theorem magVal_fltMax : magVal 2139095039 = 16777215 * 2 ^ 253 := by decide
theorem magVal_fltMax_pred : magVal 2139095038 = 16777214 * 2 ^ 253 := by decide
theorem mag_negMax : negMax.mag = 2139095039 := by decide
theorem sign_negMax : negMax.sign = true := by decide
theorem toInt_negMax : toInt negMax = -((16777215 * 2 ^ 253 : Nat) : Int) := by
  unfold toInt; rw [sign_negMax, mag_negMax, magVal_fltMax]; rfl

theorem rnd_near_fltMax {v : Nat} (h1 : 16777215 * 2 ^ 253 - 2 ^ 252 < v) (h2 : v < 16777215 * 2 ^ 253 + 2 ^ 252) :
    rnd v = 2139095039 := by
  by_cases hge : 16777215 * 2 ^ 253 ≤ v
  · apply rnd_eq_of (g := 2139095039)
    refine ⟨by rw [magVal_fltMax]; exact hge, ?_, Or.inl ⟨?_, rfl⟩⟩
    · rw [show (2139095039 + 1 : Nat) = 2139095040 from rfl, magVal_infMag]; omega
    · rw [show (2139095039 + 1 : Nat) = 2139095040 from rfl, magVal_infMag, magVal_fltMax]; omega
  · apply rnd_eq_of (g := 2139095038)
    refine ⟨by rw [magVal_fltMax_pred]; omega, ?_, Or.inr (Or.inl ⟨?_, rfl⟩)⟩
    · rw [show (2139095038 + 1 : Nat) = 2139095039 from rfl, magVal_fltMax]; omega
    · rw [show (2139095038 + 1 : Nat) = 2139095039 from rfl, magVal_fltMax, magVal_fltMax_pred]; omega

/-- `2¹⁰³` is half an ulp of `FLT_MAX` -/
theorem negMax_add {x : SoftF32} (hf : x.isFinite = true) (hx : magVal x.mag < 2 ^ 103 * 2 ^ 149) : add negMax x = negMax := by
  have hfm : negMax.isFinite = true := by decide
  rw [add_eq_packZ hfm hf, toInt_negMax]
  have hn := natAbs_toInt x
  have hz : -((16777215 * 2 ^ 253 : Nat) : Int) + toInt x < 0 := by omega
  unfold packZ
  rw [if_neg (by omega)]
  have : rnd (-((16777215 * 2 ^ 253 : Nat) : Int) + toInt x).natAbs = 2139095039 := by
    apply rnd_near_fltMax <;> omega
  rw [this]
  have : decide (-((16777215 * 2 ^ 253 : Nat) : Int) + toInt x < 0) = true := by simpa using hz
  rw [this]
  decide

theorem add_negMax {x : SoftF32} (hf : x.isFinite = true) (hx : magVal x.mag < 2 ^ 103 * 2 ^ 149) : add x negMax = negMax := by
  have hfm : negMax.isFinite = true := by decide
  rw [add_eq_packZ hf hfm, Int.add_comm, Bool.and_comm, ← add_eq_packZ hfm hf]
  exact negMax_add hf hx

theorem roundNat_zero (e : Nat) : roundNat 0 e = 0 := by simp [roundNat]

theorem packZ_int {s0 : Bool} {k : Int} (hk : k.natAbs < 16777216) (h0 : k = 0 → s0 = false) :
    packZ s0 (k * ((2 ^ 149 : Nat) : Int)) = ofInt k := by
  rw [packZ_scale]
  unfold ofInt
  split
  · rename_i hz
    subst hz
    simp [h0 rfl, roundNat_zero]
  · rfl

theorem ofInt_finite {k : Int} (hk : k.natAbs < 16777216) : (ofInt k).mag < 2139095040 ∧
    magVal (ofInt k).mag = k.natAbs * 2 ^ 149 ∧ (ofInt k).sign = decide (k < 0) := by
  unfold ofInt
  rw [mag_pack _ _ (roundNat_lt _ _), sign_pack _ _ (roundNat_lt _ _), roundNat_small hk (by decide)]
  exact ⟨roundNatU_small_lt hk (by decide), magVal_roundNatU_small hk, rfl⟩

theorem toInt_ofInt {k : Int} (hk : k.natAbs < 16777216) : toInt (ofInt k) = k * ((2 ^ 149 : Nat) : Int) := by
  rw [← packZ_int (s0 := false) hk (fun _ => rfl)]
  exact (toInt_packZ_grid (c := k.natAbs) (t := 149) (by rw [Int.natAbs_mul, Int.natAbs_natCast]) hk (by decide)).2

theorem ofNat_eq_ofInt (n : Nat) : ofNat n = ofInt n := by
  unfold ofNat ofInt
  rw [show decide ((n : Int) < 0) = false by simp]
  rfl

theorem sign_ofNat (n : Nat) : (ofNat n).sign = false := sign_pack _ _ (roundNat_lt _ _)

theorem mag_ofNat {n : Nat} (hn : n < 16777216) : (ofNat n).mag = roundNatU n 149 := by
  unfold ofNat
  rw [mag_pack _ _ (roundNat_lt _ _), roundNat_small hn (by decide)]

theorem magVal_ofNat {n : Nat} (hn : n < 16777216) : magVal (ofNat n).mag = n * 2 ^ 149 := by
  rw [mag_ofNat hn, magVal_roundNatU_small hn]

theorem ofNat_absLe {n : Nat} (hn : n < 16777216) : absLe (ofNat n) n :=
  ⟨by rw [mag_ofNat hn]; exact roundNatU_small_lt hn (by decide), Nat.le_of_eq (magVal_ofNat hn)⟩

end Kalign.SoftF32

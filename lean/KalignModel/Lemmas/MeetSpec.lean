import KalignModel.Lemmas.KernelSS
import KalignModel.Lemmas.Controller
/-!
# What `meetup` computes

The scan of `aln_seqseq_meetup` (and of its profile siblings, through `MeetOps`) over the cells of the middle row.
`meetupLoop` is a left fold of `MeetAcc.try_` over a list of candidates `(value, transition, column)`
(`meetupLoop_eq_tryAll`).  The scan order is `cellList` (six transitions per cell, two for the last cell); every
candidate is one expression in a forward cell, a backward cell, the join function of its transition and the tie-break term (`candOf`,
`mem_allCands`), and the candidates of the exact specification `candList` are listed in the same order.  For a carrier whose `>` is
the strict part of a total preorder on the values that occur (`GtOrder`) the fold returns the first maximum of the list
(`tryAll_first`); the exact carrier with `ole` is one (`tryAll_spec`), binary32 without NaN with the order of the keys is another.
-/
namespace Kalign

/-- admissible candidates: all six transitions in cells `k < n`, transitions 3 and 6 in cell `n` -/
def Adm (n k : Nat) (t : Int) : Prop :=
  (k < n ∧ (t = 1 ∨ t = 2 ∨ t = 3 ∨ t = 5 ∨ t = 6 ∨ t = 7)) ∨ (k = n ∧ (t = 3 ∨ t = 6))

theorem Adm.valid {n k : Nat} {t : Int} (h : Adm n k t) : t = 1 ∨ t = 2 ∨ t = 3 ∨ t = 5 ∨ t = 6 ∨ t = 7 := by
  rcases h with h | h
  · exact h.2
  · rcases h.2 with h | h <;> simp [h]

theorem Adm.le {n k : Nat} {t : Int} (h : Adm n k t) : k ≤ n := by
  rcases h with h | h <;> omega

theorem Adm.succ {n k : Nat} {t : Int} : Adm (n + 1) (k + 1) t ↔ Adm n k t := by
  simp only [Adm, Nat.add_lt_add_iff_right, Nat.add_right_cancel_iff]

/-- the scan order of the meetup: the six transitions of every cell `k0 .. k0+d-1`, then transitions 3 and 6 of cell `k0+d`;
`g last k t` is what is listed for cell `k` and transition `t` -/
def cellList {γ : Type} (g : Bool → Nat → Int → γ) : Nat → Nat → List γ
  | k, 0 => [3, 6].map (g true k)
  | k, d + 1 => [1, 2, 3, 5, 6, 7].map (g false k) ++ cellList g (k + 1) d

theorem mem_cellList {γ : Type} (g : Bool → Nat → Int → γ) (c : γ) :
    ∀ d k0, c ∈ cellList g k0 d ↔ ∃ j t, Adm d j t ∧ c = g (decide (j = d)) (k0 + j) t := by
  intro d
  induction d with
  | zero =>
    intro k0
    rw [cellList, List.mem_map]
    constructor
    · rintro ⟨t, ht, rfl⟩
      exact ⟨0, t, Or.inr ⟨rfl, by simpa using ht⟩, rfl⟩
    · rintro ⟨j, t, h | h, rfl⟩
      · omega
      · obtain rfl : j = 0 := h.1
        exact ⟨t, by simpa using h.2, rfl⟩
  | succ d ih =>
    intro k0
    rw [cellList, List.mem_append, List.mem_map, ih (k0 + 1)]
    have e : ∀ j, k0 + 1 + j = k0 + (j + 1) := fun j => by omega
    constructor
    · rintro (⟨t, ht, rfl⟩ | ⟨j, t, h, rfl⟩)
      · exact ⟨0, t, Or.inl ⟨Nat.succ_pos d, by simpa using ht⟩, rfl⟩
      · exact ⟨j + 1, t, Adm.succ.2 h, by rw [e, decide_eq_decide.2 Nat.add_right_cancel_iff]⟩
    · rintro ⟨j, t, h, rfl⟩
      cases j with
      | zero =>
        rcases h with h | h
        · exact Or.inl ⟨t, by simpa using h.2, rfl⟩
        · omega
      | succ j => exact Or.inr ⟨j, t, Adm.succ.1 h, by rw [e, decide_eq_decide.2 Nat.add_right_cancel_iff]⟩

theorem cellList_congr {γ : Type} {g g' : Bool → Nat → Int → γ} :
    ∀ d k0, (∀ j t, Adm d j t → g (decide (j = d)) (k0 + j) t = g' (decide (j = d)) (k0 + j) t) →
      cellList g k0 d = cellList g' k0 d := by
  intro d
  induction d with
  | zero =>
    intro k0 h
    have h3 : g true k0 3 = g' true k0 3 := h 0 3 (Or.inr ⟨rfl, Or.inl rfl⟩)
    have h6 : g true k0 6 = g' true k0 6 := h 0 6 (Or.inr ⟨rfl, Or.inr rfl⟩)
    simp only [cellList, List.map_cons, List.map_nil, h3, h6]
  | succ d ih =>
    intro k0 h
    have hc : ∀ t, t ∈ [1, 2, 3, 5, 6, 7] → g false k0 t = g' false k0 t := fun t ht =>
      h 0 t (Or.inl ⟨Nat.succ_pos d, by simpa using ht⟩)
    rw [cellList, cellList, List.map_congr_left hc, ih (k0 + 1)]
    intro j t hadm
    have := h (j + 1) t (Adm.succ.2 hadm)
    rwa [decide_eq_decide.2 Nat.add_right_cancel_iff, show k0 + (j + 1) = k0 + 1 + j by omega] at this

section
variable {α : Type} [Score α]

def tryAll (acc : MeetAcc α) (cs : List (α × Int × Nat)) : MeetAcc α :=
  cs.foldl (fun acc c => acc.try_ c.1 c.2.1 c.2.2) acc

/-- the join function of transition `t` at column `i` (`last`: column `endb`, whose `gb → gb` join has its own penalty) -/
def MeetOps.join (ops : MeetOps α) (last : Bool) (i : Nat) (t : Int) : α → α :=
  if t = 2 then ops.g2 i else if t = 3 then ops.g3 else if t = 5 then ops.g5 i
  else if t = 6 then (if last then ops.g6e else ops.g6) else if t = 7 then ops.g7 else fun x => x

def candOf (ops : MeetOps α) (sb eb : Nat) (F B : Nat → States α) (last : Bool) (k : Nat) (t : Int) : α × Int × Nat :=
  (Score.sub (ops.join last (sb + k) t (Score.add ((F k).get (fkOf t)) ((B k).get (bkOf t)))) (Score.tie sb eb (sb + k)), t, sb + k)

theorem mem_allCands (ops : MeetOps α) (sb eb : Nat) (F B : Nat → States α) (c : α × Int × Nat) (n : Nat) :
    c ∈ cellList (candOf ops sb eb F B) 0 n ↔ ∃ k t, Adm n k t ∧ c = candOf ops sb eb F B (decide (k = n)) k t := by
  rw [mem_cellList]
  simp only [Nat.zero_add]

theorem meetupLoop_cons2 (ops : MeetOps α) (sb eb k : Nat) (F B : Nat → States α) (f' b' : States α) (fs bs : List (States α))
    (acc : MeetAcc α) :
    meetupLoop ops sb eb (sb + k) (F k :: f' :: fs) (B k :: b' :: bs) acc =
      meetupLoop ops sb eb (sb + k + 1) (f' :: fs) (b' :: bs)
        (tryAll acc ([1, 2, 3, 5, 6, 7].map (candOf ops sb eb F B false k))) := by
  simp [meetupLoop, tryAll, candOf, MeetOps.join, fkOf, bkOf]

theorem tryAll_append (acc : MeetAcc α) (xs ys : List (α × Int × Nat)) :
    tryAll acc (xs ++ ys) = tryAll (tryAll acc xs) ys := by
  simp [tryAll, List.foldl_append]

theorem meetupLoop_eq_tryAll (ops : MeetOps α) (sb eb : Nat) (F B : Nat → States α) :
    ∀ d k acc, meetupLoop ops sb eb (sb + k) ((List.range' k (d + 1)).map F) ((List.range' k (d + 1)).map B) acc =
      tryAll acc (cellList (candOf ops sb eb F B) k d) := by
  intro d
  induction d with
  | zero =>
    intro k acc
    simp [meetupLoop, tryAll, cellList, candOf, MeetOps.join, fkOf, bkOf]
  | succ d ih =>
    intro k acc
    rw [List.range'_succ, List.range'_succ, List.map_cons, List.map_cons, List.map_cons, List.map_cons,
      meetupLoop_cons2, cellList, tryAll_append]
    have := ih (k + 1) (tryAll acc ([1, 2, 3, 5, 6, 7].map (candOf ops sb eb F B false k)))
    rw [List.range'_succ, List.map_cons, List.map_cons] at this
    rw [← this]
    rfl

theorem meetupRun_eq (ops : MeetOps α) (sb eb n : Nat) (F B : Nat → States α) :
    meetupRun ops sb eb ((List.range (n + 1)).map F) ((List.range (n + 1)).map B) =
      (let r := tryAll ⟨Score.negInf, -1, -1⟩ (cellList (candOf ops sb eb F B) 0 n)
       ⟨r.c, r.transition, r.max⟩) := by
  unfold meetupRun
  have := meetupLoop_eq_tryAll ops sb eb F B n 0 ⟨Score.negInf, -1, -1⟩
  rw [List.range_eq_range']
  simp only [Nat.add_zero] at this
  rw [this]

/-- `Score.gt` is the strict part of the total preorder `le` on the values that satisfy `ok` (for binary32: that are not NaN) -/
structure GtOrder (le : α → α → Prop) (ok : α → Prop) : Prop where
  gt_iff : ∀ x y : α, ok x → ok y → ((Score.gt x y : Bool) = true ↔ ¬ le x y)
  trans : ∀ {x y z : α}, le x y → le y z → le x z
  total : ∀ x y : α, le x y ∨ le y x

theorem tryAll_first {le : α → α → Prop} {ok : α → Prop} (O : GtOrder le ok) (cands : List (α × Int × Nat)) (acc : MeetAcc α)
    (hacc : ok acc.max) (hall : ∀ c ∈ cands, ok c.1) :
    (tryAll acc cands = acc ∧ ∀ c ∈ cands, le c.1 acc.max) ∨
    (∃ pre c post, cands = pre ++ c :: post ∧ tryAll acc cands = ⟨c.1, c.2.1, c.2.2⟩ ∧ ¬ le c.1 acc.max ∧
      (∀ d ∈ pre, ¬ le c.1 d.1) ∧ (∀ d ∈ post, le d.1 c.1)) := by
  induction cands generalizing acc with
  | nil => left; exact ⟨rfl, by simp⟩
  | cons x rest ih =>
    have hx := hall x (List.mem_cons_self ..)
    have hrest : ∀ c ∈ rest, ok c.1 := fun c hc => hall c (List.mem_cons_of_mem _ hc)
    have hstep : tryAll acc (x :: rest) = tryAll (if Score.gt x.1 acc.max = true then ⟨x.1, x.2.1, x.2.2⟩ else acc) rest := rfl
    rw [hstep]
    by_cases hle : le x.1 acc.max
    · rw [if_neg (fun h => (O.gt_iff _ _ hx hacc).1 h hle)]
      rcases ih acc hacc hrest with ⟨h1, h2⟩ | ⟨pre, c, post, h1, h2, h3, h4, h5⟩
      · refine Or.inl ⟨h1, fun c hc => ?_⟩
        rcases List.mem_cons.mp hc with h | h
        · rw [h]; exact hle
        · exact h2 c h
      · refine Or.inr ⟨x :: pre, c, post, by rw [h1]; rfl, h2, h3, fun d hd => ?_, h5⟩
        rcases List.mem_cons.mp hd with h | h
        · rw [h]; exact fun h' => h3 (O.trans h' hle)
        · exact h4 d h
    · rw [if_pos ((O.gt_iff _ _ hx hacc).2 hle)]
      right
      rcases ih ⟨x.1, x.2.1, x.2.2⟩ hx hrest with ⟨h1, h2⟩ | ⟨pre, c, post, h1, h2, h3, h4, h5⟩
      · exact ⟨[], x, rest, rfl, h1, hle, by simp, h2⟩
      · refine ⟨x :: pre, c, post, by rw [h1]; rfl, h2, fun h' => hle ?_, fun d hd => ?_, h5⟩
        · exact O.trans ((O.total _ _).resolve_left h3) h'
        · rcases List.mem_cons.mp hd with h | h
          · rw [h]; exact h3
          · exact h4 d h

theorem tryAll_le {le : α → α → Prop} {ok : α → Prop} (O : GtOrder le ok) (cands : List (α × Int × Nat)) (acc : MeetAcc α)
    (hacc : ok acc.max) (hall : ∀ c ∈ cands, ok c.1) : ∀ c ∈ cands, le c.1 (tryAll acc cands).max := by
  intro c hc
  rcases tryAll_first O cands acc hacc hall with ⟨h1, h2⟩ | ⟨pre, x, post, h1, h2, _, h4, h5⟩
  · rw [h1]; exact h2 c hc
  · rw [h2]
    rw [h1] at hc
    rcases List.mem_append.mp hc with h | h
    · exact (O.total _ _).resolve_right (h4 c h)
    · rcases List.mem_cons.mp h with h | h
      · rw [h]; exact (O.total _ _).elim id id
      · exact h5 c h

theorem tryAll_from_sentinel {le : α → α → Prop} {ok : α → Prop} (O : GtOrder le ok) (h0 : ok (Score.negInf : α))
    (fin : α × Int × Nat → Bool) (cs : List (α × Int × Nat))
    (hcs : ∀ c ∈ cs, ok c.1 ∧ (fin c = true ↔ ¬ le c.1 Score.negInf)) :
    (tryAll ⟨Score.negInf, -1, -1⟩ cs = ⟨Score.negInf, -1, -1⟩ ∧ ∀ c ∈ cs, fin c = false) ∨
    (∃ c ∈ cs, fin c = true ∧ tryAll ⟨Score.negInf, -1, -1⟩ cs = ⟨c.1, c.2.1, c.2.2⟩ ∧ ∀ d ∈ cs, le d.1 c.1) := by
  have hok : ∀ c ∈ cs, ok c.1 := fun c hc => (hcs c hc).1
  rcases tryAll_first O cs ⟨Score.negInf, -1, -1⟩ h0 hok with ⟨e, h⟩ | ⟨pre, c, post, e, h2, h3, _, _⟩
  · refine Or.inl ⟨e, fun c hc => ?_⟩
    cases hf : fin c
    · rfl
    · exact absurd (h c hc) ((hcs c hc).2.1 hf)
  · have hc : c ∈ cs := by rw [e]; simp
    have hle := tryAll_le O cs ⟨Score.negInf, -1, -1⟩ h0 hok
    rw [h2] at hle
    exact Or.inr ⟨c, hc, (hcs c hc).2.2 h3, h2, hle⟩

/-- **what a meetup answers**, for any carrier with a `GtOrder` and any classification `fin` of the admissible candidates that is read off
their value against the sentinel: no admissible candidate is finite and the answer is the sentinel `-1`, or the answer is a finite
admissible candidate whose value dominates the value of every other -/
theorem meetupRun_from_sentinel {le : α → α → Prop} {ok : α → Prop} (O : GtOrder le ok) (h0 : ok (Score.negInf : α))
    (ops : MeetOps α) (sb eb n : Nat) (F B : Nat → States α) (fin : Nat → Int → Bool)
    (hc : ∀ k t, Adm n k t → ok (candOf ops sb eb F B (decide (k = n)) k t).1 ∧
      (fin k t = true ↔ ¬ le (candOf ops sb eb F B (decide (k = n)) k t).1 Score.negInf)) :
    let r := meetupRun ops sb eb ((List.range (n + 1)).map F) ((List.range (n + 1)).map B)
    (r.transition = -1 ∧ ∀ k t, Adm n k t → fin k t = false) ∨
    (∃ k t, Adm n k t ∧ fin k t = true ∧ r.meet = ((sb + k : Nat) : Int) ∧ r.transition = t ∧
      ∀ k' t', Adm n k' t' →
        le (candOf ops sb eb F B (decide (k' = n)) k' t').1 (candOf ops sb eb F B (decide (k = n)) k t).1) := by
  intro r
  have hr : r = (let a := tryAll ⟨Score.negInf, -1, -1⟩ (cellList (candOf ops sb eb F B) 0 n); ⟨a.c, a.transition, a.max⟩) :=
    meetupRun_eq ops sb eb n F B
  have hmem := fun c => mem_allCands ops sb eb F B c n
  rw [hr]
  rcases tryAll_from_sentinel O h0 (fun c => fin (c.2.2 - sb) c.2.1) (cellList (candOf ops sb eb F B) 0 n) (by
    intro c hcm
    obtain ⟨k, t, hadm, rfl⟩ := (hmem c).1 hcm
    simp only [candOf, Nat.add_sub_cancel_left]
    exact hc k t hadm) with ⟨e, hnone⟩ | ⟨c, hcm, hP, e, hdom⟩
  · refine Or.inl ⟨by simp only [e], fun k t hadm => ?_⟩
    have := hnone _ ((hmem _).2 ⟨k, t, hadm, rfl⟩)
    simpa only [candOf, Nat.add_sub_cancel_left] using this
  · obtain ⟨k, t, hadm, rfl⟩ := (hmem c).1 hcm
    simp only [candOf, Nat.add_sub_cancel_left] at hP
    exact Or.inr ⟨k, t, hadm, hP, by simp only [e, candOf], by simp only [e, candOf],
      fun k' t' hadm' => hdom _ ((hmem _).2 ⟨k', t', hadm', rfl⟩)⟩

end

def candAcc (c : ExactScore × Int × Nat) : MeetAcc ExactScore := ⟨c.1, c.2.1, c.2.2⟩

theorem exGtOrder : GtOrder ole (fun _ : ExactScore => True) :=
  ⟨fun x y _ _ => ex_gt x y, ole_trans, ole_total⟩

theorem tryAll_spec (cands : List (ExactScore × Int × Nat)) (acc : MeetAcc ExactScore) :
    (tryAll acc cands = acc ∧ ∀ c ∈ cands, ole c.1 acc.max) ∨
    (∃ pre c post, cands = pre ++ c :: post ∧ tryAll acc cands = candAcc c ∧ ¬ ole c.1 acc.max ∧
      (∀ d ∈ pre, ¬ ole c.1 d.1) ∧ (∀ d ∈ post, ole d.1 c.1)) :=
  tryAll_first exGtOrder cands acc trivial (fun _ _ => trivial)

theorem tryAll_ge (cands : List (ExactScore × Int × Nat)) (acc : MeetAcc ExactScore) :
    ∀ c ∈ cands, ole c.1 (tryAll acc cands).max :=
  tryAll_le exGtOrder cands acc trivial (fun _ _ => trivial)

/-- what the meetup subtracts for transition `t` at cell `k` (`cF` = configuration of the forward kernel) -/
def joinCost (cF : KCfg) (t : Int) (k : Nat) : Int :=
  if t = 1 then 0
  else if t = 6 then
    (if k < cF.n then (if cF.tF then cF.tgpe else cF.gpe) else (if cF.tL then cF.tgpe else cF.gpe))
  else cF.gpo

/-- the tie-break term `|endb + startb - 2 i|` (units of 1/2000) at cell `k`, `i = startb + k` -/
def tieOf (sb eb k : Nat) : Int := (((eb : Int) + (sb : Int) - 2 * ((sb + k : Nat) : Int)).natAbs : Int)

def meetVal (cF : KCfg) (sb eb : Nat) (t : Int) (k : Nat) (x y : Option Int) : Option Int :=
  osub (osub (oplus x y) (joinCost cF t k)) (tieOf sb eb k)

def mkCand (cF : KCfg) (sb eb : Nat) (F B : Nat → States ExactScore) (k : Nat) (t : Int) :
    ExactScore × Int × Nat :=
  (meetVal cF sb eb t k ((F k).get (fkOf t)) ((B k).get (bkOf t)), t, sb + k)

def candList (cF : KCfg) (sb eb : Nat) (F B : Nat → States ExactScore) : Nat → Nat → List (ExactScore × Int × Nat)
  | k, 0 => [3, 6].map (mkCand cF sb eb F B k)
  | k, d + 1 => [1, 2, 3, 5, 6, 7].map (mkCand cF sb eb F B k) ++ candList cF sb eb F B (k + 1) d

theorem ex_tie (sb eb i : Nat) :
    (Score.tie (sb : Int) (eb : Int) (i : Int) : ExactScore) = some ((((eb : Int) + (sb : Int) - 2 * (i : Int)).natAbs : Nat) : Int) :=
  rfl

theorem candList_eq_cellList (cF : KCfg) (sb eb : Nat) (F B : Nat → States ExactScore) :
    ∀ d k, candList cF sb eb F B k d = cellList (fun _ => mkCand cF sb eb F B) k d := by
  intro d
  induction d with
  | zero => intro k; rfl
  | succ d ih => intro k; rw [candList, cellList, ih (k + 1)]

/-- the join functions of the sequence–sequence meetup subtract what `joinCost` names -/
theorem ssJoin_eq {ap : AlnParam ExactScore} {gpo gpe tgpe : Int} {s : Nat → Nat → Int} (h : ApOK ap gpo gpe tgpe s)
    (seq1 seq2 : Array Nat) (r : Rect) (i k : Nat) {t : Int} (ht : t = 1 ∨ t = 2 ∨ t = 3 ∨ t = 5 ∨ t = 6 ∨ t = 7) (last : Bool)
    (hlast : last = true ↔ ¬ k < r.endb - r.startb) (x : ExactScore) :
    (ssMeetOps ap r).join last i t x = osub x (joinCost (cfgF gpo gpe tgpe s seq1 seq2 r) t k) := by
  -- every transition but 6 subtracts `gpo` (1: nothing); 6 is left
  rcases ht with rfl | rfl | rfl | rfl | rfl | rfl <;>
    simp only [MeetOps.join, ssMeetOps, joinCost, cfgF, Int.reduceEq, if_false, if_true, h.gpo, ex_sub_some, osub_zero]
  cases last
  · have hk : k < r.endb - r.startb := Classical.not_not.1 fun hk => Bool.false_ne_true (hlast.2 hk)
    by_cases h0 : (r.startb == 0) = true
    · simp only [hk, h0, if_true, Bool.false_eq_true, if_false, h.tgpe, ex_sub_some]
    · simp only [hk, h0, if_true, Bool.false_eq_true, if_false, h.gpe, ex_sub_some]
  · by_cases h0 : (r.endb == r.lenB) = true
    · simp only [hlast.1 rfl, h0, if_true, if_false, h.tgpe, ex_sub_some]
    · simp only [hlast.1 rfl, h0, if_true, if_false, Bool.false_eq_true, h.gpe, ex_sub_some]

theorem ssCands_eq (ap : AlnParam ExactScore) (gpo gpe tgpe : Int) (s : Nat → Nat → Int)
    (h : ApOK ap gpo gpe tgpe s) (seq1 seq2 : Array Nat) (r : Rect) (F B : Nat → States ExactScore) :
    ∀ d k, k + d = r.endb - r.startb →
      cellList (candOf (ssMeetOps ap r) r.startb r.endb F B) k d =
        candList (cfgF gpo gpe tgpe s seq1 seq2 r) r.startb r.endb F B k d := by
  intro d k hk
  rw [candList_eq_cellList]
  apply cellList_congr
  intro j t hadm
  have hj := hadm.le
  simp only [candOf, mkCand, meetVal, tieOf, ← Int.natCast_add, ex_tie, ex_sub_some, ex_add_eq]
  rw [ssJoin_eq h seq1 seq2 r _ (k + j) hadm.valid _ (by simp only [decide_eq_true_eq]; omega)]

theorem mem_candList_zero (cF : KCfg) (sb eb : Nat) (F B : Nat → States ExactScore) (n : Nat)
    (c : ExactScore × Int × Nat) :
    c ∈ candList cF sb eb F B 0 n ↔ ∃ k t, Adm n k t ∧ c = mkCand cF sb eb F B k t := by
  rw [candList_eq_cellList, mem_cellList]
  simp only [Nat.zero_add]

end Kalign

import KalignModel.Lemmas.Walk
/-!
# A kernel on a sub-rectangle reads like the kernel on the whole problem

`walk_local_global`: a kernel configuration `cL` for a sub-rectangle placed at offset `(oa, ob)` inside the
configuration `cG` of the whole problem (both flags of `cG` set) walks a column list with the same charges as `cG`
does from the shifted node — provided the *row* test of the kernel is right for this rectangle:

    first row of the rectangle:  (ob = 0 ↔ oa = 0)  or the walk is in kind `GB`

(the kernel decides "a gap-in-a run in my first row is terminal" by `startb == 0`, the truth is `starta == 0`; the
recursion only reaches rectangles where the two agree or where no gap-in-a column can stand in the first row).
-/
namespace Kalign

structure SubCfg (cL cG : KCfg) (oa ob : Nat) : Prop where
  ob_add_n_le : ob + cL.n ≤ cG.n
  n_pos : 1 ≤ cL.n
  tF : cL.tF = true ↔ ob = 0
  tL : cL.tL = true ↔ ob + cL.n = cG.n
  gF : cG.tF = true
  gL : cG.tL = true
  gpo : cL.gpo = cG.gpo
  gpe : cL.gpe = cG.gpe
  tgpe : cL.tgpe = cG.tgpe
  sc : ∀ p k, cL.sc p k = cG.sc (oa + p) (ob + k)

theorem SubCfg.termA {cL cG : KCfg} {oa ob : Nat} (h : SubCfg cL cG oa ob) (p : Nat)
    (hrow : p = 0 → (ob = 0 ↔ oa = 0)) : cL.termA p = cG.termA (oa + p) := by
  have hF := h.tF
  have hG := h.gF
  rw [Bool.eq_iff_iff]
  simp only [KCfg.termA, Bool.and_eq_true, decide_eq_true_eq, hG, and_true]
  constructor
  · rintro ⟨hp, ht⟩
    have := (hrow hp).mp (hF.mp ht)
    omega
  · intro hz
    have hp : p = 0 := by omega
    exact ⟨hp, hF.mpr ((hrow hp).mpr (by omega))⟩

theorem SubCfg.termB {cL cG : KCfg} {oa ob : Nat} (h : SubCfg cL cG oa ob) (k : Nat) (hk : k ≤ cL.n) :
    cL.termB k = cG.termB (ob + k) := by
  have hF := h.tF
  have hL := h.tL
  have hn := h.ob_add_n_le
  have h1 := h.n_pos
  rw [Bool.eq_iff_iff]
  simp only [KCfg.termB, Bool.or_eq_true, Bool.and_eq_true, decide_eq_true_eq, h.gF, h.gL, and_true]
  constructor
  · rintro (⟨hk0, ht⟩ | ⟨hkn, ht⟩)
    · left; have := hF.mp ht; omega
    · right; have := hL.mp ht; omega
  · rintro (hz | hz)
    · left; exact ⟨by omega, hF.mpr (by omega)⟩
    · right
      have hkn : k = cL.n := by omega
      exact ⟨hkn, hL.mpr (by omega)⟩

theorem walk_local_global {cL cG : KCfg} {oa ob : Nat} (h : SubCfg cL cG oa ob) (X : List Col) (p k : Nat) (st : Kind)
    (hok : walkOK cL p k st X = true) (hrow : p = 0 → ((ob = 0 ↔ oa = 0) ∨ st = .GB)) :
    walkOK cG (oa + p) (ob + k) st X = true ∧ walkSc cL p k st X = walkSc cG (oa + p) (ob + k) st X := by
  induction X generalizing p k st with
  | nil => exact ⟨rfl, rfl⟩
  | cons c cs ih =>
    simp only [walkOK, Bool.and_eq_true] at hok
    obtain ⟨hstep, hrest⟩ := hok
    have hn := h.ob_add_n_le
    have hp' : oa + stepP p c = stepP (oa + p) c := by cases c <;> simp [stepP] <;> omega
    have hk' : ob + stepK k c = stepK (ob + k) c := by cases c <;> simp [stepK] <;> omega
    have hrow' : stepP p c = 0 → ((ob = 0 ↔ oa = 0) ∨ colKind st c = .GB) := by
      intro hz
      cases c with
      | both => simp [stepP] at hz
      | gapB => simp [stepP] at hz
      | skip => simp [stepOK] at hstep
      | gapA =>
        simp only [stepP] at hz
        simp only [stepOK, Bool.and_eq_true, bne_iff_ne, ne_eq] at hstep
        rcases hrow hz with h' | h'
        · exact Or.inl h'
        · exact absurd h' hstep.2
    obtain ⟨ih1, ih2⟩ := ih _ _ _ hrest hrow'
    rw [hp', hk'] at ih1 ih2
    simp only [walkOK, walkSc, Bool.and_eq_true]
    refine ⟨⟨?_, ih1⟩, ?_⟩
    · cases c with
      | skip => simp [stepOK] at hstep
      | both => simp only [stepOK, decide_eq_true_eq] at hstep ⊢; omega
      | gapA =>
        simp only [stepOK, Bool.and_eq_true, decide_eq_true_eq, bne_iff_ne, ne_eq] at hstep ⊢
        exact ⟨by omega, hstep.2⟩
      | gapB =>
        simp only [stepOK, Bool.and_eq_true, decide_eq_true_eq, bne_iff_ne, ne_eq] at hstep ⊢
        exact ⟨by omega, hstep.2⟩
    · rw [ih2]
      congr 1
      cases c with
      | skip => rfl
      | both => simp only [stepSc, h.sc, h.gpo]
      | gapA =>
        simp only [stepOK, Bool.and_eq_true, decide_eq_true_eq, bne_iff_ne, ne_eq] at hstep
        have hr : p = 0 → (ob = 0 ↔ oa = 0) := fun hz => by
          rcases hrow hz with h' | h'
          · exact h'
          · exact absurd h' hstep.2
        simp only [stepSc, h.termA p hr, h.gpo, h.gpe, h.tgpe]
      | gapB =>
        simp only [stepOK, Bool.and_eq_true, decide_eq_true_eq, bne_iff_ne, ne_eq] at hstep
        simp only [stepSc, h.termB k hstep.1, h.gpo, h.gpe, h.tgpe]

end Kalign

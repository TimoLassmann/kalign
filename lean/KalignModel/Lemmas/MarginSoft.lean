import KalignModel.Lemmas.Margin
import KalignModel.Lemmas.SoftOptCut
import KalignModel.Lemmas.SoftScale
/-!
# The safe margin on binary32

`scaledS_runOK`: whatever operands give the kernels of `(a, b)` under `scaleParamS ap K` (dyadic parameters, `K·U < 2²⁴`), the binary32 run writes the path of `P`
under the `K`-scaled margin `MarginK … K (len_b + 1000)`: the binary32 slack of 0.5 score units is part of the tie bound and is not scaled.  `SizeOKS`: the size
condition for both orientations of `do_align`.
-/
namespace Kalign
open SoftF32

abbrev RunOKS (entry : Entry) (ap : AlnParam SoftF32) (ops : Operands SoftF32) (la lb : Nat) (P : List Col) : Prop :=
  RunOK entry ap ops la lb P

theorem ss_runOKS (entry : Entry) (U : Nat) (ap : AlnParam SoftF32) (apE : AlnParam ExactScore) (gpo gpe tgpe : Int)
    (s : Nat → Nat → Int) (seq1 seq2 : Array Nat) (P : List Col)
    (H : OptHypS U ap apE gpo gpe tgpe s seq1 seq2 seq1.size seq2.size P) :
    RunOKS entry ap (.seqseq seq1 seq2) seq1.size seq2.size P :=
  alnRun_path H.cutHyp entry

/-! As on the exact carrier (`scaled_runOK`): `ops` gives the kernels of `(a, b)` under a dyadic parameter set `ap'` (exact image `apE'`,
bound `U'`) whose scores are `K` times `gpo`, `gpe`, `tgpe`, `s`. -/

section
variable (entry : Entry) (U' : Nat) (ap ap' : AlnParam SoftF32) (apE' : AlnParam ExactScore) (hd' : DyadicParam U' ap' apE')
  (gpo gpe tgpe : Int) (s : Nat → Nat → Int) (K : Nat)
  (hap' : ApOK apE' (K * gpo) (K * gpe) (K * tgpe) (fun x y => (K : Int) * s x y))
  (hgpo : 0 ≤ gpo) (hgpe : 0 ≤ gpe) (htgpe : 0 ≤ tgpe) (ops : Operands SoftF32) (a b : Array Nat) (P : List Col)
include hd' hap' hgpo hgpe htgpe

theorem optHypS_scaled (hV : ValidCols P a.size b.size) (hadj : adjOK .A P = true)
    (hsz : U' * (a.size + b.size + 1) + b.size / 1000 + 1 < 16777216 ∧ b.size < 4194304)
    (hm : MarginK s gpo gpe tgpe a b P K (b.size + 1000)) :
    OptHypS U' ap' apE' ((K : Int) * gpo) ((K : Int) * gpe) ((K : Int) * tgpe) (fun x y => (K : Int) * s x y)
      a b a.size b.size P := by
  exact ⟨hd', hap', Int.mul_nonneg (Int.natCast_nonneg K) hgpo, Int.mul_nonneg (Int.natCast_nonneg K) hgpe,
    Int.mul_nonneg (Int.natCast_nonneg K) htgpe, hsz.1, hsz.2, hadj, hV.2.1, hV.2.2, hm.walk (by omega)⟩

theorem scaled_runOKS (hK : realKernels ap ops a.size b.size = realKernels ap' (.seqseq a b) a.size b.size)
    (hV : ValidCols P a.size b.size) (hadj : adjOK .A P = true)
    (hsz : U' * (a.size + b.size + 1) + b.size / 1000 + 1 < 16777216 ∧ b.size < 4194304)
    (hm : MarginK s gpo gpe tgpe a b P K (b.size + 1000)) : RunOKS entry ap ops a.size b.size P :=
  RunOK.of_kernels hK (ss_runOKS entry U' ap' apE' _ _ _ _ a b P
    (optHypS_scaled U' ap' apE' hd' gpo gpe tgpe s K hap' hgpo hgpe htgpe a b P hV hadj hsz hm))

end

section
variable (entry : Entry) (U : Nat) (ap : AlnParam SoftF32) (apE : AlnParam ExactScore) (hd : DyadicParam U ap apE)
  (gpo gpe tgpe : Int) (s : Nat → Nat → Int) (hap : ApOK apE gpo gpe tgpe s) (hgpo : 0 ≤ gpo) (hgpe : 0 ≤ gpe) (htgpe : 0 ≤ tgpe)
include hd hap hgpo hgpe htgpe

theorem scaledS_runOK (K : Nat) (hK1 : 1 ≤ K) (hK : K < 16777216) (hKU : K * U < 16777216) (ap₀ : AlnParam SoftF32)
    (ops : Operands SoftF32) (a b : Array Nat)
    (hker : realKernels ap₀ ops a.size b.size = realKernels (scaleParamS ap K) (.seqseq a b) a.size b.size)
    (P : List Col) (hV : ValidCols P a.size b.size) (hadj : adjOK .A P = true)
    (hsz : (K * U) * (a.size + b.size + 1) + b.size / 1000 + 1 < 16777216 ∧ b.size < 4194304)
    (hm : MarginK s gpo gpe tgpe a b P K (b.size + 1000)) : RunOKS entry ap₀ ops a.size b.size P :=
  scaled_runOKS entry (K * U) ap₀ (scaleParamS ap K) (scaleParam apE K) (dyadic_scale hd hK1 hK hKU) gpo gpe tgpe s K
    (scaleParam_ok apE gpo gpe tgpe s hap K) hgpo hgpe htgpe ops a b P hker hV hadj hsz hm

end

/-- the column codes `do_align` computes on `SoftF32` from the operands it hands to the controller (the `SoftF32` instance of
`dpCodesOf`, i.e. the lines of `Model/DoAlign.lean` between `initMem` and `expandPath`) -/
def dpCodesS (entry : Entry) (ap : AlnParam SoftF32) (ops : Operands SoftF32) (swapped : Bool)
    (la lb lenA lenB : Nat) : Option (List Nat) :=
  let m := alnRun entry ap ops la lb (initMem la lb)
  if m.fault then none
  else
    let raw := m.pathEntries la
    let path := if swapped then mirrorPath lenA raw else raw
    expandPath lenB path

theorem dp_unswappedS (entry : Entry) (ap : AlnParam SoftF32) (ops : Operands SoftF32) (lenA lenB : Nat)
    (P : List Col) (hrun : RunOKS entry ap ops lenA lenB P)
    (hV : ValidCols P lenA lenB) (hadj : adjOK .A P = true) (h1 : 1 ≤ lenA) (h2 : 1 ≤ lenB) :
    ∃ codes, dpCodesS entry ap ops false lenA lenB lenA lenB = some codes ∧ codes.map Col.ofCode = P :=
  dp_unswapped entry ap ops lenA lenB P hrun hV hadj h1 h2

theorem dp_swappedS (entry : Entry) (ap : AlnParam SoftF32) (ops : Operands SoftF32) (lenA lenB : Nat)
    (P : List Col) (hrun : RunOKS entry ap ops lenB lenA (P.map Col.swap))
    (hV : ValidCols P lenA lenB) (hadj : adjOK .A P = true) (h1 : 1 ≤ lenA) (h2 : 1 ≤ lenB) :
    ∃ codes, dpCodesS entry ap ops true lenB lenA lenA lenB = some codes ∧ codes.map Col.ofCode = P :=
  dp_swapped entry ap ops lenA lenB P hrun hV hadj h1 h2

theorem optHypS_plain (U : Nat) (ap : AlnParam SoftF32) (apE : AlnParam ExactScore) (hd : DyadicParam U ap apE)
    (gpo gpe tgpe : Int) (s : Nat → Nat → Int) (hap : ApOK apE gpo gpe tgpe s) (hgpo : 0 ≤ gpo) (hgpe : 0 ≤ gpe)
    (htgpe : 0 ≤ tgpe) (a b : Array Nat) (P : List Col) (hV : ValidCols P a.size b.size) (hadj : adjOK .A P = true)
    (hsz : U * (a.size + b.size + 1) + b.size / 1000 + 1 < 16777216 ∧ b.size < 4194304)
    (hm : MarginK s gpo gpe tgpe a b P 1 (b.size + 1000)) :
    OptHypS U ap apE gpo gpe tgpe s a b a.size b.size P := by
  have := optHypS_scaled U ap apE hd gpo gpe tgpe s 1 (by simpa only [Int.natCast_one, Int.one_mul] using hap) hgpo hgpe htgpe
    a b P hV hadj hsz hm
  simpa only [Int.natCast_one, Int.one_mul] using this

def SizeOKS (K U : Nat) (a b : Array Nat) : Prop :=
  (K * U) * (a.size + b.size + 1) + max a.size b.size / 1000 + 1 < 16777216 ∧ max a.size b.size < 4194304

theorem SizeOKS.ab {K U : Nat} {a b : Array Nat} (h : SizeOKS K U a b) :
    (K * U) * (a.size + b.size + 1) + b.size / 1000 + 1 < 16777216 ∧ b.size < 4194304 := by
  obtain ⟨h1, h2⟩ := h
  have : b.size / 1000 ≤ max a.size b.size / 1000 := Nat.div_le_div_right (by omega)
  exact ⟨by omega, by omega⟩

theorem SizeOKS.ba {K U : Nat} {a b : Array Nat} (h : SizeOKS K U a b) :
    (K * U) * (b.size + a.size + 1) + a.size / 1000 + 1 < 16777216 ∧ a.size < 4194304 := by
  obtain ⟨h1, h2⟩ := h
  have : a.size / 1000 ≤ max a.size b.size / 1000 := Nat.div_le_div_right (by omega)
  rw [Nat.add_comm b.size a.size]
  exact ⟨by omega, by omega⟩

theorem SizeOKS.diag {K U : Nat} {seq : Array Nat}
    (hsize : (K * U) * (seq.size + seq.size + 1) + seq.size / 1000 + 1 < 16777216) (hlen : seq.size < 4194304) :
    SizeOKS K U seq seq :=
  ⟨by rw [Nat.max_self]; exact hsize, by rw [Nat.max_self]; exact hlen⟩

theorem diag_marginS (gpo gpe tgpe : Int) (s : Nat → Nat → Int) (seq : Array Nat) (K : Nat) (hK : 1 ≤ K)
    (hdg : ∀ x ∈ seq.toList,
      slackST gpo gpe tgpe + ((seq.size : Int) + 1000) < s x x + 2 * min (min (2 * gpo) gpe) tgpe)
    (h2 : ∀ x ∈ seq.toList, ∀ y ∈ seq.toList, 2 * s x y ≤ s x x + s y y) :
    MarginK s gpo gpe tgpe seq seq (diagCols seq.size) K (seq.size + 1000) :=
  diag_marginK gpo gpe tgpe s seq K (seq.size + 1000) hK (by rw [Int.natCast_add]; exact hdg) h2

theorem size_bounds {K U n : Nat} (hK : 1 ≤ K) (hU : 2 ≤ U) (h : (K * U) * (n + n + 1) + n / 1000 + 1 < 16777216) :
    K < 8388608 ∧ K * U < 16777216 ∧ n < 4194304 := by
  have hb : K * U * 3 ≤ (K * U) * (n + n + 1) ∨ n = 0 := by
    by_cases hn : n = 0
    · exact Or.inr hn
    · exact Or.inl (Nat.mul_le_mul_left _ (by omega))
  have h1 : K * U * 1 ≤ (K * U) * (n + n + 1) := Nat.mul_le_mul_left _ (by omega)
  have hs : 1 * 2 * (n + n + 1) ≤ (K * U) * (n + n + 1) := Nat.mul_le_mul_right _ (Nat.mul_le_mul hK hU)
  have hk : K * 2 ≤ K * U := Nat.mul_le_mul_left _ hU
  omega

end Kalign

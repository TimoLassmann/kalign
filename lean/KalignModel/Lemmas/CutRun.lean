import KalignModel.Lemmas.PathCols
import KalignModel.Lemmas.NoFaultRun
import KalignModel.Lemmas.SubLevel
import KalignModel.Lemmas.Walk
/-!
# The controller writes the path of `P` (`RunOK`) whenever every meetup it runs returns a cut of `P` (`CutHyp`)

`pth P i` is entry `i` of the array `m->path` that the controller has to write for the column list `P` (`pathFrom`).  The invariant
of the recursion: the rectangle of a call lies on `P` with the boundary kinds the call was given (`RectOn`, `Decomp`), the path entries
are still −1 or already those of `P` (`Good`, `Frame`), the arrays are large enough (`Sized`, the `MemCore` of Lemmas/NoFaultRun.lean); `CutHyp` is all the induction needs
of the kernels.  `Run.cut`: every call on a rectangle of `P` completes the entries of that rectangle and no call of the run is
skipped, so that `aln_runner` computes the same memory (`runner_eq_serial_cut`); from the memory of `init_alnmem`: `alnRun_path`.
-/
namespace Kalign

/-- entry `i` (1-based) of the Hirschberg path of the column list `P` -/
def pth (P : List Col) (i : Int) : Int := (pathFrom 0 P).getD (i.toNat - 1) (-1)

theorem pth_of_entry (P : List Col) (n : Nat) (v : Int) (h : (pathFrom 0 P)[n]? = some v) :
    pth P ((n + 1 : Nat) : Int) = v := by
  unfold pth
  simp only [Int.toNat_natCast, Nat.add_sub_cancel]
  rw [List.getD_eq_getElem?_getD, h]; rfl

theorem eq_snoc_of_lastKind (Y : List Col) (hs : Col.skip ∉ Y) (hne : Y ≠ []) :
    ∃ Y' c, Y = Y' ++ [c] ∧ c ≠ .skip ∧ lastKind .A Y = colKind .A c := by
  rcases List.eq_nil_or_concat Y with h0 | ⟨Y', c, hY⟩
  · exact absurd h0 hne
  · refine ⟨Y', c, by rw [hY, List.concat_eq_append], ?_, ?_⟩
    · intro hc; apply hs; rw [hY, hc]; simp
    · rw [hY, List.concat_eq_append, lastKind_snoc]
      have hc : c ≠ .skip := by intro hc; apply hs; rw [hY, hc]; simp
      exact colKind_indep _ _ _ hc

theorem pth_before (Y1 Y2 : List Col) (hs : Col.skip ∉ Y1) :
    (lastKind .A Y1 = .A → 1 ≤ consA Y1 → pth (Y1 ++ Y2) (consA Y1 : Nat) = (consB Y1 : Nat)) ∧
    (lastKind .A Y1 = .GB → pth (Y1 ++ Y2) (consA Y1 : Nat) = -1) := by
  by_cases hne : Y1 = []
  · subst hne
    refine ⟨fun _ h => by simp at h, fun h => by simp [lastKind] at h⟩
  · obtain ⟨Y', c, hY, hc, hk⟩ := eq_snoc_of_lastKind Y1 hs hne
    subst hY
    have happ : Y' ++ [c] ++ Y2 = Y' ++ c :: Y2 := by simp
    constructor
    · intro hA _
      rw [hk] at hA
      have hcb : c = .both := by cases c <;> simp_all [colKind]
      subst hcb
      have := pathFrom_entry Y' Y2 .both (Or.inl rfl)
      rw [happ, consA_append, consB_append]
      simp only [consA_both, consA_nil, consB_both, consB_nil, Nat.zero_add]
      have h2 := pth_of_entry _ _ _ this
      simpa using h2
    · intro hG
      rw [hk] at hG
      have hcb : c = .gapB := by cases c <;> simp_all [colKind]
      subst hcb
      have := pathFrom_entry Y' Y2 .gapB (Or.inr rfl)
      rw [happ, consA_append]
      simp only [consA_gapB, consA_nil, Nat.zero_add]
      have h2 := pth_of_entry _ _ _ this
      simpa using h2

theorem pth_after (Y1 Y2 : List Col) (hs : Col.skip ∉ Y2) (hne : Y2 ≠ []) :
    (firstKind .A Y2 = .A → pth (Y1 ++ Y2) ((consA Y1 + 1 : Nat) : Int) = ((consB Y1 + 1 : Nat) : Int)) ∧
    (firstKind .A Y2 = .GB → pth (Y1 ++ Y2) ((consA Y1 + 1 : Nat) : Int) = -1) := by
  cases Y2 with
  | nil => exact absurd rfl hne
  | cons c cs =>
    constructor
    · intro hA
      have hcb : c = .both := by cases c <;> simp_all [firstKind, colKind]
      subst hcb
      have := pathFrom_entry Y1 cs .both (Or.inl rfl)
      have h2 := pth_of_entry _ _ _ this
      simpa using h2
    · intro hG
      have hcb : c = .gapB := by cases c <;> simp_all [firstKind, colKind]
      subst hcb
      have := pathFrom_entry Y1 cs .gapB (Or.inr rfl)
      have h2 := pth_of_entry _ _ _ this
      simpa using h2

theorem pathFrom_all_gapB (j : Nat) (X : List Col) (hs : Col.skip ∉ X) (hB : consB X = 0) :
    pathFrom j X = List.replicate (consA X) (-1) := by
  induction X with
  | nil => rfl
  | cons c cs ih =>
    have hs' : Col.skip ∉ cs := fun h => hs (List.mem_cons_of_mem _ h)
    cases c with
    | skip => exact absurd (by simp) hs
    | both => simp at hB
    | gapA => simp at hB
    | gapB =>
      simp only [consB_gapB] at hB
      simp only [pathFrom, ih hs' hB, consA_gapB, List.replicate_succ]

theorem pth_all_gapB (P1 X P2 : List Col) (hs : Col.skip ∉ X) (hB : consB X = 0) (i : Int)
    (h1 : (consA P1 : Int) < i) (h2 : i ≤ ((consA P1 + consA X : Nat) : Int)) : pth (P1 ++ X ++ P2) i = -1 := by
  unfold pth
  rw [List.append_assoc, pathFrom_append, pathFrom_append, pathFrom_all_gapB _ X hs hB]
  have hi : i.toNat - 1 = consA P1 + (i.toNat - 1 - consA P1) := by omega
  rw [hi, List.getD_eq_getElem?_getD, List.getElem?_append_right (by rw [length_pathFrom]; omega), length_pathFrom,
    Nat.add_sub_cancel_left, List.getElem?_append_left (by simp; omega)]
  rw [List.getElem?_replicate]
  split <;> rfl

/-- the rectangle `(sa..ea) × (sb..eb)` with boundary kinds `fk`, `bk` lies on the column list `P`:
`P = P1 ++ X ++ P2` with `P1` ending at the near corner in kind `fk`, `P2` starting at the far corner in kind `bk`;
and the kernels' terminal tests are right for this rectangle.  With the middle row of a call that does not stop it makes a `Level`
(`Level.ofRect`, Lemmas/SubLevel.lean, which takes the two extents as differences: `rect_arith`). -/
def RectOn (P : List Col) (lenA lenB : Nat) (sa ea sb eb : Nat) (fk bk : Kind) : Prop :=
  ∃ P1 X P2, P = P1 ++ X ++ P2 ∧ consA P1 = sa ∧ consB P1 = sb ∧ consA X + sa = ea ∧ consB X + sb = eb ∧
    lastKind .A P1 = fk ∧ firstKind .A P2 = bk ∧
    ((sb = 0 ↔ sa = 0) ∨ fk = .GB) ∧ ((eb = lenB ↔ ea = lenA) ∨ bk = .GB)

theorem rectOn_fwd (P : List Col) (lenA lenB : Nat) (P1 X1 Y2 : List Col) (sa mid sb k : Nat) (fk u : Kind)
    (hP : P = P1 ++ X1 ++ Y2) (hs : Col.skip ∉ X1)
    (hP1a : consA P1 = sa) (hP1b : consB P1 = sb) (hX1a : consA X1 + sa = mid) (hX1b : consB X1 = k)
    (hfk : lastKind .A P1 = fk) (hu : lastKind fk X1 = u)
    (hInvF : (sb = 0 ↔ sa = 0) ∨ fk = .GB) (hmid : mid < lenA) (hkb : sb + k ≤ lenB) (hne : X1 ≠ []) :
    ∃ a2 b2 : Nat, (a2 : Int) = (mid : Int) - da u ∧ (b2 : Int) = ((sb + k : Nat) : Int) - db u ∧
      RectOn P lenA lenB sa a2 sb b2 fk u ∧ a2 ≤ mid ∧ b2 ≤ sb + k := by
  rcases List.eq_nil_or_concat X1 with h0 | ⟨X', c, hX⟩
  · exact absurd h0 hne
  · rw [List.concat_eq_append] at hX
    subst hX
    have hc : c ≠ .skip := fun h => hs (by simp [h])
    rw [lastKind_snoc] at hu
    rw [consA_snoc] at hX1a
    rw [consB_snoc] at hX1b
    have h1 := stepP_da (lastKind fk X') c hc
    have h2 := stepK_db (lastKind fk X') c hc
    rw [hu] at h1 h2
    refine ⟨consA X' + sa, consB X' + sb, by omega, by omega, ?_, by omega, by omega⟩
    refine ⟨P1, X', c :: Y2, by rw [hP]; simp, hP1a, hP1b, rfl, rfl, hfk, ?_, hInvF, ?_⟩
    · rw [firstKind_cons_noskip .A (lastKind fk X') c Y2 hc]; exact hu
    · -- the far corner of the child is not the far corner of the problem, unless it ends in a gap-in-b column
      cases c with
      | skip => exact absurd rfl hc
      | gapB => right; rw [← hu]; rfl
      | both => left; simp only [stepP, stepK] at hX1a hX1b; omega
      | gapA => left; simp only [stepP, stepK] at hX1a hX1b; omega

theorem rectOn_bwd (P : List Col) (lenA lenB : Nat) (Y1 X2 P2 : List Col) (mid ea meet eb : Nat) (bk v : Kind)
    (hP : P = Y1 ++ X2 ++ P2) (hs : Col.skip ∉ X2)
    (hY1a : consA Y1 = mid) (hY1b : consB Y1 = meet) (hX2a : consA X2 + mid = ea) (hX2b : consB X2 + meet = eb)
    (hbk : firstKind .A P2 = bk) (hv : firstKind .A X2 = v)
    (hInvB : (eb = lenB ↔ ea = lenA) ∨ bk = .GB) (hvGA : v = .GA → 1 ≤ mid) (hne : X2 ≠ []) :
    ∃ a1 b1 : Nat, (a1 : Int) = (mid : Int) + da v ∧ (b1 : Int) = (meet : Int) + db v ∧
      RectOn P lenA lenB a1 ea b1 eb v bk ∧ mid ≤ a1 ∧ meet ≤ b1 ∧ (a1 - mid) + (b1 - meet) ≥ 1 := by
  cases X2 with
  | nil => exact absurd rfl hne
  | cons c X' =>
    have hc : c ≠ .skip := fun h => hs (by simp [h])
    rw [firstKind_cons_noskip .A (lastKind .A Y1) c X' hc] at hv
    rw [consA_cons] at hX2a
    rw [consB_cons] at hX2b
    have h1 := stepP_da (lastKind .A Y1) c hc
    have h2 := stepK_db (lastKind .A Y1) c hc
    rw [hv] at h1 h2
    refine ⟨mid + stepP 0 c, meet + stepK 0 c, by omega, by omega, ?_, by omega, by omega, ?_⟩
    · refine ⟨Y1 ++ [c], X', P2, by rw [hP]; simp, ?_, ?_, by omega, by omega, ?_, hbk, ?_, hInvB⟩
      · rw [consA_snoc]; omega
      · rw [consB_snoc]; omega
      · rw [lastKind_snoc]; exact hv
      · cases c with
        | skip => exact absurd rfl hc
        | gapB => right; rw [← hv]; rfl
        | both => left; simp only [stepP, stepK]; omega
        | gapA =>
          left
          have : 1 ≤ mid := hvGA (by rw [← hv]; rfl)
          simp only [stepP, stepK]; omega
    · cases c with
      | skip => exact absurd rfl hc
      | gapB => simp [stepP]
      | both => simp [stepP]
      | gapA => simp [stepK]

section
variable {φ α : Type}

/-! `K` are the kernels, `sz` the number of slots of a state array, `P` the column list whose path is to be written. -/

def Good (P : List Col) (lenA : Nat) (pe : Int → Int) : Prop :=
  ∀ i : Int, 1 ≤ i → i ≤ lenA → pe i = -1 ∨ pe i = pth P i

def Frame (P : List Col) (lenA : Nat) (pe pe' : Int → Int) : Prop :=
  ∀ i : Int, 1 ≤ i → i ≤ lenA → pe' i = pe i ∨ pe' i = pth P i

theorem Good.frame {P : List Col} {lenA : Nat} {pe pe' : Int → Int} (hG : Good P lenA pe) (hfr : Frame P lenA pe pe') :
    Good P lenA pe' := by
  intro i h1 h2
  rcases hfr i h1 h2 with h | h
  · rw [h]; exact hG i h1 h2
  · exact Or.inr h

/-- no fault, state arrays of at least `lenB + 1` slots, a path array of more than `lenA` entries: the `core` of `CallOK` -/
abbrev Sized (sz : φ → Nat) (lenA lenB : Nat) (x : Mem φ α) : Prop :=
  MemCore (fun a => lenB + 1 ≤ sz a) lenA x

def Decomp (K : Kernels φ α) (P : List Col) (lenA lenB : Nat) (x : Mem φ α) : Prop :=
  ∃ sa ea sb eb : Nat, x.starta = sa ∧ x.enda = ea ∧ x.startb = sb ∧ x.endb = eb ∧
    RectOn P lenA lenB sa ea sb eb x.fk x.bk ∧ K.get0 x.f = K.st x.fk ∧ K.get0 x.b = K.st x.bk

def Pre (K : Kernels φ α) (sz : φ → Nat) (P : List Col) (lenA lenB : Nat) (x : Mem φ α) : Prop :=
  Sized sz lenA lenB x ∧ Good P lenA x.pe ∧ 0 ≤ x.starta ∧
    (x.enda ≤ x.starta ∨ Decomp K P lenA lenB x)

def Post (sz : φ → Nat) (P : List Col) (lenA lenB : Nat) (x r : Mem φ α) : Prop :=
  Sized sz lenA lenB r ∧ Frame P lenA x.pe r.pe ∧ (∀ i : Int, x.starta < i → i ≤ x.enda → r.pe i = pth P i)

theorem Post_refl_deg (sz : φ → Nat) (P : List Col) (lenA lenB : Nat) (x : Mem φ α)
    (hS : Sized sz lenA lenB x) (hdeg : x.enda ≤ x.starta) : Post sz P lenA lenB x x :=
  ⟨hS, fun _ _ _ => Or.inl rfl, fun i h1 h2 => by omega⟩

/-- what the induction over the recursion needs of the kernels: slot 0 of a state array can be written and read back, and
on every level `L` of `P` (`OnEveryLevel`, Lemmas/SubLevel.lean: a rectangle the recursion can reach, with its context), on one-hot
start states of the boundary kinds, one step of the kernels keeps the array sizes and returns an admissible cut `X = X1 ++ X2` of the
part `X` of `P` in the rectangle, transition 2 not in cell 0 -/
structure CutHyp (K : Kernels φ α) (sz : φ → Nat) (lenA lenB : Nat) (P : List Col) : Prop extends
    OnEveryLevel lenA lenB P fun L X =>
      ∀ f b, lenB + 1 ≤ sz f → lenB + 1 ≤ sz b → K.get0 f = K.st L.fk → K.get0 b = K.st L.bk →
      ∃ X1 X2 k t f' b' sc, K.step f b L.sa L.mid L.ea L.sb L.eb = some ⟨f', b', ((L.sb + k : Nat) : Int), t, sc⟩ ∧
        sz f' = sz f ∧ sz b' = sz b ∧ X = X1 ++ X2 ∧ Adm L.n k t ∧
        consA X1 = L.m1 ∧ consB X1 = k ∧ consA X2 = L.m2 ∧ consB X1 + consB X2 = L.n ∧
        lastKind L.fk X1 = fkOf t ∧ lastKind L.bk X2.reverse = bkOf t ∧ (t = 2 → 1 ≤ k) where
  sz_set0 : ∀ f v, sz (K.set0 f v) = sz f
  get0_set0 : ∀ f v, 0 < sz f → K.get0 (K.set0 f v) = v

end

theorem mid_arith {sa ea : Nat} (h : sa < ea) :
    sa ≤ (ea - sa) / 2 + sa ∧ (ea - sa) / 2 + sa < ea ∧
      ((ea : Int) - (sa : Int)) / 2 + (sa : Int) = (((ea - sa) / 2 + sa : Nat) : Int) := by omega

/-! the arithmetic of `cut_step`, stated apart: `omega` inside its context would split on the terminal-test disjunctions of `RectOn` -/
theorem rect_arith {p1a xa p2a p1b xb p2b sa ea sb eb lenA lenB : Nat} (hAs : p1a + xa + p2a = lenA)
    (hBs : p1b + xb + p2b = lenB) (hP1a : p1a = sa) (hP1b : p1b = sb) (hXa : xa + sa = ea) (hXb : xb + sb = eb) :
    ea ≤ lenA ∧ eb ≤ lenB ∧ xa = ea - sa ∧ xb = eb - sb := by omega

theorem cut_arith {sa mid ea sb eb k lenA lenB a1 a2 b1 b2 : Nat} (h1 : sa ≤ mid) (h2 : mid < ea) (hea : ea ≤ lenA)
    (hb : sb < eb) (heb : eb ≤ lenB) (hA1 : a1 = mid - sa) (hB1 : b1 = k) (hA2 : a2 = ea - mid)
    (hBB : b1 + b2 = eb - sb) :
    a1 + sa = mid ∧ a2 + mid = ea ∧ b2 + (sb + k) = eb ∧ sb + k ≤ lenB ∧ mid < lenA ∧ 1 ≤ a2 ∧ (1 ≤ a1 → 1 ≤ mid) := by
  omega

theorem assemble {P : List Col} {lenA : Nat} {peX pe3 peL peR : Int → Int} {sa mid ea dau dav : Int}
    (h0 : 0 ≤ sa) (hea : ea ≤ lenA)
    (frame3 : Frame P lenA peX pe3) (frameL : Frame P lenA pe3 peL) (frameR : Frame P lenA peL peR)
    (regL : ∀ i : Int, sa < i → i ≤ mid - dau → peL i = pth P i)
    (regR : ∀ i : Int, mid + dav < i → i ≤ ea → peR i = pth P i)
    (midok : ∀ i : Int, 1 ≤ i → i ≤ lenA → mid - dau < i → i ≤ mid + dav → pe3 i = pth P i) :
    Frame P lenA peX peR ∧ ∀ i : Int, sa < i → i ≤ ea → peR i = pth P i := by
  constructor
  · intro i h1 h2
    rcases frameR i h1 h2 with h | h
    · rcases frameL i h1 h2 with h' | h'
      · rcases frame3 i h1 h2 with h'' | h''
        · left; rw [h, h', h'']
        · right; rw [h, h', h'']
      · right; rw [h, h']
    · exact Or.inr h
  · intro i h1 h2
    have hi1 : 1 ≤ i := by omega
    have hi2 : i ≤ lenA := by omega
    by_cases hL : i ≤ mid - dau
    · rcases frameR i hi1 hi2 with h | h
      · rw [h]; exact regL i h1 hL
      · exact h
    · by_cases hR : mid + dav < i
      · exact regR i hR h2
      · have hm := midok i hi1 hi2 (by omega) (by omega)
        rcases frameR i hi1 hi2 with h | h
        · rcases frameL i hi1 hi2 with h' | h'
          · rw [h, h', hm]
          · rw [h, h']
        · exact h

theorem cut_entries (Y1 Y2 : List Col) (lenA mid j : Nat) (u v : Kind) (peX pe3 : Int → Int)
    (hs : Col.skip ∉ Y1 ++ Y2) (hne : Y2 ≠ []) (hcA : consA Y1 = mid) (hcB : consB Y1 = j)
    (hu : lastKind .A Y1 = u) (hv : firstKind .A Y2 = v) (hG : Good (Y1 ++ Y2) lenA peX)
    (hpe : ∀ i : Int, 0 ≤ i → pe3 i =
      if v = .A ∧ i = (mid : Int) + 1 then (j : Int) + 1
      else if u = .A ∧ i = (mid : Int) then (j : Int) else peX i) :
    Frame (Y1 ++ Y2) lenA peX pe3 ∧
      ∀ i : Int, 1 ≤ i → i ≤ lenA → (mid : Int) - da u < i → i ≤ (mid : Int) + da v → pe3 i = pth (Y1 ++ Y2) i := by
  obtain ⟨pb1, pb2⟩ := pth_before Y1 Y2 (fun h => hs (List.mem_append_left _ h))
  obtain ⟨pa1, pa2⟩ := pth_after Y1 Y2 (fun h => hs (List.mem_append_right _ h)) hne
  rw [hu, hcA, hcB] at pb1
  rw [hu, hcA] at pb2
  rw [hv, hcA, hcB, Int.natCast_succ, Int.natCast_succ] at pa1
  rw [hv, hcA, Int.natCast_succ] at pa2
  constructor
  · intro i hi1 hi2
    rw [hpe i (by omega)]
    split
    · rename_i hc
      right
      rw [hc.2]
      exact (pa1 hc.1).symm
    · split
      · rename_i hc
        right
        rw [hc.2]
        exact (pb1 hc.1 (by omega)).symm
      · exact Or.inl rfl
  · intro i hi1 hi2 hi3 hi4
    rw [hpe i (by omega)]
    have hGi := hG i hi1 hi2
    by_cases him : i = (mid : Int)
    · subst him
      rw [if_neg (fun h => by omega)]
      cases u with
      | A => rw [if_pos ⟨rfl, rfl⟩]; exact (pb1 rfl (by omega)).symm
      | GA => simp [da] at hi3
      | GB =>
        rw [if_neg (fun hh => by simp at hh), pb2 rfl]
        rcases hGi with h' | h'
        · exact h'
        · rw [h', pb2 rfl]
    · have him1 : i = (mid : Int) + 1 := by
        rcases da_cases u with ⟨_, h⟩ | ⟨_, h⟩ <;> rcases da_cases v with ⟨_, h'⟩ | ⟨_, h'⟩ <;> omega
      subst him1
      cases v with
      | A => rw [if_pos ⟨rfl, rfl⟩]; exact (pa1 rfl).symm
      | GA => simp [da] at hi4; omega
      | GB =>
        rw [if_neg (fun hh => by simp at hh), if_neg (fun hh => by omega), pa2 rfl]
        rcases hGi with h' | h'
        · exact h'
        · rw [h', pa2 rfl]

/-- transition 2 needs a row above the middle row -/
theorem cut_row_pos (fk : Kind) (X1 : List Col) (k : Nat) (t : Int) (hs : Col.skip ∉ X1)
    (ht : ValidT t) (hl1 : lastKind fk X1 = fkOf t) (hB1 : consB X1 = k)
    (ht2 : t = 2 → 1 ≤ k) (hv : bkOf t = .GA) : 1 ≤ consA X1 := by
  have h2 : t = 2 := by
    rcases ht with h | h | h | h | h | h <;> subst h <;> simp [bkOf] at hv
    rfl
  subst h2
  have hk := ht2 rfl
  exact ((lastKind_A_cases fk X1 hs hl1).resolve_left (fun h => by rw [h] at hB1; simp at hB1; omega)).1

section
variable {φ α : Type}

variable {K : Kernels φ α} {sz : φ → Nat} {P : List Col} {lenA lenB : Nat}

theorem pre_fwd (H : CutHyp K sz lenA lenB P) (m : Mem φ α) (P1 X1 Y2 : List Col) (sa mid sb k : Nat) (fk u : Kind)
    (hS : Sized sz lenA lenB m) (hG : Good P lenA m.pe)
    (hP : P = P1 ++ X1 ++ Y2) (hP1a : consA P1 = sa) (hP1b : consB P1 = sb) (hX1a : consA X1 + sa = mid)
    (hX1b : consB X1 = k) (hfk : lastKind .A P1 = fk) (hu : lastKind fk X1 = u)
    (hInvF : (sb = 0 ↔ sa = 0) ∨ fk = .GB) (hmid : mid < lenA) (hkb : sb + k ≤ lenB) :
    Pre K sz P lenA lenB
      (alnFwd K m (K.st fk) fk u (sa : Int) ((mid : Int) - da u) (sb : Int) (((sb + k : Nat) : Int) - db u)) := by
  obtain ⟨hf, hSf, hSb, hSp⟩ := hS
  refine ⟨⟨hf, ?_, ?_, hSp⟩, hG, Int.natCast_nonneg sa, ?_⟩
  · rw [alnFwd_f, H.sz_set0]; exact hSf
  · rw [alnFwd_b, H.sz_set0]; exact hSb
  · by_cases hX1 : X1 = []
    · left
      rw [alnFwd_enda, alnFwd_starta]
      rw [hX1, consA_nil] at hX1a
      have := da_nonneg u
      omega
    · right
      have hs1 : Col.skip ∉ X1 := fun h => adjOK_noskip _ _ H.hadj (by rw [hP]; simp [h])
      obtain ⟨a2, b2, ha2, hb2, hRect, _, _⟩ := rectOn_fwd P lenA lenB P1 X1 Y2 sa mid sb k fk u hP hs1 hP1a hP1b hX1a hX1b
        hfk hu hInvF hmid hkb hX1
      refine ⟨sa, a2, sb, b2, rfl, by rw [alnFwd_enda, ha2], rfl, by rw [alnFwd_endb, hb2], hRect, ?_, ?_⟩
      · rw [alnFwd_f]; exact H.get0_set0 _ _ (by omega)
      · rw [alnFwd_b]; exact H.get0_set0 _ _ (by omega)

theorem pre_bwd (H : CutHyp K sz lenA lenB P) (L : Mem φ α) (Y1 X2 P2 : List Col) (mid ea j eb : Nat) (bk v : Kind)
    (hS : Sized sz lenA lenB L) (hG : Good P lenA L.pe)
    (hP : P = Y1 ++ X2 ++ P2) (hY1a : consA Y1 = mid) (hY1b : consB Y1 = j) (hX2a : consA X2 + mid = ea)
    (hX2b : consB X2 + j = eb) (hbk : firstKind .A P2 = bk) (hv : firstKind .A X2 = v)
    (hInvB : (eb = lenB ↔ ea = lenA) ∨ bk = .GB) (hvGA : v = .GA → 1 ≤ mid) (hne : X2 ≠ []) :
    Pre K sz P lenA lenB
      (alnBwd K L (K.st bk) bk v ((mid : Int) + da v) (ea : Int) ((j : Int) + db v) (eb : Int)) := by
  obtain ⟨hf, hSf, hSb, hSp⟩ := hS
  have hs2 : Col.skip ∉ X2 := fun h => adjOK_noskip _ _ H.hadj (by rw [hP]; simp [h])
  obtain ⟨a1, b1, ha1, hb1, hRect, _, _, _⟩ := rectOn_bwd P lenA lenB Y1 X2 P2 mid ea j eb bk v hP hs2 hY1a hY1b hX2a hX2b
    hbk hv hInvB hvGA hne
  refine ⟨⟨hf, ?_, ?_, hSp⟩, hG, ?_, Or.inr ⟨a1, ea, b1, eb, by rw [alnBwd_starta, ha1], rfl,
    by rw [alnBwd_startb, hb1], rfl, hRect, ?_, ?_⟩⟩
  · rw [alnBwd_f, H.sz_set0]; exact hSf
  · rw [alnBwd_b, H.sz_set0]; exact hSb
  · rw [alnBwd_starta]
    have := da_nonneg v
    omega
  · rw [alnBwd_f]; exact H.get0_set0 _ _ (by omega)
  · rw [alnBwd_b]; exact H.get0_set0 _ _ (by omega)

theorem cut_step (H : CutHyp K sz lenA lenB P) (n : Nat) (x : Mem φ α) (hx : Pre K sz P lenA lenB x)
    (hM : x.meas < n + 1) (hs : ¬ x.Stops) :
    x.kstep K ≠ none ∧ ∀ r, x.kstep K = some r → ValidT r.transition ∧
      Pre K sz P lenA lenB (fwdCall K x r) ∧ (fwdCall K x r).meas < n ∧
      ∀ L, Post sz P lenA lenB (fwdCall K x r) L →
        Pre K sz P lenA lenB (bwdCall K x r L) ∧ (bwdCall K x r L).meas < n ∧
          ∀ y, Post sz P lenA lenB (bwdCall K x r L) y → Post sz P lenA lenB x y := by
  obtain ⟨hS, hxG, hsa0, hdec⟩ := hx
  obtain ⟨_, hra, hrb, _, _⟩ := x.not_stops hs
  rcases hdec with hdeg | ⟨sa, ea, sb, eb, e1, e2, e3, e4, hRect, hf0, hb0⟩
  · exact absurd hra (Int.not_lt.mpr hdeg)
  obtain ⟨P1, X, P2, hP, hP1a, hP1b, hXa, hXb, hfk, hbk, hInvF, hInvB⟩ := hRect
  have hlt_a : sa < ea := Int.ofNat_lt.mp (by rw [← e1, ← e2]; exact hra)
  have hlt_b : sb < eb := Int.ofNat_lt.mp (by rw [← e3, ← e4]; exact hrb)
  have hAs := H.hA; have hBs := H.hB
  rw [hP] at hAs hBs
  simp only [consA_append, consB_append] at hAs hBs
  obtain ⟨hea, heb, hXa', hXb'⟩ := rect_arith hAs hBs hP1a hP1b hXa hXb
  obtain ⟨mid, hmid⟩ : ∃ mid, mid = (ea - sa) / 2 + sa := ⟨_, rfl⟩
  obtain ⟨h1, h2, hmidI⟩ := mid_arith hlt_a
  rw [← hmid] at h1 h2 hmidI
  have hMx : ((ea : Int) - sa).toNat + ((eb : Int) - sb).toNat + 1 ≤ n + 1 := by
    unfold Mem.meas at hM; rw [e1, e2, e3, e4] at hM; exact hM
  have hf0' : K.get0 x.f = K.st (lastKind .A P1) := by rw [hfk]; exact hf0
  have hb0' : K.get0 x.b = K.st (firstKind .A P2) := by rw [hbk]; exact hb0
  have hc := H.on (Level.ofRect h1 h2 hea hlt_b heb (hP ▸ H.hadj) (hP ▸ H.hA) (hP ▸ H.hB) hP1a hP1b hXa' hXb'
    (by rw [hfk]; exact hInvF) (by rw [hbk]; exact hInvB)) X hP hmid x.f x.b hS.f hS.b hf0' hb0'
  dsimp only [Level.ofRect, Level.fk, Level.bk, Level.n, Level.m1, Level.m2] at hc
  obtain ⟨X1, X2, k, t, f', b', sc, hstep, hf's, hb's, hX, hadm, hA1, hB1, hA2, hBB, hl1, hl2, ht2⟩ := hc
  subst hX
  rw [hfk] at hl1
  rw [hbk] at hl2
  obtain ⟨hA1', hA2', hB2', hkb, hmidA, hA2pos, hmid1⟩ := cut_arith h1 h2 hea hlt_b heb hA1 hB1 hA2 hBB
  obtain ⟨⟨i0, i1⟩, cL, cR⟩ := children_rectOK (lenB := lenB) (n := n) (Int.natCast_nonneg sa) (Int.ofNat_le.mpr h1)
    (Int.ofNat_lt.mpr h2) (Int.ofNat_le.mpr hea) (Int.natCast_nonneg sb) (Int.ofNat_lt.mpr hlt_b) (Int.ofNat_le.mpr heb)
    (Nat.le_of_succ_le_succ hMx) (Int.ofNat_le.mpr (Nat.le_add_right sb k)) (Int.ofNat_le.mpr (hB2' ▸ Nat.le_add_left _ _))
    (da_nonneg (fkOf t)) (db_nonneg (fkOf t)) (da_nonneg (bkOf t)) (db_nonneg (bkOf t)) (da_add_db (bkOf t))
  have hvalid := hadm.valid
  have hskip := adjOK_noskip _ _ H.hadj
  rw [hP] at hskip
  have hs1 : Col.skip ∉ X1 := fun h => hskip (by simp [h])
  have hs2 : Col.skip ∉ X2 := fun h => hskip (by simp [h])
  have hX2ne : X2 ≠ [] := consA_pos_ne_nil hA2pos
  have hPY : P = (P1 ++ X1) ++ (X2 ++ P2) := by rw [hP]; simp
  have hcA : consA (P1 ++ X1) = mid := by rw [consA_append, hP1a, Nat.add_comm]; exact hA1'
  have hcB : consB (P1 ++ X1) = sb + k := by rw [consB_append, hP1b, hB1]
  have hlkY1 : lastKind .A (P1 ++ X1) = fkOf t := by rw [lastKind_append, hfk]; exact hl1
  have hfkX2 : firstKind .A X2 = bkOf t := by
    rw [firstKind_indep .A x.bk X2 hX2ne hs2, ← lastKind_reverse _ _ hs2]; exact hl2
  have hfkY2 : firstKind .A (X2 ++ P2) = bkOf t := by rw [firstKind_append_ne _ _ _ hX2ne]; exact hfkX2
  have hmidx : x.mid = (mid : Int) := by unfold Mem.mid; rw [e1, e2]; exact hmidI
  obtain ⟨m3, hm3⟩ : ∃ m3, m3 = cutMem x ⟨f', b', ((sb + k : Nat) : Int), t, sc⟩ := ⟨_, rfl⟩
  have hS3 : Sized sz lenA lenB m3 := hm3 ▸ cutMem_core (afterStep_core hS x.mid (hf's ▸ hS.f) (hb's ▸ hS.b))
    (hmidx ▸ i0) (hmidx ▸ i1)
  have hm3pe := (cutMem_ok x _ (hm3 ▸ hS3.fault)).2
  rw [← hm3, hmidx] at hm3pe
  obtain ⟨frame3, midok⟩ := cut_entries (P1 ++ X1) (X2 ++ P2) lenA mid (sb + k) (fkOf t) (bkOf t) x.pe m3.pe
    (by rw [← hPY]; exact adjOK_noskip _ _ H.hadj) (by simp [hX2ne]) hcA hcB hlkY1 hfkY2 (by rw [← hPY]; exact hxG)
    hm3pe
  rw [← hPY] at frame3 midok
  have hvGA : bkOf t = .GA → 1 ≤ mid := fun hv => hmid1 (cut_row_pos x.fk X1 k t hs1 hvalid hl1 hB1 ht2 hv)
  rw [← hmidI, ← e1, ← e2, ← e3, ← e4] at hstep
  refine ⟨(fun h => nomatch hstep.symm.trans h), fun r' hr' => ?_⟩
  cases hstep.symm.trans hr'
  refine ⟨hvalid, ?_⟩
  have hF : fwdCall K x ⟨f', b', ((sb + k : Nat) : Int), t, sc⟩ =
      alnFwd K m3 (K.st x.fk) x.fk (fkOf t) (sa : Int) ((mid : Int) - da (fkOf t)) (sb : Int)
        (((sb + k : Nat) : Int) - db (fkOf t)) := by
    unfold fwdCall; rw [← hm3, hmidx, hf0, e1, e3]
  have hB : ∀ L, bwdCall K x ⟨f', b', ((sb + k : Nat) : Int), t, sc⟩ L =
      alnBwd K L (K.st x.bk) x.bk (bkOf t) ((mid : Int) + da (bkOf t)) (ea : Int)
        (((sb + k : Nat) : Int) + db (bkOf t)) (eb : Int) := by
    intro L; unfold bwdCall; rw [hmidx, hb0, e2, e4]
  rw [hF]
  refine ⟨?_, ?_, fun L hPostL => ?_⟩
  · exact pre_fwd H m3 P1 X1 (X2 ++ P2) sa mid sb k x.fk (fkOf t) hS3 (hxG.frame frame3) (by rw [hP]; simp)
      hP1a hP1b hA1' hB1 hfk hl1 hInvF hmidA hkb
  · exact cL.2.2.2.2
  obtain ⟨hLS, hLframe, hLreg⟩ := hPostL
  rw [hB]
  refine ⟨?_, cR.2.2.2.2, fun r hPostR => ?_⟩
  · exact pre_bwd H L (P1 ++ X1) X2 P2 mid ea (sb + k) eb x.bk (bkOf t) hLS ((hxG.frame frame3).frame hLframe)
      (by rw [hP]; simp) hcA hcB hA2' hB2' hbk hfkX2 hInvB hvGA hX2ne
  obtain ⟨hRS, hRframe, hRreg⟩ := hPostR
  obtain ⟨hfr, hreg⟩ := assemble (Int.natCast_nonneg sa) (Int.ofNat_le.mpr hea) frame3 hLframe hRframe hLreg hRreg midok
  exact ⟨hRS, hfr, fun i a b => hreg i (by rw [← e1]; exact a) (by rw [← e2]; exact b)⟩

end

section
variable {φ α : Type} {K : Kernels φ α} {sz : φ → Nat} {P : List Col} {lenA lenB : Nat}

theorem Run.cut (H : CutHyp K sz lenA lenB P) {n : Nat} {x y : Mem φ α} (h : Run K .all n x y) :
    Pre K sz P lenA lenB x → x.meas < n → Post sz P lenA lenB x y ∧ Run K .strict n x y := by
  induction h with
  | out x => exact fun _ hM => absurd hM (Nat.not_lt_zero _)
  | stop n x hs =>
    intro ⟨hS, hxG, _, hdec⟩ _
    refine ⟨?_, .stop n x hs⟩
    rcases hs with hf | ha | hb
    · rw [hS.fault] at hf; exact absurd hf (by simp)
    · exact Post_refl_deg sz P lenA lenB x hS ha
    -- no columns of `b` left: the rows of the rectangle are gap columns, whose entries are the initial `-1`
    rcases hdec with hdeg | ⟨sa, ea, sb, eb, e1, e2, e3, e4, ⟨P1, X, P2, hP, hP1a, hP1b, hXa, hXb, _, _, _, _⟩, _, _⟩
    · exact Post_refl_deg sz P lenA lenB x hS hdeg
    refine ⟨hS, fun _ _ _ => Or.inl rfl, fun i h1 h2 => ?_⟩
    have hXb0 : consB X = 0 := by rw [e3, e4] at hb; omega
    have hskip := adjOK_noskip _ _ H.hadj
    have hsX : Col.skip ∉ X := fun h => hskip (by rw [hP]; simp [h])
    have hAs := H.hA
    rw [hP] at hAs
    simp only [consA_append] at hAs
    have hpth : pth P i = -1 := by
      rw [hP]
      exact pth_all_gapB P1 X P2 hsX hXb0 i (by rw [hP1a, ← e1]; exact h1) (by rw [hP1a, e2] at *; omega)
    rcases hxG i (by omega) (by rw [e2] at h2; omega) with h | h
    · rw [h, hpth]
    · exact h
  | kfault n x hs hstep => exact fun hx hM => absurd hstep (cut_step H n x hx hM hs).1
  | skip n x r _ hs hstep ht => exact fun hx hM => absurd ((cut_step H n x hx hM hs).2 r hstep).1 ht
  | node n x r L y hs hstep ht _ _ ih1 ih2 =>
    intro hx hM
    obtain ⟨_, pL, mL, hrest⟩ := (cut_step H n x hx hM hs).2 r hstep
    obtain ⟨postL, sL⟩ := ih1 pL mL
    obtain ⟨pR, mR, hfin⟩ := hrest L postL
    obtain ⟨postR, sR⟩ := ih2 pR mR
    exact ⟨hfin y postR, .node n x r L y hs hstep ht sL sR⟩

theorem runner_cut (H : CutHyp K sz lenA lenB P) (n : Nat) (x : Mem φ α) :
    Pre K sz P lenA lenB x → x.meas < n → Post sz P lenA lenB x (runnerSerial K false n x) :=
  fun hx hM => ((runnerSerial_run K n x).cut H hx hM).1

theorem runner_eq_serial_cut (H : CutHyp K sz lenA lenB P) :
    ∀ (n : Nat) (x : Mem φ α), Pre K sz P lenA lenB x → x.meas < n → runner K false n x = runnerSerial K false n x :=
  fun n x hx hM => ((runnerSerial_run K n x).cut H hx hM).2.runner_eq

end

section
variable {α : Type} [Score α] {ap : AlnParam α} {ops : Operands α} {lenA lenB : Nat} {P : List Col}

theorem initMem_pre (P : List Col) (hA : consA P = lenA) (hB : consB P = lenB) :
    Pre (realKernels ap ops lenA lenB) Array.size P lenA lenB (initMem lenA lenB : Mem (Array (States α)) α) := by
  have h0 : ((Array.replicate (max lenA lenB + 2) States.negInf).set! 0 (oneHotA : States α)).getD 0 States.negInf =
      oneHotA := by
    simp [Array.getD]
  refine ⟨initMem_core lenA lenB, fun i _ _ => Or.inl (initMem_pe lenA lenB i), Int.le_refl 0,
    Or.inr ⟨0, lenA, 0, lenB, rfl, rfl, rfl, rfl, ?_, h0, h0⟩⟩
  · exact ⟨[], P, [], by simp, rfl, rfl, by simpa using hA, by simpa using hB, rfl, rfl, Or.inl (by simp),
      Or.inl (by simp)⟩

theorem runner_path_cut (H : CutHyp (realKernels ap ops lenA lenB) Array.size lenA lenB P) (n : Nat)
    (hn : lenA + lenB + 1 ≤ n) :
    (runnerSerial (realKernels ap ops lenA lenB) false n (initMem lenA lenB)).fault = false ∧
      (runnerSerial (realKernels ap ops lenA lenB) false n (initMem lenA lenB)).pathEntries lenA = pathFrom 0 P := by
  have hMeas : (initMem lenA lenB : Mem (Array (States α)) α).meas < n := by
    show ((lenA : Int) - 0).toNat + ((lenB : Int) - 0).toNat + 1 ≤ n
    omega
  obtain ⟨hS, _, hreg⟩ := runner_cut H n _ (initMem_pre P H.hA H.hB) hMeas
  refine ⟨hS.fault, ?_⟩
  apply List.ext_getElem
  · simp [Mem.pathEntries, length_pathFrom, H.hA]
  · intro idx h1 h2
    simp only [Mem.pathEntries, List.length_map, List.length_range'] at h1
    simp only [Mem.pathEntries, List.getElem_map, List.getElem_range', Nat.one_mul]
    have := hreg ((idx + 1 : Nat) : Int) (by show (0 : Int) < _; omega) (by show _ ≤ (lenA : Int); omega)
    unfold Mem.pe pth at this
    simp only [Int.toNat_natCast, Nat.add_sub_cancel] at this
    rw [Nat.add_comm, this, List.getD_eq_getElem?_getD, List.getElem?_eq_getElem h2]
    rfl

theorem alnRun_eq_serial (H : CutHyp (realKernels ap ops lenA lenB) Array.size lenA lenB P) (entry : Entry) :
    alnRun entry ap ops lenA lenB (initMem lenA lenB) = alnRun .serial ap ops lenA lenB (initMem lenA lenB) := by
  cases entry with
  | serial => rfl
  | parallel => exact runner_eq_serial_cut H _ _ (initMem_pre P H.hA H.hB) (Mem.meas_lt_fuel _)

def RunOK (entry : Entry) (ap : AlnParam α) (ops : Operands α) (la lb : Nat) (P : List Col) : Prop :=
  (alnRun entry ap ops la lb (initMem la lb)).fault = false ∧
    (alnRun entry ap ops la lb (initMem la lb)).pathEntries la = pathFrom 0 P

theorem alnRun_path (H : CutHyp (realKernels ap ops lenA lenB) Array.size lenA lenB P) (entry : Entry) :
    RunOK entry ap ops lenA lenB P := by
  unfold RunOK
  rw [alnRun_eq_serial H entry]
  refine runner_path_cut H _ ?_
  show lenA + lenB + 1 ≤ ((lenA : Int) - 0).toNat + ((lenB : Int) - 0).toNat + 2
  omega

/-- `alnRun` reads its parameters and operands only through the kernels -/
theorem RunOK.of_kernels {entry : Entry} {ap' : AlnParam α} {ops' : Operands α}
    (hK : realKernels ap ops lenA lenB = realKernels ap' ops' lenA lenB) (h : RunOK entry ap' ops' lenA lenB P) :
    RunOK entry ap ops lenA lenB P := by
  unfold RunOK alnRun at h ⊢
  simp only at h ⊢
  rw [hK]
  exact h

theorem RunOK.codes {entry : Entry} (h : RunOK entry ap ops lenA lenB P) (hV : ValidCols P lenA lenB)
    (hadj : adjOK .A P = true) (h1 : 1 ≤ lenA) (h2 : 1 ≤ lenB) :
    let r := alnRun entry ap ops lenA lenB (initMem lenA lenB)
    r.fault = false ∧ ∃ codes, expandPath lenB (r.pathEntries lenA) = some codes ∧ codes.map Col.ofCode = P :=
  ⟨h.1, by rw [h.2]; exact expandPath_valid hV hadj h1 h2⟩

end

end Kalign
